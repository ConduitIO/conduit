import ConduitModel.Generated.SrcAck

/-!
Facts obligations for C03: the restart path the model assumes (`restart`: new incarnation's state
and the plugin's `Open` position = the committed store) is what the source does.
-/
namespace Conduit.Facts.C03
open Conduit.Generated.SrcAck

/-- `Source.Ack` stores the LAST position of the call as the connector state (model: `inst.pos`) -/
theorem C03_fact_ack_stores_last_position :
    sourceAckStateExpr = "SourceState{Position: p[len(p)-1]}" := rfl

/-- `Source.open` hands the plugin the position of the (stored, re-loaded) connector state -/
theorem C03_fact_open_uses_stored_position : sourceOpenPositionExpr = "s.state().Position" := rfl

/-- one transaction per flush, committed after every connector's Set (model: a commit installs the
whole snapshot atomically, a crash sees either the old or the new store) -/
theorem C03_fact_single_transactional_flush :
    flushNowOrder = ["NewTransaction", "storeFunc", "Commit", "callbacks"] := rfl

/-- crash safety needs F1 repaired: a failed Set must not be followed by a commit + nil callbacks
(otherwise the plugin is told more than the store holds). -/
theorem C03_fact_store_error_propagates : flushNowStoreErrPropagates = true := rfl

/-- `connector.Service.WaitPersisted` — the durability barrier `StopAndWait` relies on before a stopped
pipeline's connectors may be re-created — is exactly the UNBOUNDED `Persister.WaitPendingWrites` (no
context / timeout variant), and that function waits on plain receives of the latest generation's
`writeDone` and `callbacksDone` (model: `waitPersisted` is enabled only when the latest generation
has finished writing and its callbacks have returned; there is no timeout event for it). With a
bounded barrier a late commit of the stopped incarnation could overwrite a re-created connector and
a crash would reopen it at the old position. -/
theorem C03_fact_waitPersisted_is_unbounded_barrier :
    serviceWaitPersistedCalls = ["s.persister.WaitPendingWrites"] ∧
    waitPendingWritesReceives = ["<-st.writeDone", "<-st.callbacksDone"] ∧
    waitPendingWritesUnbounded = true :=
  ⟨rfl, rfl, rfl⟩

end Conduit.Facts.C03
