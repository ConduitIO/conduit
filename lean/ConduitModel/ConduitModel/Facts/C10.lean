import ConduitModel.Generated.Lifecycle

/-!
C10 — facts regenerated from pkg/lifecycle/service.go (v1) and pkg/lifecycle-poc/service.go (v2)
that the M5 model's recovery / classification steps assume. A source change to any of them breaks
the corresponding obligation (and the check then searches for a failing input).
-/
namespace Conduit.Facts.C10
open Conduit.Generated.Lifecycle

/-- recoverPipeline: StatusRecovering is written BEFORE StartWithBackoff counts the attempt
(model: `recoverBegin` = status write, then `cnt + 1`, then the MaxRetries test). -/
theorem recover_order : v1_recover_order = ["UpdateStatus(Recovering)", "StartWithBackoff"] ∧
    v2_recover_order = ["UpdateStatus(Recovering)", "StartWithBackoff"] :=
  ⟨rfl, rfl⟩

/-- StartWithBackoff (v1): attempt++ → ForAttempt → AfterFunc(decrement) → sleep → map guard → Start. -/
theorem v1_backoff_order_eq : v1_backoff_order =
    ["recoveryAttempts.Add", "ForAttempt", "time.AfterFunc", "time.After", "runningPipelines.Get", "s.Start"] := rfl

/-- StartWithBackoff (v2), ignoring the two marker re-checks: … → map guard →
graceful-shutdown check → Start. -/
theorem v2_backoff_order_eq :
    v2_backoff_order.filter (fun x => x ≠ "forceStopped.Load" ∧ x ≠ "intentionalStop.Load") =
    ["recoveryAttempts.Add", "ForAttempt", "time.AfterFunc", "time.After", "runningPipelines.Get",
     "isGracefulShutdown.Load", "s.Start"] := by decide +kernel

/-- the guards of StartWithBackoff: MaxRetries test (with the infinite-retries escape) and the
"am I still the published run" pointer comparison. -/
theorem backoff_guards :
    v1_backoff_guards = ["s.errRecoveryCfg.MaxRetries != InfiniteRetriesErrRecovery && attempt > s.errRecoveryCfg.MaxRetries",
                         "!ok || actualRp != rp"] ∧
    v2_backoff_guards.take 2 = ["s.errRecoveryCfg.MaxRetries != lifecyclev1.InfiniteRetriesErrRecovery && attempt > s.errRecoveryCfg.MaxRetries",
                                "!ok || actualRp != rp"] :=
  ⟨rfl, rfl⟩

/-- when the v2 re-check is present, it sits between the map guard and the nested Start, in the
order the model assumes: forceStopped → isGracefulShutdown → intentionalStop. -/
theorem v2_recheck_shape : v2RecheckStop = true →
    v2_backoff_guards.drop 2 = ["rp.forceStopped.Load()", "s.isGracefulShutdown.Load()", "rp.intentionalStop.Load()"] := by decide +kernel

/-- the status writes the next two facts filter for. -/
def statusCalls : List String :=
  ["UpdateStatus(status)", "UpdateStatus(Degraded)", "UpdateStatus(SystemStopped)", "UpdateStatus(UserStopped)",
   "UpdateStatus(Running)", "UpdateStatus(Recovering)"]

/-- the cleanup switch writes each terminal status the model's `Action.status` assigns (v1 arms:
stopped / Degraded(fatal) / recover / Degraded(recovery failed); v2 adds SystemStopped and UserStopped
arms for transient errors under shutdown / intentional stop, and after the back-off). -/
theorem v1_cleanup_statuses : v1_cleanup_order.filter (fun x => x ∈ statusCalls) =
    ["UpdateStatus(status)", "UpdateStatus(Degraded)", "UpdateStatus(Degraded)"] := by decide +kernel

theorem v2_cleanup_statuses :
    (v2_cleanup_order.filter (fun x => x ∈ statusCalls)).eraseDups =
    ["UpdateStatus(status)", "UpdateStatus(Degraded)", "UpdateStatus(SystemStopped)", "UpdateStatus(UserStopped)"] := by decide +kernel

/-- force stop = tomb Kill with a FatalError in both engines. -/
theorem force_stop_is_fatal_kill :
    v1_forceStop_calls = ["t.Kill", "FatalError", "ForceStop"] ∧
    v2_forceStop_calls.filter (· ≠ "forceStopped.Store") = ["t.Kill", "FatalError"] := by decide +kernel

/-- the four fix-dependent source facts the driver feeds to the model are booleans extracted from
the current tree (this obligation only pins their provenance; either value is legal). -/
theorem fixes_are_facts : (v1KillBeforeDone = true ∨ v1KillBeforeDone = false) ∧
    (v2RecheckStop = true ∨ v2RecheckStop = false) ∧ (v2KeepIntent = true ∨ v2KeepIntent = false) ∧
    (v2CompareDelete = true ∨ v2CompareDelete = false) := by decide +kernel

/-- the arm of stopRunnablePipeline's switch that resets `intentionalStop` exists exactly as modelled
(`gracefulState`, branch `stopReq`): with `v2KeepIntent = false` it is the bare `len(armedSources) == 0`. -/
theorem v2_stop_switch_shape :
    (v2KeepIntent = false → v2_stop_switch_arms = ["len(armedSources) == 0 => reset", "len(unarmedSources) > 0", "default"]) ∧
    (v2KeepIntent = true → v2_stop_switch_arms ≠ ["len(armedSources) == 0 => reset", "len(unarmedSources) > 0", "default"]) := by decide +kernel

end Conduit.Facts.C10
