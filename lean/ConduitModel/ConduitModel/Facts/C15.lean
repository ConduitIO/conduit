import ConduitModel.Generated.Ctl

/-!
Facts obligations for C15: field classes, exporter coverage and update-action coverage as the
provisioning model (`Model/Prov.lean`) assumes them, regenerated from
`pkg/provisioning/{config/parser.go,export.go,import_actions.go,import.go}`.
-/
namespace Conduit.Facts.C15
open Conduit.Generated.Ctl

def subset (a b : List String) : Bool := a.all b.contains

/-- field classes used by the diff: a connector is re-created only when `Type` differs; the
pipeline diff ignores `Status`. -/
theorem C15_fact_field_classes :
    connectorImmutableFields = ["Type"] ∧
    connectorMutableFields = ["Name", "Settings", "Processors", "Plugin"] ∧
    pipelineMutableFields = ["Name", "Description", "Connectors", "Processors", "DLQ"] ∧
    pipelineIgnoredFields = ["Status"] :=
  ⟨rfl, rfl, rfl, rfl⟩

/-- every config field is classified: `ID` + mutable + immutable/ignored = all fields. -/
theorem C15_fact_classes_cover :
    subset configConnectorFields ("ID" :: connectorMutableFields ++ connectorImmutableFields) = true ∧
    subset configPipelineFields ("ID" :: pipelineMutableFields ++ pipelineIgnoredFields) = true :=
  ⟨rfl, rfl⟩

/-- exporters copy every config field the model exports (nested lists are exported separately;
the processor `Condition` is the regenerated flag `condExported`, F6). -/
theorem C15_fact_export_coverage :
    subset (configPipelineFields.filter (fun f => f ≠ "Connectors" && f ≠ "Processors")) pipelineToConfigFields = true ∧
    subset configDLQFields dlqToConfigFields = true ∧
    subset (configConnectorFields.filter (· ≠ "Processors")) connectorToConfigFields = true ∧
    subset (configProcessorFields.filter (· ≠ "Condition")) processorToConfigFields = true ∧
    condExported = processorToConfigFields.contains "Condition" := by decide +kernel

/-- update actions pass every mutable field on to the services (the processor `Condition` is
the regenerated flag `condUpdated`, F6); create actions read every field. -/
theorem C15_fact_update_coverage :
    subset pipelineMutableFields updatePipelineActionFields = true ∧
    subset connectorMutableFields updateConnectorActionFields = true ∧
    subset ["Plugin", "Settings", "Workers"] updateProcessorActionFields = true ∧
    condUpdated = updateProcessorActionFields.contains "Condition" ∧
    subset (configConnectorFields) createConnectorActionFields = true ∧
    subset (configProcessorFields) createProcessorActionFields = true :=
  ⟨rfl, rfl, rfl, rfl, rfl, rfl⟩

/-- position kept on the update path: the three connector-service methods the import's
`updateConnectorAction` calls (`Update` — also for a *plugin* change, `Plugin` being a mutable
field —, `AddProcessor`, `RemoveProcessor`) assign only Plugin / Config / UpdatedAt /
ProcessorIDs, never `State` (nor `Type`): what `svcCnUpdate`, `svcCnAddProc`, `svcCnRemProc`
of the model do, and what `C15_position_kept` rests on. -/
theorem C15_fact_update_keeps_state :
    subset connectorUpdateAssigns ["Plugin", "Config", "UpdatedAt"] = true ∧
    subset connectorAddProcessorAssigns ["ProcessorIDs", "UpdatedAt"] = true ∧
    subset connectorRemoveProcessorAssigns ["ProcessorIDs", "UpdatedAt"] = true :=
  ⟨rfl, rfl, rfl⟩

/-- the remove loop of `updateConnectorAction.update` ranges over the live slice iff the model
simulates the aliasing (F5). -/
theorem C15_fact_remove_loop : updConnCopies = (updConnRemoveRange != "c.ProcessorIDs") := rfl

end Conduit.Facts.C15
