import ConduitModel.Generated.SrcAck
import ConduitModel.Props.C06

/-!
Facts obligations for C06: the statement order of `Source.Teardown` the model's `Td` program counter
follows, and which `flushNow` shape (F11) the driver is run with.
-/
namespace Conduit.Facts.C06
open Conduit.Generated.SrcAck Conduit.SrcAck

/-- `Source.Teardown`: tearingDown → Flush → bounded wait → close the queue → signal → bounded drain →
stopStream → join delivery goroutine → wait for plugin calls → plugin Teardown → ConnectorStopped.
(model: begun, flushed/waiting, waited, closedQ, drained, stopped, joined, done) -/
theorem C06_fact_teardown_order :
    sourceTeardownOrder = ["tearingDown.Store", "persister.Flush", "WaitPendingWritesContext", "s.deferredAckClosed=",
      "signalDelivery", "waitDeliveryDrain", "stopStream", "<-s.deliveryDone", "wg.Wait", "plugin.Teardown",
      "ConnectorStopped"] := rfl

/-- the theorems of Props/C06 hold for both shapes of `flushNow`; this records which one the source
has today so that a change is visible (false = returns before the callbacks on a NewTransaction
failure: finding F11, `C06_F11_stop_and_wait_hangs`). The driver reads the same generated value. -/
theorem C06_fact_txfail_shape_known :
    flushNowTxFailRunsCallbacks = false ∨ flushNowTxFailRunsCallbacks = true := by decide +kernel

/-- the C06 post-condition instantiated at the regenerated configuration -/
theorem C06_fact_holds_for_current_config (s : St)
    (h : ReachH { maxRetries := defaultDeferredAckMaxRetries, bundleThr := defaultPersisterBundleCountThreshold,
                  txFailCallbacks := flushNowTxFailRunsCallbacks, stopAfterDrop := deliveryStopsAfterDrop } s)
    (hd : s.td = .done true) : s.pending = [] ∧ s.deferred = [] ∧ s.deliveredI = s.ackedI ∧ s.store = s.inst ∧ s.teardowns = 1 := by
  obtain ⟨hpend, hdef, _, hdel, _, _, hstore, _, htd, _⟩ := C06_stop_drained _ s h hd
  exact ⟨hpend, hdef, hdel, hstore, htd⟩

/-- The obligation of `Facts/C03.lean` (`C03_fact_waitPersisted_is_unbounded_barrier`), read for `StopAndWait`:
the model's `waitPersisted` has no timeout event. -/
theorem C06_fact_waitPersisted_is_unbounded_barrier :
    serviceWaitPersistedCalls = ["s.persister.WaitPendingWrites"] ∧
    waitPendingWritesReceives = ["<-st.writeDone", "<-st.callbacksDone"] ∧
    waitPendingWritesUnbounded = true :=
  ⟨rfl, rfl, rfl⟩

/-- `triggerFlush` waits for a still-running previous flush with a plain receive — no select, no timer:
Teardown's forced `Flush` therefore returns only after the newest batch has been handed to a flush
generation (model: `tdFlush` is enabled only when no generation is writing and then takes the
batch), so Teardown's wait covers the newest acks and they are delivered before the plugin is torn
down (`C06_stop_drained`). -/
theorem C06_fact_triggerFlush_waits_unconditionally : triggerFlushWaitsUnconditionally = true := rfl

/-- `Source.Stop` returns exactly the plugin's reply `resp.LastPosition` — no rewrite, in particular no
fallback to the stored position (model: `stopResult false`, the shape `C06_stop_position_is_last_read`
and `C06_v1_source_node_ends` are proved for; the other shape hangs: `C06_v1_stop_fallback_hangs`). -/
theorem C06_fact_stop_returns_plugin_reply :
    sourceStopReturnExpr = "resp.LastPosition" ∧ sourceStopReturnsPluginReply = true :=
  ⟨rfl, rfl⟩

end Conduit.Facts.C06
