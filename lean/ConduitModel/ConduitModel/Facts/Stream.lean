import ConduitModel.Generated.Stream

/-!
Facts obligations of the default (v1) engine model (C01, C04, C05, C07, C09 — stream halves):
the guard conditions and call orders the hand-written models `Stream.Ack`, `Stream.Flow` and
`condMerge` mirror are the ones in the source today (regenerated from pkg/lifecycle/stream/*.go,
pkg/lifecycle/dlq.go and pkg/processor/runnable_processor.go on every run). A reordered, dropped
or added guard / gate call changes the generated list and fails the obligation.
-/
namespace Conduit.Facts.Stream
open Conduit.Generated.Stream

/-- ack handler: take the ticket's turn, (deferred: fail latch, release), `fail` check, then
`Source.Ack`, then `DLQHandlerNode.Ack` — `Ack.step (.sack …)` / `.winAck`. -/
theorem C04_v1_fact_ack_handler :
    ackHandlerCalls = ["sem.Acquire", "sem.Release", "DLQHandlerNode.Done", "Source.Ack", "DLQHandlerNode.Ack"] ∧
    ackHandlerConds = ["err != nil", "n.fail", "err != nil", "!isClosedSourceStream(err)"] :=
  ⟨rfl, rfl⟩

/-- nack handler: ticket, `fail` check, `DLQHandlerNode.Nack` BEFORE `Source.Ack` —
`Ack.step (.dlqw …)`, `.dlqa`, `.sack` (needSack). -/
theorem C07_v1_fact_nack_handler :
    nackHandlerCalls = ["sem.Acquire", "sem.Release", "DLQHandlerNode.Done", "DLQHandlerNode.Nack", "Source.Ack"] ∧
    nackHandlerConds = ["err != nil", "n.fail", "err != nil", "err != nil", "!isClosedSourceStream(err)"] :=
  ⟨rfl, rfl⟩

/-- `SourceAckerNode.Run`: the ticket is enqueued in arrival order before the handlers are
registered and the message is passed on — `Ack.step (.enq …)`. -/
theorem C04_v1_fact_ticket_before_send :
    sourceAckerRunCalls = ["DLQHandlerNode.Done", "sem.Enqueue", "DLQHandlerNode.Add", "n.registerAckHandler",
      "n.registerNackHandler", "base.Send"] := rfl

/-- fan-out arbiter: the original is acked when `remaining == 0`; the node waits (`wg.Wait`) for
every branch before it takes the next message — `Ack.cloneAck`, `Flow.step (.fan …)`. -/
theorem C01_v1_fact_fanout :
    fanoutRunConds = ["n.out == nil", "n.in == nil", "n.running", "len(n.out) == 1", "!ok", "remaining == 0",
      "ctx.Err() != nil", "msg.Status() == MessageStatusNacked", "err := msg.Nack(nil, n.ID()); err != nil"] ∧
    fanoutRunCalls = ["wg.Add", "wg.Done", "msg.Clone", "atomic.AddInt32", "msg.Ack", "msg.Ack", "msg.Nack",
      "newMsg.Nack", "wg.Wait", "msg.Nack"] :=
  ⟨rfl, rfl⟩

/-- `Message.Clone` keeps the filtered flag (finding F20) — `Ack.step (.fan …)` copies `filt`. -/
theorem C05_v1_fact_clone_keeps_filtered : cloneFields = ["Ctx", "Record", "SourceID", "filtered"] := rfl

/-- destination acker worker: filtered messages acked without the plugin, an EMPTY reply is an
error (finding F3: the second `len(acks) == 0`), position equality check — `Ack.step (.dreply …)`,
`Ack.dproc`. -/
theorem C09_v1_fact_acker_worker :
    dackWorkerConds = ["n.queue.Len() == 0", "msg.filtered", "err != nil", "len(acks) == 0", "err != nil",
      "len(acks) == 0", "!bytes.Equal(msg.Record.Position, ack.Position)", "err != nil"] ∧
    dackWorkerCalls = ["queue.PushFront", "queue.PopFront", "n.handleAck", "Destination.Ack", "bytes.Equal", "n.handleAck"] ∧
    dackTeardownCalls = ["queue.PopFront", "msg.Nack", "Destination.Ack"] :=
  ⟨rfl, rfl, rfl⟩

/-- DLQ handler: state check (before the mutex), window verdict, `broken` latch on a failed write —
`Ack.dlqAccepts`, `Ack.step (.dlqw …)`, `.hfail`. -/
theorem C07_v1_fact_dlq_handler :
    dlqNackCalls = ["state.Watch", "m.Lock", "m.Unlock", "window.Nack", "state.Set", "n.dlqRecord", "Handler.Write"] ∧
    dlqNackConds = ["err != nil", "state != nodeStateRunning", "!ok", "n.WindowNackThreshold > 0", "err != nil",
      "err != nil", "err != nil"] ∧
    dlqAckCalls = ["state.Watch", "m.Lock", "window.Ack"] :=
  ⟨rfl, rfl, rfl⟩

/-- `lifecycle.DLQDestination.Write` = write, then one ack for that position without error —
the `dlqw` / `dlqa` events. -/
theorem C07_v1_fact_dlq_destination :
    dlqDestinationWriteCalls = ["Destination.Write", "Destination.Ack", "bytes.Equal"] ∧
    dlqDestinationWriteConds = ["err != nil", "err != nil", "len(ack) != 1",
      "!bytes.Equal(rec.Position, ack[0].Position)", "ack[0].Error != nil"] :=
  ⟨rfl, rfl⟩

/-- `Message.Ack` / `Message.Nack`: the status checks behind the "BUG:" panics — `Ack.cloneAck`,
`Ack.cloneNack` (`panicked`). -/
theorem C09_v1_fact_message_status :
    messageAckConds = ["s := m.Status(); s != MessageStatusAcked"] ∧
    messageNackConds = ["!m.hasNackHandler && m.ackNackReturnValue == nil", "s := m.Status(); s != MessageStatusNacked"] :=
  ⟨rfl, rfl⟩

/-- parallel coordinator: `job.Wait()` on the oldest job first — the jobs stage of `Flow`. -/
theorem C05_v1_fact_coordinator_waits_in_order :
    coordinatorCalls = ["job.Wait", "Message.StatusError", "Message.Status", "Message.Nack", "c.send", "Message.Nack"] := rfl

/-- `ProcessorNode`: one result per record, position unchanged, the four result kinds —
`procKind`. -/
theorem C09_v1_fact_processor_node :
    processorRunConds = ["err != nil", "err != nil", "!ok", "msg.filtered", "err != nil", "len(recsIn) != len(recsOut)",
      "nackErr := msg.Nack(err, n.ID()); nackErr != nil",
      "err := n.handleProcessedRecord(ctx, msg, recsOut[0]); err != nil"] ∧
    handleSingleRecordConds = ["!bytes.Equal(rec.Position, msg.Record.Position)",
      "nackErr := msg.Nack(err, n.ID()); nackErr != nil", "err != nil"] ∧
    processedRecordCases = ["sdk.SingleRecord", "sdk.FilterRecord", "sdk.ErrorRecord", "sdk.MultiRecord", "default"] :=
  ⟨rfl, rfl, rfl⟩

/-- `DestinationNode.Run`: filtered messages are forwarded unwritten — `Flow.step (.fpass …)`. -/
theorem C05_v1_fact_destination_node :
    destinationRunConds = ["err != nil", "err != nil", "err != nil || msg == nil", "msg.filtered", "err != nil",
      "err != nil", "err != nil"] := rfl

/-- `DestinationNode.Run`'s deferred drain: the destination is asked to stop (`Stop(lastPosition)`,
which makes a batching destination flush and acknowledge what it buffered) BEFORE the node waits
for its open messages, and it is torn down only after that wait — the order the graceful-stop
drain (C06) depends on: waiting first would wait for acks that only `Stop` releases. -/
theorem C06_v1_fact_destination_drain_order :
    destinationRunCalls = ["Destination.Open", "Destination.Stop", "openMsgTracker.Wait", "Destination.Teardown",
      "Destination.Write", "openMsgTracker.Add"] := rfl

/-- the condition merge of `RunnableProcessor.Process` (finding F4): guards of `condMerge` /
`mergeLoop`. -/
theorem C09_v1_fact_cond_merge :
    condMergeConds = ["p.cond == nil", "err != nil", "keep", "len(keptRecords) > 0", "len(outRecs) > len(keptRecords)",
      "err != nil && len(outRecs) == len(keptRecords)", "len(passthroughRecordIndexes) == len(records)",
      "len(passthroughRecordIndexes) > 0", "len(pass) > 0 && pass[0] == i", "next == len(outRecs)", "ok"] := rfl

end Conduit.Facts.Stream
