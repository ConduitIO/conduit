import ConduitModel.Generated.ProcNode
import ConduitModel.Generated.ProcSvc
import ConduitModel.Model.ProcSvc

/-!
Facts obligations for C13: the statement order, guards and channel capacities that the event system
`Conduit.Model.ProcNode` assumes are what `/repo/pkg/lifecycle/stream/processor.go` (and
`pkg/processor/runnable_processor.go`, `service.go`, `pkg/lifecycle/reconfigure.go`) say today.
Each `Assumed.*` list is annotated with the model events its tokens correspond to; the theorems equate
it with the list regenerated from the source by `factgen/procnode.go` on every check run.
-/
namespace Conduit.Facts.C13
open Conduit.Generated

namespace Assumed

/-- `Run`: deferred plain `Teardown` of `n.Processor` registered before `Open` (`finalTeardown` after any
exit but the early return on a failed `base.Trigger`, also after a failed `runOpen`), `Open` before the loop (`runOpen`). -/
def runTop : List String :=
  ["_, cleanup, err := n.base.Trigger(ctx, n.logger, nil)", "if err != nil", "defer cleanup()",
   "in := n.base.In()", "wake := n.wake()", "defer func{n.Processor.Teardown(ctx)}",
   "err = n.Processor.Open(ctx)", "if err != nil", "for {"]

/-- loop body: `applyPendingSwap` is the FIRST statement (pc `atApply`: events `claim` … `deliver`), the
`select` follows (pc `atSelect`), `Process` comes after the select (`procCall` only from `atSelect`), and
the routing of the result is last (`procRet`, `sendOk`, `nack`). No second `applyPendingSwap`. -/
def runLoop : List String :=
  ["n.applyPendingSwap(ctx)", "var msg *Message", "select", "if msg.filtered", "executeTime := time.Now()",
   "recsIn := []opencdc.Record{msg.Record}", "recsOut := n.Processor.Process(msg.Ctx, recsIn)",
   "n.ProcessorTimer.Update(time.Since(executeTime))", "if len(recsIn) != len(recsOut)",
   "if err := n.handleProcessedRecord(ctx, msg, recsOut[0]); err != nil"]

/-- the select: `ctxDone` (return ctx.Err()), `wakeRecv` (continue = back to `atApply`), `procCall` /
`recvPre` / `inClosed` (return nil). -/
def runSelect : List String :=
  ["select {", "case <-ctx.Done():", "return ctx.Err()", "case <-wake:", "continue",
   "case m, ok := <-in:", "if !ok {", "return nil", "}", "msg = m", "}"]

/-- `applyPendingSwap`: `claim` = the swapMu section taking and clearing `n.pending` (nil ⇒ return);
`openNew g false` = Open fails: `teardownRc` of the NEW processor, `deliver` of an error, return — no
assignment to `n.Processor` on this branch; `openNew g true`: the assignment comes after the successful
Open, `teardownRc` of the OLD processor after the assignment, `deliver` of nil last. -/
def applyPendingSwap : List String :=
  ["n.swapMu.Lock()", "p := n.pending", "n.pending = nil", "n.swapMu.Unlock()", "if p == nil {", "return", "}",
   "if err := p.newProcessor.Open(ctx); err != nil {",
   "if tdErr := teardownForReconfigure(ctx, p.newProcessor); tdErr != nil {", "}",
   "p.done <- cerrors.Errorf(\"could not open new processor for live reconfigure, keeping current processor: %w\", err)",
   "return", "}",
   "old := n.Processor", "n.Processor = p.newProcessor",
   "if tdErr := teardownForReconfigure(ctx, old); tdErr != nil {", "}", "p.done <- nil"]

/-- `Reconfigure`: `stage r` = the swapMu section with the busy guard BEFORE the assignment of
`n.pending` (guard hit ⇒ `rejected`, nothing written); `wakeSend r` = non-blocking send; then
`doneRecv r` | `cancel r`, the latter withdrawing only if `n.pending` is still this request
(`n.pending.done == done`). -/
def reconfigure : List String :=
  ["done := make(chan error, 1)", "wake := n.wake()", "n.swapMu.Lock()", "if n.pending != nil {",
   "n.swapMu.Unlock()", "return cerrors.New(\"a processor reconfigure is already in progress\")", "}",
   "n.pending = &pendingSwap{newProcessor: newProcessor, done: done}", "n.swapMu.Unlock()",
   "select {", "case wake <- struct{}{}:", "default:", "}",
   "select {", "case err := <-done:", "return err", "case <-ctx.Done():", "n.swapMu.Lock()",
   "if n.pending != nil && n.pending.done == done {", "n.pending = nil", "}", "n.swapMu.Unlock()",
   "return ctx.Err()", "}"]

/-- `teardownRc` calls `TeardownForReconfigure` when the processor has it, else plain `Teardown`. -/
def teardownForReconfigure : List String :=
  ["if rp, ok := proc.(interface { TeardownForReconfigure(context.Context) error }); ok {",
   "return rp.TeardownForReconfigure(ctx)", "}", "return proc.Teardown(ctx)"]

def wake : List String :=
  ["n.swapMu.Lock()", "defer n.swapMu.Unlock()", "if n.wakeCh == nil {", "n.wakeCh = make(chan struct{}, 1)", "}",
   "return n.wakeCh"]

/-- `finalTeardown` on a `RunnableProcessor` clears `Instance.running`. -/
def runnableTeardown : List String := ["err := p.proc.Teardown(ctx)", "p.running.Store(false)", "return err"]
/-- `teardownRc` on a `RunnableProcessor` leaves `Instance.running` set. -/
def runnableTeardownForReconfigure : List String := ["return p.proc.Teardown(ctx)"]

end Assumed

/-- `applyPendingSwap` is the first statement of the loop body and precedes the select; `Process` follows it. -/
theorem C13_fact_run_loop : ProcNode.runLoop = Assumed.runLoop := by rfl
theorem C13_fact_run_top : ProcNode.runTop = Assumed.runTop := by rfl
theorem C13_fact_run_select : ProcNode.runSelect = Assumed.runSelect := by rfl
/-- Open precedes the assignment, the assignment precedes the teardown of the old processor, the failure
branch assigns nothing and sends an error. -/
theorem C13_fact_apply_pending_swap : ProcNode.applyPendingSwap = Assumed.applyPendingSwap := by rfl
/-- busy guard before staging; cancel withdraws only its own request. -/
theorem C13_fact_reconfigure : ProcNode.reconfigure = Assumed.reconfigure := by rfl
theorem C13_fact_teardown_for_reconfigure : ProcNode.teardownForReconfigure = Assumed.teardownForReconfigure := by rfl
theorem C13_fact_wake : ProcNode.wake = Assumed.wake := by rfl
/-- `done` and `wakeCh` have capacity 1 (the model's `done r : Option Res` and `wake : Bool`). -/
theorem C13_fact_channel_caps : ProcNode.doneCap = 1 ∧ ProcNode.wakeCap = 1 :=
  ⟨rfl, rfl⟩
/-- the swap is applied from exactly one place: the top of `Run`'s loop. -/
theorem C13_fact_single_apply_site : ProcNode.applyPendingSwapCallers = ["pkg/lifecycle/stream/processor.go:Run"] := by rfl
/-- `n.Processor` is assigned in exactly one statement of the engine: inside `applyPendingSwap`
(the model's `cur` changes only in `openNew _ true`). -/
theorem C13_fact_single_processor_assignment :
    ProcNode.processorAssignments = ["pkg/lifecycle/stream/processor.go:applyPendingSwap: n.Processor = p.newProcessor"] := by rfl
/-- `n.pending` is written only by `stage` (set), `cancel` (clear) and `claim` (clear). -/
theorem C13_fact_pending_writers : ProcNode.pendingAssignments =
    ["Reconfigure: n.pending = &pendingSwap{newProcessor: newProcessor, done: done}",
     "Reconfigure: n.pending = nil", "applyPendingSwap: n.pending = nil"] := by rfl
/-- only the plain `Teardown` clears `Instance.running`; neither `TeardownForReconfigure` nor
`MakeRunnableProcessorForReconfigure` mention the flag. -/
theorem C13_fact_running_flag_writers :
    ProcNode.runnableTeardown = Assumed.runnableTeardown ∧
    ProcNode.runnableTeardownForReconfigure = Assumed.runnableTeardownForReconfigure ∧
    ProcNode.rcTeardownMentionsRunning = 0 ∧ ProcNode.makeForReconfigureMentionsRunning = 0 :=
  ⟨rfl, rfl, rfl, rfl⟩
/-- the service looks the node up, builds a fresh runnable from the stored instance, then calls `Reconfigure`. -/
theorem C13_fact_service_gates : ProcNode.serviceReconfigureGates =
    ["s.runningPipelines.Get", "s.processors.Get", "s.processors.MakeRunnableProcessorForReconfigure", "node.Reconfigure"] := by rfl

/-- the service wrapper is `… → node.Reconfigure(ctx, runnable) → return`: the Reconfigure call is the last
call of `ReconfigureProcessor`, its result is returned directly, and the runnable occurs exactly twice
(built, handed to the node) — nothing on the API goroutine touches it after the node took it, in
particular no teardown. This is the parameter of `Model/ProcSvc.lean` under which
`C13_installed_processor_live` / `C13_every_record_processed_by_live_processor` apply to the tree. -/
theorem C13_fact_service_wrapper :
    Conduit.Generated.ProcSvc.svcLastStatement = "return " ++ Conduit.Generated.ProcSvc.svcReconfigureCall ∧
    Conduit.Generated.ProcSvc.svcReconfigureCall = "node.Reconfigure(ctx, runnableProc)" ∧
    Conduit.Generated.ProcSvc.svcCallsAfterReconfigure = [] ∧
    Conduit.Generated.ProcSvc.svcRunnableOccurrences = 2 ∧
    Conduit.Generated.ProcSvc.svcTearsDownAfterReconfigure = false :=
  ⟨rfl, rfl, rfl, rfl, rfl⟩

/-- the model configuration the tree instantiates. -/
def svcCfg : Conduit.Model.ProcSvc.Cfg := ⟨Conduit.Generated.ProcSvc.svcTearsDownAfterReconfigure⟩

theorem C13_fact_service_cfg : svcCfg.tdOnError = false := rfl

end Conduit.Facts.C13
