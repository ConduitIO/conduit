import ConduitModel.Generated.Lifecycle
import ConduitModel.Generated.OpenPhase
import ConduitModel.Model.LifecycleOpen

/-!
C11 — publication-order facts of both lifecycle services (regenerated from the Go source):
publish → StatusRunning write (→ cleanup registration in v1; cleanup registered first in v2),
terminalErrors.Set → map delete → notify, Start's and Stop's status guards, StopAndWait's sequence.
-/
namespace Conduit.Facts.C11
open Conduit.Generated.Lifecycle

/-- v1 runPipeline: `runningPipelines.Set` → `UpdateStatus(Running)` → (rollback on error) →
registration of the cleanup goroutine (model: `publish`, `writeRunning`, `cpc := waiting`). -/
theorem v1_runPipeline : v1_runPipeline_order = ["publish", "UpdateStatus(Running)", "rollback", "registerCleanup"] := rfl

/-- v2 runPipeline: cleanup goroutine registered BEFORE `runningPipelines.Set` → `UpdateStatus(Running)`
(model: `buildOk` sets `cpc := waiting`; no rollback). -/
theorem v2_runPipeline : v2_runPipeline_order = ["registerCleanup", "publish", "UpdateStatus(Running)", "releaseCleanup"] := rfl

/-- in both engines the cleanup goroutine can write its terminal status only AFTER the run's own
StatusRunning write has returned: v1 registers it after the write, v2 releases it (`close(startupDone)`)
after the write (model: `cleanupWake` needs `cpc = waiting`, set by `writeRunning` in v1, and
`phase ∈ {started, failedLive}` in v2). -/
theorem running_write_before_cleanup :
    v1_runPipeline_order.dropWhile (· ≠ "UpdateStatus(Running)") = ["UpdateStatus(Running)", "rollback", "registerCleanup"] ∧
    v2_runPipeline_order.dropWhile (· ≠ "UpdateStatus(Running)") = ["UpdateStatus(Running)", "releaseCleanup"] := by decide +kernel

/-- cleanup tail: terminal error recorded BEFORE the map entry is removed, notify last. The removal
is the compare-and-delete in v1; in v2 it is whichever the flag `v2CompareDelete` says. -/
theorem v1_tail : v1_cleanup_order.dropWhile (· ≠ "terminalErrors.Set") =
    ["terminalErrors.Set", "deleteRunningPipelineIfCurrent", "s.notify"] := by decide +kernel

theorem v2_tail : v2_cleanup_order.dropWhile (· ≠ "terminalErrors.Set") =
    ["terminalErrors.Set", if v2CompareDelete then "deleteRunningPipelineIfCurrent" else "runningPipelines.Delete", "s.notify"] := by decide +kernel

theorem v1_compare_delete_guard : v1_compareDelete_guards = ["ok && current == rp"] := rfl

/-- the cleanup goroutine waits for the nodes/workers, THEN reads the tomb. -/
theorem cleanup_waits_then_reads : v1_cleanup_order.take 2 = ["Wait", "t.Err"] ∧ v2_cleanup_order.take 2 = ["Wait", "t.Err"] :=
  ⟨rfl, rfl⟩

/-- Start: Get → status check → build → copy back-off state from the map entry → clear the
terminal error → runPipeline (model: `startUser`, `buildOk`). Only `StatusRunning` refuses. -/
theorem start_order : v1_start_order = ["pipelines.Get", "GetStatus", "buildRunnablePipeline", "runningPipelines.Get", "terminalErrors.Delete", "runPipeline"] ∧
    v2_start_order = v1_start_order :=
  ⟨rfl, rfl⟩

theorem start_guard : v1_start_guards = ["pl.GetStatus() == pipeline.StatusRunning"] ∧ v2_start_guards = v1_start_guards :=
  ⟨rfl, rfl⟩

/-- Stop: map lookup, then "status is neither Running nor Recovering ⇒ not running" (model `stopRes`). -/
theorem stop_guards : v1_stop_guards = ["!ok", "rp.pipeline.GetStatus() != pipeline.StatusRunning && rp.pipeline.GetStatus() != pipeline.StatusRecovering"] ∧
    v2_stop_guards = v1_stop_guards :=
  ⟨rfl, rfl⟩

/-- StopAndWait = Stop → WaitPipeline → WaitPersisted (the driver composes the same model events). -/
theorem stopAndWait_order : v1_stopAndWait_order = ["s.Stop", "s.WaitPipeline", "WaitPersisted"] ∧
    v2_stopAndWait_order = v1_stopAndWait_order :=
  ⟨rfl, rfl⟩

/-- WaitPipeline: map lookup → tomb Wait, else the terminalErrors fallback (model `waitBegin`). -/
theorem wait_order : v1_wait_order = ["runningPipelines.Get", "t.Wait", "terminalErrors.Get"] ∧ v2_wait_order = v1_wait_order :=
  ⟨rfl, rfl⟩

/-- v2 runPipeline, worker i fails to open: the rollback loop closes EVERY element of the slice that
collects the opened workers (`opened`, filled by `opened = append(opened, w)` right after a successful
Open), last to first, then the shared sink, then returns the error — `Shape.lo = 0` of
`Model/LifecycleOpen.lean`. -/
theorem open_rollback_v2 :
    Conduit.Generated.OpenPhase.v2RollbackLoop =
      ["j := len(opened) - 1", "j >= 0", "j--", "_ = opened[j].Close(context.Background())"] ∧
    Conduit.Generated.OpenPhase.v2RollbackCollection = "opened" ∧
    Conduit.Generated.OpenPhase.v2AfterOpenOk = ["opened = append(opened, w)"] ∧
    Conduit.Generated.OpenPhase.v2RollbackAfterLoop.head? = some "_ = rp.sink.Close(context.Background())" ∧
    Conduit.Generated.OpenPhase.v2RollbackLo = 0 :=
  ⟨rfl, rfl, rfl, rfl, rfl⟩

/-- v1: every connector node opens its own plugin in `Run` and registers the teardown with `defer`
immediately after the Open succeeded (only the error check lies in between), so a run that ends — for
whatever reason, including another node's failed Open — releases every plugin it opened. -/
theorem open_then_defer_v1 : Conduit.Generated.OpenPhase.v1NodeOpenThenDefer =
    [("SourceNode", true, ["if err != nil"]), ("DestinationNode", true, ["if err != nil"]),
     ("DLQHandlerNode", true, ["if err != nil"])] := rfl

/-- funnel.Worker.Open: the rollback that runs when a later task or the worker's DLQ fails to open
releases the SOURCE through the worker's own `tearDownSource`, registered right after the first task (the
source task, whose `Close` is a no-op) opened and before that task's `Close` is registered
(without this registration the source plugin stays open and its connector guard set: finding F21). -/
theorem worker_open_rolls_back_source :
    Conduit.Generated.OpenPhase.v2WorkerRollsBackSource = true ∧
    Conduit.Generated.OpenPhase.v2WorkerOpenLoop =
      ["err = task.Open(ctx)", "if err != nil [", "return", "]",
       "if !sourceOpened [", "sourceOpened = true", "r.Append{tearDownSource}", "]",
       "r.Append{task.Close}"] ∧
    Conduit.Generated.OpenPhase.v2WorkerOpenCalls =
      ["r.Execute", "task.Open", "tearDownSource", "task.Close", "DLQ.Open", "r.Skip"] :=
  ⟨rfl, rfl, rfl⟩

/-- the open-phase shape the tree instantiates. -/
def openShape : Conduit.LifecycleOpen.Shape :=
  { lo := Conduit.Generated.OpenPhase.v2RollbackLo
    workerRollsBackSource := Conduit.Generated.OpenPhase.v2WorkerRollsBackSource }

/-- it is the one `C11_failed_start_releases_all` needs. -/
theorem open_shape_as_is : openShape = Conduit.LifecycleOpen.Shape.asIs := rfl

end Conduit.Facts.C11
