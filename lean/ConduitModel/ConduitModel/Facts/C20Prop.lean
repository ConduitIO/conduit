import ConduitModel.Generated.ErrProp
import ConduitModel.Props.C20
import ConduitModel.Proofs.ErrScan

/-!
Facts obligation for C20: every error-PROPAGATION site of the packages an error crosses between
a node / task failure (or an ack / nack handler) and the lifecycle service's fatal-vs-recoverable
classification — `pkg/lifecycle`, `pkg/lifecycle/stream`, `pkg/lifecycle-poc`,
`pkg/lifecycle-poc/funnel`, `pkg/connector`, `pkg/processor`, `pkg/foundation/cerrors` — puts
every error-valued argument on a `%w` its constructor honours (`Spec.propSiteOk`, decided by the
model of the xerrors format scanner on the regenerated (kind, format, arity, error-argument
indices) of each site). `C20_prop_site_keeps_errors` then says none of these sites flattens an
error, which is what makes every `…: %w` wrapper of `Model/AckErr` (and of the layer lists of
`C20_v1_route_marks_survive`) the transparent wrapper the model takes it for.

Sites that do not satisfy it are pinned one by one (file, function, format): a NEW flattening
site — `%v`, `%s`, `err.Error()`, a second `%w`, `cerrors.New(err.Error())` — breaks the
obligation.
-/
namespace Conduit.Facts.C20
open Conduit.Generated.ErrProp Conduit.Errs

/-- the sites that flatten an error they are given: (file, function, format). A row of `sites` is
(file, function, line, kind, format, its length, its bytes, argument count, error-argument indices). -/
def flatteningSites : List (String × String × String) :=
  (sites.filter fun s =>
      !propSiteOk s.2.2.2.1 (bytesOf s.2.2.2.2.2.1 s.2.2.2.2.2.2.1) s.2.2.2.2.2.2.2.1 s.2.2.2.2.2.2.2.2).map
    fun s => (s.1, s.2.1, s.2.2.2.2.1)

/-- C20 hypothesis "annotating keeps classification" for the propagation packages. The only
pinned site is a false positive of the syntactic error test: `connector.Destination.Ack` builds a
fresh error from the TEXT field `ack.Error` of the plugin's ack response (a string, not an error
value) — there is no Go error there to keep. -/
theorem C20_fact_propagation_sites_wrap :
    flatteningSites = [("pkg/connector/destination.go", "Destination.Ack", "ack.Error")] := by
  simp only [flatteningSites, propSiteOk, parsePercentW_bytesOf, sufW, sufS, sufV, hasSuffix_bytesOf, Nat.reduceLT,
    Nat.reduceMul, Nat.reduceAdd]
  decide +kernel

/-- the scan covered the v1 engine, its service, and the v2 analogues, and found sites (the floor
of 100 keeps a scan that silently matched nothing from satisfying the fact above). -/
theorem C20_fact_propagation_scope :
    (∀ d ∈ ["pkg/lifecycle", "pkg/lifecycle/stream", "pkg/lifecycle-poc", "pkg/lifecycle-poc/funnel"], d ∈ scope) ∧
    (sites.length ≥ 100) := by decide +kernel

/-- the three wrappers the v1 route model writes as `wrapW` are in the table with these formats
(so `Spec.fmtNacking` / `fmtAcking` / `fmtNodeStopped` are the source's formats today). -/
theorem C20_fact_route_formats :
    (sites.filter fun s => s.2.1 == "DestinationAckerNode.handleAck").map (fun s => bytesOf s.2.2.2.2.2.1 s.2.2.2.2.2.2.1)
      = [fmtNacking, fmtAcking] ∧
    ((sites.filter fun s => s.1 == "pkg/lifecycle/service.go" && s.2.1 == "Service.runPipeline").map
      (fun s => bytesOf s.2.2.2.2.2.1 s.2.2.2.2.2.2.1)).contains fmtNodeStopped = true := by decide +kernel

end Conduit.Facts.C20
