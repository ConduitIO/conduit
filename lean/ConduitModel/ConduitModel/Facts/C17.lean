import ConduitModel.Generated.Codec
import ConduitModel.Generated.Pre041Loop
import ConduitModel.Props.C17

/-!
Facts obligations for C17: what the codec model (`Model/StoreDoc.lean`, `Model/Resume.lean`)
assumes about the source is what the source says today (regenerated by `factgen/codec.go` from
`pkg/{connector,pipeline,processor}/{store,instance}.go`, `pkg/connector/{source,destination,
type_string}.go`, `pkg/pipeline/service.go`, `pkg/lifecycle{,-poc}/service.go`).
-/
namespace Conduit.Facts.C17
open Conduit.Generated.Codec Conduit.Codec

def Json.keys : Json → List Str
  | .obj kvs => kvs.map (·.1)
  | _ => []

def Json.member (k : String) : Json → Json
  | .obj kvs => Json.field (key k) kvs
  | _ => .null

def strs (l : List String) : List Str := l.map String.toList

/-- the key prefixes of the three stores and the pre-0.4.1 prefix are the model's. -/
theorem C17_fact_key_prefixes :
    Generated.Codec.connKeyPrefix = Conduit.Codec.connKeyPrefix ∧
    Generated.Codec.pipeKeyPrefix = Conduit.Codec.pipeKeyPrefix ∧
    Generated.Codec.procKeyPrefix = Conduit.Codec.procKeyPrefix ∧
    Generated.Codec.connPre041KeyPrefix = Conduit.Codec.connPre041KeyPrefix :=
  ⟨rfl, rfl, rfl, rfl⟩

/-- `migratePre041` scans the old prefix, reads each key, stores through `Set` (hence the new
prefix via `addKeyPrefix`), then deletes the old key. -/
theorem C17_fact_prefix_uses : prefixUses =
    ["s.db.GetKeys(ctx, pre041prefix)", "s.db.Get(ctx, key)", "s.Set(ctx, instance.ID, instance)",
     "s.db.Set(ctx, key, nil)", "return storeKeyPrefix + id"] := rfl

/-- all three stores encode and decode with goccy/go-json (the library the string escaper, map
order and base64 behaviour of the model were taken from and are compared against). -/
theorem C17_fact_json_package : jsonImports =
    [["github.com/goccy/go-json"], ["github.com/goccy/go-json"], ["github.com/goccy/go-json"]] := rfl

/-! #### the members the model's encoders write are the exported struct fields, in order -/

theorem C17_fact_conn_members (x : ConnInstance) :
    Json.keys (encConn x) = strs connInstanceNames ∧
    Json.keys (Json.member "Config" (encConn x)) = strs connConfigNames ∧
    Json.keys (Json.member "LastActiveConfig" (encConn x)) = strs connConfigNames :=
  ⟨rfl, rfl, rfl⟩

theorem C17_fact_conn_state_members (p : Option Bytes) (ps : Option (SMap (Option Bytes))) :
    Json.keys (encConnState (.source p)) = strs sourceStateNames ∧
    Json.keys (encConnState (.destination ps)) = strs destinationStateNames :=
  ⟨rfl, rfl⟩

/-- `encodableInstance` = embedded `*Instance` (its exported fields first), then `Status`. -/
theorem C17_fact_pipe_members (x : PipeInstance) :
    Json.keys (encPipe x) = strs (pipeInstanceNames ++ pipeEncodableNames) ∧
    pipeEncodableEmbedded = ["*Instance"] ∧
    Json.keys (Json.member "Config" (encPipe x)) = strs pipeConfigNames ∧
    Json.keys (Json.member "DLQ" (encPipe x)) = strs pipeDLQNames :=
  ⟨rfl, rfl, rfl, rfl⟩

theorem C17_fact_proc_members (x : ProcInstance) :
    Json.keys (encProc x) = strs procInstanceNames ∧
    Json.keys (Json.member "Parent" (encProc x)) = strs procParentNames ∧
    Json.keys (Json.member "Config" (encProc x)) = strs procConfigNames :=
  ⟨rfl, rfl, rfl⟩

/-- the Go types of those fields (no json tags — a tag would show up in the type text): which
fields are nil-able slices / maps (`Option` in the model), which is the `any`, which are ints.
The only embedded field of `connector.Instance` is the mutex (no exported members). -/
theorem C17_fact_member_types :
    connInstanceTypes = ["string", "Type", "Config", "string", "string", "[]string", "any", "ProvisionType",
                         "time.Time", "time.Time", "Config"] ∧
    connInstanceEmbedded = ["sync.RWMutex"] ∧
    connConfigTypes = ["string", "map[string]string"] ∧ connConfigEmbedded = [] ∧
    sourceStateTypes = ["opencdc.Position"] ∧ destinationStateTypes = ["map[string]opencdc.Position"] ∧
    pipeInstanceTypes = ["string", "Config", "string", "time.Time", "time.Time", "ProvisionType", "DLQ",
                         "[]string", "[]string"] ∧ pipeInstanceEmbedded = [] ∧
    pipeEncodableTypes = ["Status"] ∧
    pipeConfigTypes = ["string", "string"] ∧ pipeDLQTypes = ["string", "map[string]string", "int", "int"] ∧
    procInstanceTypes = ["string", "time.Time", "time.Time", "ProvisionType", "string", "string", "Parent", "Config"] ∧
    procInstanceEmbedded = [] ∧
    procParentTypes = ["string", "ParentType"] ∧ procConfigTypes = ["map[string]string", "int"] :=
  ⟨rfl, rfl, rfl, rfl, rfl, rfl, rfl, rfl, rfl, rfl, rfl, rfl, rfl, rfl, rfl⟩

/-- `PrepareSet`'s `icopy` whitelist copies every exported field of `Instance` (both members of
`Config`; `LastActiveConfig` whole) from the instance it was given — so the model's `encConn`
may encode the instance itself — and stores the encoded copy under the prefixed key. The 12
copies are the 11 fields of `Instance` with `Config` split into its 2 members. -/
theorem C17_fact_prepareSet_whitelist :
    prepareSetCopies =
      ["ID=instance.ID", "Type=instance.Type", "Config.Name=instance.Config.Name",
       "Config.Settings=instance.Config.Settings", "PipelineID=instance.PipelineID", "Plugin=instance.Plugin",
       "ProcessorIDs=instance.ProcessorIDs", "ProvisionedBy=instance.ProvisionedBy", "State=instance.State",
       "CreatedAt=instance.CreatedAt", "UpdatedAt=instance.UpdatedAt",
       "LastActiveConfig=instance.LastActiveConfig"] ∧
    prepareSetCalls = ["s.encode(&icopy)", "s.addKeyPrefix(id)", "s.db.Set(ctx, key, raw)"] ∧
    connInstanceNames.length = 11 ∧ connConfigNames.length = 2 :=
  ⟨rfl, rfl, rfl, rfl⟩

/-- connector `encode` is `json.Marshal`; `decode` unmarshals, and only when `State` is not nil
marshals it again and unmarshals into `SourceState` for `TypeSource`, `DestinationState` for
`TypeDestination`, else `ErrInvalidConnectorType` — the shape of `decConnState`. -/
theorem C17_fact_conn_codec_shape :
    connEncodeCalls = ["json.Marshal(c)"] ∧
    connDecodeCalls = ["json.Unmarshal(raw, &conn)", "json.Marshal(conn.State)", "json.Unmarshal(stateJSON, &state)",
                       "json.Marshal(conn.State)", "json.Unmarshal(stateJSON, &state)"] ∧
    connDecodeIfs = ["err != nil", "conn.State != nil"] ∧
    connDecodeSwitch = ["conn.Type TypeSource => var state SourceState",
                        "conn.Type TypeDestination => var state DestinationState",
                        "conn.Type default => return nil, ErrInvalidConnectorType"] ∧
    connTypeConsts = ["TypeSource", "TypeDestination"] ∧
    typeSource = 1 ∧ typeDestination = 2 :=
  ⟨rfl, rfl, rfl, rfl, rfl, rfl, rfl⟩

/-- pipeline `encode` writes `encodableInstance{Instance, Status: GetStatus()}` with
`Encoder.Encode`; `decode` puts `Status` back with `SetStatus`. Processor: plain `Encode`/`Decode`. -/
theorem C17_fact_pipe_proc_codec_shape :
    pipeEncodeLit = ["Instance=instance", "Status=instance.GetStatus()"] ∧
    pipeEncodeCalls = ["json.NewEncoder(&b)", "enc.Encode(encInst)"] ∧
    pipeDecodeCalls = ["json.NewDecoder(r)", "dec.Decode(&i)", "inst.SetStatus(i.Status)"] ∧
    procEncodeCalls = ["json.NewEncoder(&b)", "enc.Encode(i)"] ∧
    procDecodeCalls = ["json.NewDecoder(r)", "dec.Decode(&i)"] :=
  ⟨rfl, rfl, rfl, rfl, rfl⟩

/-- the pre-0.4.1 struct and the literal that maps it to the new `Instance` are the model's
`OldConn` / `migrateInst`; the type names are the stringer table. -/
theorem C17_fact_pre041_mapping :
    connPre041Fields =
      ["Type string", "Data.XID string", "Data.XConfig.Name string", "Data.XConfig.Settings map[string]string",
       "Data.XConfig.Plugin string", "Data.XConfig.PipelineID string", "Data.XConfig.ProcessorIDs []string",
       "Data.XState json.RawMessage", "Data.XProvisionedBy int", "Data.XCreatedAt time.Time",
       "Data.XUpdatedAt time.Time"] ∧
    migrateCopies =
      ["ID=old.Data.XID", "Type=connType", "Config.Name=old.Data.XConfig.Name",
       "Config.Settings=old.Data.XConfig.Settings", "PipelineID=old.Data.XConfig.PipelineID",
       "Plugin=old.Data.XConfig.Plugin", "ProcessorIDs=old.Data.XConfig.ProcessorIDs",
       "ProvisionedBy=ProvisionType(old.Data.XProvisionedBy)", "State=old.Data.XState",
       "CreatedAt=old.Data.XCreatedAt", "UpdatedAt=old.Data.XUpdatedAt"] ∧
    migrateTypeMap = ["TypeSource.String()=TypeSource", "TypeDestination.String()=TypeDestination"] ∧
    strs connTypeNames = [key "Source", key "Destination"] :=
  ⟨rfl, rfl, rfl, rfl⟩

/-- the migration is a per-record map (`migrateRec`, `C17_pre041_store_independent`): the loop runs
over the old keys, its only `json.Unmarshal` target is `&old`, and `old` is declared *inside* the
loop body without initialiser — a fresh zero value for every record. (`Unmarshal` merges into what
the target already holds: a target declared outside the loop would carry settings keys and absent
members over from the record of the previous iteration.) The new instance is built in the loop too. -/
theorem C17_fact_pre041_fresh_decode_target :
    Generated.Pre041Loop.pre041LoopOver = "pre041keys" ∧
    Generated.Pre041Loop.pre041UnmarshalTargets = ["&old"] ∧
    Generated.Pre041Loop.pre041TargetDecls = ["in-loop:var old connectorPre041"] ∧
    Generated.Pre041Loop.pre041InstanceInLoop = true :=
  ⟨rfl, rfl, rfl, rfl⟩

/-- status numbering (`iota + 1`) is the model's. -/
theorem C17_fact_status_consts :
    pipeStatusConsts = ["StatusRunning", "StatusSystemStopped", "StatusUserStopped", "StatusDegraded",
                        "StatusRecovering"] ∧
    statusRunning = 1 ∧ statusSystemStopped = 2 ∧ statusUserStopped = 3 ∧ statusDegraded = 4 ∧
    statusRecovering = 5 :=
  ⟨rfl, rfl, rfl, rfl, rfl, rfl⟩

/-- `pipeline.Service.Init` rewrites exactly `StatusRunning` to `StatusSystemStopped`; both
`lifecycle.Service.Init` (v1, v2) start exactly the `StatusSystemStopped` pipelines — the guards of
`initStatus` and `lifecycleStarts`. -/
theorem C17_fact_restart_guards :
    "instance.GetStatus() == StatusRunning => instance.SetStatus(StatusSystemStopped)" ∈ pipelineInitIfs ∧
    pipelineInitIfs.length = 2 ∧
    lifecycleInitIfs.head? = some "instance.GetStatus() == pipeline.StatusSystemStopped => err := s.Start(ctx, instance.ID)" ∧
    lifecycleV2InitIfs.head? = some "instance.GetStatus() == pipeline.StatusSystemStopped => err := s.Start(ctx, instance.ID)" ∧
    lifecycleInitIfs.length = 2 ∧ lifecycleV2InitIfs.length = 2 := by decide +kernel

end Conduit.Facts.C17
