import ConduitModel.Generated.Errs
import ConduitModel.Props.C20
import ConduitModel.Proofs.ErrScan

/-!
Facts obligation for C20: every regenerated `cerrors.Errorf` call site, decided by the model of
`xerrors.Errorf` on the (format, argument count) of each site. A module of its own: this sweep is the
dearest of the C20 facts to check, and the one that fails while a multi-`%w` call site exists.
-/
namespace Conduit.Facts.C20
open Conduit.Generated.Errs Conduit.Errs

/-- call sites that do NOT keep every `%w` argument reachable, decided by the model of
`xerrors.Errorf` on the regenerated (format, argument count) of each site. -/
def badErrorfSites : List String :=
  (errorfSites.filter fun s => !goodSite (bytesOf s.2.1 s.2.2.1) s.2.2.2).map (·.1)

/-- C20 hypothesis "every wrapper in the code base is classification-preserving": no non-test
`cerrors.Errorf` call site holds more than one `%w` (or a `%w` xerrors does not honour). -/
theorem C20_fact_errorf_sites_good : badErrorfSites = [] := by
  simp only [badErrorfSites, goodSite, parsePercentW_bytesOf, sufW, sufS, sufV, hasSuffix_bytesOf, Nat.reduceLT,
    Nat.reduceMul, Nat.reduceAdd]
  decide +kernel

/-- every format is a constant string (nothing escaped the check above). -/
theorem C20_fact_errorf_no_dynamic_format : errorfDynamic = [] := rfl

end Conduit.Facts.C20
