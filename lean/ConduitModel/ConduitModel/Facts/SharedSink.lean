import ConduitModel.Generated.SharedSink

/-!
Facts obligations for the shared-sink protocol (C01/C04/C05, arch-v2): the statement order of the
`sharedBoundary` branch of `Worker.doTask` and of its surroundings that `Model/SharedSink.lean`
follows, regenerated from /repo/pkg/lifecycle-poc/funnel/{worker,sink}.go and
lifecycle-poc/service.go on every run (factgen/sharedsink.go).
-/
namespace Conduit.Facts.SharedSink
open Conduit.Generated.SharedSink

/-- `doTask`: shared entry block → the sub-pass (`doTaskAttempt`) → failure block → return.
(model: `acquire`, `checkPoison` | the sub-pass events, `subEnd` | `setPoison` | `release`) -/
theorem C01_fact_shared_doTask_shape :
    doTaskTop = ["if taskNode.sharedBoundary", "w.doTaskAttempt", "if err != nil && taskNode.sharedBoundary", "return err"] := rfl

/-- the entry block: `Lock()`, the `defer Unlock()` registered right after it, THEN the poison
check, whose refusal returns the coded error without touching lock, latch, sub-pass or destination.
(model: `acquire` before `checkPoison`; a check before the lock lets a worker that passed it enter
a root poisoned meanwhile) -/
theorem C01_fact_shared_lock_before_poison_check :
    sharedEntry = ["taskNode.sharedMu.Lock()", "defer taskNode.sharedMu.Unlock()",
      "if taskNode.poisoned.Load() return ce calls="] := rfl

/-- the failure block stores the poison; it is a statement of `doTask` itself, whose deferred
`Unlock()` therefore runs AFTER it (no window), and none of this sits in a function literal.
(model: `failedSub` → `setPoison` → `exiting` → `release`) -/
theorem C01_fact_shared_poison_before_unlock :
    sharedFailure = ["taskNode.poisoned.Store(true)"] ∧ doTaskLockCodeInFuncLit = false :=
  ⟨rfl, rfl⟩

/-- nobody else locks, unlocks, reads or writes the latch: `sharedMu` is allocated by
`MarkSharedBoundary` and used by `doTask` only, `poisoned` is loaded and stored by `doTask` only
(never cleared). (model: `lock` / `poison` change only in `acquire`, `release`, `setPoison`) -/
theorem C01_fact_shared_lock_and_latch_users :
    sharedMuUsers = ["doTask: sharedMu.Lock", "doTask: sharedMu.Unlock", "MarkSharedBoundary: sharedMu ="] ∧
    poisonedUsers = ["doTask: poisoned.Load", "doTask: poisoned.Store"] ∧
    markSharedBoundaryBody = ["t.sharedBoundary = true", "t.sharedMu = &sync.Mutex{}"] :=
  ⟨rfl, rfl, rfl⟩

/-- `doNextTask`: one next task is a plain `doTask` call; several are ALL entered, each on its own
pool goroutine, and joined by `p.Wait()`. (model: `fanStart` arms every root, `join` needs all) -/
theorem C05_fact_shared_fanout_enters_all_roots :
    doNextTaskArms = ["case 0: ", "case 1: w.doTask",
      "default: validateRunsWholeBeforeFanOut,newMultiAckNacker,pool.New,p.Go,w.doTask,p.Wait range=taskNode.Next"] := rfl

/-- `NewSink` marks every root; `buildSharedTail` returns ONE root when there are shared
processors and the destination branches themselves (one independently locked root each)
otherwise; every source's tail gets the same roots; the sink is opened before the workers run and
closed after all of them have returned. (model: R roots shared by all workers) -/
theorem C01_fact_shared_sink_construction :
    newSinkPerRoot = ["root.Tasks", "MarkSharedBoundary"] ∧
    buildSharedTailReturns = ["if len(procTasks) == 0 return destBranches, nil", "return []*funnel.TaskNode{procRoot}, nil"] ∧
    buildRunnablePipelineSink = ["buildSharedTail", "funnel.NewSink", "tail.AppendToEnd", "tail.AppendToEnd", "funnel.NewWorker"] ∧
    runPipelineSinkOrder = ["sink.Open", "sink.Close", "w.Do", "workersWg.Wait", "sink.Close"] :=
  ⟨rfl, rfl, rfl, rfl⟩

end Conduit.Facts.SharedSink
