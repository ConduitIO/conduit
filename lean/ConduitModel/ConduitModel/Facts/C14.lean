import ConduitModel.Generated.Ctl

/-!
Facts obligations for C14: what the M6 model assumes about the source is what the source says
today (regenerated from `pkg/{pipeline,connector,processor}/service.go`,
`pkg/orchestrator/*.go`, the `instance.go` files).
-/
namespace Conduit.Facts.C14
open Conduit.Generated.Ctl

/-- `Create` and `Delete` of all three services write the store *before* touching memory (the
model gives them `keep := true` unconditionally). -/
theorem C14_fact_store_first :
    (keepPlCreate && keepPlDelete && keepCnCreate && keepCnDelete && keepPrCreate && keepPrDelete) = true := rfl

/-- `pipeline.Service.UpdateStatus` keeps the NEW status in memory when its store write fails
(`svcPlStatus … keep := false` in the model) — deliberately unlike the ten configuration sites
(F7): the status is not a stored configuration value the memory must mirror, it reflects the
*run*. `lifecycle.runPipeline` launches the nodes first and only then records
`StatusRunning`; if that write fails the nodes keep running, and the in-memory status is what
the orchestrator's running guards (`C14_guards`) read. Restoring the old status on a failed
write would let API mutations through on a live pipeline. -/
theorem C14_fact_status_write_keeps_new : keepPlStatus = false := rfl

/-- every other mutating service method has one of the shapes the model's `Variant` covers
(`M` = memory, `S` = store, `R` = restore on a failed write): store-first (`S`, `SM`),
mutate-then-store (`MS`), mutate-then-store with restore (`MSR`). -/
theorem C14_fact_shapes_modelled :
    svcShapes.all (fun p => p.2 = "SM" || p.2 = "MS" || p.2 = "MSR" || p.2 = "S") = true := by decide +kernel

/-- the guards of the orchestrator methods, in the order the model applies them. -/
theorem C14_fact_guards : orchGuards = [
    ("PipelineOrchestrator.Update", ["pl.ProvisionedBy != pipeline.ProvisionTypeAPI", "pl.GetStatus() == pipeline.StatusRunning"]),
    ("PipelineOrchestrator.UpdateDLQ", ["pl.ProvisionedBy != pipeline.ProvisionTypeAPI", "pl.GetStatus() == pipeline.StatusRunning"]),
    ("PipelineOrchestrator.Delete", ["pl.ProvisionedBy != pipeline.ProvisionTypeAPI", "pl.GetStatus() == pipeline.StatusRunning",
      "len(pl.ConnectorIDs) != 0", "len(pl.ProcessorIDs) != 0"]),
    ("ConnectorOrchestrator.Create", ["pl.ProvisionedBy != pipeline.ProvisionTypeAPI", "pl.GetStatus() == pipeline.StatusRunning"]),
    ("ConnectorOrchestrator.Update", ["conn.ProvisionedBy != connector.ProvisionTypeAPI", "pl.GetStatus() == pipeline.StatusRunning"]),
    ("ConnectorOrchestrator.Delete", ["conn.ProvisionedBy != connector.ProvisionTypeAPI", "len(conn.ProcessorIDs) != 0",
      "pl.GetStatus() == pipeline.StatusRunning"]),
    ("ProcessorOrchestrator.Create", ["pl.ProvisionedBy != pipeline.ProvisionTypeAPI", "pl.GetStatus() == pipeline.StatusRunning"]),
    ("ProcessorOrchestrator.Update", ["proc.ProvisionedBy != processor.ProvisionTypeAPI", "pl.GetStatus() == pipeline.StatusRunning"]),
    ("ProcessorOrchestrator.Delete", ["proc.ProvisionedBy != processor.ProvisionTypeAPI", "pl.GetStatus() == pipeline.StatusRunning"])] := rfl

/-- transaction / service call order of the orchestrator methods, with the calls made by the
registered rollbacks (`R:`) — the `orch guards steps` frames of the model, step by step. -/
theorem C14_fact_call_order : orchCalls = [
    ("PipelineOrchestrator.Update", ["pipelines.Get", "pipelines.Update"]),
    ("PipelineOrchestrator.UpdateDLQ", ["pipelines.Get", "Validate", "pipelines.UpdateDLQ"]),
    ("PipelineOrchestrator.Delete", ["pipelines.Get", "pipelines.Delete"]),
    ("ConnectorOrchestrator.Create", ["NewTransaction", "R:txn.Discard", "pipelines.Get", "Validate", "connectors.Create",
      "R:connectors.Delete", "pipelines.AddConnector", "R:pipelines.RemoveConnector", "Commit", "Skip"]),
    ("ConnectorOrchestrator.Update", ["NewTransaction", "R:txn.Discard", "connectors.Get", "pipelines.Get", "Validate",
      "connectors.Update", "R:connectors.Update", "Commit", "Skip"]),
    ("ConnectorOrchestrator.Delete", ["NewTransaction", "R:txn.Discard", "connectors.Get", "pipelines.Get", "connectors.Delete",
      "R:connectors.Create", "pipelines.RemoveConnector", "R:pipelines.AddConnector", "Commit", "Skip"]),
    ("ProcessorOrchestrator.Create", ["NewTransaction", "R:txn.Discard", "getProcessorsPipeline", "processors.Create",
      "R:processors.Delete", "pipelines.AddProcessor", "R:pipelines.RemoveProcessor", "connectors.AddProcessor",
      "R:connectors.RemoveProcessor", "Commit", "Skip"]),
    ("ProcessorOrchestrator.Update", ["NewTransaction", "R:txn.Discard", "processors.Get", "getProcessorsPipeline",
      "processors.Update", "R:processors.Update", "Commit", "Skip"]),
    ("ProcessorOrchestrator.Delete", ["NewTransaction", "R:txn.Discard", "processors.Get", "getProcessorsPipeline",
      "processors.Delete", "R:processors.Create", "pipelines.RemoveProcessor", "R:pipelines.AddProcessor",
      "connectors.RemoveProcessor", "R:connectors.AddProcessor", "Commit", "Skip"])] := rfl

/-- status / provision / type codes of the model (`1 = running`, `0 = API`, `1 = source`,
parent `1 = connector`, `2 = pipeline`). -/
theorem C14_fact_constants :
    statusNames = ["StatusRunning", "StatusSystemStopped", "StatusUserStopped", "StatusDegraded", "StatusRecovering"] ∧
    pipelineProvisionNames = ["ProvisionTypeAPI", "ProvisionTypeConfig"] ∧
    connectorTypeNames = ["TypeSource", "TypeDestination"] ∧
    connectorProvisionNames.take 2 = ["ProvisionTypeAPI", "ProvisionTypeConfig"] ∧
    parentTypeNames = ["ParentTypeConnector", "ParentTypePipeline"] :=
  ⟨rfl, rfl, rfl, rfl, rfl⟩

end Conduit.Facts.C14
