import ConduitModel.Generated.SrcAck
import ConduitModel.Props.C02

/-!
Facts obligations for C02 (and the parts of M3 shared with C03/C06): what the model assumes about
the shape of `pkg/connector/persister.go` / `source.go` is what the source says today
(regenerated by `factgen/srcack.go` on every run).
-/
namespace Conduit.Facts.C02
open Conduit.Generated.SrcAck Conduit.SrcAck

/-- `flushNow`: transaction → storeFunc loop → Commit → callbacks (model: `flushRes` decides the
store, callbacks run only afterwards and see its outcome). -/
theorem C02_fact_flushNow_order :
    flushNowOrder = ["NewTransaction", "storeFunc", "Commit", "callbacks"] := rfl

/-- the commit is skipped when an earlier step failed -/
theorem C02_fact_flushNow_commit_guard : flushNowCommitGuard = "err == nil" := rfl

/-- A failed store Set reaches the error that guards Commit and that the callbacks receive
(model: `flushRes .setFail` ⇒ generation `failed`, no commit, callbacks get the error).
False when the loop declares a new `err` (finding F1). -/
theorem C02_fact_flushNow_store_error_propagates : flushNowStoreErrPropagates = true := rfl

/-- `onPersistFlushed` returns on error before touching the queues (model: callback of a failed
generation only blocks on `errs`). -/
theorem C02_fact_onPersistFlushed_guard : onPersistFlushedFirstGuard = "err != nil" := rfl

/-- the drain loop releases exactly the pending acks with `seq ≤ durableAckSeq` (model: `drain`) -/
theorem C02_fact_drain_cond :
    onPersistFlushedDrainCond = "i < len(s.pendingAcks) && s.pendingAcks[i].seq <= s.durableAckSeq" := rfl

/-- `Source.Ack`: state set → enqueue (under ackMu) → Persist, inside the instance lock, and no
synchronous `stream.Send` (model: event `ack`). -/
theorem C02_fact_sourceAck_order :
    sourceAckOrder = ["preparePluginCall", "Instance.Lock", "s.Instance.State=", "ackMu.Lock", "s.pendingAcks=",
      "ackMu.Unlock", "Persist"] := rfl

/-- `triggerFlush`: stop timer → wait for the running flush → take the batch → publish the new
generation → start it (model: `trigger` is enabled only when no generation is writing). -/
theorem C02_fact_triggerFlush_order :
    triggerFlushOrder = ["flushTimer.Stop", "<-p.flush.writeDone", "p.batch=", "p.flush=", "flushNow"] := rfl

/-- `triggerFlush` waits for the running flush UNCONDITIONALLY: `<-p.flush.writeDone` is a plain
receive statement, not a select arm that a cancelled context (a force stop hands one to
`Persister.Flush` through `Source.Teardown`) or a timer could bypass. This is what the model's
`trigger` guard `noWriting` stands for — whatever context the caller passes, two flush
generations never overlap, so an older snapshot can never be committed after a newer one. -/
theorem C02_fact_triggerFlush_waits_unconditionally : triggerFlushWaitsUnconditionally = true := rfl

/-- The loop over the connectors of a batch keeps a failure: the only assignments to `err` inside it
assign a value already tested non-nil, so the success of a connector iterated later never resets it
(model: `FlushBatch.Shape.keep`, for which `C02_batch_commit_only_if_every_store_ok`,
`C02_batch_failed_connector_never_acked` hold; the other shape has `C02_batch_overwrite_counterexample`).
With this, the outcome of a flush is one outcome for the whole batch — what M3's `flushRes` is. -/
theorem C02_fact_flushNow_loop_keeps_failure : flushNowLoopKeepsFailure = true := rfl

theorem C02_fact_bundle_cond : persistBundleCond = "p.bundleCount == p.bundleCountThreshold" := rfl

/-- the delivery goroutine takes the whole queue and leaves a fresh (nil) one behind: its snapshot
never shares storage with what `onPersistFlushed` appends to (model: one FIFO `deferred`). -/
theorem C02_fact_delivery_queue_reset : deliveryQueueReset = "nil" := rfl

theorem C02_fact_exhaust_cond : deliverExhaustCond = "attempt >= s.maxDeferredAckRetries()" := rfl

/-- the configuration the source defines today: the regenerated constants and code shapes. -/
def cfgNow : Cfg :=
  { maxRetries := defaultDeferredAckMaxRetries, bundleThr := defaultPersisterBundleCountThreshold,
    txFailCallbacks := flushNowTxFailRunsCallbacks, stopAfterDrop := deliveryStopsAfterDrop }

/-- the property theorems hold for every configuration; this is their instance at `cfgNow`. -/
theorem C02_fact_holds_for_current_config (s : St) (h : Reach cfgNow s) :
    (∀ a ∈ s.delivered, a.seq ≤ s.store.seq) ∧ s.commits.Pairwise (fun x y => x.seq ≤ y.seq) :=
  ⟨C02_delivered_implies_durable cfgNow s h, C02_commit_history_monotone cfgNow s h⟩

end Conduit.Facts.C02
