import ConduitModel.Generated.Errs
import ConduitModel.Generated.ErrPaths
import ConduitModel.Props.C20

/-!
Facts obligations for C20: the theorems of `Props/C20` instantiated with — and the finite-table
statements decided over — what the source says today (regenerated by `factgen/errs.go` from every
`conduiterr.Register` call, `exitcode.go`, `pkg/http/api/status/status.go` and every
`cerrors.Errorf` call site of the repository).
-/
namespace Conduit.Facts.C20
open Conduit.Generated.Errs Conduit.Errs

/-- the exit-code configuration of the source. -/
def exitCfg : ExitCfg :=
  { table := fromGRPCCodeTable, dflt := fromGRPCCodeDefault, ok := exitOK, runtime := exitRuntime,
    environment := exitEnvironment, canceled := "context.Canceled",
    envSentinels := ["syscall.ECONNREFUSED", "syscall.EADDRINUSE"] }

/-- no number occurs twice, with the comparison the kernel evaluates at once. -/
def nodupN : List Nat → Bool
  | [] => true
  | a :: l => !l.any (Nat.beq a) && nodupN l

theorem nodupN_sound : ∀ l, nodupN l = true → l.Nodup
  | [], _ => .nil
  | a :: l, h => by
    simp only [nodupN, Bool.and_eq_true, Bool.not_eq_true', List.any_eq_false] at h
    exact List.nodup_cons.2 ⟨fun ha => h.1 a ha (Nat.beq_refl a), nodupN_sound l h.2⟩

/-- no reason is registered twice (`Register` would panic at init). -/
theorem C20_fact_registry_nodup : (registry.map Prod.fst).Nodup := by
  -- The kernel compares numbers at once, while each comparison of two strings costs it their
  -- UTF-8 encodings again: read every reason once as a base-256 numeral and compare those.
  have h := nodupN_sound ((registry.map Prod.fst).map fun s =>
      s.toByteArray.data.toList.foldl (fun n b => n * 256 + b.toNat) 0) (by decide +kernel)
  exact (List.pairwise_map.1 h).imp fun hne e => hne (by rw [e])

/-- every registered category is a real, non-OK gRPC code (`ToStatus` drops the ErrorInfo detail
for OK, and `.Err()` would be nil). -/
theorem C20_fact_registry_categories : ∀ g ∈ registry.map Prod.snd, g ≠ 0 ∧ g ∈ grpcCodes.map Prod.snd := by decide +kernel

/-- the fallback reason is itself registered with category Internal. -/
theorem C20_fact_unknown_registered : (unknownReason, 13) ∈ registry := by decide +kernel

/-- "a coded error survives the gRPC round trip with the
same code … for every registered error code": over the WHOLE regenerated registry. -/
theorem C20_fact_status_roundtrip_all_registered :
    ∀ p ∈ registry, fromStatus registry unknownReason (toStatus ⟨p.1, p.2⟩) = ⟨p.1, p.2⟩ :=
  fun p hp => C20_status_roundtrip_registered registry unknownReason C20_fact_registry_nodup p.1 p.2 hp
    (C20_fact_registry_categories p.2 (List.mem_map.mpr ⟨p, hp, rfl⟩)).1

/-- the gRPC numbering the tables are written in. -/
theorem C20_fact_grpc_codes : grpcCodes =
    [("OK", 0), ("Canceled", 1), ("Unknown", 2), ("InvalidArgument", 3), ("DeadlineExceeded", 4),
     ("NotFound", 5), ("AlreadyExists", 6), ("PermissionDenied", 7), ("ResourceExhausted", 8),
     ("FailedPrecondition", 9), ("Aborted", 10), ("OutOfRange", 11), ("Unimplemented", 12),
     ("Internal", 13), ("Unavailable", 14), ("DataLoss", 15), ("Unauthenticated", 16)] := rfl

/-- `ExitCode` classifies in this order: nil/cancelled, ConduitError, gRPC status, environment
sentinel, runtime — the order `Model.exitCode` implements. -/
theorem C20_fact_exit_code_steps : exitCodeSteps =
    ["if err == nil || cerrors.Is(err, context.Canceled) => return OK",
     "if ce, ok := conduiterr.Get(err); ok => return fromGRPCCode(ce.Code.GRPCCode())",
     "if st, ok := grpcstatus.FromError(err); ok => return fromGRPCCode(st.Code())",
     "if isEnvironmentSentinel(err) => return Environment",
     "return Runtime"] ∧
    isEnvironmentSentinelBody =
      ["return cerrors.Is(err, syscall.ECONNREFUSED) || cerrors.Is(err, syscall.EADDRINUSE)"] :=
  ⟨rfl, rfl⟩

/-- the documented buckets, for EVERY `codes.Code` value (any number, not only the 17 named). -/
theorem C20_fact_from_grpc_code_total (g : Nat) :
    fromGRPCCode exitCfg g =
      if g = 0 ∨ g = 1 then 0
      else if g = 3 ∨ g = 5 ∨ g = 6 ∨ g = 9 ∨ g = 11 then 2
      else if g = 14 ∨ g = 4 ∨ g = 8 ∨ g = 16 ∨ g = 7 then 3
      else 1 := by
  by_cases h : g < 17
  · have : ∀ g : Fin 17, fromGRPCCode exitCfg g.val =
        if g.val = 0 ∨ g.val = 1 then 0
        else if g.val = 3 ∨ g.val = 5 ∨ g.val = 6 ∨ g.val = 9 ∨ g.val = 11 then 2
        else if g.val = 14 ∨ g.val = 4 ∨ g.val = 8 ∨ g.val = 16 ∨ g.val = 7 then 3
        else 1 := by decide +kernel
    exact this ⟨g, h⟩
  · -- the switch has arms for named codes only, all below 17: the default applies
    have hk : ∀ p ∈ fromGRPCCodeTable, p.1 < 17 := by decide +kernel
    have hl : fromGRPCCodeTable.lookup g = none :=
      List.lookup_eq_none_iff.2 fun p hp => by have := hk p hp; simp only [bne_iff_ne, ne_eq]; omega
    rw [if_neg (by omega), if_neg (by omega), if_neg (by omega)]
    simp only [fromGRPCCode, exitCfg, hl, Option.getD_none]
    rfl

/-- every registered code exits with 1, 2 or 3 — never 0 (what `TestExitCode_RegistryCompleteness`
samples, here over the regenerated registry and the regenerated switch). -/
theorem C20_fact_registered_exit_codes :
    ∀ g ∈ registry.map Prod.snd, fromGRPCCode exitCfg g ∈ [exitRuntime, exitValidation, exitEnvironment] := by decide +kernel

/-- For the source's configuration: a coded error under any
first-keeping layers exits with its category's bucket unless the run was cancelled; with the
totality fact above that bucket is the documented one. -/
theorem C20_fact_exit_code_of_coded (ls : List Layer) (h : ∀ l ∈ ls, l.KeepsFirst) (e : Err) (c : Code)
    (hc : getErr e = some c) (hcan : isErr (.sentinel "context.Canceled") (applyAll ls e) = false) :
    exitCode exitCfg (some (applyAll ls e)) = fromGRPCCode exitCfg c.grpc :=
  C20_exit_code_of_coded exitCfg ls h e c hc hcan

/-- the four boundary functions consult the ConduitError first, then their sentinel switch, then
`fallbackStatus` — the order `Model.apiStatus` implements. -/
theorem C20_fact_api_steps :
    pipelineErrorSteps = ["if s, ok := conduitErrorStatus(err); ok => return s", "var code codes.Code", "switch", "return fallbackStatus(code, err)"] ∧
    connectorErrorSteps = pipelineErrorSteps ∧ processorErrorSteps = pipelineErrorSteps ∧
    pluginErrorSteps = ["if s, ok := conduitErrorStatus(err); ok => return s", "return fallbackStatus(codeFromError(err), err)"] ∧
    conduitErrorStatusSteps = ["if ce, ok := conduiterr.Get(err); ok => return conduiterr.ToStatus(ce).Err(), true", "return nil, false"] ∧
    fallbackStatusSteps = ["return conduiterr.ToStatus(conduiterr.WithUnknownReason(err, category)).Err()"] :=
  ⟨rfl, rfl, rfl, rfl, rfl, rfl⟩

/-- no sentinel arm maps to OK (so `fallbackStatus` never returns a nil error for a failure). -/
theorem C20_fact_api_categories_not_ok :
    (∀ a ∈ codeFromErrorArms ++ pipelineErrorArms ++ connectorErrorArms ++ processorErrorArms, a.2 ≠ 0) ∧
    codeFromErrorDefault ≠ 0 := by decide +kernel

/-- the branch structure of `Worker.Nack`, `DLQ.Nack`, `DLQ.sendToDLQ` and `DestinationTask.Do`
that `Driver/ErrPaths.lean` mirrors by hand (the error compositions on each return are the
regenerated templates themselves and need no pin). -/
theorem C20_fact_nack_path_shape :
    Generated.ErrPaths.workerNackConds =
      ["n > 0", "posErr := validateAckPositions(originalBatch.positions[:n]); posErr != nil", "err != nil",
       "ackErr != nil && !isClosedSourceStream(ackErr)", "err != nil"] ∧
    Generated.ErrPaths.dlqNackConds =
      ["len(batch.records) == 0", "nacked > 0", "nacked < len(batch.records)", "err != nil",
       "nacked < len(batch.records)", "d.windowNackThreshold > 0"] ∧
    Generated.ErrPaths.sendToDLQConds = ["err != nil", "ackCount < len(dlqRecords)"] ∧
    Generated.ErrPaths.destinationDoConds =
      ["err != nil", "err != nil", "err := t.validateAcks(acks, positions[ackCount:]); err != nil",
       "ackCount >= len(positions)", "ackCount < len(positions)"] ∧
    Generated.ErrPaths.workerNack.length = 5 ∧ Generated.ErrPaths.dlqNack.length = 5 ∧
    Generated.ErrPaths.sendToDLQ.length = 3 ∧ Generated.ErrPaths.destinationDo.length = 5 ∧
    Generated.ErrPaths.emptyPositionCode ∈ registry :=
  ⟨rfl, rfl, rfl, rfl, rfl, rfl, rfl, rfl, by decide +kernel⟩

end Conduit.Facts.C20
