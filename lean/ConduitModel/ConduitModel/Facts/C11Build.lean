import ConduitModel.Generated.C11Build

/-!
Facts obligations for C11 on the build step (`Model/Rebuild.lean`, `Props/C11Build.lean`), regenerated
from /repo on every run (factgen/rebuild.go; flattening as in factgen/treebuild.go): who reserves a
processor instance, who releases it, in which order the builders of the two lifecycle services
reserve, and that no builder releases anything on an error exit — the fact behind the known finding
"a failed build keeps the reservations it made" (`C11_failed_build_leaks_reservation_counterexample`).
A fix of that finding changes `C11_fact_builders_release_nothing` (and the model has to follow).
-/
namespace Conduit.Facts.C11Build
open Conduit.Generated.C11Build

/-- `MakeRunnableProcessor` reserves with one compare-and-swap and refuses a reserved instance; its OWN
later error exits release the reservation again. (model: `reserve`: `.running` when `held.contains id`,
otherwise `id` joins `held`) -/
theorem C11_fact_reserve_is_cas :
    makeRunnableProcessor = ["if !i.running.CompareAndSwap(false, true) return nil, ErrProcessorRunning",
      "egressPolicy, err := s.resolveEgressPolicy(i)", "if err != nil {", "| i.running.Store(false)", "| return nil, err", "}",
      "p, err := s.registry.NewProcessor(ctx, i.Plugin, i.ID, egressPolicy)", "if err != nil {", "| i.running.Store(false)",
      "| return nil, err", "}", "cond, err := newProcessorCondition(i.Condition)", "if err != nil {", "| i.running.Store(false)",
      "| return nil, error", "}", "return newRunnableProcessor(p, cond, i), nil"] := rfl

/-- the per-id loop of both engines: `Get`, `MakeRunnableProcessor`, and on either failure a plain
`return nil, err` — the runnables made in earlier iterations are dropped, not torn down.
(model: `reserve` returns the reservations made so far together with the error) -/
theorem C11_fact_processor_loops :
    v2BuildProcessorTasks = ["var tasks []funnel.Task", "for _, procID := range processorIDs {",
      "| instance, err := s.processors.Get(ctx, procID)", "| if err != nil return nil, error",
      "| runnableProc, err := s.processors.MakeRunnableProcessor(ctx, instance)", "| if err != nil return nil, err",
      "| tasks = append( tasks, funnel.NewProcessorTask( instance.ID, runnableProc, logger, s.newProcessorMetrics(pl.Config.Name, instance.Plugin, instance.ID), ), )",
      "}", "return tasks, nil"] ∧
    v1BuildProcessorNodes = ["var nodes []stream.Node", "prev := first", "for _, procID := range processorIDs {",
      "| instance, err := s.processors.Get(ctx, procID)", "| if err != nil return nil, error",
      "| runnableProc, err := s.processors.MakeRunnableProcessor(ctx, instance)", "| if err != nil return nil, err",
      "| var node stream.PubSubNode", "| if instance.Config.Workers > 1 {", "| | node = s.buildParallelProcessorNode(pl, runnableProc)",
      "| } else {", "| | node = s.buildProcessorNode(pl, runnableProc)", "| }", "| node.Sub(prev.Pub())", "| prev = node",
      "| nodes = append(nodes, node)", "}", "last.Sub(prev.Pub())", "return nodes, nil"] := ⟨rfl, rfl⟩

/-- the order in which the builders reserve. (model: `attemptV2` sources → destinations → pipeline
processors → tree / sink / worker checks; `attemptV1` sources → pipeline processors → destinations) -/
theorem C11_fact_builder_order :
    v2BuilderOrder = ["buildSourceTasks", "buildDestinationTasks", "buildProcessorTasks", "buildSharedTail", "NewSink", "NewWorker"] ∧
    v1BuilderOrder = ["buildSourceNodes", "buildProcessorNodes", "buildDestinationNodes"] :=
  ⟨rfl, rfl⟩

/-- NO `Teardown` / `Close` / `running.Store` call in `Start` or any builder function of either
lifecycle service: nothing releases the reservations of an attempt that fails.
(model: every `.err` result of `attemptV1` / `attemptV2` carries the reservations made so far) -/
theorem C11_fact_builders_release_nothing :
    v2BuilderReleaseCalls = [] ∧ v1BuilderReleaseCalls = [] :=
  ⟨rfl, rfl⟩

/-- the release: `RunnableProcessor.Teardown` clears the flag whatever the plugin answers;
arch-v2 reaches it from `ProcessorTask.Close`, which `Worker.Close` / `Sink.Close` call for EVERY task
(errors are collected, the loops never return early); v1 from the func deferred by
`ProcessorNode.Run` before `Open`. (model: `release`: every processor of the live runs) -/
theorem C11_fact_teardown_releases :
    runnableTeardown = ["err := p.proc.Teardown(ctx)", "p.running.Store(false)", "return err"] ∧
    processorTaskClose = ["return t.processor.Teardown(ctx)"] ∧
    workerClose = ["var errs []error", "if err := w.tearDownSource(ctx); err != nil {",
      "| errs = append(errs, cerrors.Errorf(\"failed to tear down source: %w\", err))", "}",
      "for task := range w.FirstTask.Tasks() {", "| err := task.Close(ctx)", "| if err != nil {",
      "| | errs = append(errs, cerrors.Errorf(\"task %s failed to close: %w\", task.ID(), err))", "| }", "}",
      "err := w.DLQ.Close(ctx)", "if err != nil {", "| errs = append(errs, cerrors.Errorf(\"failed to close DLQ: %w\", err))", "}",
      "return cerrors.Join(errs...)"] ∧
    sinkClose = ["var errs []error", "for _, root := range s.roots {", "| for task := range root.Tasks() {",
      "| | if err := task.Close(ctx); err != nil {",
      "| | | errs = append(errs, cerrors.Errorf(\"task %s failed to close: %w\", task.ID(), err))", "| | }", "| }", "}",
      "return cerrors.Join(errs...)"] ∧
    v1RunDeferredTeardown = ["tdErr := n.Processor.Teardown(ctx)",
      "err = cerrors.LogOrReplace(err, tdErr, func() { n.logger.Err(ctx, tdErr).Msg(\"could not tear down processor\") })"] ∧
    v1TeardownDeferredBeforeOpen = true ∧
    v1RunExitsBeforeDefer = ["if err != nil return err"] :=
  ⟨rfl, rfl, rfl, rfl, rfl, rfl, rfl⟩

/-- arch-v2 `runPipeline`'s open phase: `sink.Open` failing returns at once (nothing of any worker is
closed); worker `i` failing closes the workers in `opened` (appended only AFTER a successful `Open`,
so not worker `i`, not the later ones) and the sink, then returns. (model: `openPhaseV2`,
`workersOpen`: `some (ps ++ closed ++ sinkProcs)`) -/
theorem C11_fact_v2_open_phase :
    v2OpenPhase = ["if err := rp.sink.Open(ctx); err != nil return",
      "opened := make([]*funnel.Worker, 0, len(rp.workers))",
      "for i, w := range rp.workers {",
      "| if err := w.Open(ctx); err != nil {",
      "| | for j := len(opened) - 1; j >= 0; j-- {",
      "| | | _ = opened[j].Close(context.Background())",
      "| | }",
      "| | _ = rp.sink.Close(context.Background())",
      "| | return error",
      "| }",
      "| opened = append(opened, w)",
      "}"] := rfl

/-- `Worker.Open` / `Sink.Open`: a task's `Close` joins the rollback only AFTER its `Open` succeeded;
the first failure returns: the failing task and the tasks after it are neither opened nor closed.
`ProcessorTask.Open` does not release anything when the processor's `Open` fails.
(model: `openSeq`: the processors opened before the first failure) -/
theorem C11_fact_open_rollback_covers_opened_only :
    workerOpen = ["var r rollback.R",
      "defer func() { rollbackErr := r.Execute() err = cerrors.LogOrReplace(err, rollbackErr, func() { w.logger.Err(ctx, rollbackErr).Msg(\"failed to execute rollback\") }) }()",
      "sourceOpened := false",
      "for task := range w.FirstTask.Tasks() {",
      "| err = task.Open(ctx)",
      "| if err != nil return error",
      "| if !sourceOpened {",
      "| | sourceOpened = true",
      "| | r.Append(func() error { return w.tearDownSource(ctx) })",
      "| }",
      "| r.Append(func() error { return task.Close(ctx) })",
      "}",
      "err = w.DLQ.Open(ctx)",
      "if err != nil return error",
      "r.Skip()",
      "return nil"] ∧
    sinkOpen = ["var r rollback.R",
      "defer func() { rollbackErr := r.Execute() err = cerrors.LogOrReplace(err, rollbackErr, func() {}) }()",
      "for _, root := range s.roots {",
      "| for task := range root.Tasks() {",
      "| | err = task.Open(ctx)",
      "| | if err != nil return error",
      "| | r.Append(func() error { return task.Close(ctx) })",
      "| }",
      "}",
      "r.Skip()",
      "return nil"] ∧
    processorTaskOpen = ["err := t.processor.Open(ctx)", "if err != nil return error", "return nil"] :=
  ⟨rfl, rfl, rfl⟩

/-- v1 `runPipeline` runs EVERY node unconditionally (one `rp.t.Go` per node whose body calls
`node.Run` once) — together with `C11_fact_teardown_releases` (the teardown is deferred before `Open`)
every processor of a v1 run is released whichever node fails. (model: v1 `.start` → `.ran`) -/
theorem C11_fact_v1_runs_every_node :
    v1NodeLoop = ["nodesWg.Add", "rp.t.Go { node.Run }"] := rfl

end Conduit.Facts.C11Build
