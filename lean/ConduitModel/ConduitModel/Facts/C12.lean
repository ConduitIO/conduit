import ConduitModel.Generated.ForceStop
import ConduitModel.Generated.Lifecycle

/-!
C12 — the latch model is `forceStopper` as written, and every force-stoppable node uses it in the
single-shot way the latch law assumes (one `start()` per Run, outside any loop; `stop()` in ForceStop).
-/
namespace Conduit.Facts.C12
open Conduit.Generated.ForceStop

theorem start_shape : start_body =
    ["ctx, cancel := context.WithCancel(context.Background())", "f.mu.Lock()", "defer f.mu.Unlock()",
     "f.cancel = cancel", "if f.stopped { cancel() }", "return ctx, cancel"] := rfl

theorem stop_shape : stop_body =
    ["f.mu.Lock()", "defer f.mu.Unlock()", "if f.cancel != nil { f.cancel() return }", "f.stopped = true"] := rfl

/-- the hypothesis of `C12_force_stop_latch` (exactly one `start`) holds for every node; a row of
`nodes` is (node, calls of `start` in Run, of which inside a loop, calls of `stop` in ForceStop). -/
theorem nodes_single_shot : ∀ n ∈ nodes, n.2.1 = 1 ∧ n.2.2.1 = 0 ∧ n.2.2.2 = 1 := by decide +kernel

theorem nodes_covered : nodes.map (·.1) = ["SourceNode", "DestinationNode", "DestinationAckerNode", "DLQHandlerNode"] := rfl

/-- force stop kills the tomb with a FatalError in both engines. -/
theorem force_is_fatal : Conduit.Generated.Lifecycle.v1_forceStop_calls = ["t.Kill", "FatalError", "ForceStop"] ∧
    Conduit.Generated.Lifecycle.v2_forceStop_calls.filter (· ≠ "forceStopped.Store") = ["t.Kill", "FatalError"] := by decide +kernel

end Conduit.Facts.C12
