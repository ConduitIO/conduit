import ConduitModel.Generated.Policy
import ConduitModel.Generated.RegistryIndex
import ConduitModel.Generated.RegistryInstall
import ConduitModel.Generated.RegistryExtract
import ConduitModel.Generated.Atomicfile
import ConduitModel.Props.C19
import ConduitModel.Props.C19Flock

/-!
Facts obligations for C19: what the hand models assume about the source is what the source says
today. (The gate orders, `policy.Decide`, `index.CheckRollback` and the `WriteFile` operation list
are consumed directly by the theorems of `Props/C19.lean`; the facts here tie the remaining
hand-modelled structure.)

A row of a gate order or operation list is (callee, guarded, condition, deferred): `guarded` = the
call's failure ends the function, `condition` = the enclosing `if` ("" on the straight-line path).
-/
namespace Conduit.Facts.C19
open Conduit.Generated Conduit.Gates

/-! ### ExtractBinary (Model/Extract.lean) -/

/-- the decompression cap of the model is the source's `maxExtractedBytes`. -/
theorem C19_fact_extract_cap : RegistryExtract.maxExtractedBytes = Conduit.Registry.maxExtractedBytes := rfl

/-- per entry: read header, stop at EOF, refuse a read error, clean the name, refuse an escaping
name (`IsAbs || == ".." || HasPrefix "../"`) — *before* the type switch — then switch on the type. -/
theorem C19_fact_extract_loop : RegistryExtract.extractLoopShape =
    ["assign:hdr, err := tr.Next()", "if:err == io.EOF", "if-return:err != nil",
     "assign:cleanName := filepath.Clean(hdr.Name)",
     "if-return:filepath.IsAbs(cleanName) || cleanName == \"..\" || strings.HasPrefix(cleanName, \"..\"+string(filepath.Separator))",
     "switch:hdr.Typeflag"] := rfl

/-- directories and unknown types are skipped, links refused, regular files extracted (`extractEntry`). -/
theorem C19_fact_extract_switch : RegistryExtract.extractSwitch =
    ["tar.TypeDir => continue", "tar.TypeSymlink,tar.TypeLink => return-error", "tar.TypeReg => extract",
     "default => continue"] := rfl

/-- the regular-file arm, statement by statement (`extractReg`): root test, `Join`, `MkdirAll(Dir)`,
exclusive create, bounded copy (`cap - total + 1`), total and cap test (`>`), candidate bookkeeping. -/
theorem C19_fact_extract_reg : RegistryExtract.extractRegShape =
    ["assign:isRoot := !strings.Contains(cleanName, string(filepath.Separator))",
     "assign:destPath := filepath.Join(destDir, cleanName)",
     "if-return:err := os.MkdirAll(filepath.Dir(destPath), 0o700); err != nil",
     "assign:out, err := os.OpenFile(destPath, os.O_WRONLY|os.O_CREATE|os.O_EXCL, 0o755)",
     "if-return:err != nil",
     "assign:n, copyErr := io.Copy(out, io.LimitReader(tr, maxExtractedBytes-extractedTotal+1))",
     "assign:closeErr := out.Close()", "if-return:copyErr != nil", "if-return:closeErr != nil",
     "assign:extractedTotal += n", "if-return:extractedTotal > maxExtractedBytes", "if-continue:!isRoot",
     "if-return:candidate != \"\"", "assign:candidate = cleanName"] := rfl

theorem C19_fact_extract_tail : RegistryExtract.extractTail =
    ["if-return:candidate == \"\"", "return:filepath.Join(destDir, candidate)"] := rfl

/-- the install pipeline extracts into a directory it has just created under the staging directory
(`FS.initial`: the destination exists and is empty). -/
theorem C19_fact_extract_dir : RegistryExtract.extractAndGuardAssigns =
    ["extractDir := filepath.Join(stagingDir, \"extracted\")",
     "binaryPath, err := ExtractBinary(archivePath, extractDir)",
     "guardFD, err := openRegularNoFollow(binaryPath)"] := rfl

/-! ### The verification gate (Model/Install.lean) -/

/-- `runVerificationGate`: unsigned branch first, then bundles, verifier, and the `!Signed` refusal. -/
theorem C19_fact_gate_shape :
    RegistryInstall.runVerificationGateOrder =
      [("unsignedInstallGate", true, "opts.AllowUnsigned", false), ("fetchArtifactRef", true, "", false),
       ("VerifyArtifact", true, "", false)] ∧
    RegistryInstall.runVerificationGateConds = ["opts.AllowUnsigned", "err != nil", "err != nil", "!verifyResult.Signed"] :=
  ⟨rfl, rfl⟩

/-- `unsignedInstallGate`: `policy.Decide` (guarded), the defensive `!dec.Allowed()` refusal, the
mandatory audit append (guarded), and only then `VerifyResult{Signed: false}`. -/
theorem C19_fact_unsigned_gate_shape :
    RegistryInstall.unsignedInstallGateOrder =
      [("Decide", true, "", false), ("AppendUnsignedInstallEvent", true, "", false)] ∧
    RegistryInstall.unsignedInstallGateConds = ["err != nil", "!dec.Allowed()"] ∧
    RegistryInstall.unsignedInstallGateResult = "VerifyResult{Signed: false, VerifiedIdentity: \"\"}" ∧
    Policy.decisionAllowedBody = "{ return d.allowed }" :=
  ⟨rfl, rfl, rfl, rfl⟩

/-- which install option feeds which `policy.Context` field (the model passes `ctx` straight through). -/
theorem C19_fact_policy_wiring : RegistryInstall.policyContextWiring =
    ["TTY=opts.TTY", "CIEnv=opts.CIEnv", "IsMCP=opts.IsMCP", "OperatorPolicy=opts.OperatorAllowUnsigned",
     "EnvVarSet=opts.EnvVarSet", "TypedConfirmation=opts.TypedConfirmation"] := rfl

/-- the manifest records the gate's own result (`Signed`, `AllowUnsigned = !Signed`) and the digest
of the received bytes. -/
theorem C19_fact_manifest_fields : RegistryInstall.manifestEntryVerificationFields =
    ["Digest=fmt.Sprintf(\"sha256:%x\", o.digest)", "Signed=o.verifyResult.Signed",
     "VerifiedIdentity=o.verifyResult.VerifiedIdentity", "AllowUnsigned=!o.verifyResult.Signed"] := rfl

/-- `CheckCorruption` refuses a malformed declared digest and any differing byte. -/
theorem C19_fact_corruption : RegistryInstall.checkCorruptionConds =
    ["err != nil || len(wantBytes) != len(got)", "got[i] != wantBytes[i]"] := rfl

/-- `Install` / `InstallProcessor` reach the shared core only through the index verifier. -/
theorem C19_fact_top_order :
    domBy (ofTuples RegistryInstall.installTopOrder) "VerifyIndex" "installArtifact" = true ∧
    domBy (ofTuples RegistryInstall.installProcessorTopOrder) "VerifyIndex" "installArtifact" = true :=
  ⟨rfl, rfl⟩

/-- the offline verification helper: both digest comparisons, then the verifier, then `!Signed`. -/
theorem C19_fact_bundle_verify :
    RegistryInstall.verifyBundleArtifactOrder =
      [("CheckCorruption", true, "", false), ("CheckCorruption", true, "", false), ("VerifyArtifact", true, "", false)] ∧
    RegistryInstall.verifyBundleArtifactConds = ["err != nil", "!verifyResult.Signed"] :=
  ⟨rfl, rfl⟩

/-- `verifyBundleIndex`: accepted-and-verified returns at once; anything but a stale refusal is
final; the override needs the flag, `DecideStaleBundle`, a successful verified retry on a copy of
the verifier whose only change is `MaxStaleness`, and the audit entry. -/
theorem C19_fact_bundle_index :
    RegistryInstall.verifyBundleIndexConds =
      ["err == nil", "!verified.Verified", "!ok || ce.Code != index.CodeIndexStale", "!opts.AllowStaleBundle",
       "!dec.Allowed()", "err != nil", "!verified.Verified", "logErr != nil"] ∧
    RegistryInstall.verifyBundleIndexRelaxed =
      ["relaxed := *opts.Verifier", "relaxed.MaxStaleness = 100 * 365 * 24 * time.Hour"] ∧
    RegistryInstall.verifyBundleIndexOrder =
      [("VerifyIndex", false, "", false), ("DecideStaleBundle", false, "", false), ("VerifyIndex", true, "", false),
       ("AppendAuditEvent", true, "", false)] :=
  ⟨rfl, rfl, rfl⟩

/-! ### Index state (Model/IndexState.lean) -/

/-- the lock is taken first (guarded) and released by `defer`: the whole function is one critical section. -/
theorem C19_fact_index_lock :
    RegistryIndex.verifyIndexOrder.head? = some ("acquireIndexStateLock", true, "", false) ∧
    RegistryIndex.verifyIndexOrder[1]? = some ("Unlock", false, "", true) :=
  ⟨rfl, rfl⟩

/-- `CheckRollback` compares the fetched version with the loaded state's, and exactly the fetched
version is persisted. -/
theorem C19_fact_index_wiring :
    RegistryIndex.checkRollbackArgs = ["verified.Payload.Index.Version", "state.Version"] ∧
    RegistryIndex.newStateVersionExpr = "verified.Payload.Index.Version" ∧
    RegistryIndex.newStateVersionReassigned = [] ∧
    RegistryIndex.saveStateArgs = ["v.StatePath", "newState"] :=
  ⟨rfl, rfl, rfl, rfl⟩

/-- index state and manifest are written through `atomicfile.WriteFile` only. -/
theorem C19_fact_atomic_writers :
    RegistryIndex.saveStateWrites = [("Marshal", true, "", false), ("WriteFile", true, "", false)] ∧
    RegistryInstall.saveManifestWrites = [("MarshalIndent", true, "", false), ("WriteFile", true, "", false)] ∧
    RegistryInstall.writeManifestEntryOrder =
      [("AcquireManifestLock", true, "", false), ("Unlock", false, "", true), ("LoadManifest", true, "", false),
       ("SaveManifest", true, "", false)] :=
  ⟨rfl, rfl, rfl⟩

/-! ### atomicfile.WriteFile (Model/AtomicFile.lean) -/

/-- the temp file is created in the target's own directory, its content is the whole `content`, it
is removed on every exit path (deferred, registered right after creation), and it is renamed onto
`path`; success is reported only after the rename. -/
theorem C19_fact_writefile_wiring :
    Atomicfile.writeFileWiring =
      ["dir := filepath.Dir(path)", "tmp, err := os.CreateTemp(dir, \".atomicfile-*.tmp\")", "tmpPath := tmp.Name()",
       "os.Remove(tmpPath)", "tmp.Write(content)", "os.Rename(tmpPath, path)"] ∧
    Atomicfile.writeFileOps[1]? = some ("Remove", false, "", true) ∧
    Atomicfile.writeFileLast = "return nil" ∧
    (Atomicfile.writeFileOps.filter fun t => t.2.1 == false && t.2.2.1 == "" && t.2.2.2 == false) = [] := by decide +kernel

/-- durability against power loss (outside the process-kill crash model of `C19_atomic_replace`):
the temp file is synced and closed between the write and the rename. -/
theorem C19_fact_sync_before_rename :
    (Atomicfile.writeFileOps.filter fun t => t.2.2.1 == "" && !t.2.2.2).map (·.1) =
      ["CreateTemp", "Write", "Sync", "Close", "Chmod", "Rename"] := by decide +kernel

/-- hypothesis of `C19_flock_mutual_exclusion` (Props/C19Flock.lean): no code of pkg/registry unlinks or
renames a lock file, or even reads a lock's path — the only operations on a lock are acquire
(`flock.New(path).TryLockContext`) and `Unlock`. Regenerated from every non-test file of the package. -/
theorem C19_fact_lock_files_never_unlinked : Conduit.Generated.RegistryIndex.lockFileUnlinks = [] := rfl

/-- … so every history of opens / locks / unlocks the code can produce on one lock path keeps at most one
process inside the guarded section (the model theorem, restated for event lists built from the code's
three operations). -/
theorem C19_locks_serialise (evs : List Conduit.FlockFile.Ev) (s' : Conduit.FlockFile.St)
    (hcode : ∀ e ∈ evs, (∃ p, e = .openP p) ∨ (∃ p, e = .lock p) ∨ (∃ p, e = .unlock p))
    (h : Conduit.FlockFile.run {} evs = some s') : s'.inside ≤ 1 := by
  apply Conduit.FlockFile.C19_flock_mutual_exclusion_from_start evs s' _ h
  intro hm
  rcases hcode _ hm with ⟨p, hp⟩ | ⟨p, hp⟩ | ⟨p, hp⟩ <;> cases hp

end Conduit.Facts.C19
