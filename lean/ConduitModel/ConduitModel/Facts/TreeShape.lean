import ConduitModel.Generated.TreeBuild

/-!
Facts obligations for the task-tree construction (C01 / C05 / C07 / C08, arch-v2): the statements of
/repo/pkg/lifecycle-poc/funnel/worker.go (`AppendToEnd`) and /repo/pkg/lifecycle-poc/service.go
(`buildSharedTail`, `buildRunnablePipeline`, `buildSourceTasks`, `buildDestinationTasks`,
`buildProcessorTasks`) that `Model/TreeBuild.lean` mirrors, regenerated from the source on every run
(factgen/treebuild.go; one label per statement, nesting as "| ", error constructors as `error`).
They pin what the `treeshape` / `appendtoend` correspondence cannot see from the outside: WHICH
statement links which edge, and that the service reaches `AppendToEnd` only through the `tail`
pointer of a chain it is building (the reason the functional model may append at the root).
-/
namespace Conduit.Facts.TreeShape
open Conduit.Generated.TreeBuild

/-- `AppendToEnd`: `switch len(t.Next)`: 0 → assign and succeed, 1 → recurse into the only child,
otherwise the error. (model: the three equations of `appendToEnd`) -/
theorem fact_appendToEnd_body :
    appendToEndSig = "func(next ...*TaskNode) error" ∧
    appendToEndBody = ["switch len(t.Next) {", "case 0:", "| t.Next = next", "| return nil", "case 1:",
      "| return t.Next[0].AppendToEnd(next...)", "default:", "| return error", "}"] :=
  ⟨rfl, rfl⟩

/-- `buildSharedTail`: one chain per destination branch (empty branch → error; first task is the
branch root, the rest appended one by one through `tail`); no shared processors → the branches are
the roots; otherwise a processor chain whose tail gets ALL branches in ONE `AppendToEnd` call, and
the chain's root is the only root. (model: `destBranches`, `buildSharedTail`) -/
theorem fact_buildSharedTail_body :
    buildSharedTailSig = "func( procTasks []funnel.Task, destTasks [][]funnel.Task, ) ([]*funnel.TaskNode, error)" ∧
    buildSharedTailBody = ["destBranches := make([]*funnel.TaskNode, len(destTasks))",
      "for i, destTasksBranch := range destTasks {",
      "| if len(destTasksBranch) == 0 return nil, error",
      "| branchNode := &funnel.TaskNode{Task: destTasksBranch[0]}",
      "| tail := branchNode",
      "| for _, task := range destTasksBranch[1:] {",
      "| | next := &funnel.TaskNode{Task: task}",
      "| | if err := tail.AppendToEnd(next); err != nil return",
      "| | tail = next",
      "| }",
      "| destBranches[i] = branchNode",
      "}",
      "if len(procTasks) == 0 return destBranches, nil",
      "procRoot := &funnel.TaskNode{Task: procTasks[0]}",
      "tail := procRoot",
      "for _, task := range procTasks[1:] {",
      "| next := &funnel.TaskNode{Task: task}",
      "| if err := tail.AppendToEnd(next); err != nil return",
      "| tail = next",
      "}",
      "if err := tail.AppendToEnd(destBranches...); err != nil return",
      "return []*funnel.TaskNode{procRoot}, nil"] :=
  ⟨rfl, rfl⟩

/-- `buildRunnablePipeline`: sources, destinations, pipeline processors (in this order: the order in
which processor instances are reserved), the two emptiness guards, `buildSharedTail(procTasks,
destTasks)`, `NewSink(sharedRoots...)`, then per source: root from `tasks[0]`, the rest appended
through `tail`, ONE `tail.AppendToEnd(sharedRoots...)`, `NewWorker(taskNode, …)`; every
error-returning call is guarded. (model: `buildWorkers`, `buildWorkerTrees`, `sourceTree`) -/
theorem fact_buildRunnablePipeline_tree_statements :
    runnableTreeStmts = ["srcTaskSets, err := s.buildSourceTasks(ctx, pl, pipelineLogger)",
      "if len(srcTaskSets) == 0 return nil, error",
      "destTasks, err := s.buildDestinationTasks(ctx, pl, pipelineLogger)",
      "if len(destTasks) == 0 return nil, error",
      "procTasks, err := s.buildProcessorTasks(ctx, pl, pl.ProcessorIDs, pipelineLogger)",
      "sharedRoots, err := s.buildSharedTail(procTasks, destTasks)",
      "sink, err := funnel.NewSink(sharedRoots...)",
      "workers := make([]*funnel.Worker, 0, len(srcTaskSets))",
      "for _, srcTaskSet := range srcTaskSets {",
      "| taskNode := &funnel.TaskNode{Task: srcTaskSet.tasks[0]}",
      "| tail := taskNode",
      "| for _, task := range srcTaskSet.tasks[1:] {",
      "| | next := &funnel.TaskNode{Task: task}",
      "| | if err := tail.AppendToEnd(next); err != nil return",
      "| | tail = next",
      "| }",
      "| if err := tail.AppendToEnd(sharedRoots...); err != nil return",
      "| worker, err := funnel.NewWorker(taskNode, dlq, pipelineLogger, timer)",
      "| workers = append(workers, worker)",
      "}"] ∧
    runnableUnguarded = [] :=
  ⟨rfl, rfl⟩

/-- `AppendToEnd` is called in service.go only on `tail` — the node created last, which has no `Next`
and is the end of the chain under construction — by exactly these two functions. -/
theorem fact_appendToEnd_only_on_tail :
    appendToEndCallers = ["buildRunnablePipeline: tail.AppendToEnd(next); tail.AppendToEnd(sharedRoots...)",
      "buildSharedTail: tail.AppendToEnd(next); tail.AppendToEnd(next); tail.AppendToEnd(destBranches...)"] := rfl

/-- the task lists: a source's list is the source task FOLLOWED by its processors (`srcChain`), a
destination's list its processors FOLLOWED by the destination task (`destChain`); only connectors of
the matching type are taken; `buildProcessorTasks` appends one processor task per id. -/
theorem fact_task_lists :
    sourceTaskAppends = ["tasks = append(tasks, srcTask)", "tasks = append(tasks, procTasks...)",
      "sets = append(sets, sourceTaskSet{sourceID: instance.ID, tasks: tasks})"] ∧
    sourceTaskFilters = ["instance.Type != connector.TypeSource"] ∧
    destTaskAppends = ["destTasks = append(destTasks, procTasks...)", "destTasks = append(destTasks, destTask)",
      "tasks = append(tasks, destTasks)"] ∧
    destTaskFilters = ["instance.Type != connector.TypeDestination"] ∧
    procTaskAppends = ["tasks = append( tasks, funnel.NewProcessorTask( instance.ID, runnableProc, logger, s.newProcessorMetrics(pl.Config.Name, instance.Plugin, instance.ID), ), )"] :=
  ⟨rfl, rfl, rfl, rfl, rfl⟩

end Conduit.Facts.TreeShape
