import ConduitModel.Generated.WorkerStop

/-!
Facts obligations for C06 (arch-v2 worker): the statement order of
/repo/pkg/lifecycle-poc/funnel/worker.go that the event system of `Model/WorkerStop.lean` follows,
regenerated from the source on every run (factgen/workerstop.go; labels: logging skipped,
`if … return …`, `if <callee> fails return`, callee names).
-/
namespace Conduit.Facts.C06Worker
open Conduit.Generated.WorkerStop

/-- `doTaskAttempt`: the source task runs (`t.Do` = `Source.Read`), its error branch, then the
first-task block, and only then anything that processes or acknowledges the batch.
(model: `readReturn`, then `lockAcquire`/`stopCheck`, then the `pass…` events) -/
theorem C06_fact_first_task_block_precedes_pass :
    doTaskAttemptTop = ["t := taskNode.Task", "t.Do", "if err != nil", "if taskNode.IsFirst()", "if !b.tainted",
      "idx := 0", "for", "return nil"] ∧
    passCallsBeforeFirstTaskBlock = [] ∧
    passCallsAfterFirstTaskBlock = ["acker.Ack", "doNextTask", "acker.Ack", "doNextTask", "acker.Nack", "doTaskAttempt"] :=
  ⟨rfl, rfl, rfl⟩

/-- the first-task block takes the processing lock BEFORE it tests the stop flag, releases it by
`defer` (when the pass ends), and the discard `return nil`s without doing anything to the batch.
(model: `lockAcquire` → `stopCheck` → pass | discard → `lockRelease`; a check placed before the
lock lets `Stop` run in between and the pass start after the teardown) -/
theorem C06_fact_lock_before_stop_check :
    firstTaskBlock = ["w.lastReadAt = time.Now()", "w.acquireProcessingLock", "if err != nil return err",
      "defer release()", "if w.stop.Load() return nil"] := rfl

/-- `Worker.Stop`: lock → `stop.Store(true)` → `tearDownSource` → (deferred) release → `return nil`.
(model: `stopLockAcquire`, `setStopFlag`, `teardownSource .stopper`, `stopReturn`) -/
theorem C06_fact_stop_order :
    stopBody = ["w.acquireProcessingLock", "if err != nil return err", "defer release()", "w.stop.Store(true)",
      "if w.tearDownSource fails return", "return nil"] := rfl

/-- `tearDownSource`: under `teardownMu` (one atomic step), guarded by `sourceTornDown`, the only
caller of `Source.Teardown` and the only writer of the flag. (model: `tearDown`) -/
theorem C06_fact_teardown_once_guard :
    tearDownSourceBody = ["w.teardownMu.Lock()", "defer w.teardownMu.Unlock()", "if w.sourceTornDown return nil",
      "if w.Source.Teardown fails return", "w.sourceTornDown = true", "return nil"] ∧
    sourceTeardownCallers = ["tearDownSource:1"] ∧
    sourceTornDownWriters = ["tearDownSource: w.sourceTornDown = true"] :=
  ⟨rfl, rfl, rfl⟩

/-- the Read-error branch: graceful (`ctx.Err()`) for Canceled / ErrPluginNotRunning-while-stopping,
the io.EOF branch arms the flag and then tears the source down, anything else is an error.
(model: `readReturn .notRunning | .eof | .err`, `eofSetStop`, `teardownSource .reader`) -/
theorem C06_fact_read_error_branches :
    readErrBranch = ["if taskNode.IsFirst() && (cerrors.Is(err, context.Canceled) || (cerrors.Is(err, plugin.ErrPluginNotRunning) && w.stop.Load())) return ctx.Err()",
      "if taskNode.IsFirst() && cerrors.Is(err, io.EOF) return nil {w.stop.Store(true); if w.tearDownSource fails return}",
      "return cerrors.Errorf(\"task %s: %w\", t.ID(), err)"] ∧
    eofBranch = ["w.stop.Store(true)", "if w.tearDownSource fails return", "return nil"] := ⟨rfl, rfl⟩

/-- `Worker.Do` loops while the flag is unset and returns nil afterwards; an error of `doTask` ends
it. (model: `loopTest`, `lockRelease` → `exiting false`) -/
theorem C06_fact_do_loop :
    doBody = ["for !w.stop.Load()", "return nil"] ∧ doLoopBody = ["if w.doTask fails return"] :=
  ⟨rfl, rfl⟩

/-- the processing lock is a 1-slot channel taken by exactly `Stop` and the first-task block; the
acquire is a blocking send (or the context's end: not modelled), the release a receive.
(model: `lock : Option Who`, `lockAcquire` / `stopLockAcquire` enabled iff free) -/
theorem C06_fact_processing_lock :
    processingLockInit = "make(chan struct{}, 1)" ∧
    acquireLockCases = ["w.processingLock <- struct{}{} => return func() { <-w.processingLock }, nil",
      "<-ctx.Done() => return func() {}, ctx.Err()"] ∧
    lockAcquirers = ["Stop:1", "doTaskAttempt:1"] :=
  ⟨rfl, rfl, rfl⟩

/-- `Worker.Close` tears the source down first; lifecycle-poc calls `w.Stop` from the graceful arm of
`stopRunnablePipeline` and, on the worker goroutine, `w.Do` and then `w.Close`.
(model: `close` enabled once Do has returned; one stopping goroutine) -/
theorem C06_fact_service_drives_stop_do_close :
    closeCalls = ["tearDownSource", "task.Close", "DLQ.Close"] ∧
    serviceStopCalls = ["w.Stop"] ∧ serviceDoCloseOrder = ["w.Do", "w.Close"] :=
  ⟨rfl, rfl, rfl⟩

end Conduit.Facts.C06Worker
