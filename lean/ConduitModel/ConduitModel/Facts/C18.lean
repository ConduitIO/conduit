import ConduitModel.Generated.Egress
import ConduitModel.Props.C18

/-!
Facts obligations for C18: the coverage theorems over the tables REGENERATED from
`pkg/plugin/processor/egress/ipguard.go` (every `a < 2^32`, every `x < 2^128`; `omega`, kernel
only), the instantiation of the dial theorems with them, and the construction facts of the http
client / guard order regenerated from `service.go`, `policy.go`.
-/
namespace Conduit.Facts.C18
open Conduit.Generated.Egress Conduit.Egress

/-- the tables of the source. -/
def tables : Tables :=
  { v4 := refusedV4, v6 := refusedV6, nat64 := nat64Net, translated := v4TranslatedNet,
    v4McastFirstByte := v4McastFirstByte, v6McastFirstByte := 255,
    rUnparseable := reasonUnparseable, rV4Mapped := reasonV4Mapped, rV4Compatible := reasonV4Compatible,
    rV4Translated := reasonV4Translated, rNAT64 := reasonNAT64, rSixToFour := reasonSixToFour,
    rTeredo := reasonTeredo, rMulticast := reasonMulticastEtc }

def defaults : Defaults := ⟨defaultTimeoutNs, defaultMaxResponseBytes⟩

/-- For ALL 2^32 IPv4 addresses: loopback, this-network, RFC 1918,
link-local (metadata), CGNAT and everything ≥ 224.0.0.0 is refused by `classifyV4` over the
regenerated `refusedV4` table and threshold. -/
theorem C18_floor_refused_v4 (a : Nat) (ha : a < P32) (hf : FloorV4 a) : (classifyV4 tables a).isSome = true := by
  unfold FloorV4 at hf
  simp only [P32] at ha
  rw [classifyV4_isSome]
  simp only [tables, refusedV4, List.any_cons, List.any_nil, cidrContains, v4McastFirstByte,
    Nat.reducePow, Nat.reduceSub, Nat.reduceDiv, Bool.or_false, Bool.or_eq_true, beq_iff_eq]
  simp only [ge_iff_le, decide_eq_true_eq]
  -- one range of the floor at a time: `omega` then splits on the rows' inequations once, not per range
  rcases hf with h | h | h | h | h | h | h | h <;> omega

/-- And nothing else: an IPv4 address outside the documented floor
(public unicast) is never refused by range, so the gate does not over-block either. -/
theorem C18_v4_refused_only_floor (a : Nat) (ha : a < P32) (hr : (classifyV4 tables a).isSome = true) : FloorV4 a := by
  unfold FloorV4
  simp only [P32] at ha
  rw [classifyV4_isSome] at hr
  simp only [tables, refusedV4, List.any_cons, List.any_nil, cidrContains, v4McastFirstByte,
    Nat.reducePow, Nat.reduceSub, Nat.reduceDiv, Bool.or_false, Bool.or_eq_true, beq_iff_eq] at hr
  simp only [ge_iff_le, decide_eq_true_eq] at hr
  omega

/-- The NAT64 (64:ff9b::/96), IPv4-translated
(::ffff:0:0:0/96), 6to4 (2002::/16), Teredo (2001:0::/32) and v4-compatible (::/96) blocks are
refused whatever IPv4 address they embed (public ones too). -/
theorem C18_synthesized_blocks_refused_wholesale (x : Nat) (hx : x < P128)
    (h : x / 2 ^ 32 = 0x64ff9b0000000000000000 ∨ x / 2 ^ 32 = 0xffff0000 ∨
      x / 2 ^ 112 = 0x2002 ∨ x / 2 ^ 96 = 0x20010000 ∨ x < 2 ^ 32) : refused tables (.b16 x) = true := by
  rw [refused_b16]
  simp only [P128, P32, Nat.reducePow] at hx h ⊢
  rw [if_neg (by omega)]
  -- the `simp only` sets below are written against the table *shape*, not its rows: a changed or
  -- added CIDR re-runs the same proof. Each `omega` sees only the tests that can apply: the
  -- negation of every further test would be one more inequation for it to split on.
  by_cases h2 : x < 2
  · -- `::` and `::1` are not v4-compatible for `Refuse`; they are rows of the table
    apply refusedV6Part_of_table
    simp only [tables, refusedV6, List.any_cons, List.any_nil, cidrContains, Nat.reducePow, Nat.reduceSub,
      Nat.reduceDiv, Nat.div_one, Bool.or_false, Bool.or_eq_true, beq_iff_eq]
    omega
  · apply refusedV6Part_of_test
    simp only [tables, nat64Net, v4TranslatedNet, cidrContains, isV4Compatible, P32, Nat.reducePow,
      Nat.reduceSub, Nat.reduceDiv, Bool.and_eq_true, Bool.not_eq_true', beq_iff_eq,
      Bool.or_eq_false_iff, beq_eq_false_iff_ne, ne_eq]
    rcases h with h | h | h | h | h <;> omega

/-- For ALL 2^128 16-byte addresses: ::, ::1, fe80::/10, fec0::/10,
fc00::/7, ff00::/8 and every embedded-IPv4 form (v4-mapped, v4-compatible, IPv4-translated,
NAT64, 6to4, Teredo server and client) of a floor IPv4 address is refused. -/
theorem C18_floor_refused_v6 (x : Nat) (hx : x < P128) (hf : FloorV6 x) : refused tables (.b16 x) = true := by
  rcases hf with hn | ⟨a, ha, hfa, he⟩
  · -- genuinely IPv6 floor: a row of the table, or the multicast byte
    unfold FloorV6Native at hn
    rw [refused_b16]
    simp only [P128, P32] at hx ⊢
    rw [if_neg (by omega)]
    apply refusedV6Part_of_table
    simp only [tables, refusedV6, List.any_cons, List.any_nil, cidrContains, Nat.reducePow, Nat.reduceSub,
      Nat.reduceDiv, Nat.div_one, Bool.or_false, Bool.or_eq_true, beq_iff_eq]
    omega
  · have hcl := C18_floor_refused_v4 a ha hfa
    simp only [P32] at ha
    -- a v4-mapped address is classified as the IPv4 address it embeds; every other embedding
    -- lies in a block that is refused wholesale
    cases he with
    | mapped =>
      rw [refused_b16]
      simp only [P32]
      -- 281470681743360 = 0xffff·2^32, the prefix of `::ffff:a.b.c.d`
      have h1 : (281470681743360 + a) / 4294967296 = 0xffff := by omega
      have h2 : (281470681743360 + a) % 4294967296 = a := by omega
      rw [if_pos h1, h2]; exact hcl
    | compatible => exact C18_synthesized_blocks_refused_wholesale _ hx (by omega)
    | translated => exact C18_synthesized_blocks_refused_wholesale _ hx (by omega)
    | nat64 => exact C18_synthesized_blocks_refused_wholesale _ hx (by omega)
    | sixToFour low hl => exact C18_synthesized_blocks_refused_wholesale _ hx (by omega)
    | teredoServer f hfl => exact C18_synthesized_blocks_refused_wholesale _ hx (by omega)
    | teredoClient mid hm => exact C18_synthesized_blocks_refused_wholesale _ hx (by omega)

/-- The regenerated tables refuse the whole documented floor, in every
`net.IP` form (4-byte, 16-byte, malformed). -/
theorem C18_covers_floor : CoversFloor tables := by
  intro ip hv hf
  cases ip with
  | b4 a => rw [refused_b4]; exact C18_floor_refused_v4 a hv hf
  | b16 x => exact C18_floor_refused_v6 x hv hf
  | bad => rfl

/-- `C18_dial_only_public_or_carved` over the regenerated tables: the property's first sentence
for the code as it is today. -/
theorem C18_dial_only_public_or_carved_generated (p : Policy) (port : String) (expand : IP → List IP)
    (ok : IP → Bool) (hv : ∀ ip, ∀ a ∈ expand ip, a.Valid) (cands : List IP) :
    ∀ a ∈ connectAttempts (dialContext tables p port expand ok cands).flatten,
      ¬ Floor a ∨ matchesCarveOut p a port = true :=
  C18_dial_only_public_or_carved tables C18_covers_floor p port expand ok hv cands

/-- `C18_do_only_public_or_carved` over the regenerated tables: a whole `Service.Do`. -/
theorem C18_do_only_public_or_carved_generated (p : Policy) (scheme host port : String) (reqIP : Option IP)
    (expand : IP → List IP) (ok : IP → Bool) (hv : ∀ ip, ∀ a ∈ expand ip, a.Valid)
    (answers : Option (List IP)) (redirects : Bool) :
    ∀ a ∈ connectAttempts (doRequest tables p scheme host port reqIP expand ok answers redirects).2.flatten,
      (¬ Floor a ∨ matchesCarveOut p a port = true) ∧
      p.enabled = true ∧ matchHostPort p scheme host port reqIP = true :=
  C18_do_only_public_or_carved tables C18_covers_floor p scheme host port reqIP expand ok hv answers redirects

/-- the metadata endpoint 169.254.169.254 (`0xa9fea9fe`) in its five spellings: 4-byte, v4-mapped
(`+ 0xffff·2^32`), v4-compatible (the bare number as 16 bytes), IPv4-translated (`+ 0xffff·2^48`)
and NAT64 (`+ 0x64ff9b·2^96`). -/
theorem C18_metadata_refused :
    refused tables (.b4 2852039166) = true ∧ refused tables (.b16 (281470681743360 + 2852039166)) = true ∧
    refused tables (.b16 2852039166) = true ∧ refused tables (.b16 (18446462598732840960 + 2852039166)) = true ∧
    refused tables (.b16 (524413980667603649783483181312245760 + 2852039166)) = true :=
  ⟨rfl, rfl, rfl, rfl, rfl⟩

/-- the effective policy respects the ceiling with the source's defaults. -/
theorem C18_effective_le_ceiling_generated (per c : Policy) :
    let eff := (resolvePolicy defaults per c).1
    (eff.enabled = true → per.enabled = true ∧ c.enabled = true) ∧
    (∀ e ∈ eff.allow, e ∈ per.allow ∧ ceilingAllowsEntry c e) ∧
    (∀ s ∈ eff.secrets, s ∈ per.secrets ∧ ceilingGrantsSecret c s) ∧
    (eff.enabled = true → 0 < c.timeout → eff.timeout ≤ c.timeout) ∧
    (eff.enabled = true → 0 < c.maxBytes → eff.maxBytes ≤ c.maxBytes) ∧
    (eff.enabled = true → 0 < eff.timeout ∧ 0 < eff.maxBytes) :=
  -- `by decide`: the source's default timeout and size limit are positive
  C18_effective_le_ceiling defaults (by decide) per c

/-- `Refuse` / `classifyV4` / `isV4Compatible` test what `Model.refuse` tests, in that order. -/
theorem C18_fact_refuse_guards :
    refuseGuards =
      ["ip == nil => return true, reasonUnparseable", "ip16 == nil => return true, reasonUnparseable",
       "v4 := ip.To4(); v4 != nil => return false, reasonNotRefused",
       "r := classifyV4(v4); r != reasonNotRefused => return true, r",
       "len(ip) == net.IPv6len && !isRawV4(ip) => return true, reasonV4Mapped",
       "nat64Net.Contains(ip16) => return true, reasonNAT64",
       "v4TranslatedNet.Contains(ip16) => return true, reasonV4Translated",
       "ip16[0] == 0x20 && ip16[1] == 0x02 => return true, reasonSixToFour",
       "ip16[0] == 0x20 && ip16[1] == 0x01 && ip16[2] == 0x00 && ip16[3] == 0x00 => return true, reasonTeredo",
       "isV4Compatible(ip16) => return true, reasonV4Compatible",
       "r.net.Contains(ip16) => return true, r.reason", "ip16[0] == 0xff => return true, reasonMulticastEtc"] ∧
    classifyV4Guards =
      ["v4 == nil => return reasonUnparseable", "r.net.Contains(v4) => return r.reason",
       "v4[0] >= 224 => return reasonMulticastEtc"] ∧
    isV4CompatibleBody =
      ["ip16[i] != 0 => return false", "for i := 0; i < 12; i++ { if ip16[i] != 0 { return false } }",
       "last4 := ip16[12:16]",
       "return last4[0] != 0 || last4[1] != 0 || last4[2] != 0 || (last4[3] != 0 && last4[3] != 1)"] ∧
    isRawV4Body = ["return len(ip) == net.IPv4len"] ∧ reasonNotRefused = "" := ⟨rfl, rfl, rfl, rfl, rfl⟩

/-- `dialControl` and `dialContext` gate every candidate with `Refuse` and the (IP, port)
carve-out, as `Model.dialControl` / `Model.dialContext` do. -/
theorem C18_fact_dial_guards :
    dialControlGuards =
      ["err != nil => return &dialRefusedError{reason: reasonUnparseable, port: port}",
       "ip == nil => return &dialRefusedError{reason: reasonUnparseable, port: port}",
       "refused, reason := Refuse(ip); refused => return &dialRefusedError{ip: ip, port: port, reason: reason}",
       "s.policy.matchesCarveOut(ip, port) => return nil"] ∧
    dialContextGuards =
      ["err != nil => return nil, &dialRefusedError{reason: reasonUnparseable}",
       "ip := net.ParseIP(host); ip != nil => candidates = []net.IP{ip}",
       "rerr != nil => return nil, &dnsError{err: rerr}",
       "len(ips) == 0 => return nil, &dnsError{err: cerrors.Errorf(\"no addresses for %q\", host)}",
       "refused, reason := Refuse(ip); refused && !s.policy.matchesCarveOut(ip, port) => continue",
       "derr != nil => continue",
       "lastRefusal == nil => lastRefusal = &dialRefusedError{reason: reasonUnparseable, port: port}"] ∧
    matchesCarveOutGuards = ["e.IsIP() && e.Port == port && e.IP.Equal(ip) => return true"] := ⟨rfl, rfl, rfl⟩

/-- `Do` refuses a disabled policy first, then validates the request line, then Stage 1, and only
then lets the transport dial; `classifyDoError` maps a refused dial to forbidden before anything
else; `MatchHostPort` is exact on scheme and port, by address for IP entries, by name otherwise. -/
theorem C18_fact_do_guards :
    doGuards = ["!s.policy.Enabled", "err != nil", "port == \"\"", "scheme == schemeHTTPS",
      "!s.policy.MatchHostPort(scheme, host, port)", "err != nil", "err != nil", "int64(len(body)) > limit",
      "readErr != nil", "isTimeout(readErr)"] ∧
    classifyDoErrorGuards =
      ["cerrors.As(err, &refused) => return egressErr(pprocutils.ErrHTTPForbidden, \"resolved IP refused by egress policy\")",
       "cerrors.As(err, &dnsE) => return egressErr(pprocutils.ErrHTTPDNS, \"DNS resolution failed\")",
       "cerrors.Is(err, errRedirectBlocked) => return egressErr(pprocutils.ErrHTTPForbidden, \"redirects are not followed\")",
       "isTimeout(err) => return egressErr(pprocutils.ErrHTTPTimeout, \"egress call timed out\")"] ∧
    matchHostPortGuards =
      ["e.Scheme != scheme || e.Port != port => continue", "e.IsIP() => continue",
       "reqIP != nil && e.IP.Equal(reqIP) => return true", "e.Host == host => return true"] := ⟨rfl, rfl, rfl⟩

/-- "whatever the … redirect or proxy environment": the http client is built with `Proxy: nil`
(never from the environment), the gated `DialContext` and no TLS-specific dialer that would
bypass it, the base dialer's `Control` is the gate, nothing is reassigned afterwards, and
`CheckRedirect` refuses every redirect unconditionally. -/
theorem C18_fact_http_client_construction :
    transportProxy = "nil" ∧ transportDialContext = "s.dialContext(base)" ∧ dialerControl = "s.dialControl" ∧
    clientTransport = "transport" ∧ checkRedirectBody = ["return errRedirectBlocked"] ∧
    newLaterAssignments = [] ∧ proxyOrTLSDialIdents = [] ∧
    transportFields = ["DialContext", "ExpectContinueTimeout", "ForceAttemptHTTP2", "IdleConnTimeout",
      "MaxIdleConns", "Proxy", "TLSHandshakeTimeout"] ∧
    clientFields = ["CheckRedirect", "Timeout", "Transport"] := ⟨rfl, rfl, rfl, rfl, rfl, rfl, rfl, rfl, rfl⟩

/-- headers the guest can never set (Host/:authority confusion, credential injection,
decompression-bomb bypass, connection control). -/
theorem C18_fact_reserved_headers :
    ∀ h ∈ ["Host", ":authority", "Authorization", "Accept-Encoding", "Connection", "Proxy-Connection",
           "Proxy-Authorization", "Transfer-Encoding", "Content-Length", "Upgrade", "Keep-Alive", "Te", "Trailer"],
      h ∈ reservedHeaders := by decide +kernel

/-- `ResolvePolicy` / `intersectRefs` / `entryKey` have the shape `Model.resolvePolicy` mirrors. -/
theorem C18_fact_resolve_policy_guards :
    resolvePolicyGuards =
      ["!perProcessor.Enabled => return DenyAll(), nil", "!ceiling.Enabled => return DenyAll(), perProcessor.Allowlist",
       "eff.Timeout <= 0 => eff.Timeout = DefaultTimeout",
       "eff.MaxResponseBytes <= 0 => eff.MaxResponseBytes = DefaultMaxResponseBytes",
       "ceiling.Timeout > 0 && eff.Timeout > ceiling.Timeout => eff.Timeout = ceiling.Timeout",
       "ceiling.MaxResponseBytes > 0 && eff.MaxResponseBytes > ceiling.MaxResponseBytes => eff.MaxResponseBytes = ceiling.MaxResponseBytes",
       "len(ceiling.Allowlist) == 0 => return eff, nil",
       "len(ceiling.SecretRefs) > 0 => eff.SecretRefs = intersectRefs(perProcessor.SecretRefs, ceiling.SecretRefs)",
       "_, ok := ceilingSet[entryKey(e)]; ok => eff.Allowlist = append(eff.Allowlist, e)",
       "len(eff.Allowlist) == 0 => eff.Allowlist = nil"] ∧
    intersectRefsGuards = ["_, ok := ceiling[ref]; ok => out[ref] = struct{}{}"] ∧
    entryKeyBody = ["return e.Scheme + \"|\" + e.Host + \"|\" + e.Port"] := ⟨rfl, rfl, rfl⟩

end Conduit.Facts.C18
