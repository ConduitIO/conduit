import ConduitModel.Model.FlushBatch

/-!
# C02 for a batch of several connectors sharing one persister flush

"if the store write or commit fails, no acknowledgment covered only by that write is ever sent": the
persister flushes the states of ALL connectors that changed in ONE transaction and hands every
connector's callback the same error. The theorems are for every batch (any number of connectors),
every iteration order (the batch is a Go map) and every per-key store outcome, with the loop shape
of the code (`Shape.keep`; that the code has it is the fact `flushNowLoopKeepsFailure`, Facts/C02).
-/
namespace Conduit.FlushBatch

theorem loop_keep_err : ∀ (b : List Entry) (err : Bool) (w : List Nat),
    (loop .keep err w b).1 = (err || b.any (fun e => !e.2))
  | [], err, w => by simp [loop]
  | (id, ok) :: rest, err, w => by
    simp only [loop, List.any_cons]
    rw [loop_keep_err rest]
    cases err <;> cases ok <;> simp

theorem loop_written : ∀ (sh : Shape) (b : List Entry) (err : Bool) (w : List Nat),
    (loop sh err w b).2 = w ++ (b.filter (·.2)).map (·.1)
  | _, [], err, w => by simp [loop]
  | sh, (id, ok) :: rest, err, w => by
    cases sh <;> cases ok <;> simp [loop, loop_written _ rest]

/-- C02 `batch_commit_only_if_every_store_ok`: the transaction is committed only if the store write
of EVERY connector of the batch succeeded (and the commit itself did). -/
theorem C02_batch_commit_only_if_every_store_ok (batch : List Entry) (commitOk : Bool)
    (h : (flushNow .keep batch commitOk).committed = true) :
    (∀ e ∈ batch, e.2 = true) ∧ commitOk = true := by
  simp only [flushNow, loop_keep_err, Bool.false_or, Bool.and_eq_true, Bool.not_eq_true',
    List.any_eq_false] at h
  exact ⟨fun e he => by simpa using h.1 e he, h.2⟩

/-- … and then it contains the state of every connector of the batch. -/
theorem C02_batch_commit_contains_every_connector (batch : List Entry) (commitOk : Bool)
    (h : (flushNow .keep batch commitOk).committed = true) :
    ∀ e ∈ batch, e.1 ∈ (flushNow .keep batch commitOk).contents := by
  have hall := (C02_batch_commit_only_if_every_store_ok batch commitOk h).1
  intro e he
  have hc : (flushNow .keep batch commitOk).contents = (loop .keep false [] batch).2 := by
    simp only [flushNow] at h ⊢
    simp [h]
  rw [hc, loop_written]
  simp only [List.nil_append, List.mem_map, List.mem_filter]
  exact ⟨e, ⟨he, hall e he⟩, rfl⟩

/-- C02 `batch_callbacks_nil_iff_committed`: the callbacks are told "durable" (nil) exactly when the
transaction was committed. -/
theorem C02_batch_callbacks_nil_iff_committed (sh : Shape) (batch : List Entry) (commitOk : Bool) :
    (flushNow sh batch commitOk).cbNil = true ↔ (flushNow sh batch commitOk).committed = true := by
  simp [flushNow]

/-- C02 `batch_failed_connector_never_acked`: if the store write of any connector of the batch fails,
NO callback of the batch gets nil and nothing is committed, whatever the iteration order. (That a
source releases no ack on a non-nil callback is M3's `C02_failed_callback_releases_nothing`.) -/
theorem C02_batch_failed_connector_never_acked (batch : List Entry) (commitOk : Bool) (id : Nat)
    (h : (id, false) ∈ batch) :
    (flushNow .keep batch commitOk).cbNil = false ∧ (flushNow .keep batch commitOk).committed = false := by
  have : (flushNow .keep batch commitOk).committed = false := by
    cases hc : (flushNow .keep batch commitOk).committed with
    | false => rfl
    | true => have := (C02_batch_commit_only_if_every_store_ok batch commitOk hc).1 _ h; simp at this
  exact ⟨by simpa [flushNow] using this, this⟩

/-- whether the transaction commits does not depend on the iteration order (the batch is a Go map) -/
theorem C02_batch_outcome_order_independent (b1 b2 : List Entry) (commitOk : Bool) (hp : b1.Perm b2) :
    (flushNow .keep b1 commitOk).committed = (flushNow .keep b2 commitOk).committed := by
  simp only [flushNow, loop_keep_err, Bool.false_or]
  congr 2
  exact hp.any_eq

/-- every callback that is told nil belongs to a connector whose state is in the committed transaction:
what M3 calls `flushRes .ok` for one connector is a commit containing that connector's snapshot. -/
theorem C02_batch_nil_implies_durable (batch : List Entry) (commitOk : Bool)
    (h : (flushNow .keep batch commitOk).cbNil = true) :
    ∀ e ∈ batch, e.1 ∈ (flushNow .keep batch commitOk).contents :=
  C02_batch_commit_contains_every_connector batch commitOk
    ((C02_batch_callbacks_nil_iff_committed .keep batch commitOk).mp h)

/-- Counterexample for the `overwrite` shape: connector 1's write fails, connector 2 (iterated later)
succeeds: the transaction commits WITHOUT connector 1 and every callback — connector 1's too — gets
nil: its source acks the plugin for a position no commit contains. -/
theorem C02_batch_overwrite_counterexample :
    (flushNow .overwrite [(1, false), (2, true)] true).cbNil = true ∧
    1 ∉ (flushNow .overwrite [(1, false), (2, true)] true).contents ∧
    (flushNow .keep [(1, false), (2, true)] true).cbNil = false := by decide

/-- non-vacuity: a clean batch of three commits and is acked; a batch with one failed write does not commit -/
example : flushNow .keep [(1, true), (2, true), (3, true)] true = ⟨true, [1, 2, 3], true⟩ := by decide
example : (flushNow .keep [(3, true), (1, false), (2, true)] true).committed = false := by decide

end Conduit.FlushBatch
