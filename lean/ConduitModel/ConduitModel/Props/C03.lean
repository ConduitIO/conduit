import ConduitModel.Proofs.SrcAckPos

/-!
# C03 — a crash at any instant loses no record (at-least-once across restart)

Statement (properties.jsonl C03): "If the process dies at any instant, then on restart every
record that had not yet been confirmed by all destinations (or dead-lettered, or filtered) is read
again: the position a source is reopened with is never past an unhandled record, and the upstream
system was never told to discard a record beyond what the store durably holds. Records may be
delivered twice; they are never skipped."

Every reachable state of M3 is a crash point (`crash` is enabled in every live state,
`C03_every_state_is_a_crash_point`), and the event lists quantified over contain any number of
crashes and restarts at any position. Records are identified by their read index at the source
(`Pos = Nat`, first record 1, `none`/0 = "from the beginning"). The engine enters through the
explicit hypothesis `ReachO` (= what C01/C04 prove of the engine): a position is handed to
`Source.Ack` only when its record was handled (confirmed by every destination, dead-lettered or
filtered), and acks continue the read order of the incarnation. `s.handled` is the set of positions
ever handed to `Source.Ack`; a pruning upstream discards up to the last ack it received
(`s.delivered`), a non-pruning upstream discards nothing.
-/
namespace Conduit.SrcAck

/-- the process can die in every live state: every reachable state is a crash point -/
theorem C03_every_state_is_a_crash_point (c : Cfg) (s : St) (h : s.alive = true) :
    step c s .crash = some { s with alive := false } :=
  step_complete (.crash h)

/-- … and a dead process does nothing but restart: what a restart sees is exactly the store as it
was at the crash instant. -/
theorem C03_dead_process_only_restarts (c : Cfg) (s s' : St) (e : Ev) (h : s.alive = false)
    (hs : step c s e = some s') : e = .restart :=
  (step_sound hs).alive.resolve_right (by simp [h])

/-- C03 `crash_safe` — in every reachable state (= at every crash instant):
(1) "the position a source is reopened with is never past an unhandled record": every record at or
    before the durably stored position has been handled;
(2) "the upstream system was never told to discard a record beyond what the store durably holds":
    every position in every ack message the plugin ever received is at or before the stored one. -/
theorem C03_crash_safe (c : Cfg) (s : St) (h : ReachO c s) :
    (∀ r : Nat, 1 ≤ r → r ≤ s.store.posN → r ∈ s.handled) ∧
    (∀ a ∈ s.delivered, ∀ p : Nat, p ∈ a.ps → p ≤ s.store.posN) := by
  have hi := (invO_reach h).1
  exact ⟨hi.covStore, fun a ha => hi.ord.out a (Or.inr ha)⟩

/-- what a pruning upstream has discarded: everything up to the largest position it was acked -/
def pruned (s : St) : Nat := (s.delivered.flatMap (·.ps)).foldl max 0

/-- C03 `upstream_never_over_pruned`: pruned ≤ store ≤ handled prefix, for pruning upstreams (for a
non-pruning upstream `pruned = 0` and the first inequality is trivial). -/
theorem C03_upstream_never_over_pruned (c : Cfg) (s : St) (h : ReachO c s) :
    pruned s ≤ s.store.posN ∧ ∀ r : Nat, 1 ≤ r → r ≤ s.store.posN → r ∈ s.handled := by
  have hc := C03_crash_safe c s h
  refine ⟨?_, hc.1⟩
  apply foldl_max_le (Nat.zero_le _)
  intro p hp
  simp only [List.mem_flatMap] at hp
  obtain ⟨a, ha, hp⟩ := hp
  exact hc.2 a ha p hp

/-- C03 `restart_no_skip`: crash anywhere, restart: the plugin is reopened exactly with the stored
position, the new incarnation's state is that position, and every record that was not handled lies
strictly after it — it is read again. -/
theorem C03_restart_no_skip (c : Cfg) (s s1 s2 : St) (h : ReachO c s)
    (hc : step c s .crash = some s1) (hr : step c s1 .restart = some s2) :
    s2.opened.getLast? = some s.store.pos ∧ s2.inst = s.store ∧ s2.store = s.store ∧
    (∀ r : Nat, 1 ≤ r → r ∉ s2.handled → s.store.posN < r) ∧
    (∀ a ∈ s2.delivered, ∀ p : Nat, p ∈ a.ps → p ≤ s.store.posN) := by
  have hsafe := C03_crash_safe c s h
  cases step_sound hc with | crash =>
  cases step_sound hr with | restart =>
  exact ⟨by simp, rfl, rfl, fun r h1 hn => Nat.lt_of_not_le fun hge => hn (hsafe.1 r h1 hge), hsafe.2⟩

/-- the new incarnation acks from the record right after the reopen position (so re-reading
starts there): the read-order hypothesis of the restarted process is anchored at the store. -/
theorem C03_restart_rereads_from_store (c : Cfg) (s1 s2 : St) (hr : step c s1 .restart = some s2)
    (ps : List Pos) : ackOk s2 ps = (ps != [] && ps == List.range' (s1.store.posN + 1) ps.length) := by
  cases step_sound hr with | restart => rfl

/-- every position the plugin was ever (re)opened with, over any number of crashes, is covered by
handled records -/
theorem C03_every_reopen_position_covered (c : Cfg) (s : St) (h : ReachO c s) :
    ∀ o ∈ s.opened, ∀ r : Nat, 1 ≤ r → r ≤ o.getD 0 → r ∈ s.handled :=
  (invO_reach h).1.covOpened

/-- without the engine-side hypothesis the sequence-number form still holds for every event list:
at every crash instant the plugin has been told nothing beyond the committed store. -/
theorem C03_crash_safe_seq (c : Cfg) (s : St) (h : Reach c s) :
    (∀ a ∈ s.delivered, a.seq ≤ s.store.seq) ∧ s.store.seq ≤ s.nextSeq := by
  have hi := inv_reach h
  exact ⟨fun a ha => hi.ord.out a (Or.inr ha), Nat.le_trans hi.ord.store hi.instLe⟩

def cfg3 : Cfg := { maxRetries := 3, bundleThr := 0, txFailCallbacks := false, stopAfterDrop := false }

/-- acks 1..3, only 1..2 committed and delivered, crash, restart: reopened at 2, record 3 is acked
again by the new incarnation (delivered twice to the engine, never skipped). -/
example : (runO cfg3 init [.ack [1, 2], .trigger, .ack [3], .flushRes .ok, .callback 0, .deliver true,
    .crash, .restart, .ack [3], .trigger, .flushRes .ok]).map
    (fun s => (s.opened, s.store.pos, s.delivered.map (·.ps), s.handled)) =
    some ([none, some 2], some 3, [[1, 2]], [1, 2, 3, 3]) := by decide

/-- a crash between commit and delivery: the store is ahead of the plugin, never behind it -/
example : (runO cfg3 init [.ack [1], .trigger, .flushRes .ok, .crash, .restart]).map
    (fun s => (s.opened, pruned s)) = some ([none, some 1], 0) := by decide

end Conduit.SrcAck
