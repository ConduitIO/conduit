import ConduitModel.Proofs.Errs
import ConduitModel.Model.AckErr

/-!
# C20 — error classification is stable under wrapping: property theorems

Statement (properties.jsonl C20): "However an error is wrapped, joined or annotated on its way
up, it keeps its classification: the result is fatal exactly when some error inside it was marked
fatal, a coded error keeps its code, sentinel and gRPC status under any number of plain wrappers,
a coded error survives the gRPC round trip with the same code, and the process exit code is a
fixed function of that classification. The recovery decision of a pipeline and what scripts and
agents observe therefore do not depend on the path an error took."

Quantifiers: every error tree `e : Err` (arbitrary nesting of the node kinds the code base
produces), every list of wrapping layers `ls : List Layer` (any number, any mix of the real
constructors), every code, every registry; the registry-specific statements are in `Facts/C20`
over the regenerated table.
-/
namespace Conduit.Errs

/-- "the result is fatal exactly when some error inside it was
marked fatal": `IsFatalError` answers true iff a `*fatalError` node is among the nodes reachable
through `Unwrap() error` / `Unwrap() []error`. -/
theorem C20_fatal_iff_contains_fatal (e : Err) :
    isFatalErr e = true ↔ ∃ x ∈ reach e, ∃ y, x = .fatal y := by
  unfold isFatalErr
  rw [first_isSome_iff]
  constructor
  · rintro ⟨x, hx, hp⟩
    refine ⟨x, hx, ?_⟩
    cases x <;> simp [fatalNode] at hp ⊢
  · rintro ⟨x, hx, y, rfl⟩
    exact ⟨_, hx, rfl⟩

/-- `Join(e₁,…,eₙ)` (nil arguments allowed) is fatal iff some `eᵢ` is. -/
theorem C20_join_fatal_iff_any (es : List E) : isFatal (join es) = es.any isFatal := by
  unfold join
  have h : ∀ l : List Err, isFatalErr (.join l) = l.any isFatalErr := by
    intro l
    simp only [isFatalErr, first, fatalNode_join, Option.none_or, firstL_isSome_any]
    rfl
  have h2 : (es.filterMap id).any isFatalErr = es.any isFatal := by
    induction es with
    | nil => rfl
    | cons x xs ih => cases x <;> simp [isFatal, ih]
  split
  · next heq => rw [← h2, heq]; rfl
  · next l _ => simp only [isFatal, h, h2]

/-- `FatalError(e)` is fatal for every non-nil `e`, is nil for nil, and does not
stack a second mark on an already fatal error. -/
theorem C20_fatal_mark (e : E) :
    isFatal (fatalError e) = e.isSome ∧ (isFatal e = true → fatalError e = e) := by
  cases e with
  | none => simp [fatalError, isFatal]
  | some x =>
    by_cases h : isFatalErr x = true
    · simp [fatalError, isFatal, h]
    · have h' : isFatalErr x = false := by simpa using h
      have hf : isFatalErr (.fatal x) = true := by simp [isFatalErr, first, fatalNode]
      simp [fatalError, isFatal, h', hf]

/-- fatal-ness is never lost on the way up: through any number of
layers that keep their argument reachable (Errorf with a honoured `%w`, wrapper types, Join with
anything, FatalError, conduiterr.Wrap), a fatal error stays fatal. -/
theorem C20_fatal_under_layers (ls : List Layer) (h : ∀ l ∈ ls, l.Keeps) (e : Err)
    (hf : isFatalErr e = true) : isFatalErr (applyAll ls e) = true :=
  first_isSome_mono fatalNode (mem_reach_applyAll h e) hf

/-- and it is not invented either: through plain wrappers the
result is fatal exactly when the wrapped error was, or one of the layers is the fatal mark. -/
theorem C20_fatal_exact_under_plain (ls : List Layer) (h : ∀ l ∈ ls, l.Plain) (e : Err) :
    isFatalErr (applyAll ls e) = (isFatalErr e || ls.any fun l => match l with | .fatal => true | _ => false) := by
  induction ls with
  | nil => simp [applyAll]
  | cons l ls ih =>
    have hl := h l (by simp)
    have ih := ih (fun x hx => h x (by simp [hx]))
    simp only [applyAll, List.any_cons]
    cases l with
    | fatal =>
      simp only [Layer.app]
      split
      · next hfat => simp [hfat]
      · simp [isFatalErr, first, fatalNode]
    | cwrap c => exact absurd hl (by simp [Layer.Plain])
    | _ =>
      simp only [isFatalErr] at ih ⊢
      rw [first_app_plain fatalNode (fun _ _ _ => rfl) (fun h => by cases h) (fun _ => rfl) hl, ih]; simp

/-- `conduiterr.Wrap(c, msg, cause)` never shadows: the result's code
is the cause's code when the cause carries one, else `c`. -/
theorem C20_wrap_passes_inner_code (c : Code) (cause : E) :
    getErr (cwrap c cause) = some ((get cause).getD c) := by
  cases cause with
  | none => simp [cwrap, getErr, first, codeNode, get]
  | some x => simp [cwrap, getErr, first, codeNode, get]

/-- "a coded error keeps its code … under any number of plain
wrappers": for EVERY list of layers (any length) each of which is an Errorf whose `%w` is
honoured, a wrapper type, the fatal mark, a `Join(e, more…)`, or `conduiterr.Wrap` with any
other code, `conduiterr.Get` still finds the same code. -/
theorem C20_code_kept_under_wrappers (ls : List Layer) (h : ∀ l ∈ ls, l.KeepsFirst) (e : Err) (c : Code)
    (hc : getErr e = some c) : getErr (applyAll ls e) = some c :=
  first_applyAll_keepsFirst codeNode (fun _ _ _ => rfl) (fun _ => rfl) (fun _ => rfl)
    (fun c e a h => by show some ((getErr e).getD c) = some a; rw [show getErr e = some a from h]; rfl) ls h hc

/-- `n` nested `cerrors.Errorf("…: %w", ·)` wrappers, for every `n`. -/
theorem C20_code_kept_under_n_wrappers (n : Nat) (c : Code) (x : Err) :
    getErr (applyAll (List.replicate n (.errorf sufW [] [])) (.coded c x)) = some c := by
  refine C20_code_kept_under_wrappers _ ?_ _ c (by simp [getErr, first, codeNode])
  intro l hl
  rw [List.eq_of_mem_replicate hl]
  show errorfIdx sufW (0 + 1 + 0) = some 0
  decide

/-- "keeps its … sentinel": `cerrors.Is(err, target)` stays true
through any number of layers that keep their argument reachable. -/
theorem C20_sentinel_kept_under_wrappers (ls : List Layer) (h : ∀ l ∈ ls, l.Keeps) (e : Err) (t : Target)
    (ht : isErr t e = true) : isErr t (applyAll ls e) = true :=
  first_isSome_mono (isNode t) (mem_reach_applyAll h e) ht

/-- "keeps its … gRPC status": the status `grpcstatus.FromError`
finds is the same through every list of first-keeping layers. -/
theorem C20_status_kept_under_wrappers (ls : List Layer) (h : ∀ l ∈ ls, l.KeepsFirst) (e : Err) (st : Status)
    (hs : grpcFromError e = some st) : grpcFromError (applyAll ls e) = some st := by
  unfold grpcFromError at hs ⊢
  cases hq : first statusNode e with
  | none => simp [hq] at hs
  | some a =>
    rw [first_applyAll_keepsFirst statusNode (fun _ _ _ => rfl) (fun _ => rfl) (fun _ => rfl)
      (fun _ _ _ h => h) ls h hq]
    simpa [hq] using hs

/-- through any number of plain wrappers nothing of the
classification changes except that a `FatalError` layer sets the fatal bit. -/
theorem C20_class_invariant_under_plain (cfg : ExitCfg) (ls : List Layer) (h : ∀ l ∈ ls, l.Plain) (e : Err) :
    classOf cfg (applyAll ls e) =
      { classOf cfg e with
        fatal := isFatalErr e || ls.any fun l => match l with | .fatal => true | _ => false } := by
  have hfat := C20_fatal_exact_under_plain ls h e
  have hcode := first_applyAll_plain codeNode (fun _ _ _ => rfl) (fun _ => rfl) (fun _ => rfl) ls h e
  have hstat := first_applyAll_plain statusNode (fun _ _ _ => rfl) (fun _ => rfl) (fun _ => rfl) ls h e
  have his : ∀ t, isErr t (applyAll ls e) = isErr t e := fun t => isErr_applyAll_plain t ls h e
  simp only [classOf, hfat, getErr, hcode, grpcFromError, hstat, his, isEnvironmentSentinel]

/-- "the process exit code is a fixed function of that
classification": `ExitCode(err)` is `exitOfClass` of the five observations, nothing else. -/
theorem C20_exit_code_function_of_class (cfg : ExitCfg) (e : Err) :
    exitCode cfg (some e) = exitOfClass cfg (classOf cfg e) := by
  simp only [exitCode, exitOfClass, classOf]
  rfl

/-- "…do not depend on the path an error took": any number of
plain wrappers (and fatal marks) leaves the exit code unchanged. -/
theorem C20_exit_code_path_independent (cfg : ExitCfg) (ls : List Layer) (h : ∀ l ∈ ls, l.Plain) (e : Err) :
    exitCode cfg (some (applyAll ls e)) = exitCode cfg (some e) := by
  rw [C20_exit_code_function_of_class, C20_exit_code_function_of_class, C20_class_invariant_under_plain cfg ls h e]
  rfl

/-- a coded error exits with its category's bucket whatever is wrapped
around it (unless the run was cancelled). -/
theorem C20_exit_code_of_coded (cfg : ExitCfg) (ls : List Layer) (h : ∀ l ∈ ls, l.KeepsFirst) (e : Err) (c : Code)
    (hc : getErr e = some c) (hcan : isErr (.sentinel cfg.canceled) (applyAll ls e) = false) :
    exitCode cfg (some (applyAll ls e)) = fromGRPCCode cfg c.grpc := by
  simp [exitCode, hcan, C20_code_kept_under_wrappers ls h e c hc]

/-- at each of the four API boundary functions a coded error is
reported with its own category and reason, whatever sentinels it also matches. -/
theorem C20_api_status_of_coded (cfg : ApiCfg) (e : Err) (c : Code) (h : getErr e = some c) :
    apiStatus cfg e = (toStatus c).err := by
  simp [apiStatus, h]

/-- an un-coded error is reported with the unknown reason and the
category its sentinels select (the boundary's own arms first, then `codeFromError`). -/
theorem C20_api_status_fallback (cfg : ApiCfg) (e : Err) (h : getErr e = none) :
    apiStatus cfg e = (toStatus ⟨cfg.unknownReason, IsSwitch.eval ⟨cfg.own, cfg.common.eval e⟩ e⟩).err := by
  have hf : firstCoded e = none := by
    have := firstCoded_isSome e
    rw [h] at this
    cases hq : firstCoded e with
    | none => rfl
    | some x => simp [hq] at this
  simp [apiStatus, h, withUnknownReason, hf]

/-- "keeps its … gRPC status under any number of plain
wrappers", at the API boundary: the status the API returns is the same through every list of
plain wrappers. -/
theorem C20_api_status_path_independent (cfg : ApiCfg) (ecfg : ExitCfg) (ls : List Layer) (h : ∀ l ∈ ls, l.Plain) (e : Err) :
    apiStatus cfg (applyAll ls e) = apiStatus cfg e := by
  have hcode : getErr (applyAll ls e) = getErr e :=
    first_applyAll_plain codeNode (fun _ _ _ => rfl) (fun _ => rfl) (fun _ => rfl) ls h e
  have his : ∀ t, isErr t (applyAll ls e) = isErr t e := fun t => isErr_applyAll_plain t ls h e
  have hsw : ∀ sw : IsSwitch, sw.eval (applyAll ls e) = sw.eval e := by
    intro sw; simp only [IsSwitch.eval, his]
  cases hc : getErr e with
  | some c => rw [C20_api_status_of_coded cfg _ c (hcode.trans hc), C20_api_status_of_coded cfg _ c hc]
  | none =>
    rw [C20_api_status_fallback cfg _ (hcode.trans hc), C20_api_status_fallback cfg _ hc, hsw, hsw]

/-- "a coded error survives the gRPC round trip with the same code":
complete characterisation, for every registry and every code. `FromStatus(ToStatus(c)) = c` iff
the category is not OK and the reason is unregistered or registered with this very category
(or, for OK, the code is the unknown-reason fallback itself). -/
theorem C20_status_roundtrip_iff (reg : List (String × Nat)) (u : String) (c : Code) :
    fromStatus reg u (toStatus c) = c ↔
      (c.grpc ≠ 0 ∧ (reg.lookup c.reason = none ∨ reg.lookup c.reason = some c.grpc)) ∨
      (c.grpc = 0 ∧ c.reason = u) := by
  obtain ⟨r, g⟩ := c
  by_cases hg : g = 0
  · subst hg
    simp only [toStatus, if_true, fromStatus, Code.mk.injEq, and_true, ne_eq, not_true_eq_false,
      false_and, false_or, true_and]
    exact eq_comm
  · simp only [toStatus, hg, if_false, fromStatus, ne_eq, not_false_eq_true, true_and, false_and, or_false]
    cases hlk : reg.lookup r with
    | none => simp
    | some g' =>
      simp only [Code.mk.injEq, true_and, reduceCtorEq, Option.some.injEq, false_or]

/-- every code of a duplicate-free registry (what `Register`
enforces by panicking) whose category is not OK survives `ToStatus` → `FromStatus` unchanged. -/
theorem C20_status_roundtrip_registered (reg : List (String × Nat)) (u : String)
    (hn : (reg.map Prod.fst).Nodup) (r : String) (g : Nat) (hm : (r, g) ∈ reg) (hg : g ≠ 0) :
    fromStatus reg u (toStatus ⟨r, g⟩) = ⟨r, g⟩ :=
  (C20_status_roundtrip_iff reg u ⟨r, g⟩).mpr (Or.inl ⟨hg, Or.inr (lookup_of_mem_nodup hn hm)⟩)

/-- the same through the real error path: the error the API returns
for a coded error (`ToStatus(ce).Err()`), decoded with `FromStatus`, carries the same code —
whatever plain wrappers sat on the coded error. -/
theorem C20_status_roundtrip_error (reg : List (String × Nat)) (u : String) (hn : (reg.map Prod.fst).Nodup)
    (r : String) (g : Nat) (hm : (r, g) ∈ reg) (hg : g ≠ 0) (x : Expr)
    (hx : get (eval ⟨reg, u⟩ x) = some ⟨r, g⟩) :
    get (eval ⟨reg, u⟩ (.fromStatus (.viaStatus x))) = some ⟨r, g⟩ := by
  have := C20_status_roundtrip_registered reg u hn r g hm hg
  simp only [toStatus, hg, if_false] at this
  simp only [eval]
  simp only [hx, toStatus, hg, if_false, Status.err, grpcFromError, first, statusNode, Option.map_some,
    this]
  simp only [get, getErr, first, codeNode, Option.some_or]

/-- at a call site that satisfies `goodSite`, every error passed
at a `%w` position is reachable in the result (so all of the above applies to it). -/
theorem C20_errorf_good_site_keeps_all (fmt : List Nat) (a : List Val) (hg : goodSite fmt a.length = true) :
    ∀ i ∈ (parsePercentW fmt).ws, ∀ e, errorAt a i = some e → e ∈ reach (errorf fmt a) := by
  intro i hi e he
  have hlt : i < a.length := by
    unfold errorAt at he
    cases hq : a[i]? with
    | none => simp [hq] at he
    | some v => exact (List.getElem?_eq_some_iff.mp hq).1
  simp only [goodSite, goodSiteOf, Bool.and_eq_true, List.all_eq_true, Bool.or_eq_true, beq_iff_eq,
    decide_eq_true_eq] at hg
  have hidx : errorfIdx fmt a.length = some i := by
    rcases hg.2 i hi with h | h
    · omega
    · exact h
  simp [errorf, errorfWraps, hidx, he, reach, self_mem_reach]

/-- xerrors.Errorf with two `%w` wraps NOTHING: neither the
code of the first argument nor the fatal mark of the second survives (the F10 shape; the facts
obligation `C20_fact_errorf_sites_good` is what rules this shape out of the code base). -/
theorem C20_errorf_two_w_loses_everything (c : Code) (x y : Err) :
    getErr (errorf fmtWhileHandling [.err (.coded c x), .err (.fatal y)]) = none ∧
    isFatalErr (errorf fmtWhileHandling [.err (.coded c x), .err (.fatal y)]) = false ∧
    goodSite fmtWhileHandling 2 = false := by
  have h : errorfIdx fmtWhileHandling 2 = none := by decide
  refine ⟨?_, ?_, by decide⟩ <;>
  simp [errorf, errorfWraps, h, getErr, isFatalErr, first, codeNode, fatalNode]

/-- at a `cerrors.Errorf` propagation site that satisfies
`propSiteOk` (what `Facts/C20Prop` decides for every site of the lifecycle packages), every
error-valued argument is reachable in the result: none of them is flattened into text. -/
theorem C20_prop_site_keeps_errors (fmt : List Nat) (a : List Val) (errArgs : List Nat)
    (h : propSiteOk 0 fmt a.length errArgs = true) :
    ∀ i ∈ errArgs, ∀ e, errorAt a i = some e → e ∈ reach (errorf fmt a) := by
  intro i hi e he
  simp only [propSiteOk, if_true, Bool.and_eq_true, List.all_eq_true, List.contains_iff_mem] at h
  exact C20_errorf_good_site_keeps_all fmt a (by simpa [goodSite] using h.1) i (h.2 i hi) e he

/-- the wrappers of both routes keep their argument first (`errorfIdx` honours the `%w`). -/
theorem C20_route_layers_keep :
    (∀ l ∈ nackRouteLayers, l.KeepsFirst ∧ l.Keeps) ∧ (∀ l ∈ ackRouteLayers, l.KeepsFirst ∧ l.Keeps) := by
  have h1 : errorfIdx fmtNodeStopped (1 + 1 + 0) = some 1 := by decide
  have h2 : errorfIdx fmtNacking (0 + 1 + 0) = some 0 := by decide
  have h3 : errorfIdx fmtAcking (0 + 1 + 0) = some 0 := by decide
  constructor <;> intro l hl <;>
    simp only [nackRouteLayers, ackRouteLayers, List.mem_cons, List.mem_nil_iff, or_false] at hl <;>
    rcases hl with rfl | rfl | rfl | rfl <;>
    simp [Layer.KeepsFirst, Layer.Keeps, h1, h2, h3]

/-- the error a destination acker node stops with after a
failed nack IS the nack handler's error under `Join(·, nil)` and the `%w` wrapper of `handleAck`
(the model function and the layer list agree), and symmetrically for a failed ack. -/
theorem C20_v1_node_error_is_layered (w : Dlq.Win) (thr : Nat) (m : AckErr.Msg) :
    (∀ reason, m.nack = some reason →
      (AckErr.handleAck w thr m).2 =
        (AckErr.nackHandler w thr reason m).2.map (applyAll (nackRouteLayers.drop 1))) ∧
    (m.nack = none →
      (AckErr.handleAck w thr m).2 = (AckErr.ackHandler w m).2.map (applyAll (ackRouteLayers.drop 1))) := by
  have h2 : errorfIdx fmtNacking (([] : List Val).length + 1 + ([] : List Val).length) = some ([] : List Val).length := by decide
  have h3 : errorfIdx fmtAcking (([] : List Val).length + 1 + ([] : List Val).length) = some ([] : List Val).length := by decide
  constructor
  · intro reason hr
    simp only [AckErr.handleAck, hr, AckErr.msgNack]
    cases hq : (AckErr.nackHandler w thr reason m).2 with
    | none => simp [join]
    | some e =>
      have := errorf_of_idx (e := Err.join [e]) h2
      simp only [List.nil_append] at this
      simp [join, nackRouteLayers, applyAll, Layer.app, this, AckErr.wrapW]
  · intro hr
    simp only [AckErr.handleAck, hr, AckErr.msgAck]
    cases hq : (AckErr.ackHandler w m).2 with
    | none => simp [join]
    | some e =>
      have := errorf_of_idx (e := Err.join [Err.join [e]]) h3
      simp only [List.nil_append] at this
      simp [join, ackRouteLayers, applyAll, Layer.app, this, AckErr.wrapW]

/-- "the recovery decision of a pipeline … does not depend on the
path an error took", for the v1 ack / nack route: whatever error `e` the handler chain
(SourceAckerNode → DLQHandlerNode / Source.Ack) returns, what `lifecycle.Service` classifies
(`node %s stopped with error: %w` around the acker node's error) is fatal if `e` is, carries
`e`'s code, and still matches every sentinel `e` matches — e.g. the fatal
"DLQ nack threshold exceeded" and the original nack reason inside it. -/
theorem C20_v1_route_marks_survive (e : Err) :
    (∀ ls, ls = nackRouteLayers ∨ ls = ackRouteLayers →
      (isFatalErr e = true → isFatalErr (applyAll ls e) = true) ∧
      (∀ c, getErr e = some c → getErr (applyAll ls e) = some c) ∧
      (∀ t, isErr t e = true → isErr t (applyAll ls e) = true)) := by
  intro ls hls
  have hk : ∀ l ∈ ls, l.KeepsFirst ∧ l.Keeps := by
    rcases hls with rfl | rfl
    · exact C20_route_layers_keep.1
    · exact C20_route_layers_keep.2
  exact ⟨C20_fatal_under_layers ls (fun l hl => (hk l hl).2) e,
    fun c hc => C20_code_kept_under_wrappers ls (fun l hl => (hk l hl).1) e c hc,
    fun t ht => C20_sentinel_kept_under_wrappers ls (fun l hl => (hk l hl).2) e t ht⟩

/-- the case the property exists for: a destination nack that
trips the DLQ threshold stops the acker node with an error the classifier sees as FATAL, with the
nack reason's own marks still reachable. -/
theorem C20_v1_threshold_trip_is_fatal (w : Dlq.Win) (thr : Nat) (hthr : 0 < thr) (reason : Err) (m : AckErr.Msg)
    (hm : m.nack = some reason) (htrip : (w.nack1).2 = false) :
    ∃ ne, (AckErr.handleAck w thr m).2 = some ne ∧
      isFatalErr (Layer.app (.errorf fmtNodeStopped [.other] []) ne) = true ∧
      (∀ t, isErr t reason = true → isErr t (Layer.app (.errorf fmtNodeStopped [.other] []) ne) = true) := by
  have hl := (C20_v1_node_error_is_layered w thr m).1 reason hm
  have hn : (AckErr.nackHandler w thr reason m).2 =
      some (AckErr.wrapW (if isFatalErr (AckErr.wrapW reason) then AckErr.wrapW reason else .fatal (AckErr.wrapW reason))) := by
    by_cases hf : isFatalErr (AckErr.wrapW reason) = true
    · simp [AckErr.nackHandler, AckErr.dlqNack, htrip, hthr, fatalError, hf]
    · simp [AckErr.nackHandler, AckErr.dlqNack, htrip, hthr, fatalError, hf]
  refine ⟨_, by rw [hl, hn]; rfl, ?_, ?_⟩
  · have := (C20_v1_route_marks_survive (AckErr.wrapW (if isFatalErr (AckErr.wrapW reason) then AckErr.wrapW reason else .fatal (AckErr.wrapW reason))) nackRouteLayers (Or.inl rfl)).1
    simp only [nackRouteLayers, applyAll] at this
    apply this
    split
    · next h => simpa [AckErr.wrapW, isFatalErr, first, fatalNode] using h
    · simp [AckErr.wrapW, isFatalErr, first, fatalNode]
  · intro t ht
    have := (C20_v1_route_marks_survive (AckErr.wrapW (if isFatalErr (AckErr.wrapW reason) then AckErr.wrapW reason else .fatal (AckErr.wrapW reason))) nackRouteLayers (Or.inl rfl)).2.2 t
    simp only [nackRouteLayers, applyAll] at this
    apply this
    split <;> simp [AckErr.wrapW, isErr, first, isNode] <;> simpa [isErr] using ht

example : Layer.Plain (.errorf sufW [] []) := by show errorfIdx sufW 1 = some 0; decide
example : goodSite sufW 1 = true := by decide
example : isFatalErr (applyAll [.errorf sufW [] [], .join [none] [], .std "op"] (.fatal (.leaf ""))) = true := by decide
example : getErr (applyAll [.fatal, .errorf sufW [] [], .cwrap ⟨"other", 3⟩] (.coded ⟨"a.b", 5⟩ (.leaf ""))) = some ⟨"a.b", 5⟩ := by
  decide
example : fromStatus [("a.b", 5)] "u" (toStatus ⟨"a.b", 7⟩) ≠ ⟨"a.b", 7⟩ := by decide

end Conduit.Errs
