import ConduitModel.Proofs.WorkerStop
import ConduitModel.Props.PassC04

/-!
# C06 (arch-v2 worker) — a graceful `Worker.Stop` drains

C06 (properties.jsonl): "After a graceful stop of a healthy pipeline completes, no record is left
half-handled: every record that reached a destination or the dead-letter queue has its final
outcome and was acknowledged to its source connector before that connector was torn down … every
connector … that was opened has been torn down exactly once; the stop always completes while
plugins and store respond." — "for every … instant at which the stop request arrives relative to
reads, in-flight batches …". Mechanism named by the property: "Worker.Stop acquires processingLock
then tears the source down".

Model: `Model/WorkerStop.lean` — the reading goroutine (`Worker.Do`: loop test, `Source.Read`,
`acquireProcessingLock`, `if w.stop.Load()` discard, the pass, deferred release, the io.EOF branch,
`Close`) interleaved at statement granularity with the stopping goroutine (`Worker.Stop`: lock,
`stop.Store(true)`, `tearDownSource`, release). All theorems quantify over EVERY accepted event
list (`Reach`), i.e. every instant at which `Stop` and each of its statements is scheduled
relative to the reader, every number and size of batches, every Read outcome (batch, EOF,
ErrPluginNotRunning, error) and every pass behaviour allowed by the C04 pass theorems.
The statement order the model assumes is tied to the source by `Facts/C06Worker.lean`, the model
to the implementation by trace acceptance (driver component `workerstop`).
-/
namespace Conduit.WorkerStop

/-- C06 "torn down exactly once": `Source.Teardown` is never called twice — for every event list,
whoever races (`Stop`, the EOF branch, `Close`) — and it HAS been called exactly once when `Stop`
has returned or `Close` has run. -/
theorem C06_v2_teardown_exactly_once (s : St) (h : Reach s) :
    s.teardowns ≤ 1 ∧ (s.spc = .returned ∨ s.rpc = .closed → s.teardowns = 1) := by
  have hi := reach_inv h
  have htd := hi.td
  refine ⟨by rw [htd]; split <;> omega, fun hc => ?_⟩
  have ht : s.torn = true := by
    rcases hc with hc | hc
    · exact hi.spcTorn (Or.inr (Or.inr hc))
    · exact hi.closedTorn hc
  rw [htd, ht]; rfl

/-- C06 "acknowledged to its source connector BEFORE that connector was torn down": in every
accepted event list, every `Source.Ack` attempt happens in a state where the source has not been
torn down (so none is lost: `late = false`), and it happens inside a pass. -/
theorem C06_v2_no_ack_after_teardown (pre post : List Ev) (n : Nat) (late : Bool) (s : St)
    (h : run init (pre ++ .passAck n late :: post) = some s) :
    late = false ∧ ∃ s₁, run init pre = some s₁ ∧ s₁.torn = false ∧ s₁.rpc = .inPass := by
  rw [run_eq] at h
  obtain ⟨s₁, s₂, h1, h2, -⟩ := EventSys.run_split h
  rw [← run_eq] at h1
  cases step_iff.mp h2 with
  | lateAck _ hc ht _ => rw [(reach_pcInv ⟨pre, h1⟩).pass_not_torn hc] at ht; cases ht
  | passAck _ hc ht _ => exact ⟨rfl, s₁, h1, ht, hc⟩

/-- state form: the flag "an ack was attempted after the teardown" is never set -/
theorem C06_v2_no_late_ack (s : St) (h : Reach s) : s.lateAck = false := (reach_inv h).late

/-- The mechanism: `Stop`'s `tearDownSource` (and its `stop.Store(true)`) is only ever executed
while the reading goroutine is outside the lock-protected region — no batch is between
`acquireProcessingLock` and its deferred `release()`, in particular no pass is running. -/
theorem C06_v2_stop_teardown_outside_pass (s s' : St) (h : Reach s)
    (hs : step s (.teardownSource .stopper) = some s' ∨ step s .setStopFlag = some s') :
    s.lock = some .stopper ∧ s.rpc ≠ .locked ∧ s.rpc ≠ .inPass ∧ ∀ ok, s.rpc ≠ .releasing ok := by
  have hi := reach_inv h
  have hl : s.lock = some .stopper := by
    rcases hs with hs | hs <;> cases step_iff.mp hs <;> rename_i hc <;> exact hi.lockS.mpr (by rw [hc]; rfl)
  have hn : ¬ s.lock = some .reader := by rw [hl]; simp
  have hh := mt hi.lockR.mpr hn
  refine ⟨hl, ?_, ?_, ?_⟩ <;> intros <;> intro hc <;> rw [hc] at hh <;> exact hh rfl

/-- C06, worker level, at the return of a graceful `Stop` (and in every later state): "no record
is left half-handled": no pass is in flight, `Stop` has released the lock, the source was torn
down exactly once, no ack was attempted after the teardown, every batch whose pass ran to
completion without error was acknowledged completely and BEFORE the teardown, a batch read
concurrently with the stop was either processed before the teardown or discarded without any
write or ack (never half: written but unacknowledged — outside a pass that itself failed), and a
batch still waiting for the lock is untouched (it will be discarded:
`C06_v2_after_stop_only_discards`). -/
theorem C06_v2_stop_drained (s : St) (h : Reach s) (hd : s.spc = .returned) : Drained s := by
  have hi := reach_inv h
  have ht : s.torn = true := hi.spcTorn (Or.inr (Or.inr hd))
  have hst : s.stop = true := hi.spcFlag (Or.inr (Or.inr (Or.inr hd)))
  refine ⟨?_, ?_, hst, ht, ?_, hi.late, hi.histOk, hi.histDisc, ?_, hi.cur⟩
  · intro hp; have := hi.passClean hp; rw [hst] at this; cases this
  · intro hl; have := hi.lockS.mp hl; rw [hd] at this; cases this
  · rw [hi.td, ht]; rfl
  · intro d hm hne
    cases hr : d.res with
    | ok => have := (hi.histOk d hm hr).1; simp [Done.half, this]
    | err => exact absurd hr hne
    | discarded => have := (hi.histDisc d hm hr).2; simp [Done.half, this]

/-- … and it stays true: whatever the worker does after `Stop` has returned, the state is still
drained (in particular no pass ever starts again). -/
theorem C06_v2_stop_stays_drained (s s' : St) (evs : List Ev) (h : Reach s) (hd : s.spc = .returned)
    (hr : run s evs = some s') : Drained s' := by
  have hd' : s'.spc = .returned :=
    EventSys.run_induct (fun _ _ _ hd hs => (step_iff.mp hs).spc_forward.1 hd) evs hd (run_eq .. ▸ hr)
  exact C06_v2_stop_drained s' (h.after evs hr) hd'

/-- After `Stop` has returned the only thing that can still happen to a batch is the discard of
one that was read concurrently with the stop: a step leaves the ledger unchanged or appends ONE
entry, and that entry is `discarded`, unwritten and unacknowledged. -/
theorem C06_v2_after_stop_only_discards (s s' : St) (e : Ev) (h : Reach s) (hd : s.spc = .returned)
    (hs : step s e = some s') :
    s'.hist = s.hist ∨ ∃ d, s'.hist = s.hist ++ [d] ∧ d.res = .discarded ∧ d.acked = 0 ∧ d.wrote = false := by
  cases step_iff.mp hs with
  | discard hc _ => exact .inr ⟨_, rfl, rfl, (reach_inv h).cur (.inr hc)⟩
  | passEnd _ hc _ => exact absurd hc (C06_v2_stop_drained s h hd).1
  | _ => exact .inl rfl

/-- C06 "the stop always completes while plugins … respond", progress: in every reachable state
in which a stop was requested and has not returned, a stop-progress step is enabled — `Stop`'s
next statement, or, while the reading goroutine holds the lock, that goroutine's next step
towards its `release()` (the only assumption on the environment: a running pass eventually ends,
i.e. the enabled `passEnd` is eventually taken) — and it strictly decreases `variant` (≤ 23).
A `Source.Read` that blocks forever does not block `Stop`: it is outside the lock. -/
theorem C06_v2_stop_no_deadlock (s : St) (h : Reach s) (hp : StopPending s) :
    ∃ e s', e.stopProgress = true ∧ step s e = some s' ∧ variant s' < variant s := by
  have hi := reach_inv h
  suffices hex : ∃ e, e.stopProgress = true ∧ ∃ s', Step s e s' by
    obtain ⟨e, he, s', hs⟩ := hex
    exact ⟨e, s', he, step_iff.mpr hs, progress_decreases he (step_iff.mpr hs)⟩
  obtain ⟨hp1, hp2⟩ := hp
  cases hspc : s.spc with
  | idle => exact absurd hspc hp1
  | returned => exact absurd hspc hp2
  | haveLock => exact ⟨.setStopFlag, rfl, _, .setStopFlag hspc⟩
  | flagSet => exact ⟨.teardownSource .stopper, rfl, _, .stopTeardown hspc⟩
  | tdDone => exact ⟨.stopRelease, rfl, _, .stopRelease hspc⟩
  | released => exact ⟨.stopReturn, rfl, _, .stopReturn hspc⟩
  | wantLock =>
    cases hl : s.lock with
    | none => exact ⟨.stopLockAcquire, rfl, _, .stopLockAcquire hspc hl⟩
    | some w =>
      cases w with
      | stopper => have := hi.lockS.mp hl; rw [hspc] at this; cases this
      | reader =>
        have hh := hi.lockR.mp hl
        cases hr : s.rpc with
        | locked =>
          cases hst : s.stop with
          | true => exact ⟨.stopCheck, rfl, _, .discard hr hst⟩
          | false => exact ⟨.stopCheck, rfl, _, .passStart hr hst⟩
        | inPass => exact ⟨.passEnd false, rfl, _, .passEnd false hr nofun⟩
        | releasing ok =>
          cases ok with
          | true => exact ⟨.lockRelease, rfl, _, .releaseOk hr⟩
          | false => exact ⟨.lockRelease, rfl, _, .releaseErr hr⟩
        | _ => rw [hr] at hh; cases hh

/-- … and nothing but the reader re-taking the free lock ahead of the waiting `Stop` ever
increases the variant of a pending stop (Go hands a released channel slot to the blocked sender,
so that overtaking cannot repeat; lock fairness itself is not modelled). -/
theorem C06_v2_stop_variant_mono (s s' : St) (e : Ev) (h : Reach s) (hp : StopPending s)
    (hs : step s e = some s') (he : e ≠ .lockAcquire) : variant s' ≤ variant s := by
  have hv := (step_iff.mp hs).variant
  by_cases hpr : e.stopProgress = true
  · rw [if_pos hpr] at hv; exact Nat.le_of_lt hv
  · rcases (if_neg hpr ▸ hv) with hv | hv | hv
    · exact absurd hv he
    · subst hv; cases step_iff.mp hs with | stopRequest hc => exact absurd hc hp.1
    · exact hv

/-- … so a pending stop can always be completed: from every reachable state with a pending stop
there is a run of at most `variant s` (≤ 23) stop-progress steps after which `Stop` has returned. -/
theorem C06_v2_stop_completes (s : St) (h : Reach s) (hp : StopPending s) :
    ∃ evs s', (∀ e ∈ evs, Ev.stopProgress e = true) ∧ run s evs = some s' ∧ s'.spc = .returned ∧
      evs.length ≤ variant s := by
  -- `Stop`'s pc never goes back to `idle`: once the stop is not pending any more it has returned
  obtain ⟨evs, s', hall, hr, hg, hlen⟩ :=
    EventSys.run_progress (I := fun s => Reach s ∧ s.spc ≠ .idle) (goal := fun s => s.spc = .returned)
      (good := fun e => Ev.stopProgress e = true) (v := variant)
      (fun _ _ _ hi hs => ⟨hi.1.step hs, fun hc => hi.2 ((step_iff.mp hs).spc_forward.2 hc)⟩)
      (fun s hi hg => C06_v2_stop_no_deadlock s hi.1 ⟨hi.2, hg⟩) (variant s) s ⟨h, hp.1⟩ (Nat.le_refl _)
  exact ⟨evs, s', hall, run_eq .. ▸ hr, hg, hlen⟩

open Conduit.Funnel in
/-- One pass of the engine model (`runPass`, any task tree / scripts / fan-out order / outcome)
over a batch without nil positions acknowledges `k ≤ |batch|` further positions (a prefix of the
batch: `C04_v2_pass_acks_next`), and all of them when it returns without error
(`C04_v2_pass_ok_acks_all`): exactly the guards of `passAck` / `passEnd true`, so the pass is a run
of the stop model from the state in which the pass started. -/
theorem C06_v2_pass_abstraction (fuel : Nat) (tree : TaskNode) (recs : List Rec) (s₀ : PS)
    (hpos : ∀ r ∈ recs, r.pos ≠ none) :
    ∃ k, (ackedKeys ((runPass fuel tree recs).run.run s₀).2.log).length = (ackedKeys s₀.log).length + k ∧
      k ≤ recs.length ∧
      (((runPass fuel tree recs).run.run s₀).1 = .ok () → k = recs.length) ∧
      ∀ (s : St) (ok : Bool), s.rpc = .inPass → s.torn = false → s.batch = recs.length → s.ackedB = 0 →
        (ok = true → ((runPass fuel tree recs).run.run s₀).1 = .ok ()) →
        ∃ s', run s [.passAck k false, .passEnd ok] = some s' ∧ s'.rpc = .releasing ok := by
  obtain ⟨ks, h1, h2⟩ := C04_v2_pass_acks_next fuel tree recs s₀ hpos
  have hk : ks.length ≤ recs.length := by
    have := h2.length_le; simpa using this
  have hall : ((runPass fuel tree recs).run.run s₀).1 = .ok () → ks.length = recs.length := by
    intro hok
    have h3 := C04_v2_pass_ok_acks_all fuel tree recs s₀ hpos hok
    rw [h1] at h3
    have := List.append_cancel_left h3
    rw [this]; simp
  refine ⟨ks.length, by rw [h1]; simp, hk, hall, ?_⟩
  intro s ok hr ht hb ha hok
  have hb' : s.ackedB + ks.length ≤ s.batch := by omega
  have hok' : ok = true → s.ackedB + ks.length = s.batch := fun h => by have := hall (hok h); omega
  have e1 : step s (.passAck ks.length false) = some { s with ackedB := s.ackedB + ks.length } :=
    step_iff.mpr (.passAck _ hr ht hb')
  have e2 : step { s with ackedB := s.ackedB + ks.length } (.passEnd ok) =
      some { finish { s with ackedB := s.ackedB + ks.length } (if ok then .ok else .err) with rpc := .releasing ok } :=
    step_iff.mpr (.passEnd ok hr hok')
  exact ⟨_, by rw [run_eq]; exact EventSys.run_cons.mpr ⟨_, e1, EventSys.run_cons.mpr ⟨_, e2, rfl⟩⟩, rfl⟩

/-- a stop arriving while a batch of 2 is in its pass: Stop waits for the lock, the pass completes
and acks both records, the reader releases, Stop arms the flag and tears the source down, and the
NEXT batch (read concurrently) is discarded untouched — `Stop` returns in a reachable state. -/
def exStopDuringPass : List Ev :=
  [.loopTest, .readBegin, .readReturn (.batch 2), .lockAcquire, .stopCheck, .passStep, .stopRequest, .passWrite,
   .passAck 2 false, .passEnd true, .lockRelease, .loopTest, .readBegin, .stopLockAcquire, .readReturn (.batch 3),
   .setStopFlag, .teardownSource .stopper, .stopRelease, .stopReturn, .lockAcquire, .stopCheck, .lockRelease, .loopTest, .doReturn, .close]

example : ∃ s, run init exStopDuringPass = some s ∧ s.spc = .returned ∧ s.rpc = .closed ∧ s.teardowns = 1 ∧
    s.hist = [⟨2, 2, true, .ok, true⟩, ⟨3, 0, false, .discarded, false⟩] := by
  refine ⟨_, rfl, ?_⟩; decide

/-- the hypotheses of `C06_v2_stop_drained` are satisfiable, also in the middle of the run -/
example : ∃ s, Reach s ∧ s.spc = .returned ∧ s.rpc = .gotBatch :=
  ⟨_, ⟨exStopDuringPass.take 19, rfl⟩, by decide⟩

/-- a pending stop that is blocked by a running pass (hypotheses of `C06_v2_stop_no_deadlock`) -/
example : ∃ s, Reach s ∧ StopPending s ∧ s.rpc = .inPass ∧ s.lock = some .reader :=
  ⟨_, ⟨exStopDuringPass.take 8, rfl⟩, by decide⟩

/-- the source exhausts itself (EOF branch) while Stop is on its way: one teardown -/
example : ∃ s, run init [.loopTest, .readBegin, .stopRequest, .readReturn .eof, .stopLockAcquire, .eofSetStop, .setStopFlag,
      .teardownSource .reader, .teardownSource .stopper, .stopRelease, .stopReturn, .loopTest, .doReturn, .close] = some s ∧
    s.teardowns = 1 ∧ s.spc = .returned ∧ s.rpc = .closed := by
  refine ⟨_, rfl, ?_⟩; decide

/-- the model does NOT accept a pass that starts after the teardown (what a stop check placed
before the lock would produce): after `Stop` has returned, a freshly read batch can only
be discarded -/
example : run init [.loopTest, .readBegin, .readReturn (.batch 1), .stopRequest, .stopLockAcquire, .setStopFlag,
    .teardownSource .stopper, .stopRelease, .stopReturn, .lockAcquire, .stopCheck, .passWrite] = none := by decide

end Conduit.WorkerStop
