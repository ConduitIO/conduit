import ConduitModel.Proofs.WorkerAcker
import ConduitModel.Proofs.WorkerConfirm

/-!
# C07 / C01 at the root acker: `Worker.Ack`, `Worker.Nack`, `DLQ.Nack`, `DLQ.Ack`, `sendToDLQ`

The theorems are about the model functions `workerNack` / `workerAck` of `Model/Funnel.lean`
themselves (`(workerNack batch task).run.run s : Except Stop Unit × PS`), for ALL states `s`
(any event log, any window, any `thr`, any plugin scripts), ALL batches (well-formed or not) and
ALL failing-task ids. Vocabulary (defined in `Proofs/WorkerAcker.lean`):

* `accepted s batch`     = `(s.win.nackN batch.original.recs.length).2` — nacks the DLQ window accepts;
* `dlqWritten s batch t` = the first `accepted` rows of `batch.original`, each `(record, nack error, t)`;
* `replyOf s`            = the DLQ destination's next scripted reply (write error, ack responses);
* `dlqBatchAfter s batch`= `destDoP (Batch.new (first accepted records)) (replyOf s)` — the DLQ batch after
                           `DestinationTask.Do` (`destDo_eq_model`: this IS what `destDo` computes);
* `dlqConfirmed s batch` = number of leading `.ack` flags of that batch (`0` if `Do` failed) — the
                           leading records the DLQ destination positively confirmed.
-/
namespace Conduit.Funnel
open Conduit.Dlq

/-- C07.nack_log_shape — "written exactly once to the DLQ … and only then acknowledged to its
source": one call of `Worker.Nack` appends to the event log exactly one of: nothing; one DLQ
write; one DLQ write followed by one source ack of a non-empty prefix of the original positions.
Never an ack without the DLQ write before it, never two of either. Frame: heap, fan-out
arbiters, configuration, the scripts of every task but the DLQ destination are unchanged; the
window changes only by `nackN` of the number of original records. -/
theorem C07_nack_log_shape (s : PS) (batch : Batch) (task : Nat) :
    let out := (workerNack batch task).run.run s
    (out.2.heap = s.heap ∧ out.2.mas = s.mas ∧ out.2.thr = s.thr ∧ out.2.size = s.size ∧
      out.2.dlqTask = s.dlqTask ∧ out.2.orders = s.orders) ∧
    (∀ t : Nat, t ≠ s.dlqTask → out.2.scripts.find? (·.1 == t) = s.scripts.find? (·.1 == t)) ∧
    out.2.win = (s.win.nackN batch.original.recs.length).1 ∧
    (out.2.log = s.log ∨
     out.2.log = s.log.push (.dlqw s.dlqTask (dlqWritten s batch task)) ∨
     ∃ n : Nat, 1 ≤ n ∧
       out.2.log = (s.log.push (.dlqw s.dlqTask (dlqWritten s batch task))).push (.sack (batch.original.pos.take n))) := by
  intro out
  rcases workerNack_cases s batch task with ⟨r, h, _⟩ | ⟨r, h, _⟩ | ⟨n, r, h, hn, _⟩ <;> rw [show out = _ from h]
  · exact ⟨⟨rfl, rfl, rfl, rfl, rfl, rfl⟩, fun _ _ => rfl, rfl, Or.inl rfl⟩
  · exact ⟨⟨rfl, rfl, rfl, rfl, rfl, rfl⟩, fun t ht => popScripts_other s.scripts s.dlqTask t ht, rfl,
      Or.inr (Or.inl rfl)⟩
  · exact ⟨⟨rfl, rfl, rfl, rfl, rfl, rfl⟩, fun t ht => popScripts_other s.scripts s.dlqTask t ht, rfl,
      Or.inr (Or.inr ⟨n, hn, rfl⟩)⟩

/-- C07.dlq_then_ack — "… written exactly once to the DLQ … and only then acknowledged": whenever
the call appended a source ack `.sack ps` (third log shape; `x` is the event before it), then `x`
is the DLQ write of the first `accepted` original rows, and `ps` is the first `n` original
positions with `1 ≤ n`, `n ≤` the number of leading records the DLQ destination positively
confirmed, `n ≤` the number of nacks the window accepted; all acked positions are non-empty. -/
theorem C07_dlq_then_ack (s : PS) (batch : Batch) (task : Nat) (x : Ev) (ps : List PosV)
    (h : ((workerNack batch task).run.run s).2.log = (s.log.push x).push (.sack ps)) :
    x = .dlqw s.dlqTask (dlqWritten s batch task) ∧
    ∃ n : Nat, ps = batch.original.pos.take n ∧ 1 ≤ n ∧ n ≤ dlqConfirmed s batch ∧ n ≤ accepted s batch ∧
      n ≤ batch.original.pos.length ∧ ∀ p ∈ ps, posEmpty p = false := by
  rcases workerNack_cases s batch task with ⟨r, h', _⟩ | ⟨r, h', _⟩ | ⟨n, r, h', h1, h2, h3, h4, h5, _⟩ <;>
    rw [show (workerNack batch task).run.run s = _ from h'] at h
  · exact absurd h (log_ne_push2 _ _ _)
  · exact absurd h (push_ne_push2 _ _ _ _)
  · obtain ⟨hx, hy⟩ := push2_inj h
    have hps : ps = batch.original.pos.take n := (Ev.sack.inj hy).symm
    refine ⟨hx.symm, n, hps, h1, h3, h2, h4, ?_⟩
    intro p hp
    rw [hps] at hp
    have := List.all_eq_true.mp h5 p hp
    simpa using this

/-- C01.nack_acks_only_confirmed — "a source connector is told that a record is acknowledged only
after … the record was confirmed written to the dead-letter queue": every position acknowledged
by `Worker.Nack` is the position of an original record `i` that (a) is among the records the DLQ
write of this very call carried (`i < accepted`; their pairing with error and task is
`C07_dlq_record_is_original`), and (b) carries the flag
`.ack` in the DLQ batch after the DLQ destination's `Do` returned without error — as does every
DLQ record before it. -/
theorem C01_nack_acks_only_confirmed (s : PS) (batch : Batch) (task : Nat) (x : Ev) (ps : List PosV)
    (h : ((workerNack batch task).run.run s).2.log = (s.log.push x).push (.sack ps))
    (i : Nat) (p : PosV) (hp : ps[i]? = some p) :
    batch.original.pos[i]? = some p ∧ i < accepted s batch ∧
    (∃ db : Batch, dlqBatchAfter s batch = .ok db ∧
      ∀ j : Nat, j ≤ i → ∃ st : Status, db.st[j]? = some st ∧ st.flag = .ack) := by
  obtain ⟨_, n, hps, _, hc, ha, _, _⟩ := C07_dlq_then_ack s batch task x ps h
  rw [hps, List.getElem?_take] at hp
  by_cases hin : i < n
  · simp only [hin, if_true] at hp
    refine ⟨hp, by omega, ?_⟩
    unfold dlqConfirmed at hc
    cases hd : dlqBatchAfter s batch with
    | error e => rw [hd] at hc; simp only at hc; omega
    | ok db =>
      rw [hd] at hc
      exact ⟨db, rfl, fun j hj => leadAcks_spec db.st j (by simp only at hc; omega)⟩
  · simp only [hin, if_false] at hp; cases hp

/-- C07.failed_dlq_write_never_acks — "a failed DLQ write never results in an ack": if the DLQ
destination confirms nothing — its reply is a write error, an error response, an invalid or
missing ack response (`dlqBatchAfter = .error _`), or the first DLQ record is nacked — then no
`.sack` is appended, and if the DLQ write was attempted the call returns a FATAL error. -/
theorem C07_failed_dlq_write_never_acks (s : PS) (batch : Batch) (task : Nat)
    (hfail : dlqConfirmed s batch = 0) :
    let out := (workerNack batch task).run.run s
    (out.2.log = s.log ∨ out.2.log = s.log.push (.dlqw s.dlqTask (dlqWritten s batch task))) ∧
    (out.2.log ≠ s.log → ∃ e : Err, out.1 = .error (.err e) ∧ e.fatal = true) := by
  intro out
  rcases workerNack_cases s batch task with ⟨r, h, _⟩ | ⟨r, h, _, hr⟩ | ⟨n, r, h, h1, _, h3, _⟩ <;>
    rw [show out = _ from h]
  · exact ⟨Or.inl rfl, fun hne => absurd rfl hne⟩
  · refine ⟨Or.inr rfl, fun _ => ?_⟩
    rcases hr with ⟨hr, _⟩ | ⟨_, hr⟩
    · exact hr
    · omega
  · omega

/-- any error of `DestinationTask.Do` on the DLQ write (write error, error response, invalid acks,
exhausted script) gives `dlqConfirmed = 0`. -/
theorem C07_dlq_do_error_confirms_nothing (s : PS) (batch : Batch) (e : Stop)
    (h : dlqBatchAfter s batch = .error e) : dlqConfirmed s batch = 0 := by
  unfold dlqConfirmed; rw [h]

/-- a write error of the DLQ destination gives `dlqConfirmed = 0`. -/
theorem C07_dlq_write_error_confirms_nothing (s : PS) (batch : Batch) (e : Err)
    (h : (replyOf s).1 = some e) : dlqConfirmed s batch = 0 := by
  apply C07_dlq_do_error_confirms_nothing s batch (.err (wrap e))
  unfold dlqBatchAfter destDoP
  rw [h]; rfl

/-- an error response of the DLQ destination's `Ack()` stream before anything was confirmed (the DLQ
write being non-empty) gives `dlqConfirmed = 0`. -/
theorem C07_dlq_error_response_confirms_nothing (s : PS) (batch : Batch) (e : Err) (rest : List AckResp)
    (h : replyOf s = (none, .err e :: rest)) (hk : 0 < accepted s batch) : dlqConfirmed s batch = 0 := by
  apply C07_dlq_do_error_confirms_nothing s batch (.err (wrap e))
  have hle := accepted_le s batch
  unfold dlqBatchAfter destDoP
  rw [h, new_active]
  have hlen : ((batch.original.recs.take (accepted s batch)).map (·.pos)).length = (accepted s batch - 1) + 1 := by
    rw [List.length_map, List.length_take]; omega
  simp only [hlen, destAckLoop]
  rfl

/-- C01 (bridge to the trace monitor's notion of "positively confirmed", `Spec/FunnelMon.lean`):
every DLQ record counted by `dlqConfirmed` — hence every record `Worker.Nack` acks to the source,
see `C01_nack_acks_only_confirmed` — is `Mon.confirmed` for the DLQ destination's next call: the
reply has no write error and the bounded ack loop consumed an ack response without error whose
position matches that record. -/
theorem C01_dlq_confirmed_is_monitor_confirmed (s : PS) (batch : Batch) (i : Nat) (hi : i < dlqConfirmed s batch) :
    (replyOf s).1 = none ∧
    ∀ j : Nat, j ≤ i →
      Mon.confirmed s.scripts s.dlqTask 0 j ((batch.original.recs.take (accepted s batch)).map (·.pos)) = true := by
  unfold dlqConfirmed at hi
  cases hd : dlqBatchAfter s batch with
  | error e => rw [hd] at hi; simp only at hi; omega
  | ok db =>
    rw [hd] at hi
    simp only at hi
    obtain ⟨hw, _, hconf⟩ := destDoP_new_confirmed _ _ _ db hd
    refine ⟨hw, fun j hj => ?_⟩
    obtain ⟨x, hx, hf⟩ := leadAcks_spec db.st j (by omega)
    unfold Mon.confirmed
    rw [replyOf_none hw]
    simp only
    rw [← hconf, List.getElem?_map, hx]
    simp [Status.isAck, hf]

/-- C07.window_refusal_stops — "otherwise the pipeline stops with an error and that record stays
unacknowledged": if the window accepts only `k < len` of the nacks then
* the call does not return `.ok` unless `thr = 0` and the refused record carries no error (Go: a
  nil `status.Error`); with `hsome` it is an error;
* a returned error is fatal when `thr > 0`; when `thr = 0` it is fatal or exactly the refused
  record's own error;
* at most the first `k` positions are acked, so the refused record (index `k`) is not acked; with
  pairwise distinct positions its position does not occur in the acked list. -/
theorem C07_window_refusal_stops (s : PS) (batch : Batch) (task : Nat)
    (hk : accepted s batch < batch.original.recs.length) :
    let out := (workerNack batch task).run.run s
    ((s.thr > 0 ∨ ∀ st : Status, batch.original.st[accepted s batch]? = some st → st.err ≠ none) →
        ∃ e : Stop, out.1 = .error e) ∧
    (∀ e : Err, out.1 = .error (.err e) →
        e.fatal = true ∨ (s.thr = 0 ∧ ∃ st : Status, batch.original.st[accepted s batch]? = some st ∧ st.err = some e)) ∧
    (∀ (x : Ev) (ps : List PosV), out.2.log = (s.log.push x).push (.sack ps) →
        (∃ n : Nat, n ≤ accepted s batch ∧ ps = batch.original.pos.take n) ∧
        (∀ p : PosV, batch.original.pos.Nodup → batch.original.pos[accepted s batch]? = some p → p ∉ ps)) := by
  intro out
  have key : IsPanic out.1 ∨ IsFatal out.1 ∨ Refused s batch out.1 := by
    rcases workerNack_cases s batch task with ⟨r, h, hr⟩ | ⟨r, h, _, hr⟩ | ⟨n, r, h, _, _, _, _, _, hr⟩ <;>
      rw [show out = _ from h]
    · rcases hr with ⟨h0, _⟩ | ⟨_, _, hr | hr | hr⟩ | ⟨_, hr⟩
      · omega
      · exact Or.inl hr.1
      · exact Or.inr (Or.inl hr)
      · exact Or.inr (Or.inr hr)
      · exact Or.inl hr.1
    · rcases hr with ⟨hr, _⟩ | ⟨hr, _⟩
      · exact Or.inr (Or.inl hr)
      · exact Or.inl hr.1
    · rcases hr with hr | ⟨hr, _⟩ | ⟨_, _, hr⟩ | ⟨_, hr, _⟩
      · exact Or.inl hr.1
      · exact Or.inr (Or.inl hr)
      · exact Or.inr (Or.inr hr)
      · omega
  refine ⟨?_, ?_, ?_⟩
  · intro hyp
    rcases key with ⟨m, hm⟩ | ⟨e, he, _⟩ | ⟨ht, st, hst, hr⟩
    · exact ⟨_, hm⟩
    · exact ⟨_, he⟩
    · rcases hyp with hyp | hyp
      · omega
      · cases herr : st.err with
        | none => exact absurd herr (hyp st hst)
        | some e => rw [hr, herr]; exact ⟨_, rfl⟩
  · intro e he
    rcases key with ⟨m, hm⟩ | ⟨e', he', hf⟩ | ⟨ht, st, hst, hr⟩
    · rw [hm] at he; cases he
    · rw [he'] at he; cases he; exact Or.inl hf
    · right
      refine ⟨ht, st, hst, ?_⟩
      rw [hr] at he
      cases herr : st.err with
      | none => rw [herr] at he; cases he
      | some e'' => rw [herr] at he; cases he; rfl
  · intro x ps hlog
    obtain ⟨_, n, hps, _, _, ha, _, _⟩ := C07_dlq_then_ack s batch task x ps hlog
    refine ⟨⟨n, ha, hps⟩, ?_⟩
    intro p hnd hp
    rw [hps]
    exact not_mem_take_of_nodup hnd hp ha

/-- C07.ack_records_window — `Worker.Ack`: when every original position is non-empty it appends
exactly one `.sack` of all original positions and records `len(batch.records)` acks in the DLQ
window (`ackN`), returning `.ok`; otherwise it returns the coded error
`pipeline.empty_source_position`, appends nothing and leaves the window alone. -/
theorem C07_ack_records_window (s : PS) (batch : Batch) :
    let out := (workerAck batch).run.run s
    ((∀ p ∈ batch.original.pos, posEmpty p = false) →
      out = (.ok (), { s with log := s.log.push (.sack batch.original.pos),
                              win := s.win.ackN batch.recs.length })) ∧
    ((∃ p ∈ batch.original.pos, posEmpty p = true) →
      out = (.error (.err (coded "pipeline.empty_source_position")), s)) := by
  intro out
  rw [show out = _ from workerAck_exec batch s]
  constructor
  · intro hall
    rw [if_pos]
    unfold validateAckPositions
    rw [List.all_eq_true]
    intro p hp; simp [hall p hp]
  · rintro ⟨p, hp, hpe⟩
    rw [if_neg]
    · rfl
    unfold validateAckPositions
    rw [Bool.not_eq_true, List.all_eq_false]
    exact ⟨p, hp, by simp [hpe]⟩

/-- C07.dlq_record_is_original — "(carrying the original record, the error and the failing
component)": entry `i` of the DLQ write of `Worker.Nack` is the `i`-th record of
`batch.original` (`i <` accepted nacks), paired with the error recorded in that row's status and
the failing task id. For a batch holding split records the row is a row of the batch with a
non-nil source position `p`, and the record is the ORIGINAL stored in `splitRecords` under `p`
when there is one — not the piece standing at that row. -/
theorem C07_dlq_record_is_original (s : PS) (batch : Batch) (task : Nat) (i : Nat) (e : Rec × Option Err × Nat)
    (h : (dlqWritten s batch task)[i]? = some e) :
    i < accepted s batch ∧ e.2.2 = task ∧ batch.original.recs[i]? = some e.1 ∧
    (∃ st : Status, batch.original.st[i]? = some st ∧ st.err = e.2.1) ∧
    (batch.split.length = 0 → batch.recs[i]? = some e.1) ∧
    (batch.split.length ≠ 0 →
      ∃ (p : PosV) (r0 : Rec) (st : Status), (p, r0, st) ∈ batch.pos.zip (batch.recs.zip batch.st) ∧ p ≠ none ∧
        batch.original.pos[i]? = some p ∧ st.err = e.2.1 ∧
        e.1 = (lookup batch.split (keyOf p)).getD r0 ∧
        (∀ orig : Rec, lookup batch.split (keyOf p) = some orig → e.1 = orig)) := by
  obtain ⟨h1, h2, h3, st, h4, h5⟩ := infoOf_getElem batch.original (accepted s batch) task i e h
  refine ⟨h1, h2, h3, ⟨st, h4, h5⟩, ?_, ?_⟩
  · intro hs
    have : batch.original = batch := by unfold Batch.original; simp only [hs, if_true]
    rw [this] at h3; exact h3
  · intro hs
    obtain ⟨p, r0, st', hm, hp, hpos, hst, hr⟩ := original_row batch hs i e.1 h3
    rw [h4] at hst
    cases hst
    refine ⟨p, r0, st, hm, hp, hpos, h5, hr, ?_⟩
    intro orig ho
    rw [hr, ho]; rfl

/-- `Worker.Nack` never panics on a well-formed batch (`Batch.WF`, the invariant of
`Props/BatchProps.lean`) whose records to dead-letter (the first `accepted` original rows) carry
a non-nil `status.Error`: in general a panic of `Worker.Nack` has one of the causes listed in
`PanicCause` (slice bounds of `sub` / `positions[:n]` / `records[:n]`, a nil `status.Error`,
a missing status), none of which exists then. Together with `C07_window_refusal_stops` /
`C07_failed_dlq_write_never_acks`: a refusal or a failed DLQ write is a RETURNED error. -/
theorem C07_nack_never_panics {hp : Heap} (s : PS) (batch : Batch) (task : Nat) (hwf : batch.WF hp)
    (herr : ∀ st ∈ batch.original.st.take (accepted s batch), st.err ≠ none) (m : String) :
    ((workerNack batch task).run.run s).1 ≠ .error (.panic m) := by
  exact fun h => PanicCause_of_wf hwf herr (workerNack_panic_cause s batch task m h)

namespace WorkerExamples

def e1 : Err := { script := some 1 }
def e2 : Err := { script := some 2 }
/-- two records nacked by task 3 -/
def b2 : Batch :=
  { recs := [⟨1, some 5⟩, ⟨2, some 6⟩], st := [{ flag := .nack, err := some e1 }, { flag := .nack, err := some e2 }],
    pos := [some 5, some 6], runs := some [none, none], tainted := true }
/-- window 4 / threshold 2; the DLQ destination (task 9) confirms both records -/
def sOK : PS :=
  { win := Win.new 4 2, thr := 2, size := 4, dlqTask := 9,
    scripts := [(9, [.dest none [.acks [(some 5, none), (some 6, none)]]]), (4, [.proc []])] }
/-- same, but the DLQ destination's write fails -/
def sWriteErr : PS := { sOK with scripts := [(9, [.dest (some e2) []])] }
/-- same, but the DLQ destination nacks the second DLQ record -/
def sHalf : PS := { sOK with scripts := [(9, [.dest none [.acks [(some 5, none), (some 6, some e2)]]])] }
/-- threshold 0: the window tolerates no nack -/
def sZero : PS := { sOK with win := Win.new 4 0, thr := 0 }
/-- threshold 1: the window accepts the first nack only -/
def sOne : PS := { sOK with win := Win.new 4 1, thr := 1,
                            scripts := [(9, [.dest none [.acks [(some 5, none)]]])] }

def isOk (r : Except Stop Unit) : Bool := match r with | .ok _ => true | _ => false
def isFatalErr (r : Except Stop Unit) : Bool := match r with | .error (.err e) => e.fatal | _ => false

-- shape 3: DLQ write, then the source ack of both positions; the call succeeds
example : ((workerNack b2 3).run.run sOK).2.log =
    #[.dlqw 9 [(⟨1, some 5⟩, some e1, 3), (⟨2, some 6⟩, some e2, 3)], .sack [some 5, some 6]] := by rfl
example : isOk ((workerNack b2 3).run.run sOK).1 = true := by rfl
example : accepted sOK b2 = 2 ∧ dlqConfirmed sOK b2 = 2 := by decide
-- shape 2: DLQ write only; fatal error (hypothesis of `C07_failed_dlq_write_never_acks` holds)
example : ((workerNack b2 3).run.run sWriteErr).2.log =
    #[.dlqw 9 [(⟨1, some 5⟩, some e1, 3), (⟨2, some 6⟩, some e2, 3)]] := by rfl
example : isFatalErr ((workerNack b2 3).run.run sWriteErr).1 = true := by rfl
example : dlqConfirmed sWriteErr b2 = 0 := by decide
example : (replyOf sWriteErr).1 = some e2 := by rfl
-- shape 1: the window refuses everything: no event, the record's own error comes back (thr = 0)
example : ((workerNack b2 3).run.run sZero).2.log = #[] := by rfl
example : accepted sZero b2 < b2.original.recs.length := by decide
example : (match ((workerNack b2 3).run.run sZero).1 with | .error (.err e) => e == e1 | _ => false) = true := by rfl
-- the DLQ write is not even attempted when the window refuses everything: the (failing) DLQ
-- destination is irrelevant and the error is the record's own, NOT fatal — which is why
-- `C07_failed_dlq_write_never_acks` promises a fatal error only after an attempted write
def sZeroErr : PS := { sWriteErr with win := Win.new 4 0, thr := 0 }
example : dlqConfirmed sZeroErr b2 = 0 ∧ ((workerNack b2 3).run.run sZeroErr).2.log = #[] ∧
    isFatalErr ((workerNack b2 3).run.run sZeroErr).1 = false := by decide
-- monitor bridge: both DLQ records of `sOK` are `Mon.confirmed`
example : Mon.confirmed sOK.scripts sOK.dlqTask 0 1 [some 5, some 6] = true := by decide
-- why `C07_window_refusal_stops` needs `thr > 0` or a non-nil error on the refused record: with
-- `thr = 0` and a nil `status.Error` the refusal is returned as a nil error (`.ok`), nothing acked
def bNilErr : Batch := { b2 with st := [{ flag := .nack, err := none }, { flag := .nack, err := some e2 }] }
example : accepted sZero bNilErr < bNilErr.original.recs.length ∧
    isOk ((workerNack bNilErr 3).run.run sZero).1 = true ∧ ((workerNack bNilErr 3).run.run sZero).2.log = #[] := by decide
-- partial confirmation: only the confirmed first position is acked, fatal error
example : ((workerNack b2 3).run.run sHalf).2.log =
    #[.dlqw 9 [(⟨1, some 5⟩, some e1, 3), (⟨2, some 6⟩, some e2, 3)], .sack [some 5]] := by rfl
example : dlqConfirmed sHalf b2 = 1 ∧ isFatalErr ((workerNack b2 3).run.run sHalf).1 = true := by decide
-- window refusal with `thr > 0`: one record dead-lettered and acked, then a fatal error
example : accepted sOne b2 = 1 ∧ accepted sOne b2 < b2.original.recs.length := by decide
example : ((workerNack b2 3).run.run sOne).2.log = #[.dlqw 9 [(⟨1, some 5⟩, some e1, 3)], .sack [some 5]] := by rfl
example : isFatalErr ((workerNack b2 3).run.run sOne).1 = true := by rfl
example : b2.original.pos.Nodup ∧ b2.original.pos[accepted sOne b2]? = some (some 6) := by decide
-- hypotheses of `C07_nack_never_panics`
example : b2.WF #[] ∧ ∀ st ∈ b2.original.st.take (accepted sOK b2), st.err ≠ none := by decide
-- `Worker.Ack`
example : ((workerAck b2).run.run sOK).2.log = #[.sack [some 5, some 6]] := by rfl
example : ∀ p ∈ b2.original.pos, posEmpty p = false := by decide
example : ∃ p ∈ ({ b2 with pos := [some 5, none] } : Batch).original.pos, posEmpty p = true := by decide
-- a split batch: the DLQ gets the original record 1 (tag 1), not the pieces 11 / 12
def bSplit : Batch :=
  { recs := [⟨11, some 5⟩, ⟨12, some 5⟩], st := [{ flag := .nack, err := some e1 }, { flag := .nack, err := some e1 }],
    pos := [some 5, none], runs := some [some 0, some 0], tainted := true, split := [(5, ⟨1, some 5⟩)] }
example : dlqWritten sOK bSplit 3 = [(⟨1, some 5⟩, some e1, 3)] := by decide
example : bSplit.split.length ≠ 0 := by decide

end WorkerExamples

end Conduit.Funnel
