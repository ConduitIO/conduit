import ConduitModel.Proofs.StoreDoc

/-!
# C17 — stored entities survive a restart unchanged

Statement (properties.jsonl C17): "Whatever is stored for a pipeline, connector or processor -
including arbitrary binary positions, settings with any Unicode text, status, DLQ configuration,
ordering of references and timestamps - is read back identically by a restarted server, and
records of older supported formats are still understood. A running pipeline is found again as one
to be resumed."

Model: `Model/{Base64,JsonStr,Json,Time,StoreDoc,Resume}.lean` (the codec of the three stores as
it is: goccy/go-json's byte layout, `PrepareSet`, the untyped re-decode of connector `State`,
`migratePre041`, `pipeline.Service.Init` + `lifecycle.Service.Init`). Spec: `Spec/Codec.lean`.
All theorems are for every value of every stored field: `Str = List Char` is every sequence of
Unicode scalar values, `Bytes = List UInt8` every byte string, `Option` every nil-vs-empty choice,
`Int64` every Go `int`. The well-formedness hypotheses (`WF`) are representation invariants
(canonical map order; timestamps `MarshalJSON` accepts; state fits type), see `Spec/Codec.lean`.
-/
namespace Conduit.Codec

/-- "arbitrary binary positions": for every byte string, decoding its base64 text gives it back. -/
theorem C17_base64_roundtrip (bs : Bytes) : b64Decode (b64Encode bs) = some bs :=
  b64Decode_encode bs

/-- a `nil` position and an empty one are stored differently (`null` vs `""`) and each is read
back as what it was; every other position too. -/
theorem C17_position_nil_vs_empty :
    encBytes none ≠ encBytes (some []) ∧
    (∀ b : Option Bytes, decBytes (encBytes b) = .ok b) :=
  ⟨by simp [encBytes], decBytes_enc⟩

/-- "settings with any Unicode text": for every sequence of Unicode scalar values (controls,
quotes, `<>&`, U+2028/9, astral, …) the literal goccy writes is read back as that sequence. -/
theorem C17_json_string_roundtrip (s : List Char) : unquote (quote s) = some s :=
  unquote_quote s

/-- the same inside a document: reading stops exactly at the closing quote. -/
theorem C17_json_string_roundtrip_in_context (s : List Char) (rest : List Char) :
    unescape (escape s ++ '"' :: rest) = some (s, rest) :=
  unescape_escape s rest

/-- the same at the UTF-8 level: Lean's `String` is the UTF-8 encoding of a scalar sequence, so
this is the statement about the bytes of the Go string and of the literal. -/
theorem C17_json_string_roundtrip_utf8 (s : String) : unquoteString (quoteString s) = some s := by
  simp [unquoteString, quoteString, String.toList_ofList, unquote_quote, String.ofList_toList]

/-- per character: whatever the escaper writes for `c` (itself, a short escape or `\uXXXX`) is
read back as `c`. -/
theorem C17_json_char_roundtrip (c : Char) (rest : List Char) :
    unescFrom none (escapeChar c ++ rest) = push c (unescFrom none rest) :=
  unescFrom_escapeChar c rest

/-- every JSON tree printed in goccy's compact layout is parsed back to the same tree (member
order and duplicates included), also with the newline `Encoder.Encode` appends. -/
theorem C17_json_print_parse (j : Json) : parse j.print = some j ∧ parse (j.print ++ ['\n']) = some j :=
  ⟨parse_print j, parse_print_newline j⟩

/-- connector: the bytes `Store.Set` writes are decoded by a new store's `Get` to the same
instance — every field, incl. the `State` that goes through `any` and is marshalled again. -/
theorem C17_connector_roundtrip (x : ConnInstance) (h : x.WF) : ConnSurvives x := by
  simp [ConnSurvives, loadConn, storeConn, parse_print, decConn_encConn x h]

/-- pipeline (with status and DLQ configuration). -/
theorem C17_pipeline_roundtrip (x : PipeInstance) (h : x.WF) : PipeSurvives x := by
  simp [PipeSurvives, loadPipe, storePipe, parse_print_newline, decPipe_encPipe x h]

/-- processor. -/
theorem C17_processor_roundtrip (x : ProcInstance) (h : x.WF) : ProcSurvives x := by
  simp [ProcSurvives, loadProc, storeProc, parse_print_newline, decProc_encProc x h]

/-- tree level (what the decoders do with the encoders' output), without the text layer. -/
theorem C17_value_roundtrip :
    (∀ x : ConnInstance, x.WF → decConn (encConn x) = .ok x) ∧
    (∀ x : PipeInstance, x.WF → decPipe (encPipe x) = .ok x) ∧
    (∀ x : ProcInstance, x.WF → decProc (encProc x) = .ok x) :=
  ⟨decConn_encConn, decPipe_encPipe, decProc_encProc⟩

/-- nothing is conflated: two well-formed connectors with the same stored bytes are the same
(so nil/empty, order of references, every character and byte are all visible in the stored form).
Same for pipelines and processors. -/
theorem C17_store_injective :
    (∀ x y : ConnInstance, x.WF → y.WF → storeConn x = storeConn y → x = y) ∧
    (∀ x y : PipeInstance, x.WF → y.WF → storePipe x = storePipe y → x = y) ∧
    (∀ x y : ProcInstance, x.WF → y.WF → storeProc x = storeProc y → x = y) := by
  have inj {α : Type} {r : Option (Except DecErr α)} {x y : α} (hx : r = some (.ok x))
      (hy : r = some (.ok y)) : x = y := Except.ok.inj (Option.some.inj (hx.symm.trans hy))
  exact ⟨fun x y hx hy e => inj (C17_connector_roundtrip x hx) (e ▸ C17_connector_roundtrip y hy),
    fun x y hx hy e => inj (C17_pipeline_roundtrip x hx) (e ▸ C17_pipeline_roundtrip y hy),
    fun x y hx hy e => inj (C17_processor_roundtrip x hx) (e ▸ C17_processor_roundtrip y hy)⟩

/-- nil vs empty for reference lists and settings maps: stored differently (`null` vs `[]` /
`{}`), each read back as what it was. -/
theorem C17_nil_vs_empty_preserved :
    encStrList none ≠ encStrList (some []) ∧ encStrMap none ≠ encStrMap (some []) ∧
    encBytesMap none ≠ encBytesMap (some []) ∧
    decStrList (encStrList none) = .ok none ∧ decStrList (encStrList (some [])) = .ok (some []) ∧
    decStrMap (encStrMap none) = .ok none ∧ decStrMap (encStrMap (some [])) = .ok (some []) ∧
    decBytesMap (encBytesMap none) = .ok none ∧ decBytesMap (encBytesMap (some [])) = .ok (some []) := by
  refine ⟨by simp [encStrList], by simp [encStrMap], by simp [encBytesMap], rfl, rfl, rfl, rfl, rfl, rfl⟩

/-- "ordering of references": a reference list is read back as the same list — same order, same
duplicates — whatever its elements. -/
theorem C17_reference_order_preserved (l : Option (List Str)) : decStrList (encStrList l) = .ok l :=
  decStrList_enc l

/-- "timestamps": every timestamp `MarshalJSON` accepts is read back with the same civil time,
nanoseconds and zone offset (hence the same instant). -/
theorem C17_timestamp_roundtrip (t : Time) (h : t.valid = true) : parseTime (formatTime t) = some t :=
  parseTime_formatTime t h

/-- the untyped detour of connector `State` (`any` → marshal → typed) changes nothing. -/
theorem C17_state_redecode (type : Int64) (st : ConnState) (hs : st.sorted) (hm : st.fits type) :
    decConnState type (encConnState st) = .ok st :=
  decConnState_enc type st hs hm

/-- `State == nil` stays nil whatever the type; a non-nil state under an invalid type is refused
with `ErrInvalidConnectorType` (not silently dropped). -/
theorem C17_state_nil_and_invalid_type (type : Int64) :
    decConnState type .null = .ok .none ∧
    (type ≠ typeSource → type ≠ typeDestination → ∀ p, decConnState type (encConnState (.source p)) = .error .invalidConnectorType) := by
  refine ⟨rfl, fun h1 h2 p => ?_⟩
  simp [decConnState, encConnState, h1, h2]

/-- Go maps are unordered; the model keeps them in goccy's member order. Every member list (any
order, duplicates — later wins — included) has such a canonical form, and a canonical form is a
fixed point: the `Sorted` hypotheses of the theorems restrict nothing. -/
theorem C17_every_map_has_canonical_form {α : Type} (l : List (Str × α)) :
    SMap.Sorted (SMap.ofList l) ∧ (SMap.Sorted l → SMap.ofList l = l) :=
  ⟨SMap.ofList_is_sorted l, SMap.ofList_sorted l⟩

/-- the decoders do not depend on the order of a document's members: the members of a stored
connector / pipeline / processor document, in any order, decode to the instance. -/
theorem C17_member_order_irrelevant :
    (∀ (x : ConnInstance), x.WF → ∀ kvs l, encConn x = .obj kvs → l.Perm kvs → decConn (.obj l) = .ok x) ∧
    (∀ (x : PipeInstance), x.WF → ∀ kvs l, encPipe x = .obj kvs → l.Perm kvs → decPipe (.obj l) = .ok x) ∧
    (∀ (x : ProcInstance), x.WF → ∀ kvs l, encProc x = .obj kvs → l.Perm kvs → decProc (.obj l) = .ok x) := by
  refine ⟨fun x h kvs l e hp => ?_, fun x h kvs l e hp => ?_, fun x h kvs l e hp => ?_⟩
  · have hn : (kvs.map (·.1)).Nodup := by
      simp only [encConn, encConnWith, Json.obj.injEq] at e; subst e; simp only [List.map]; decide +kernel
    rw [← decConn_perm hp.symm hn, ← e]; exact decConn_encConn x h
  · have hn : (kvs.map (·.1)).Nodup := by
      simp only [encPipe, Json.obj.injEq] at e; subst e; simp only [List.map]; decide +kernel
    rw [← decPipe_perm hp.symm hn, ← e]; exact decPipe_encPipe x h
  · have hn : (kvs.map (·.1)).Nodup := by
      simp only [encProc, Json.obj.injEq] at e; subst e; simp only [List.map]; decide +kernel
    rw [← decProc_perm hp.symm hn, ← e]; exact decProc_encProc x h

/-- store keys: `trimKeyPrefix (addKeyPrefix id) = id` for every ID, and the key spaces of the
three stores and of the pre-0.4.1 format are disjoint (no store's `GetKeys(prefix)` sees a key of
another, whatever the IDs). -/
theorem C17_store_keys :
    (∀ (pre : String) (id : Str), trimKey pre (storeKey pre id) = id) ∧
    (∀ id : Str, connKeyPrefix.toList.isPrefixOf (storeKey connPre041KeyPrefix id) = false) ∧
    (∀ id : Str, connPre041KeyPrefix.toList.isPrefixOf (storeKey connKeyPrefix id) = false) ∧
    (∀ id : Str, connKeyPrefix.toList.isPrefixOf (storeKey pipeKeyPrefix id) = false) ∧
    (∀ id : Str, connKeyPrefix.toList.isPrefixOf (storeKey procKeyPrefix id) = false) ∧
    (∀ id : Str, pipeKeyPrefix.toList.isPrefixOf (storeKey connKeyPrefix id) = false) ∧
    (∀ id : Str, pipeKeyPrefix.toList.isPrefixOf (storeKey procKeyPrefix id) = false) ∧
    (∀ id : Str, procKeyPrefix.toList.isPrefixOf (storeKey connKeyPrefix id) = false) ∧
    (∀ id : Str, procKeyPrefix.toList.isPrefixOf (storeKey pipeKeyPrefix id) = false) := by
  have h := keyPrefixes_incomparable
  simp only [List.map, List.pairwise_cons, List.mem_cons, List.not_mem_nil, or_false, forall_eq_or_imp, forall_eq,
    false_imp_iff, implies_true, List.Pairwise.nil, and_true] at h
  obtain ⟨⟨hco, hcp, hcr⟩, -, hpr⟩ := h
  exact ⟨trimKey_storeKey, isPrefixOf_append_false hco.1 hco.2, isPrefixOf_append_false hco.2 hco.1,
    isPrefixOf_append_false hcp.1 hcp.2, isPrefixOf_append_false hcr.1 hcr.2,
    isPrefixOf_append_false hcp.2 hcp.1, isPrefixOf_append_false hpr.1 hpr.2,
    isPrefixOf_append_false hcr.2 hcr.1, isPrefixOf_append_false hpr.2 hpr.1⟩

/-- a connector document written before `LastActiveConfig` existed (the member is absent) is
understood: every other field as stored, `LastActiveConfig` zero. -/
theorem C17_older_document_without_LastActiveConfig (x : ConnInstance) (h : x.WF) :
    decConn (match encConn x with
      | .obj kvs => .obj (kvs.filter fun kv => kv.1 ≠ key "LastActiveConfig")
      | j => j) = .ok { x with lastActiveConfig := ⟨[], none⟩ } := by
  obtain ⟨h1, _, h3, h4, h5, h6⟩ := h
  cases x with
  | mk id type config pipelineID plugin processorIDs state provisionedBy createdAt updatedAt lastActiveConfig =>
    have e1 := decConnConfig_enc config h1
    have e3 := decConnState_enc type state h3 h6
    have e4 := decTime_enc createdAt h4
    have e5 := decTime_enc updatedAt h5
    have e2 : decConnConfig .null = .ok ⟨[], none⟩ := rfl
    simp -implicitDefEqProofs [decConn, encConn, encConnWith, Json.field, key_inj, decStr, decInt_encInt,
      decStrList_enc, e1, e2, e3, e4, e5]

/-- pre-0.4.1 connectors: for every old record, the migrated document is stored under the record's
ID, and a store reading it gets exactly the specified instance — every field of the old document
carried over (`Type` name ↦ constant, `XState` re-typed), nothing else set. -/
theorem C17_pre041_migration_preserves (o : OldRecord) (h : o.WF) (hid : o.xid ≠ []) :
    (migrateDoc (encOld o)).map (fun p => (p.1, decConn p.2)) = some (o.xid, .ok o.migrated) := by
  obtain ⟨h1, h2, h3, h4⟩ := h
  have wf : o.migrated.WF := by
    refine ⟨h1, trivial, ?_, h3, h4, ?_⟩
    · simp only [OldRecord.migrated, OldRecord.state]; split <;> simp [ConnState.sorted, h2]
    · simp only [ConnInstance.stateMatches, OldRecord.migrated, OldRecord.state]; split <;> simp_all [ConnState.fits]
  have hdec : decOldConn (encOld o) = .ok
      ⟨if o.isSource then key "Source" else key "Destination", o.xid, o.name, o.settings, o.plugin, o.pipelineID,
       o.processorIDs, encConnState o.state, o.provisionedBy, o.createdAt, o.updatedAt⟩ := by
    simp -implicitDefEqProofs [decOldConn, encOld, field_cons_self, field_cons_ne, key_inj, decStr, decObj,
      decInt_encInt, decStrList_enc, decStrMap_enc o.settings h1, decTime_enc _ h3, decTime_enc _ h4]
  have hdoc : migrateDoc (encOld o) = some (o.xid, encConn o.migrated) := by
    simp only [migrateDoc, hdec, migrateInst]
    cases hs : o.isSource <;>
      simp (config := {decide := true}) [hid, encConn, encConnWith, OldRecord.migrated, hs]
  simp [hdoc, decConn_encConn _ wf]

/-- the same from the stored text of the old document. -/
theorem C17_pre041_migration_from_text (o : OldRecord) (h : o.WF) (hid : o.xid ≠ []) :
    ((parse (encOld o).print).bind migrateDoc).map (fun p => (p.1, decConn p.2)) = some (o.xid, .ok o.migrated) := by
  rw [parse_print, Option.bind_some]
  exact C17_pre041_migration_preserves o h hid

/-- a record with an unknown type name is skipped (`migratePre041` logs a warning and continues). -/
theorem C17_pre041_unknown_type_skipped (o : OldConn) (h1 : o.type ≠ key "Source") (h2 : o.type ≠ key "Destination") :
    migrateInst o = none := by
  simp [migrateInst, h1, h2]

theorem isOldKey_storeKey_old (sfx : Str) : isOldKey (storeKey connPre041KeyPrefix sfx) = true := by
  simp [isOldKey, storeKey, List.isPrefixOf_iff_prefix]

theorem isOldKey_storeKey_new (id : Str) : isOldKey (storeKey connKeyPrefix id) = false :=
  C17_store_keys.2.2.1 id

/-- "records of older supported formats are still understood", for a *store*: the migration run by
`NewStore` is a per-record map — the record the restarted server finds at position `i` depends on
the record that was at position `i` and on nothing else; migrating two stores put together is
putting the two migrated stores together (whatever else is in the store — other old connectors with
other plugins / setting keys / missing members, current-format records — and in whatever order). -/
theorem C17_pre041_store_independent (a b : KV) :
    migrateStore (a ++ b) = migrateStore a ++ migrateStore b ∧
    (∀ (db : KV) (i : Nat), (migrateStore db)[i]? = db[i]?.map migrateRec) ∧
    (∀ (db : KV) (r : Str × List Char), r ∈ migrateStore db ↔ ∃ r₀ ∈ db, migrateRec r₀ = r) := by
  refine ⟨by simp [migrateStore], fun db i => by simp [migrateStore], fun db r => by simp [migrateStore]⟩

/-- records that are not in the old format (current connectors, pipelines, processors, anything
else in the database) come through the migration untouched, byte for byte. -/
theorem C17_pre041_store_leaves_current_untouched (db : KV) (r : Str × List Char) (hr : r ∈ db)
    (hk : isOldKey r.1 = false) : migrateRec r = r ∧ r ∈ migrateStore db := by
  have h : migrateRec r = r := by simp [migrateRec, hk]
  exact ⟨h, by simp only [migrateStore, List.mem_map]; exact ⟨r, hr, h⟩⟩

/-- every well-formed old record of the store — wherever it sits, under whatever old key, next to
whatever other records — ends up under the new key of its own ID, as bytes from which a store reads
exactly the specified instance (all its own fields, nothing from any other record). -/
theorem C17_pre041_store_migrates_each (db₁ db₂ : KV) (sfx : Str) (o : OldRecord) (h : o.WF) (hid : o.xid ≠ []) :
    ∃ bytes, migrateStore (db₁ ++ (storeKey connPre041KeyPrefix sfx, (encOld o).print) :: db₂)
        = migrateStore db₁ ++ (storeKey connKeyPrefix o.xid, bytes) :: migrateStore db₂ ∧
      loadConn bytes = some (.ok o.migrated) := by
  have ht := C17_pre041_migration_from_text o h hid
  cases hm : (parse (encOld o).print).bind migrateDoc with
  | none => rw [hm] at ht; simp at ht
  | some p =>
    rw [hm] at ht
    simp only [Option.map_some, Option.some.injEq, Prod.mk.injEq] at ht
    refine ⟨p.2.print, ?_, ?_⟩
    · simp only [migrateStore, List.map_append, List.map_cons, migrateRec, isOldKey_storeKey_old, if_true, hm, ht.1]
    · simp [loadConn, parse_print, ht.2]

/-- a second restart finds nothing left to migrate and changes nothing. -/
theorem C17_pre041_store_idempotent (db : KV) : migrateStore (migrateStore db) = migrateStore db := by
  simp only [migrateStore, List.map_map]
  apply List.map_congr_left
  intro r _
  simp only [Function.comp]
  by_cases hk : isOldKey r.1 = true
  · cases hm : (parse r.2).bind migrateDoc with
    | none =>
      have : migrateRec r = r := by simp [migrateRec, hk, hm]
      rw [this, this]
    | some p =>
      have : migrateRec r = (storeKey connKeyPrefix p.1, p.2.print) := by simp [migrateRec, hk, hm]
      rw [this]
      simp [migrateRec, isOldKey_storeKey_new]
  · have : migrateRec r = r := by simp [migrateRec, hk]
    rw [this, this]

/-- a restart reads every stored pipeline back (the round trip), applies `pipeline.Service.Init`
and starts what `lifecycle.Service.Init` selects. -/
theorem C17_restart_loads_all (ps : List PipeInstance) (h : ∀ p ∈ ps, p.WF) :
    restart (ps.map storePipe) = some (pipelineInit ps, lifecycleStarts (pipelineInit ps)) := by
  have : (ps.map storePipe).mapM loadedPipe = some ps := by
    induction ps with
    | nil => rfl
    | cons p t ih =>
      have hp : loadedPipe (storePipe p) = some p := by
        have := C17_pipeline_roundtrip p (h p (by simp))
        simp only [PipeSurvives] at this
        simp [loadedPipe, this]
      have := ih (fun q hq => h q (by simp [hq]))
      simp [List.mapM_cons, hp, this]
  unfold restart
  rw [this]

/-- a pipeline stored with status Running is, after the restart, in memory with status
SystemStopped — everything else about it as stored — and is among the pipelines that
`lifecycle.Service.Init` starts. -/
theorem C17_running_resumed (ps : List PipeInstance) (p : PipeInstance) (hp : p ∈ ps)
    (hr : p.status = statusRunning) :
    { p with status := statusSystemStopped } ∈ pipelineInit ps ∧ p.id ∈ lifecycleStarts (pipelineInit ps) :=
  ⟨List.mem_map.mpr ⟨p, hp, if_pos hr⟩, (mem_starts_init ps _).mpr ⟨p, hp, rfl, .inl hr⟩⟩

/-- a pipeline stored as SystemStopped (the server went down before resuming it) is resumed too. -/
theorem C17_system_stopped_resumed (ps : List PipeInstance) (p : PipeInstance) (hp : p ∈ ps)
    (hs : p.status = statusSystemStopped) :
    p ∈ pipelineInit ps ∧ p.id ∈ lifecycleStarts (pipelineInit ps) :=
  ⟨List.mem_map.mpr ⟨p, hp, if_neg (by rw [hs]; decide)⟩, (mem_starts_init ps _).mpr ⟨p, hp, rfl, .inr hs⟩⟩

/-- a pipeline stored UserStopped, Degraded (or any status other than Running / SystemStopped) is
in memory exactly as stored and is NOT started (store keys, i.e. IDs, are distinct). -/
theorem C17_stopped_not_resumed (ps : List PipeInstance) (hn : (ps.map (·.id)).Nodup) (p : PipeInstance)
    (hp : p ∈ ps) (h1 : p.status ≠ statusRunning) (h2 : p.status ≠ statusSystemStopped) :
    p ∈ pipelineInit ps ∧ p.id ∉ lifecycleStarts (pipelineInit ps) := by
  refine ⟨List.mem_map.mpr ⟨p, hp, if_neg h1⟩, fun h => ?_⟩
  obtain ⟨q, hq, hid, hs⟩ := (mem_starts_init ps _).mp h
  cases eq_of_mem_of_id_eq ps hn q hq p hp hid
  exact hs.elim h1 h2

/-- in particular UserStopped and Degraded. -/
theorem C17_user_stopped_and_degraded_not_resumed (ps : List PipeInstance) (hn : (ps.map (·.id)).Nodup)
    (p : PipeInstance) (hp : p ∈ ps) (h : p.status = statusUserStopped ∨ p.status = statusDegraded) :
    p.id ∉ lifecycleStarts (pipelineInit ps) := by
  apply (C17_stopped_not_resumed ps hn p hp _ _).2 <;> (rcases h with h | h <;> rw [h] <;> decide)

/-- `pipeline.Service.Init` changes nothing but the status, and only Running → SystemStopped. -/
theorem C17_init_changes_only_status (p : PipeInstance) :
    { initStatus p with status := p.status } = p ∧
    ((initStatus p).status = p.status ∨ (p.status = statusRunning ∧ (initStatus p).status = statusSystemStopped)) := by
  unfold initStatus
  by_cases h : p.status = statusRunning
  · cases p; simp_all
  · simp [h]

/-! ## non-vacuity: the hypotheses are satisfiable, the functions compute

Closed facts that walk string literals (`key "…"`, printed documents) are evaluated by the kernel
(`decide +kernel`); the small ones go through plain `decide`. -/

def exConn : ConnInstance :=
  { id := key "c<1>", type := typeDestination, config := ⟨key "n\"\\\n", some [(key "!", key "é"), (key "", key "😀"), (key "a!", []), (key "a", key "\u2028")]⟩,
    pipelineID := key "p", plugin := key "builtin:file", processorIDs := some [key "b", key "a", key "b"],
    state := .destination (some [(key "s1", none), (key "s2", some []), (key "s3", some [0, 255, 16])]),
    provisionedBy := 1, createdAt := ⟨2026, 6, 15, 9, 30, 0, 123000000, 330⟩, updatedAt := Time.zero,
    lastActiveConfig := ⟨[], none⟩ }

example : exConn.WF := by
  refine ⟨?_, trivial, ?_, by decide, by decide, ?_⟩
  · show SMap.Sorted _; unfold SMap.Sorted; decide +kernel
  · show SMap.Sorted _; unfold SMap.Sorted; decide +kernel
  · show typeDestination = typeDestination; rfl

/-- goccy's member order (by quoted key): `"!"` before `""` before `"a!"` before `"a"`. -/
example : keyLt (key "!") (key "") = true ∧ keyLt (key "") (key "a!") = true ∧ keyLt (key "a!") (key "a") = true := by decide +kernel

/-- the stored text of the state and of the settings map of `exConn`, as goccy writes them. -/
example : (encConnState exConn.state).print = "{\"Positions\":{\"s1\":null,\"s2\":\"\",\"s3\":\"AP8Q\"}}".toList := by
  decide +kernel

example : (encStrMap exConn.config.settings).print = "{\"!\":\"é\",\"\":\"😀\",\"a!\":\"\",\"a\":\"\\u2028\"}".toList := by
  decide +kernel

example : b64Encode [0, 255, 16] = "AP8Q".toList ∧ b64Decode "AP8=".toList = some [0, 255] ∧ b64Decode "AP8".toList = none := by decide +kernel

example : quote [Char.ofNat 8, '<', '\n', Char.ofNat 0x2028, Char.ofNat 0x1F600, Char.ofNat 0x7f] =
    "\"\\u0008\\u003c\\n\\u2028😀\x7f\"".toList := by decide +kernel

/-- the restart theorems have instances: a Running and a UserStopped pipeline. -/
def exPipe (id : String) (status : Int64) : PipeInstance :=
  { id := key id, config := ⟨key "n", []⟩, error := [], createdAt := Time.zero, updatedAt := Time.zero,
    provisionedBy := 0, dlq := ⟨key "builtin:log", some [], 1, 0⟩, connectorIDs := none, processorIDs := some [],
    status := status }

example : (exPipe "a" statusRunning).WF ∧ (exPipe "b" statusUserStopped).WF :=
  ⟨⟨by show SMap.Sorted _; unfold SMap.Sorted; decide, by decide, by decide⟩,
   ⟨by show SMap.Sorted _; unfold SMap.Sorted; decide, by decide, by decide⟩⟩

example : lifecycleStarts (pipelineInit [exPipe "a" statusRunning, exPipe "b" statusUserStopped, exPipe "c" statusDegraded]) = [key "a"] := by
  decide +kernel

end Conduit.Codec
