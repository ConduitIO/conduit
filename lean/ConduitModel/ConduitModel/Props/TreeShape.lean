import ConduitModel.Proofs.TreeBuild
import ConduitModel.Props.MonSound

/-!
# Every task tree the arch-v2 service builds is one the monitor-soundness theorems cover

`Props/MonSound.lean` proves that all clauses of the trace monitor (C01, C04, C05, C07, C08) are
silent on every run of the engine model for trees `tree` with `Fan1 tree`, `tree.kind = .source` and
`(tasksS tree).Nodup`. Here: the tree that `lifecycle-poc.(*Service).buildRunnablePipeline` links for
the worker of a source (`workerTree`, `Model/TreeBuild.lean`: `AppendToEnd`, `buildSharedTail` and the
per-source loop, statement by statement) ALWAYS has that shape, for every number of sources'
processors, shared processors, destinations and destination processors:

* `workerTree_some` / `workerTreeE_never_multiNext` — the construction never hits `AppendToEnd`'s
  "(bug) multiple next tasks" exit (the second for ALL arguments, even malformed ones);
* `workerTree_fan1`, `workerTree_kind`, `workerTree_tasks`, `workerTree_nodup`, `workerTree_dests`,
  `workerTree_dests_service`;
* `monitor_sound_built`, `C01_v2_monitor_sound_built` — `monitor_sound_fan1` /
  `C01_v2_monitor_sound_fan1` instantiated with `tree := workerTree …`.

Hypotheses on the arguments (`SrcOK`, `BranchesOK`) are what `buildSourceTasks` /
`buildDestinationTasks` guarantee by construction (`srcChain`, `destChain`: `srcChain_ok`,
`destChains_ok`). The model is tied to the code by the `treeshape` / `appendtoend` correspondence
(the REAL service builder and the REAL `AppendToEnd` against this model) and `Facts/TreeShape.lean`.

Distinct task ids. `(tasksS tree).Nodup` follows when the ids handed in are pairwise distinct. The
code itself checks this only in part: `funnel.NewSink` refuses a duplicate below the shared roots,
`funnel.NewWorker` one inside the source's own prefix, `MakeRunnableProcessor` a processor instance
used twice — a SOURCE CONNECTOR id equal to a shared PROCESSOR id is checked nowhere (connectors and
processors live in separate id spaces). Besides these duplicate checks a task id only ends up in log lines, error messages and the nack-node metadata of
a dead-lettered record (`DLQ.dlqRecord`) in the Go engine, so this
does not touch what the engine acknowledges; for the theorem it is the hypothesis `hids` (see also `Props/TreeBuilt.lean`).
-/
namespace Conduit.Funnel
open Conduit.Funnel.Mon

/-- `srcTaskSet.tasks`: non-empty, the first task is the source task -/
def SrcOK (src : List TaskSpec) : Prop := ∃ (s : Nat) (rest : List TaskSpec), src = (s, .source) :: rest

/-- every destination branch has a task (`buildDestinationTasks` always appends the destination task) -/
def BranchesOK (dests : List (List TaskSpec)) : Prop := ∀ b ∈ dests, b ≠ []

theorem srcChain_ok (s : Nat) (ps : List Nat) : SrcOK (srcChain s ps) := ⟨s, _, rfl⟩

theorem destChains_ok (ds : List (Nat × List Nat)) : BranchesOK (ds.map fun d => destChain d.1 d.2) := by
  intro b hb
  obtain ⟨d, _, rfl⟩ := List.mem_map.mp hb
  simp [destChain]

/-- all task ids handed to the construction, in tree order -/
def inputIds (src : List TaskSpec) (procs : List Nat) (dests : List (List TaskSpec)) : List Nat :=
  src.map (·.1) ++ procs ++ dests.flatten.map (·.1)

/-- The construction succeeds: it never takes `AppendToEnd`'s ">1 Next" error exit (nor any other). -/
theorem workerTree_some (src : List TaskSpec) (procs : List Nat) (dests : List (List TaskSpec))
    (hs : SrcOK src) (hd : BranchesOK dests) : ∃ t, workerTree src procs dests = some t := by
  obtain ⟨s, rest, rfl⟩ := hs
  exact ⟨_, workerTree_ok _ rest procs dests hd⟩

/-- For ALL arguments (also empty task lists / empty branches, which the service never passes) the
only failures are the explicit emptiness exits: `AppendToEnd` is only ever called on chains, so its
"(bug) multiple next tasks" error is unreachable from `buildSharedTail` / `buildRunnablePipeline`. -/
theorem workerTreeE_never_multiNext (src : List TaskSpec) (procs : List Nat) (dests : List (List TaskSpec)) :
    workerTreeE src procs dests ≠ .error .multiNext := by
  intro h
  rw [workerTreeE] at h
  cases hb : buildSharedTail procs dests with
  | error e =>
    rw [hb] at h
    simp only at h
    have := (buildSharedTail_err procs dests e hb).1
    rw [this] at h
    cases h
  | ok roots =>
    rw [hb] at h
    simp only at h
    cases src with
    | nil => simp [sourceTree] at h
    | cons f rest => rw [sourceTree_ok] at h; cases h

/-- the closed form of the tree -/
theorem workerTree_eq (src : List TaskSpec) (procs : List Nat) (dests : List (List TaskSpec))
    (hs : SrcOK src) (hd : BranchesOK dests) (t : TaskNode) (h : workerTree src procs dests = some t) :
    ∃ (s : Nat) (rest : List TaskSpec), src = (s, .source) :: rest ∧ t = chainN (s, .source) rest (sharedRootsOf procs dests) := by
  obtain ⟨s, rest, rfl⟩ := hs
  rw [workerTree_ok _ rest procs dests hd] at h
  exact ⟨s, rest, rfl, (Option.some.inj h).symm⟩

/-- No fan-out below a fan-out: a linear prefix (source, its processors, the shared processors), at
most one fan-out (into the destination branches), every branch linear. -/
theorem workerTree_fan1 (src : List TaskSpec) (procs : List Nat) (dests : List (List TaskSpec))
    (hs : SrcOK src) (hd : BranchesOK dests) (t : TaskNode) (h : workerTree src procs dests = some t) : Fan1 t := by
  obtain ⟨s, rest, _, rfl⟩ := workerTree_eq src procs dests hs hd t h
  exact fan1_workerShape _ rest procs dests hd

/-- The root is the source task. -/
theorem workerTree_kind (src : List TaskSpec) (procs : List Nat) (dests : List (List TaskSpec))
    (hs : SrcOK src) (hd : BranchesOK dests) (t : TaskNode) (h : workerTree src procs dests = some t) :
    t.kind = .source := by
  obtain ⟨s, rest, _, rfl⟩ := workerTree_eq src procs dests hs hd t h
  rfl

/-- The tasks of the tree are exactly the tasks handed in, each once, in the order source chain,
shared processors, destination branches. -/
theorem workerTree_tasks (src : List TaskSpec) (procs : List Nat) (dests : List (List TaskSpec))
    (hs : SrcOK src) (hd : BranchesOK dests) (t : TaskNode) (h : workerTree src procs dests = some t) :
    tasksS t = inputIds src procs dests := by
  obtain ⟨s, rest, rfl, rfl⟩ := workerTree_eq src procs dests hs hd t h
  exact tasksS_workerShape _ rest procs dests hd

/-- Pairwise distinct ids in, pairwise distinct task ids in the tree. -/
theorem workerTree_nodup (src : List TaskSpec) (procs : List Nat) (dests : List (List TaskSpec))
    (hs : SrcOK src) (hd : BranchesOK dests) (hids : (inputIds src procs dests).Nodup)
    (t : TaskNode) (h : workerTree src procs dests = some t) : (tasksS t).Nodup := by
  rw [workerTree_tasks src procs dests hs hd t h]; exact hids

/-- The destinations of the tree (`Mon.dests`, what the C01 clause quantifies over) are the
destination tasks handed in. -/
theorem workerTree_dests (src : List TaskSpec) (procs : List Nat) (dests : List (List TaskSpec))
    (hs : SrcOK src) (hd : BranchesOK dests) (t : TaskNode) (h : workerTree src procs dests = some t) :
    Mon.dests t = destIds src ++ destIds dests.flatten := by
  obtain ⟨s, rest, rfl, rfl⟩ := workerTree_eq src procs dests hs hd t h
  exact dests_workerShape _ rest procs dests hd

/-- With the task lists as `buildSourceTasks` / `buildDestinationTasks` make them: the destinations of
the tree are the destination connectors, in `pl.ConnectorIDs` order. -/
theorem workerTree_dests_service (s : Nat) (sprocs procs : List Nat) (ds : List (Nat × List Nat)) (t : TaskNode)
    (h : workerTree (srcChain s sprocs) procs (ds.map fun d => destChain d.1 d.2) = some t) :
    Mon.dests t = ds.map (·.1) := by
  rw [workerTree_dests _ _ _ (srcChain_ok s sprocs) (destChains_ok ds) t h, destIds_srcChain, destIds_destChains]
  rfl

/-- **Monitor soundness for every tree the service can build.** ALL clauses of the trace monitor (C01,
C04, C05, C07, C08) are silent on every run of the engine model on the tree the arch-v2 service
links for a source worker — any source processors, shared processors, number of destinations and
destination processors; record splitting included. `hids`: the task ids are pairwise distinct; the
remaining hypotheses are the run hypotheses of `monitor_sound_fan1`. -/
theorem monitor_sound_built (src : List TaskSpec) (procs : List Nat) (dests : List (List TaskSpec))
    (hs : SrcOK src) (hd : BranchesOK dests) (hids : (inputIds src procs dests).Nodup)
    (tree : TaskNode) (hbuilt : workerTree src procs dests = some tree)
    (fuel : Nat) (scripts : List (Nat × List Reply)) (batches : List (List Rec)) (s₀ : PS)
    (hsorted : (batches.flatten.map Mon.root).Pairwise (· < ·))
    (hlog : s₀.log = #[]) (hscr : s₀.scripts = scripts)
    (hrp : RootPreserving scripts ((runBatches fuel tree batches).run.run s₀).2.log.toList)
    (hft : FreshTags scripts batches ((runBatches fuel tree batches).run.run s₀).2.log.toList) :
    Mon.run tree scripts batches ((runBatches fuel tree batches).run.run s₀).2.log.toList = [] :=
  monitor_sound_fan1 fuel tree scripts batches s₀
    (workerTree_fan1 src procs dests hs hd tree hbuilt) (workerTree_kind src procs dests hs hd tree hbuilt)
    (workerTree_nodup src procs dests hs hd hids tree hbuilt) hsorted hlog hscr hrp hft

/-- the same per property clause (`c = .c01`, `.c04`, `.c05`, `.c07`, `.c08`) -/
theorem C01_v2_monitor_sound_built (src : List TaskSpec) (procs : List Nat) (dests : List (List TaskSpec))
    (hs : SrcOK src) (hd : BranchesOK dests) (hids : (inputIds src procs dests).Nodup)
    (tree : TaskNode) (hbuilt : workerTree src procs dests = some tree)
    (fuel : Nat) (scripts : List (Nat × List Reply)) (batches : List (List Rec)) (s₀ : PS)
    (hsorted : (batches.flatten.map Mon.root).Pairwise (· < ·))
    (hlog : s₀.log = #[]) (hscr : s₀.scripts = scripts)
    (hrp : RootPreserving scripts ((runBatches fuel tree batches).run.run s₀).2.log.toList)
    (hft : FreshTags scripts batches ((runBatches fuel tree batches).run.run s₀).2.log.toList) (c : Clause) :
    Mon.runTagged c tree scripts batches ((runBatches fuel tree batches).run.run s₀).2.log.toList = [] :=
  C01_v2_monitor_sound_fan1 fuel tree scripts batches s₀
    (workerTree_fan1 src procs dests hs hd tree hbuilt) (workerTree_kind src procs dests hs hd tree hbuilt)
    (workerTree_nodup src procs dests hs hd hids tree hbuilt) hsorted hlog hscr hrp hft c

/-! ## non-vacuity -/
namespace ExTree

/-- source 1 with its processor 2; shared processors 3, 4; destination 6 behind its processor 5, destination 7 -/
example : workerTree (srcChain 1 [2]) [3, 4] [destChain 6 [5], destChain 7 []] =
    some (.mk 1 .source [.mk 2 .proc [.mk 3 .proc [.mk 4 .proc [.mk 5 .proc [.mk 6 .dest []], .mk 7 .dest []]]]]) := rfl
/-- no shared processors: the fan-out sits directly below the source's own chain -/
example : workerTree (srcChain 1 [2]) [] [destChain 6 [5], destChain 7 [], destChain 9 [8]] =
    some (.mk 1 .source [.mk 2 .proc [.mk 5 .proc [.mk 6 .dest []], .mk 7 .dest [], .mk 8 .proc [.mk 9 .dest []]]]) := rfl
/-- a single destination: a linear pipeline -/
example : workerTree (srcChain 1 []) [3] [destChain 6 [5]] =
    some (.mk 1 .source [.mk 3 .proc [.mk 5 .proc [.mk 6 .dest []]]]) := rfl
example : (inputIds (srcChain 1 [2]) [3, 4] [destChain 6 [5], destChain 7 []]).Nodup := by decide
example : SrcOK (srcChain 1 [2]) ∧ BranchesOK [destChain 6 [5], destChain 7 []] :=
  ⟨srcChain_ok 1 [2], destChains_ok [(6, [5]), (7, [])]⟩
/-- the error exits exist (and are not the "multiple next tasks" one) -/
example : workerTreeE (srcChain 1 []) [3] [destChain 6 [], []] = .error .emptyBranch := rfl
example : workerTreeE [] [3] [destChain 6 []] = .error .noTasks := rfl
/-- `AppendToEnd` does refuse a node with two children — reachable only by calling it directly -/
example : appendToEnd (.mk 1 .source [.mk 2 .dest [], .mk 3 .dest []]) [.mk 4 .proc []] = none := rfl
example : appendToEnd (.mk 1 .source [.mk 5 .proc [.mk 2 .dest [], .mk 3 .dest []]]) [.mk 4 .proc []] = none := rfl

/-- the soundness theorem applies to the tree built for the fan-out + splitting example of
`Props/MonSound.lean` (`ExFanSplit`: source 0, shared processor 1, destination 2, destination 3 behind
its processor 4) -/
example : workerTree (srcChain 0 []) [1] [destChain 2 [], destChain 3 [4]] = some ExFanSplit.tree := rfl
example : Mon.run ExFanSplit.tree ExFanSplit.scripts ExFanSplit.batches
    ((runBatches 40 ExFanSplit.tree ExFanSplit.batches).run.run ExFanSplit.s0).2.log.toList = [] :=
  monitor_sound_built (srcChain 0 []) [1] [destChain 2 [], destChain 3 [4]] (srcChain_ok 0 [])
    (destChains_ok [(2, []), (3, [4])]) (by decide) ExFanSplit.tree rfl 40 ExFanSplit.scripts ExFanSplit.batches
    ExFanSplit.s0 (by decide) rfl rfl ExFanSplit.hrp ExFanSplit.hft

end ExTree

end Conduit.Funnel
