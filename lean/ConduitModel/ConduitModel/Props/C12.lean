import ConduitModel.Model.ForceStop
import ConduitModel.Proofs.LifecycleTomb
import ConduitModel.Props.C10

/-!
# C12 — force stop ends the run, marks it failed-by-force-stop without restart

Statement (properties.jsonl C12): "A forced stop issued at any moment - during start-up, mid-batch,
while a destination or the DLQ is unresponsive, during a graceful stop - makes the run terminate,
marks the pipeline as failed-by-force-stop without automatic restart, and never causes a record to
be acknowledged that was not handled. The pipeline can afterwards be started again …"

Decided here: the latch law of `forceStopper` (a force stop that races node start-up is neither lost
nor a nil-deref) and the control-plane clause (force stop ⇒ Degraded with ErrForceStop, no restart)
over M5. The data-path clauses (no ack without handling, restart from the durable position) are
monitored on every lifecycle trace (`Spec.Lifecycle`: `ack-without-write`,
`restart-skips-unwritten-record`) and are proved over M2–M4 by the C01/C03 models.
-/
namespace Conduit.ForceStop

theorem run_stops_fresh : ∀ (pre : List Ev) (l : Latch), l.ctxs = [] → (∀ e ∈ pre, e = Ev.stop) →
    (run l pre).ctxs = [] ∧ (run l pre).stopped = (l.stopped || !pre.isEmpty)
  | [], l, h, _ => by simp [run, h]
  | e :: es, l, h, hp => by
    have he : e = Ev.stop := hp e (by simp)
    subst he
    have := run_stops_fresh es { l with stopped := true } h (fun e he => hp e (by simp [he]))
    simp only [run, List.foldl_cons, step, h, if_true] at this ⊢
    simpa using this

theorem cancelLast_single (b : Bool) : cancelLast [b] = [true] := rfl

theorem run_stops_after : ∀ (post : List Ev) (b : Bool) (st : Bool), (∀ e ∈ post, e = Ev.stop) →
    (run { ctxs := [b], stopped := st } post).ctxs = [b || !post.isEmpty]
  | [], b, st, _ => by simp [run]
  | e :: es, b, st, hp => by
    have he : e = Ev.stop := hp e (by simp)
    subst he
    have := run_stops_after es true st (fun e he => hp e (by simp [he]))
    simp only [run, List.foldl_cons, step] at this ⊢
    simpa [cancelLast] using this

/-- C12.force_stop_latch — "for every instant of the force stop relative to node start-up": for ANY
number of `ForceStop` calls before and after the node's single `start()`, as soon as there is at
least one, the node's connector context ends up cancelled — a stop before `start` is latched, a
stop after `start` cancels directly; none is lost. -/
theorem C12_force_stop_latch (pre post : List Ev) (hpre : ∀ e ∈ pre, e = Ev.stop)
    (hpost : ∀ e ∈ post, e = Ev.stop) (hsome : pre ≠ [] ∨ post ≠ []) :
    (run {} (pre ++ [Ev.start] ++ post)).ctxs = [true] := by
  have h1 := run_stops_fresh pre {} rfl hpre
  simp only [run, List.foldl_append, List.foldl_cons, List.foldl_nil] at h1 ⊢
  obtain ⟨hc, hs⟩ := h1
  generalize List.foldl step {} pre = l at hc hs ⊢
  obtain ⟨ctxs, stopped⟩ := l
  simp only at hc hs
  subst hc
  have h2 := run_stops_after post stopped stopped hpost
  simp only [run, step, List.nil_append] at h2 ⊢
  rw [h2, hs]
  rcases hsome with h | h
  · cases pre with
    | nil => exact absurd rfl h
    | cons => simp
  · cases post with
    | nil => exact absurd rfl h
    | cons => simp

/-- without any force stop the context stays live (the law is not vacuous). -/
example : (run {} [Ev.start]).ctxs = [false] := by decide
example : (run {} [Ev.stop, Ev.start]).ctxs = [true] := by decide
example : (run {} [Ev.start, Ev.stop]).ctxs = [true] := by decide
/-- The latch is single-shot (documented in force_stop.go): a SECOND `start` after a direct cancel
hands out a live context. Nodes call `start` exactly once per Run (Facts/C12). -/
example : (run {} [Ev.start, Ev.stop, Ev.start]).ctxs = [true, false] := by decide

end Conduit.ForceStop

namespace Conduit.Lifecycle

/-- C12.force_stop_terminal (1/3) — a force stop that reaches a run whose tomb is still alive
records `FatalError(ErrForceStop)` as THE reason of that run, in both engines, whatever else is
going on (start-up not finished, graceful stop in progress, nodes blocked). -/
theorem C12_force_stop_records_fatal {s s' : State} {m : Nat}
    (h : step s (.stop true) = some s') (he : s.entry = some m)
    (hst : s.status = .running ∨ s.status = .recovering) (ht : (s.runs m).tomb = none) :
    (s'.runs m).tomb = some .forceStop ∧ Cause.forceStop.isFatal = true := by
  cases Step.of_step h
  have hc : ¬(s.status ≠ .running ∧ s.status ≠ .recovering) := by rcases hst with h | h <;> simp [h]
  simp only [stopState, he, hc, forceState, setRun_runs, ite_true, ite_false, ht]
  exact ⟨rfl, rfl⟩

/-- C12.force_stop_terminal (2/3) — that reason is never replaced (tomb keeps the first Kill), for
every continuation of the run. -/
theorem C12_force_stop_reason_kept {eng cfg fx} {s s' : State} {m : Nat} (hr : Reach eng cfg fx s)
    (evs : List Event) (h : runFrom s evs = some s') (ht : (s.runs m).tomb = some .forceStop) :
    (s'.runs m).tomb = some .forceStop :=
  runFrom_tomb_stable evs (reach_inv hr) h ht

/-- C12.force_stop_terminal (3/3) — when the run's cleanup goroutine classifies it, a fatal tomb
reason (in particular ErrForceStop) selects the Degraded arm with that cause, never the recovery arm
— in both engines, whatever the shutdown / intentional-stop flags say. -/
theorem C12_force_stop_degrades {s s' : State} {n : Nat} {sink : Option Cause} {c : Cause}
    (h : step s (.cleanupWake n sink) = some s') (ht : (s.runs n).tomb = some c) (hf : c.isFatal = true) :
    (s'.runs n).cpc = .decided (.degrade c) ∧ (Action.degrade c).status = .degraded :=
  ⟨(C10_fatal_degrades h ht hf).1, rfl⟩

/-- … and a run on the recovery path was classified with a NON-fatal error: a force-stopped (or
otherwise fatally failed) run is never restarted. -/
theorem C12_no_restart_after_fatal {eng cfg fx} {s : State} (hr : Reach eng cfg fx s) (i : Nat)
    (hrec : recoverish (s.runs i).cpc = true) : ∃ c, (s.runs i).cerr = some c ∧ c.isFatal = false :=
  C10_fatal_never_restarts hr i hrec

/-- non-vacuity: a force stop of a running v2 pipeline ends Degraded by force stop. -/
example : ((runFrom (init .v2 ⟨some 3, 1, 2, 5⟩)
    [.startUser, .buildOk 0, .publish 0, .writeRunning 0 true, .startReturn, .stop true,
     .nodeExit 0 .nodeTransient, .cleanupWake 0 none, .writeStatus 0 true, .setTerminalErr 0, .deleteEntry 0]).map
      fun s => (s.status, s.terminalErr, s.entry, s.restarts)) =
    some (.degraded, some (some .forceStop), none, 0) := by decide

end Conduit.Lifecycle
