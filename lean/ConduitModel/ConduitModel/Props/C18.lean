import ConduitModel.Proofs.Egress
import ConduitModel.Proofs.NatDigits

/-!
# C18 — processor egress never reaches private/metadata addresses unless carved out

Statement (properties.jsonl C18): "A host-mediated request made on behalf of a standalone
processor connects only to an address that is public unicast, or that is an exact IP-and-port
pair the operator explicitly allowed; loopback, private, link-local (cloud metadata), CGNAT,
multicast and every IPv6 form that embeds such an IPv4 address are refused for every resolved
candidate at connect time, whatever the hostname, encoding, redirect or proxy environment. The
effective policy of a processor never exceeds the operator's engine-wide ceiling in hosts,
secrets, timeout or response size."

The theorems here are for EVERY table set `t`, policy, port, resolver answer list and connect
outcome; `CoversFloor t` (every address of the documented floor is refused by `t`) is proved for
the regenerated tables in `Facts/C18` (∀ a < 2^32, ∀ x < 2^128, kernel-checked, no enumeration).
-/
namespace Conduit.Egress

/-- "refused for every resolved candidate at connect time":
for every resolver answer list (any length, order, mix of address forms), every policy, port,
connect outcome AND every way the base dialer may derive socket addresses from a candidate
(`expand`: wildcard fallback, happy eyeballs …), connect(2) is attempted only on an address that
`Refuse` allows by range or that is an exact (IP, port) allowlist entry — and only for candidates
that passed the per-candidate gate. -/
theorem C18_dial_only_unrefused_or_carved (t : Tables) (p : Policy) (port : String) (expand : IP → List IP)
    (ok : IP → Bool) (hv : ∀ ip, ∀ a ∈ expand ip, a.Valid) (cands : List IP) :
    ∀ a ∈ connectAttempts (dialContext t p port expand ok cands).flatten,
      (refused t a = false ∨ matchesCarveOut p a port = true) ∧
      ∃ ip ∈ cands, a ∈ expand ip ∧ (refused t ip = false ∨ matchesCarveOut p ip port = true) := by
  induction cands with
  | nil => simp [dialContext, connectAttempts]
  | cons c cs ih =>
    intro a ha
    have lift : ∀ a ∈ connectAttempts (dialContext t p port expand ok cs).flatten,
        (refused t a = false ∨ matchesCarveOut p a port = true) ∧
        ∃ ip ∈ c :: cs, a ∈ expand ip ∧ (refused t ip = false ∨ matchesCarveOut p ip port = true) := by
      intro a h
      obtain ⟨h1, ip, hip, h2⟩ := ih a h
      exact ⟨h1, ip, List.mem_cons_of_mem _ hip, h2⟩
    unfold dialContext at ha
    by_cases hg : (refused t c && !matchesCarveOut p c port) = true
    · simp only [hg, if_true, List.flatten_cons, connectAttempts_append, connectAttempts, List.nil_append] at ha
      exact lift a ha
    · have hgate : refused t c = false ∨ matchesCarveOut p c port = true := by
        cases h1 : refused t c
        · exact Or.inl rfl
        · exact Or.inr (by simpa [h1] using hg)
      have hbase := connectAttempts_baseDial t p port ok (expand c) (hv c)
      simp only [hg, if_false, Bool.false_eq_true] at ha
      by_cases hcn : (baseDial t p port ok (expand c)).any Attempt.isConnected = true
      · simp only [hcn, if_true, List.flatten_cons, List.flatten_nil, List.append_nil] at ha
        exact ⟨(hbase a ha).2, c, by simp, (hbase a ha).1, hgate⟩
      · simp only [hcn, if_false, Bool.false_eq_true, List.flatten_cons, connectAttempts_append,
          List.mem_append] at ha
        rcases ha with ha | ha
        · exact ⟨(hbase a ha).2, c, by simp, (hbase a ha).1, hgate⟩
        · exact lift a ha

/-- the property's first sentence: with tables that cover the
floor, every address connect(2) is attempted on is outside the floor (loopback, this-network,
RFC 1918, link-local/metadata, CGNAT, multicast/reserved, ULA, site-local and every embedded-IPv4
form of those) or is an exact (IP, port) pair of the allowlist. -/
theorem C18_dial_only_public_or_carved (t : Tables) (hc : CoversFloor t) (p : Policy) (port : String)
    (expand : IP → List IP) (ok : IP → Bool) (hv : ∀ ip, ∀ a ∈ expand ip, a.Valid) (cands : List IP) :
    ∀ a ∈ connectAttempts (dialContext t p port expand ok cands).flatten,
      ¬ Floor a ∨ matchesCarveOut p a port = true := by
  intro a ha
  obtain ⟨h | h, ip, _, hmem, _⟩ := C18_dial_only_unrefused_or_carved t p port expand ok hv cands a ha
  · refine Or.inl fun hf => ?_
    have := hc a (hv ip a hmem) hf
    simp [h] at this
  · exact Or.inr h

/-- "for every resolved candidate": an address that is
refused and not carved out is never connected to, wherever it stands in the answer
(public-then-private, private-then-public, dual stack) and however the dialer got to it. -/
theorem C18_every_refused_address_untouched (t : Tables) (p : Policy) (port : String) (expand : IP → List IP)
    (ok : IP → Bool) (hv : ∀ ip, ∀ a ∈ expand ip, a.Valid) (cands : List IP) (a : IP)
    (hr : refused t a = true) (hn : matchesCarveOut p a port = false) :
    a ∉ connectAttempts (dialContext t p port expand ok cands).flatten := by
  intro h
  rcases (C18_dial_only_unrefused_or_carved t p port expand ok hv cands a h).1 with h' | h' <;> simp_all

/-- a candidate the gate refuses produces exactly one
`skipped` event: the base dialer is not even called for it. -/
theorem C18_refused_candidate_never_reaches_dialer (t : Tables) (p : Policy) (port : String)
    (expand : IP → List IP) (ok : IP → Bool) (ip : IP) (rest : List IP)
    (hr : refused t ip = true) (hn : matchesCarveOut p ip port = false) :
    dialContext t p port expand ok (ip :: rest) = [.skipped ip] :: dialContext t p port expand ok rest := by
  rw [dialContext]; simp [hr, hn]

/-- the syscall-level `Control` hook decides on the re-parsed
address exactly as the per-candidate gate did (same range verdict, same carve-out), so it can
only ever refuse what the gate refused: it is a second lock, never a different one. -/
theorem C18_control_agrees_with_gate (t : Tables) (p : Policy) (ip : IP) (port : String) (hv : ip.Valid) :
    dialControl t p ip port = (!(refused t ip) || matchesCarveOut p ip port) :=
  dialControl_eq_gate t p ip port hv

/-- even without the per-candidate gate, an address on which the
Control hook lets connect(2) proceed is unrefused or carved out. -/
theorem C18_control_alone_suffices (t : Tables) (p : Policy) (ip : IP) (port : String) (hv : ip.Valid)
    (h : dialControl t p ip port = true) : refused t ip = false ∨ matchesCarveOut p ip port = true := by
  rw [dialControl_eq_gate t p ip port hv] at h
  cases h1 : refused t ip <;> simp_all

/-- a carve-out admits the exact (IP, port) pair only: it needs an
IP-literal allowlist entry with that very port whose address equals the dialed one. -/
theorem C18_carve_out_is_exact_pair (p : Policy) (ip : IP) (port : String)
    (h : matchesCarveOut p ip port = true) :
    ∃ e ∈ p.allow, ∃ eip, e.ip = some eip ∧ e.port = port ∧ ipEqual eip ip = true := by
  simp only [matchesCarveOut, List.any_eq_true] at h
  obtain ⟨e, he, h⟩ := h
  cases hip : e.ip with
  | none => simp [hip] at h
  | some eip =>
    simp only [hip, Bool.and_eq_true, beq_iff_eq] at h
    exact ⟨e, he, eip, hip, h.1, h.2⟩

/-- the empty allowlist has no carve-out. -/
theorem C18_no_allowlist_no_carve_out (ip : IP) (port : String) : matchesCarveOut denyAll ip port = false := rfl

/-- the first sentence for a whole `Service.Do`: whatever the URL
host (DNS name or IP literal in any spelling), the resolver's answer, the server's reply
(including a redirect) and the dialer's address derivation, every connect(2) of the request goes
to an address outside the floor or to an exact (IP, port) allowlist pair — and none happens at
all unless the processor opted in and Stage 1 matched. -/
theorem C18_do_only_public_or_carved (t : Tables) (hc : CoversFloor t) (p : Policy) (scheme host port : String)
    (reqIP : Option IP) (expand : IP → List IP) (ok : IP → Bool) (hv : ∀ ip, ∀ a ∈ expand ip, a.Valid)
    (answers : Option (List IP)) (redirects : Bool) :
    ∀ a ∈ connectAttempts (doRequest t p scheme host port reqIP expand ok answers redirects).2.flatten,
      (¬ Floor a ∨ matchesCarveOut p a port = true) ∧
      p.enabled = true ∧ matchHostPort p scheme host port reqIP = true := by
  intro a ha
  rcases doRequest_events t p scheme host port reqIP expand ok answers redirects with h | ⟨hen, cs, h⟩
  · rw [h] at ha; simp [connectAttempts] at ha
  · rw [h] at ha
    exact ⟨C18_dial_only_public_or_carved t hc p port expand ok hv cs a ha, hen⟩

/-- a 3xx answer ends the request with `forbidden`; the model of
`Do` performs at most one exchange, on the connection `dialContext` returned (CheckRedirect
returning an error unconditionally is a regenerated fact). -/
theorem C18_redirect_never_followed (t : Tables) (p : Policy) (scheme host port : String) (reqIP : Option IP)
    (expand : IP → List IP) (ok : IP → Bool) (answers : Option (List IP)) :
    (doRequest t p scheme host port reqIP expand ok answers true).1 ≠ .ok := by
  unfold doRequest
  split
  · simp
  · split
    · simp
    · cases candidatesOf reqIP answers with
      | none => simp [doDial]
      | some cs =>
        cases cs with
        | nil => simp [doDial]
        | cons c cs =>
          simp only [doDial, ↓reduceIte]
          repeat' split
          all_goals simp

theorem effective_allow_le_ceiling (d : Defaults) (per c : Policy) :
    ∀ e ∈ (resolvePolicy d per c).1.allow, e ∈ per.allow ∧ ceilingAllowsEntry c e := by
  intro e he
  by_cases h : per.enabled = true ∧ c.enabled = true
  · exact ((resolvePolicy_enabled d per c h.1 h.2).2.1 e).mp he
  · rw [resolvePolicy_disabled d per c h] at he; cases he

/-- "The effective policy of a processor never exceeds the operator's
engine-wide ceiling in hosts, secrets, timeout or response size", for every pair of policies:
* enabled only if both the processor and the ceiling opted in;
* every effective host entry was requested AND is within the ceiling's host set;
* every effective secret ref was requested AND is within the ceiling's grant;
* a positive ceiling timeout / size bounds the effective one; the effective ones are positive. -/
theorem C18_effective_le_ceiling (d : Defaults) (hd : 0 < d.timeout ∧ 0 < d.maxBytes) (per c : Policy) :
    let eff := (resolvePolicy d per c).1
    (eff.enabled = true → per.enabled = true ∧ c.enabled = true) ∧
    (∀ e ∈ eff.allow, e ∈ per.allow ∧ ceilingAllowsEntry c e) ∧
    (∀ s ∈ eff.secrets, s ∈ per.secrets ∧ ceilingGrantsSecret c s) ∧
    (eff.enabled = true → 0 < c.timeout → eff.timeout ≤ c.timeout) ∧
    (eff.enabled = true → 0 < c.maxBytes → eff.maxBytes ≤ c.maxBytes) ∧
    (eff.enabled = true → 0 < eff.timeout ∧ 0 < eff.maxBytes) := by
  by_cases h : per.enabled = true ∧ c.enabled = true
  · obtain ⟨_, _, _, hsec, ht, hm⟩ := resolvePolicy_enabled d per c h.1 h.2
    have bt := clamp_bounds (req := per.timeout) (ceil := c.timeout) hd.1
    have bm := clamp_bounds (req := per.maxBytes) (ceil := c.maxBytes) hd.2
    exact ⟨fun _ => h, effective_allow_le_ceiling d per c, fun s hs => (hsec s).mp hs,
      fun _ => ht ▸ bt.1, fun _ => hm ▸ bm.1, fun _ => ⟨ht ▸ bt.2, hm ▸ bm.2⟩⟩
  · simp [resolvePolicy_disabled d per c h, denyAll]

/-- entries the ceiling does not permit are dropped and REPORTED, never
silently honoured: with both sides enabled, every requested entry is either effective or in
`dropped`, and a dropped entry is outside the ceiling's host set. -/
theorem C18_dropped_or_kept (d : Defaults) (per c : Policy) (hp : per.enabled = true) (hc : c.enabled = true) :
    let r := resolvePolicy d per c
    (∀ e ∈ per.allow, e ∈ r.1.allow ∨ e ∈ r.2) ∧ (∀ e ∈ r.2, e ∈ per.allow ∧ ¬ ceilingAllowsEntry c e) := by
  obtain ⟨_, hall, hdrop, _⟩ := resolvePolicy_enabled d per c hp hc
  exact ⟨fun e he => (Classical.em (ceilingAllowsEntry c e)).imp (fun h => (hall e).mpr ⟨he, h⟩)
    fun h => (hdrop e).mpr ⟨he, h⟩, fun e he => (hdrop e).mp he⟩

/-- the carve-outs (the only way to a floor address) of the
effective policy are carve-outs the processor requested, through entries the ceiling lists. -/
theorem C18_effective_carve_outs_le_ceiling (d : Defaults) (per c : Policy) (ip : IP) (port : String)
    (h : matchesCarveOut (resolvePolicy d per c).1 ip port = true) :
    matchesCarveOut per ip port = true ∧
    ∃ e ∈ per.allow, ceilingAllowsEntry c e ∧ ∃ eip, e.ip = some eip ∧ e.port = port ∧ ipEqual eip ip = true := by
  obtain ⟨e, he, eip, h1, h2, h3⟩ := C18_carve_out_is_exact_pair _ ip port h
  obtain ⟨hm, hce⟩ := effective_allow_le_ceiling d per c e he
  refine ⟨?_, e, hm, hce, eip, h1, h2, h3⟩
  simp only [matchesCarveOut, List.any_eq_true]
  exact ⟨e, hm, by simp [h1, h2, h3]⟩

example : connectAttempts (dialContext ⟨[(2130706432, 8, "lo")], [], (0, 128), (0, 128), 224, 255, "", "", "", "", "", "", "", ""⟩
    { enabled := true, allow := [⟨"http", "127.0.0.1", "11434", some (.b4 2130706433)⟩] } "11434"
    (fun ip => [ip]) (fun _ => false) [.b4 2130706433, .b4 2130706434, .b4 134744072]).flatten
      = [.b4 2130706433, .b4 134744072] := by decide

/-- the executable floor test the driver evaluates as a monitor on every generated address is at
least as strong as the specification `Floor`: every floor address is flagged. -/
theorem C18_monitor_covers_floor (ip : IP) (hv : ip.Valid) (hf : Floor ip) : floorB ip = true := by
  cases ip with
  | b4 a => simpa [floorB, Floor] using hf
  | bad => rfl
  | b16 x =>
    have hx : x < 340282366920938463463374607431768211456 := hv
    simp only [floorB, floorV6B, Bool.or_eq_true, Bool.and_eq_true, beq_iff_eq, decide_eq_true_eq]
    rcases hf with hn | ⟨a, ha, hfa, he⟩
    · exact Or.inl (Or.inl (Or.inl (Or.inl (Or.inl (Or.inl hn)))))
    · have ha' : a < 4294967296 := ha
      cases he with
      | mapped =>
        have h : (281470681743360 + a) / 4294967296 = 0xffff ∧ (281470681743360 + a) % 4294967296 = a :=
          mul_add_div_mod (q := 0xffff) ha'
        exact Or.inl (Or.inl (Or.inl (Or.inl (Or.inl (Or.inr ⟨h.1, by rw [h.2]; exact hfa⟩)))))
      | compatible =>
        exact Or.inl (Or.inl (Or.inl (Or.inl (Or.inr ⟨Nat.div_eq_of_lt ha', hfa⟩))))
      | translated =>
        have h : (18446462598732840960 + a) / 4294967296 = 0xffff0000 ∧
            (18446462598732840960 + a) % 4294967296 = a := mul_add_div_mod (q := 0xffff0000) ha'
        exact Or.inl (Or.inl (Or.inl (Or.inr ⟨h.1, by rw [h.2]; exact hfa⟩)))
      | nat64 =>
        have h : (524413980667603649783483181312245760 + a) / 4294967296 = 0x64ff9b0000000000000000 ∧
            (524413980667603649783483181312245760 + a) % 4294967296 = a :=
          mul_add_div_mod (q := 0x64ff9b0000000000000000) ha'
        exact Or.inl (Or.inl (Or.inr ⟨h.1, by rw [h.2]; exact hfa⟩))
      | sixToFour low hl =>
        -- drop the low 80 bits, then split `2002:a` as above; 2^112 = 2^80 * 2^32
        have e := (mul_add_div_mod (q := 8194 * 4294967296 + a) hl).1
        have h := mul_add_div_mod (q := 8194) ha'
        refine Or.inl (Or.inr ⟨?_, by rw [e, h.2]; exact hfa⟩)
        rw [show 5192296858534827628530496329220096 = 1208925819614629174706176 * 4294967296 from rfl,
          ← Nat.div_div_eq_div_mul, e]
        exact h.1
      | teredoServer f hfl =>
        have e := (mul_add_div_mod (q := 536936448 * 4294967296 + a) hfl).1
        have h := mul_add_div_mod (q := 536936448) ha'
        refine Or.inr ⟨?_, Or.inl (by rw [e, h.2]; exact hfa)⟩
        rw [show 79228162514264337593543950336 = 18446744073709551616 * 4294967296 from rfl,
          ← Nat.div_div_eq_div_mul, e]
        exact h.1
      | teredoClient mid hm =>
        have h1 : (536936448 * 79228162514264337593543950336 + mid * 4294967296 + (4294967295 - a)) / 79228162514264337593543950336 = 0x20010000 := by omega
        have h2 : 4294967295 - (536936448 * 79228162514264337593543950336 + mid * 4294967296 + (4294967295 - a)) % 4294967296 = a := by omega
        exact Or.inr ⟨h1, Or.inr (by rw [h2]; exact hfa)⟩

end Conduit.Egress
