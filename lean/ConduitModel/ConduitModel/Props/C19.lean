import ConduitModel.Proofs.Extract
import ConduitModel.Proofs.PathCleanBytes
import ConduitModel.Proofs.Install
import ConduitModel.Proofs.IndexState
import ConduitModel.Proofs.AtomicFile
import ConduitModel.Model.Corruption

/-!
# C19 — registry installs only after integrity and trust checks, atomically (property theorems)

Statement (properties.jsonl C19): "A connector or processor artifact appears in the install
directory only if the downloaded bytes match the digest declared by the index and the configured
verifier accepted signature and provenance (or the operator explicitly allowed unsigned installs);
archives can never write outside the private staging directory, whatever entry names, links or
sizes they contain. An index older than one already accepted is refused and the recorded
high-water mark never decreases, also under concurrent installs. The install manifest and index
state are replaced atomically, so an interruption at any point leaves either the previous or the
new complete file."

## Part (a): archive extraction (`pkg/registry/extract.go`, `ExtractBinary`)

All theorems are for every list of tar entries (names are arbitrary byte strings, any type flags,
any declared/available sizes, any order, any length), every cap and every clean absolute
destination directory `/D₁/…/Dₙ` (`absPath D`, all `Dᵢ` normal elements).
-/
namespace Conduit.Registry

/-- "archives can never write outside the private staging directory,
whatever entry names, links or sizes they contain": after `ExtractBinary` — accepted or refused at
any entry — every regular file in the tree lies strictly inside the destination directory through
normal elements only (the destination is a proper prefix, no `..`/`.`/empty element), every
directory is the destination, one of its ancestors (they existed before) or inside it, and the tree
holds at most `cap + 1` content bytes. -/
theorem C19_extract_confined (cap nameMax : Nat) (D : List Seg) (hD : ∀ s ∈ D, Normal s)
    (entries : List Entry) (corruptTail : Bool) :
    let r := extractBinary cap nameMax (absPath D) entries corruptTail
    (∀ f ∈ r.fs.files, Inside D f.1) ∧
    (∀ d ∈ r.fs.dirs, d ∈ (FS.initial (absPath D)).dirs ∨ Inside D d) ∧
    sumSizes r.fs.files ≤ cap + 1 := by
  have hp := extractLoop_post (cap := cap) (nm := nameMax) hD entries _ (initial_exinv hD)
  have hinit : (FS.initial (absPath D)).dirs = prefixes D := by
    simp only [FS.initial, absPath]; rw [pathSegs_abs hD]
  simp only [extractBinary_fs, hinit]
  exact ⟨hp.fs.files, hp.fs.dirs, hp.size⟩

/-- the path-level core of confinement: for every entry name
(any bytes) that passes the refusal test of `ExtractBinary`, `filepath.Join(dest, Clean(name))` is
literally `dest` followed by the normal elements `ns` of the cleaned name — `dest` is a prefix
element by element and nothing after it is `..`. (`ns = []` is the name `.`: the path is `dest`
itself, whose exclusive creation as a file fails.) -/
theorem C19_accepted_name_stays_inside (D : List Seg) (hD : ∀ s ∈ D, Normal s) (name : Path)
    (h : escapes (clean name) = false) :
    ∃ ns, (∀ s ∈ ns, Normal s) ∧ join2 (absPath D) (clean name) = absPath (D ++ ns) := by
  obtain ⟨ns, hn, -, hj, -, -⟩ := accepted_paths hD h
  exact ⟨ns, hn, hj⟩

/-- `filepath.Clean` of any byte string is some `..` elements followed by normal
elements, with no `..` at all when the path is rooted: the fact that makes the three-way refusal
test (`IsAbs`, `== ".."`, prefix `"../"`) sufficient. -/
theorem C19_clean_shape (p : Path) :
    ∃ k ns, cleanSegs p = List.replicate k dotdotSeg ++ ns ∧ (∀ s ∈ ns, Normal s) ∧
      (isAbs p = true → k = 0) :=
  cleanSegs_form p

/-- the element-level `clean` the theorems above are about *is* Go's
byte-level `filepath.Clean` loop (read index, write buffer with backtracking, `dotdot` mark),
for every byte string. -/
theorem C19_clean_bytes_model (p : Path) : cleanBytes p = clean p := cleanBytes_eq_clean p

/-- "whatever … links … they contain": an archive is accepted only if
no entry anywhere in it is a symlink or hardlink and no entry name escapes; a refused archive never
yields a binary path. -/
theorem C19_extract_links_refused (cap nameMax : Nat) (dest : Path) (entries : List Entry)
    (corruptTail : Bool) (p : Path)
    (h : (extractBinary cap nameMax dest entries corruptTail).result = .ok p) :
    ∀ e ∈ entries, e.typ ≠ .symlink ∧ e.typ ≠ .link ∧ escapes (clean e.name) = false := by
  obtain ⟨st, hl, -⟩ := extractBinary_ok h
  exact (extractLoop_ok entries _ _ hl).1

/-- an accepted archive yields the path `dest/c` of a single normal element
`c` (root level), that file exists in the tree as a regular file written from the archive, and
the whole tree holds at most `cap` bytes. -/
theorem C19_extract_result (cap nameMax : Nat) (D : List Seg) (hD : ∀ s ∈ D, Normal s)
    (entries : List Entry) (corruptTail : Bool) (p : Path)
    (h : (extractBinary cap nameMax (absPath D) entries corruptTail).result = .ok p) :
    ∃ c, Normal c ∧ p = absPath (D ++ [c]) ∧
      (D ++ [c]) ∈ (extractBinary cap nameMax (absPath D) entries corruptTail).fs.files.map Prod.fst ∧
      sumSizes (extractBinary cap nameMax (absPath D) entries corruptTail).fs.files ≤ cap := by
  have hp := extractLoop_post (cap := cap) (nm := nameMax) hD entries _ (initial_exinv hD)
  obtain ⟨st, hl, hcand, rfl⟩ := extractBinary_ok h
  rw [extractBinary_fs]
  simp only [absPath] at hl ⊢
  rw [hl] at hp ⊢
  have inv := hp.inv rfl
  obtain ⟨hn, hm⟩ := inv.cand.resolve_left hcand
  refine ⟨st.candidate, hn, ?_, hm, by rw [inv.total]; exact inv.le⟩
  simpa [relStr, joinSlash] using join2_clean (D := D) (ns := [st.candidate]) hD (by simpa using hn)

/-- the binary `ExtractBinary` returns is the one and only root-level
regular file of the archive (an archive with none or with several is refused, never guessed at). -/
theorem C19_extract_unique_candidate (cap nameMax : Nat) (dest : Path) (entries : List Entry)
    (corruptTail : Bool) (p : Path)
    (h : (extractBinary cap nameMax dest entries corruptTail).result = .ok p) :
    ∃ e, entries.filter isRootReg = [e] ∧ p = join2 dest (clean e.name) := by
  obtain ⟨st, hl, hcand, rfl⟩ := extractBinary_ok h
  have hs := (extractLoop_ok entries _ _ hl).2
  simp only [seen, hcand, if_false, if_true, List.nil_append] at hs
  obtain ⟨e, hf, hce⟩ := List.map_eq_singleton_iff.mp hs.symm
  exact ⟨e, hf, by rw [hce]⟩

private def b (s : String) : Path := s.toList.map Char.toNat   -- ASCII only here

-- `Clean` on hostile names
example : clean (b "a/../../etc/passwd") = b "../etc/passwd" := by decide +kernel
example : clean (b "/a/./b//../c/") = b "/a/c" := by decide +kernel
example : clean (b "") = b "." := by decide +kernel
example : escapes (clean (b "x/../../y")) = true := by decide +kernel
example : escapes (clean (b "x/../y")) = false := by decide +kernel
example : (∀ s ∈ [b "sandbox", b "dest"], Normal s) := by decide +kernel

-- an install-like archive is accepted, its nested file extracted, the binary found
example : (extractBinary 100 255 (b "/s/d")
    [⟨b "conn", .reg, 10, 10⟩, ⟨b "docs/LICENSE", .reg, 5, 5⟩, ⟨b "docs", .dir, 0, 0⟩] false).result
      = .ok (b "/s/d/conn") := by decide +kernel
-- a symlink, a traversal, a second candidate and a bomb are refused
example : (extractBinary 100 255 (b "/s/d") [⟨b "conn", .reg, 1, 1⟩, ⟨b "l", .symlink, 0, 0⟩] false).result
      = .error .link := by decide +kernel
example : (extractBinary 100 255 (b "/s/d") [⟨b "a/../../x", .reg, 1, 1⟩] false).result = .error .escape := by decide +kernel
example : (extractBinary 100 255 (b "/s/d") [⟨b "a", .reg, 1, 1⟩, ⟨b "./b", .reg, 1, 1⟩] false).result
      = .error .multi := by decide +kernel
example : (extractBinary 100 255 (b "/s/d") [⟨b "a", .reg, 60, 60⟩, ⟨b "d/b", .reg, 41, 41⟩] false).result
      = .error .toobig := by decide +kernel
example : (extractBinary 100 255 (b "/s/d") [⟨b "a", .reg, 60, 60⟩, ⟨b "d/b", .reg, 40, 40⟩] false).result
      = .ok (b "/s/d/a") := by decide +kernel

/-- "only if the downloaded bytes match the digest declared by the
index": `CheckCorruption` passes exactly when the declared string, after one optional `sha256:`
prefix, is valid hex that decodes to precisely the digest of the received bytes — never on a
malformed, shorter, longer or differing declaration. -/
theorem C19_check_corruption_exact (got want : List Nat) :
    checkCorruption got want = true ↔ hexDecode (trimPrefix sha256Prefix want) = some got := by
  unfold checkCorruption
  cases h : hexDecode (trimPrefix sha256Prefix want) with
  | none => simp
  | some wb =>
    simp only [Bool.and_eq_true, beq_iff_eq, Option.some.injEq]
    constructor
    · rintro ⟨-, rfl⟩; rfl
    · rintro rfl; exact ⟨rfl, rfl⟩

example : checkCorruption [171, 205] [97, 98, 99, 100] = true := by decide +kernel          -- "abcd"
example : checkCorruption [171, 205] [65, 66, 67, 68] = true := by decide +kernel           -- "ABCD" (hex is case-insensitive)
example : checkCorruption [171, 205] (sha256Prefix ++ [97, 98, 99, 100]) = true := by decide +kernel
example : checkCorruption [171, 205] [97, 98, 99] = false := by decide +kernel              -- odd length
example : checkCorruption [171, 205] [97, 98, 99, 101] = false := by decide +kernel         -- one nibble off

end Conduit.Registry

/-!
## Part (b): the install gate (`pkg/registry/install.go`, `policy/gate.go`)

`runInstall` executes the gate order regenerated from `Install` / `installArtifact` /
`downloadVerifyAndInstall` / `finalizeArtifactInstall` on every run of the check; the theorems below
are therefore statements about the order the source has at the time of the check (the `decide`
steps re-check the dominance facts against the regenerated list). They hold for every scenario: every combination of
index-verifier, resolve, cache, download, digest, bundle-fetch, verifier, policy-context, archive,
rename, manifest and audit outcomes.
-/
namespace Conduit.Install
open Conduit.Gates Conduit.Generated.Policy

/-- the gates of the regenerated install order, in one evaluation: digest, verification gate and
extraction stand in front of the rename, the rename in front of the manifest entry, that in front
of the audit event, and the digest comparison in front of the verification gate. -/
theorem installOrder_dominance :
    (domBy installOrder "CheckCorruption" "Rename" = true ∧ domBy installOrder "runVerificationGate" "Rename" = true ∧
      domBy installOrder "ExtractBinary" "Rename" = true) ∧
    (domBy installOrder "Rename" "writeManifestEntry" = true ∧
      domBy installOrder "writeManifestEntry" "AppendAuditEvent" = true) ∧
    domBy installOrder "CheckCorruption" "runVerificationGate" = true := by decide +kernel

/-- "A connector or processor artifact appears in the install directory only if
the downloaded bytes match the digest declared by the index and the configured verifier accepted
signature and provenance (or the operator explicitly allowed unsigned installs)": in every scenario,
if the artifact was renamed into the install directory then the digests matched, the archive was
accepted by `ExtractBinary`, and either the install did not ask for `--allow-unsigned`, both bundles
were fetched and the verifier answered *signed*, or it did ask, `policy.Decide` allowed it — which
needs the operator policy to permit unsigned installs, a caller that is not the MCP tool, and the
explicit environment acknowledgement (non-interactive) or a typed confirmation (interactive
terminal) — and the mandatory unsigned-install audit entry was written. -/
theorem C19_install_gated (s : Scenario) (h : (runInstall s).installed = true) :
    s.digest = .matches ∧ s.archiveOK = true ∧
    ((s.allowUnsigned = false ∧ s.sigFetch = .ok ∧ s.provFetch = .ok ∧ s.verifier = .signed) ∨
     (s.allowUnsigned = true ∧ s.unsignedLogOK = true ∧
        s.ctx.OperatorPolicy = true ∧ s.ctx.IsMCP = false ∧
        (((s.ctx.TTY = false ∨ s.ctx.CIEnv = true) ∧ s.ctx.EnvVarSet = true) ∨
         (s.ctx.TTY = true ∧ s.ctx.CIEnv = false ∧ s.ctx.TypedConfirmation = true)))) := by
  have ok {a : String} (hd : domBy installOrder a "Rename" = true) : gateSucc s a = true :=
    (envOf_succBy installOrder s).of_ran (ranNamed_of_domBy hd _ h)
  obtain ⟨⟨digest, gate, extract⟩, -, -⟩ := installOrder_dominance
  have hd := ok digest
  have hg := ok gate
  have he := ok extract
  simp only [gateSucc, beq_iff_eq] at hd he
  refine ⟨hd, he, ?_⟩
  obtain ⟨b, hb⟩ := toBool_ok (show (runVerificationGate s).toBool = true from hg)
  rcases gate_ok_cases hb with ⟨h1, h2, h3, h4, -⟩ | ⟨h1, h2, h3, -⟩
  · exact Or.inl ⟨h1, h2, h3, h4⟩
  · exact Or.inr ⟨h1, h3, (decide_allowed_iff s.ctx).mp h2⟩

/-- the manifest entry is written only after the artifact is in place,
and the audit event only after the manifest entry (so a recorded install is never missing its file,
whatever step fails). -/
theorem C19_manifest_after_rename (s : Scenario) :
    ((runInstall s).manifest = true → (runInstall s).installed = true) ∧
    ((runInstall s).audited = true → (runInstall s).manifest = true) :=
  have ⟨_, ⟨rename, manifest⟩, _⟩ := installOrder_dominance
  ⟨ranNamed_of_domBy rename (envOf installOrder s), ranNamed_of_domBy manifest (envOf installOrder s)⟩

/-- trust verification only ever sees bytes whose digest matched: the
verification gate is not even entered on a corrupt download. -/
theorem C19_verifier_after_digest (s : Scenario) (h : (runInstall s).verifierCalled = true ∨ (runInstall s).unsignedLogged = true) :
    s.digest = .matches := by
  obtain ⟨k, g, hg, hn, hr⟩ := gate_reached h
  obtain ⟨-, -, digest⟩ := installOrder_dominance
  simpa [gateSucc] using (envOf_succBy installOrder s).of_ran (domBy_reached digest hg hn hr)

/-- the regenerated `policy.Decide` allows an unsigned install exactly in the
rows of its documented matrix; operator policy `false` and the MCP caller always refuse. -/
theorem C19_decide_table (c : Context) :
    (Decide c = (true, none) ↔
      (c.OperatorPolicy = true ∧ c.IsMCP = false ∧
        (((c.TTY = false ∨ c.CIEnv = true) ∧ c.EnvVarSet = true) ∨
         (c.TTY = true ∧ c.CIEnv = false ∧ c.TypedConfirmation = true)))) ∧
    ((Decide c).1 = true ↔ (Decide c).2 = none) :=
  ⟨decide_allowed_iff c, decide_consistent c⟩

/-- the offline path (`InstallFromBundle` / `InstallProcessorBundle`): whatever
succeeds or fails, the artifact is renamed into place only after both digest comparisons and the
verifier call succeeded. -/
theorem C19_bundle_gated (env : Env) (order : List GateCall)
    (ho : order = ofTuples Generated.RegistryInstall.installFromBundleOrder ∨
          order = ofTuples Generated.RegistryInstall.installProcessorBundleOrder)
    (h : ranNamed order (ran env order) "Rename" = true) :
    ranNamed order (ran env order) "CheckCorruption" = true ∧ ranNamed order (ran env order) "VerifyArtifact" = true := by
  have hd : domBy order "CheckCorruption" "Rename" = true ∧ domBy order "VerifyArtifact" "Rename" = true := by
    rcases ho with rfl | rfl <;> decide +kernel
  exact ⟨ranNamed_of_domBy hd.1 env h, ranNamed_of_domBy hd.2 env h⟩

/-- an offline bundle's index snapshot is used only if `VerifyIndex` accepted
it as cryptographically verified, or it was refused *only for staleness* and the operator explicitly
allowed stale bundles (flag, operator policy, not MCP, acknowledgement or typed confirmation), the
full verification was repeated with only the staleness window relaxed, and the override was audited. -/
theorem C19_bundle_index_gate (s : BundleIndexScenario) (h : verifyBundleIndex s = .ok ()) :
    s.first = .accepted true ∨
    (s.first = .stale ∧ s.allowStale = true ∧ s.relaxedOK = true ∧ s.relaxedVerified = true ∧ s.auditOK = true ∧
      s.ctx.OperatorAllowStaleBundle = true ∧ s.ctx.IsMCP = false ∧
      (((s.ctx.TTY = false ∨ s.ctx.CIEnv = true) ∧ s.ctx.EnvVarSet = true) ∨
       (s.ctx.TTY = true ∧ s.ctx.CIEnv = false ∧ s.ctx.TypedConfirmation = true))) := by
  unfold verifyBundleIndex at h
  cases hf : s.first with
  | accepted v => cases v <;> simp [hf] at h ⊢
  | refused => simp [hf] at h
  | stale =>
    right
    simp only [hf] at h
    cases h1 : s.allowStale <;> simp [h1] at h
    cases h2 : (DecideStaleBundle s.ctx).1 <;> simp [h2] at h
    cases h3 : s.relaxedOK <;> simp [h3] at h
    cases h4 : s.relaxedVerified <;> simp [h4] at h
    cases h5 : s.auditOK <;> simp [h5] at h
    exact ⟨rfl, rfl, rfl, rfl, rfl, (decideStale_allowed_iff s.ctx).mp h2⟩

private def good : Scenario :=
  { idxOK := true, known := true, platform := true, already := false, cacheHit := false, download := .ok,
    digest := .matches, allowUnsigned := false, ctx := default, sigFetch := .ok, provFetch := .ok,
    verifier := .signed, unsignedLogOK := true, archiveOK := true, renameOK := true, manifestOK := true, auditOK := true }

example : (runInstall good).installed = true ∧ (runInstall good).result = "ok" := by decide +kernel
example : (runInstall { good with digest := .mismatch }).installed = false
    ∧ (runInstall { good with digest := .mismatch }).result = "CodeCorruptDownload" := by decide +kernel
example : (runInstall { good with verifier := .refuse }).installed = false := by decide +kernel
example : (runInstall { good with verifier := .unsignedOk }).result = "CodeVerificationUnavailable" := by decide +kernel
-- unsigned install allowed by the operator in CI with the acknowledgement set
private def ciCtx : Context :=
  { TTY := false, CIEnv := true, IsMCP := false, OperatorPolicy := true, EnvVarSet := true, TypedConfirmation := false }
private def forbidCtx : Context :=
  { TTY := true, CIEnv := false, IsMCP := false, OperatorPolicy := false, EnvVarSet := true, TypedConfirmation := true }
example : (runInstall { good with allowUnsigned := true, verifier := .refuse, ctx := ciCtx }).installed = true := by decide +kernel
-- and refused when the operator forbids it
example : (runInstall { good with allowUnsigned := true, ctx := forbidCtx }).result
      = "CodeUnsignedInstallDisabledByPolicy" := by decide +kernel

end Conduit.Install

/-!
## Part (c): the index rollback high-water mark (`trustverifier.go`, `index/freeze.go`, `index/state.go`)

`stepOrder verifyIndexOrder` executes the gate order regenerated from `TrustedVerifier.VerifyIndex`
with the regenerated `index.CheckRollback`. The function holds the index-state lock from its first
call to its return (Facts: `acquireIndexStateLock` first and guarded, `Unlock` deferred), so
concurrent installs run it one after the other: a run of the system is a *list* of requests, in the
order in which they took the lock — any list, i.e. any interleaving.
-/
namespace Conduit.IndexState
open Conduit.Gates

theorem verifyIndexOrder_rollback_dominates : domBy verifyIndexOrder "CheckRollback" "SaveState" = true := by decide +kernel
theorem verifyIndexOrder_gate_rollback : hasGate verifyIndexOrder "CheckRollback" = true := by decide +kernel
theorem verifyIndexOrder_gate_save : hasGate verifyIndexOrder "SaveState" = true := by decide +kernel
theorem verifyIndexOrder_gate_verify : hasGate verifyIndexOrder "Verify" = true := by decide +kernel
theorem verifyIndexOrder_gate_staleness : hasGate verifyIndexOrder "CheckStaleness" = true := by decide +kernel

/-- "An index older than one already accepted is refused": a request whose
version is below the recorded high-water mark is never accepted (whatever its signature, freshness
or anything else), and leaves the recorded state untouched. -/
theorem C19_rollback_refused (st : State) (r : Req) (h : r.version < st.version) :
    (step st r).2 ≠ none ∧ (step st r).1 = st := by
  have hne : (step st r).2 ≠ none := by
    intro hacc
    have := (step_accept verifyIndexOrder_gate_rollback verifyIndexOrder_gate_save st r hacc).1
    omega
  refine ⟨hne, ?_⟩
  rcases step_version_cases verifyIndexOrder st r with h1 | h1
  · exact h1
  · exfalso
    have := step_monotone verifyIndexOrder_rollback_dominates st r
    unfold step at *
    omega

/-- "the recorded high-water mark never decreases, also under concurrent
installs": for every initial state and every sequence of `VerifyIndex` calls (valid, invalid, stale,
rolled back, failing to persist — in any order), the persisted version at the end is at least the
initial one, and at least the version of every index that was accepted along the way. -/
theorem C19_hwm_monotone (st : State) (rs : List Req) :
    st.version ≤ (runSeq verifyIndexOrder st rs).1.version ∧
    ∀ (i : Nat) (r : Req), rs[i]? = some r → (runSeq verifyIndexOrder st rs).2[i]? = some none →
      r.version ≤ (runSeq verifyIndexOrder st rs).1.version :=
  ⟨runSeq_monotone verifyIndexOrder_rollback_dominates rs st,
   runSeq_accepted_le_final verifyIndexOrder_rollback_dominates verifyIndexOrder_gate_rollback verifyIndexOrder_gate_save rs st⟩

/-- an accepted index passed signature verification (root, or freshness
over the last root-verified content), the rollback check and the staleness check, and was persisted. -/
theorem C19_accepted_is_verified (st : State) (r : Req) (h : (step st r).2 = none) :
    sigAccepted st r = true ∧ st.version ≤ r.version ∧ r.fresh = true ∧ (step st r).1.version = r.version := by
  have h1 := (accept_gate h verifyIndexOrder_gate_verify).2
  have h2 := (accept_gate h verifyIndexOrder_gate_staleness).2
  have h3 := step_accept verifyIndexOrder_gate_rollback verifyIndexOrder_gate_save st r h
  exact ⟨by simpa [gateSucc] using h1, h3.1, by simpa [gateSucc] using h2, h3.2⟩

example : (step ⟨5, none⟩ { sig := .root, version := 7, content := 1, fresh := true }) = (⟨7, some 1⟩, none) := by decide +kernel
example : (step ⟨5, none⟩ { sig := .root, version := 4, content := 1, fresh := true }).2 = some "CodeIndexRollback" := by decide +kernel
example : (step ⟨5, some 1⟩ { sig := .freshness, version := 6, content := 1, fresh := true }) = (⟨6, some 1⟩, none) := by decide +kernel
example : (step ⟨5, some 1⟩ { sig := .freshness, version := 6, content := 2, fresh := true }).2 = some "CodeIndexIntegrity" := by decide +kernel
example : (runSeq verifyIndexOrder ⟨0, none⟩
    [{ sig := .root, version := 3, content := 1, fresh := true }, { sig := .root, version := 2, content := 1, fresh := true },
     { sig := .root, version := 9, content := 2, fresh := false }, { sig := .root, version := 3, content := 1, fresh := true }]).1
      = ⟨3, some 1⟩ := by decide +kernel

end Conduit.IndexState

/-!
## Part (d): atomic replacement (`pkg/foundation/atomicfile/atomicfile.go`; used by `SaveManifest`, `index.SaveState`)
-/
namespace Conduit.AtomicFile
open Conduit.Gates

/-- the regenerated main-line operations of `WriteFile` (create temp, write, sync, close, chmod, rename). -/
def writeFileMainOps : List Op := (mainOps writeFileCalls).getD []

theorem writeFile_ops_known : mainOps writeFileCalls = some writeFileMainOps ∧ writeFileMainOps ≠ [] := by decide +kernel
theorem writeFile_ops_safe : aSafe aInit writeFileMainOps = true := by decide +kernel
theorem writeFile_ops_final : writeFileMainOps.foldl aApply aInit = { tgt := .new, tmp := .absent } := by decide +kernel
theorem writeFile_ops_old_before : aOldBefore aInit writeFileMainOps = true := by decide +kernel

/-- "an interruption at any point leaves either the previous or the new
complete file": for every previous content `old` (or no file), every new content `new`, and a kill
before, after or inside any operation of `WriteFile` (inside `Write`: any torn prefix in the temp
file), the target path holds the complete old or the complete new content. -/
theorem C19_atomic_replace (old : Option Content) (new : Content) (s : FSt)
    (h : CrashState new { target := old, tmp := none } writeFileMainOps s) :
    s.target = old ∨ s.target = some new :=
  aSafe_sound writeFileMainOps aInit _ s writeFile_ops_safe (gamma_init old new) h

/-- `WriteFile` returning `nil` means the target holds the new content;
returning an error (any operation failing, with no effect) means it still holds the old content; in
both cases no temp file is left behind (the deferred `os.Remove`). -/
theorem C19_atomic_replace_outcomes (old : Option Content) (new : Content) (failAt : Option Nat) :
    let r := runWriteFile new { target := old, tmp := none } writeFileMainOps failAt
    r.2.tmp = none ∧ (r.1 = true → r.2.target = some new) ∧ (r.1 = false → r.2.target = old) := by
  have hfin := gamma_runOps (old := old) (new := new) writeFileMainOps aInit _ (gamma_init old new)
  rw [writeFile_ops_final] at hfin
  have hnew : (runOps new { target := old, tmp := none } writeFileMainOps).target = some new := hfin.1
  simp only [runWriteFile]
  cases failAt with
  | none => exact ⟨rfl, fun _ => hnew, fun h => by simp at h⟩
  | some k =>
    simp only []
    by_cases hk : k < writeFileMainOps.length
    · rw [if_pos hk]
      refine ⟨rfl, fun h => by simp at h, fun _ => ?_⟩
      exact aOldBefore_sound writeFileMainOps aInit _ k writeFile_ops_old_before (gamma_init old new) hk
    · rw [if_neg hk]
      exact ⟨rfl, fun _ => hnew, fun h => by simp at h⟩

/-! ### Non-vacuity: a torn temp file is a crash state; renaming before writing would not be safe -/
example : CrashState [1, 2, 3] { target := some [9], tmp := none } writeFileMainOps
    { target := some [9], tmp := some [1, 2] } := by
  refine Or.inr (Or.inl ⟨rfl, 2, rfl⟩)
example : aSafe aInit [.createTemp, .rename, .write] = false := by decide +kernel
example : aSafe aInit [.createTemp, .write, .write, .rename] = false := by decide +kernel

end Conduit.AtomicFile

