import ConduitModel.Spec.Live
import ConduitModel.Props.C15
import ConduitModel.Proofs.LockTable

/-!
# C16 — live apply to a running pipeline loses nothing and never applies a stale plan

Statement (properties.jsonl C16): "A planned configuration change is applied only if the plan
still matches the current state; a running pipeline is touched only with operator
authorisation, and then only after it has fully drained and its positions are durable (or, for
processor-only changes, in place at a record boundary). After the apply the pipeline continues
from its durable position with no skipped record, and a refused or failed apply leaves
configuration and the running pipeline unchanged or cleanly stopped with a consistent stored
configuration."

Model: `Model/Live.lean` — `ApplyPlanLive` as a sequential program over (M6 state, scripted
lifecycle outcomes), for every state, configuration, presented plan, lifecycle script and
failing store-operation index; the per-pipeline lock table as an event system
(`Model/LockTable.lean`): for every interleaving of any number of callers, applies for one
pipeline never overlap (`C16_apply_lock_mutual_exclusion`), so one apply *is* a sequential
program with respect to other applies and the state it mutates is the state its plan / hash
check read (`C16_apply_sees_checked_state`). Partial on: the plan hash abstracted as the plan
itself (SHA-256 collisions), and the data-path clauses (drained ⇒ positions durable, resume from
the durable position, in-place swap at a record boundary) which are C06 / C03 / C13 and enter
here as the assumption that a successful `StopAndWait` leaves the pipeline stopped with durable
positions. The docstrings' "Full strength" / "Partial" are as in `Props/C15.lean`.
-/
namespace Conduit.Ctl

/-- "applied only if the plan still matches the current state": a
presented plan (the view the hash digests: every change with its resource, id, action, effect,
*config paths* and live-swappability, and the desired config) that is not the one computed now
is refused, nothing is touched, no lifecycle call is made. Full strength. -/
theorem C16_stale_plan_refused (v : Variant) (c : PipeCfg) (presented : PlanView) (allow : Bool) (env : LiveEnv)
    (s : St) (old : Option PipeCfg) (hex : exportPl v s.mem c.id = .ok old) (hst : presented ≠ planView v old c) :
    applyPlanLive v c presented allow env s = (.error .stale, s, []) := by
  unfold applyPlanLive
  simp [hex, hst]

theorem C16_applies_only_current_plan (v : Variant) (c : PipeCfg) (presented : PlanView) (allow : Bool) (env : LiveEnv)
    (s : St) (old : Option PipeCfg) (hex : exportPl v s.mem c.id = .ok old)
    (h : applyPlanLive v c presented allow env s ≠ (.error .stale, s, [])) : presented = planView v old c :=
  Decidable.byContradiction fun hne => h (C16_stale_plan_refused v c presented allow env s old hex hne)

theorem flipState_cases (c : PipeCfg) (env : LiveEnv) (s : St) :
    flipState c env s = s ∨ (runningNow s c.id = false ∧ env.becomesRunning = true ∧ flipState c env s = setStatusRaw c.id 1 s) := by
  unfold flipState
  cases h1 : runningNow s c.id <;> cases h2 : env.becomesRunning <;> simp

theorem flipState_of_running (c : PipeCfg) (env : LiveEnv) (s : St) (h : runningNow s c.id = true) :
    flipState c env s = s := by
  unfold flipState; simp [h]

theorem flipState_export (v : Variant) (c : PipeCfg) (env : LiveEnv) (s : St) : (flipState c env s).next = s.next := by
  rcases flipState_cases c env s with h | ⟨_, _, h⟩
  · rw [h]
  · rw [h]; unfold setStatusRaw; split <;> rfl

theorem runningAtGate (c : PipeCfg) (env : LiveEnv) (s : St) (p : Pl) (hp : s.mem.pls c.id = some p) :
    runningNow (flipState c env s) c.id = (isRunningStatus p.status || env.becomesRunning) := by
  have h1 : runningNow s c.id = isRunningStatus p.status := by simp [runningNow, hp]
  cases hr : isRunningStatus p.status with
  | true => rw [flipState_of_running c env s (by rw [h1, hr]), h1, hr]; rfl
  | false =>
    cases hb : env.becomesRunning with
    | false =>
      have : flipState c env s = s := by unfold flipState; simp [hb]
      rw [this, h1, hr]; rfl
    | true =>
      have : flipState c env s = setStatusRaw c.id 1 s := by unfold flipState; simp [h1, hr, hb]
      rw [this]
      simp [runningNow, setStatusRaw, hp, isRunningStatus]

/-- "a running pipeline is touched only with operator
authorisation": if the pipeline is running (or degraded / recovering) *at the moment the gate
is evaluated* — at the first status read, or started by an external `Start` in the window
before the re-read — a non-empty plan without the operator flag is refused: the result is
`unauth`, the state is the one the external world left (nothing of the apply), and no stop /
import / start event happens. Full strength: every state, configuration, lifecycle script. -/
theorem C16_running_needs_authorisation (v : Variant) (c : PipeCfg) (env : LiveEnv) (s : St) (old : Option PipeCfg)
    (hex : exportPl v s.mem c.id = .ok old) (hrun : runningNow (flipState c env s) c.id = true)
    (hne : build v 1 old c ≠ []) :
    applyPlanLive v c (planView v old c) false env s = (.error .unauth, flipState c env s, []) := by
  unfold applyPlanLive
  have : (build v 1 old c).isEmpty = false := List.isEmpty_eq_false_iff.2 hne
  simp [hex, this, hrun]

/-- the same in terms of the pre-state: the pipeline exists and (is running ∨ becomes running
in the window) ⇒ refused; the only difference to the pre-state is the external status flip. -/
theorem C16_running_needs_authorisation_toctou (v : Variant) (c : PipeCfg) (env : LiveEnv) (s : St) (old : Option PipeCfg)
    (p : Pl) (hex : exportPl v s.mem c.id = .ok old) (hp : s.mem.pls c.id = some p)
    (hrun : (isRunningStatus p.status || env.becomesRunning) = true) (hne : build v 1 old c ≠ []) :
    (applyPlanLive v c (planView v old c) false env s).1 = .error .unauth ∧
    (applyPlanLive v c (planView v old c) false env s).2.2 = [] ∧
    ((applyPlanLive v c (planView v old c) false env s).2.1 = s ∨
     (env.becomesRunning = true ∧ (applyPlanLive v c (planView v old c) false env s).2.1 = setStatusRaw c.id 1 s)) := by
  rw [C16_running_needs_authorisation v c env s old hex (by rw [runningAtGate c env s p hp]; exact hrun) hne]
  refine ⟨rfl, rfl, ?_⟩
  rcases flipState_cases c env s with h | ⟨_, hb, h⟩
  · exact Or.inl h
  · exact Or.inr ⟨hb, h⟩

/-- "and then only after it has fully drained": on the restart path
(running at the gate, authorised, plan not live-eligible) the first thing that happens is
`StopAndWait`; if it fails nothing has been touched; the import (and its commit) happens only
after a successful stop, on the stopped pipeline. Full strength for this path (`flipState c env s` =
the state after the status-read window). -/
theorem C16_drain_before_mutate (v : Variant) (c : PipeCfg) (env : LiveEnv) (s : St) (old : Option PipeCfg)
    (hex : exportPl v s.mem c.id = .ok old) (hrun : runningNow (flipState c env s) c.id = true)
    (hne : build v 1 old c ≠ []) (hnl : liveEligible (build v 1 old c) = false) :
    let r := applyPlanLive v c (planView v old c) true env s
    r.2.2.head? = some .stop ∧
    (env.stopOk = false → r = (.error .life, flipState c env s, [.stop])) ∧
    (Ev.commit ∈ r.2.2 → env.stopOk = true) := by
  have hemp : (build v 1 old c).isEmpty = false := List.isEmpty_eq_false_iff.2 hne
  unfold applyPlanLive
  simp only [hex, hemp, hrun, hnl, ne_eq, not_true_eq_false, if_false,
    Bool.not_true, Bool.and_false, Bool.false_eq_true, List.nil_append]
  cases hs : env.stopOk with
  | false => simp
  | true =>
    simp only [Bool.not_true, Bool.false_eq_true, if_false]
    unfold tImport
    rcases transactionalImport v c (setStatusRaw c.id 3 (flipState c env s)) with ⟨r, s'⟩
    cases r with
    | error e => simp
    | ok u => cases u; cases env.startOk <;> simp

/-- C16.failed_apply_consistent, store level, restart path — "a refused or failed apply leaves
configuration … unchanged or cleanly stopped with a consistent stored configuration": when the
restart-path apply fails, either nothing was touched (stop failed), or the pipeline is stopped
and the committed store holds the old configuration (import failed: all-or-nothing, C15), or
the new configuration was committed and only the restart failed. -/
theorem C16_failed_apply_consistent_restart (v : Variant) (c : PipeCfg) (env : LiveEnv) (s : St) (old : Option PipeCfg)
    (hex : exportPl v s.mem c.id = .ok old) (hrun : runningNow (flipState c env s) c.id = true)
    (hne : build v 1 old c ≠ []) (hnl : liveEligible (build v 1 old c) = false) :
    let r := applyPlanLive v c (planView v old c) true env s
    r.1 ≠ .ok () →
      r.2.1 = flipState c env s ∨ r.2.1.kv = (setStatusRaw c.id 3 (flipState c env s)).kv ∨
      (Ev.commit ∈ r.2.2 ∧ env.startOk = false) := by
  have hemp : (build v 1 old c).isEmpty = false := List.isEmpty_eq_false_iff.2 hne
  unfold applyPlanLive
  simp only [hex, hemp, hrun, hnl, ne_eq, not_true_eq_false, if_false,
    Bool.not_true, Bool.and_false, Bool.false_eq_true, List.nil_append]
  cases hs : env.stopOk with
  | false => simp
  | true =>
    simp only [Bool.not_true, Bool.false_eq_true, if_false]
    unfold tImport
    have hstore := transactionalImport_store v c (setStatusRaw c.id 3 (flipState c env s))
    rcases hr : transactionalImport v c (setStatusRaw c.id 3 (flipState c env s)) with ⟨r, s'⟩
    rw [hr] at hstore
    cases r with
    | error e => intro _; exact Or.inr (Or.inl (hstore (by simp)))
    | ok u =>
      cases u
      cases hst : env.startOk <;> simp

/-- the TOCTOU scenario evaluated: a stopped pipeline, an external `Start` in the window, no
authorisation — refused, only the external flip is visible, no event. -/
example :
    let v := Variant.repaired
    let s := after v st0 cfgB
    let plan := match exportPl v s.mem 1 with | .ok old => planView v old cfgA | .error _ => ([], cfgA)
    let r := applyPlanLive v cfgA plan false { stopOk := true, startOk := true, reconf := [], becomesRunning := true } { s with ctr := 0 }
    r.1 = .error .unauth ∧ r.2.2 = [] ∧ (r.2.1.mem.pls 1).map (·.status) = some 1 ∧
      (r.2.1.mem.prs 16) = none := by
  decide +kernel

/-- `cfgB` with different settings on a connector processor: a live-eligible change. -/
def cfgBLive : PipeCfg :=
  { cfgA with conns := [{ id := 11, typ := 1, plugin := 1, name := 1, settings := 1,
                          procs := [⟨12, 1, 2, 1, 0⟩, ⟨13, 2, 0, 1, 0⟩] }] }

/-- running pipeline holding `cfgB`. -/
def runningB (v : Variant) : St := (exec v (after v st0 cfgB) (.envStatus 1 1) none).2

/-- In-place apply, the processor turns out not to be live-reconfigurable (fallback to the
restart path), `StopAndWait` fails: the call returns an error, the pipeline is still running —
and the new configuration is already committed to the store (also with every repair). The
failed apply left neither "unchanged" nor "cleanly stopped". -/
theorem C16_failed_apply_consistent_counterexample :
    let v := Variant.repaired
    let s := runningB v
    let plan := match exportPl v s.mem 1 with | .ok old => planView v old cfgBLive | .error _ => ([], cfgBLive)
    let r := applyPlanLive v cfgBLive plan true { stopOk := false, startOk := true, reconf := [1] } { s with ctr := 0 }
    r.1 = .error .life ∧ r.2.2 = [.commit, .reconf 12, .stop] ∧
    (r.2.1.kv.pls 1).map (·.status) = some 1 ∧ (r.2.1.kv.prs 12).map (·.settings) = some 2 ∧
    ((runningB v).kv.prs 12).map (·.settings) = some 1 := by
  decide +kernel

/-- the restart path's hypotheses are satisfiable: a running pipeline and a non-live-eligible plan. -/
example :
    let v := Variant.asFound
    let plan := match exportPl v (runningB v).mem 1 with | .ok old => build v 1 old cfgA | .error _ => []
    (plan.isEmpty = false ∧ liveEligible plan = false ∧
      ((runningB v).mem.pls 1).map (fun p => isRunningStatus p.status) = some true) := by
  decide +kernel

/-- and the successful restart apply: stop, commit, start — in this order. -/
example :
    let v := Variant.repaired
    let s := runningB v
    let plan := match exportPl v s.mem 1 with | .ok old => planView v old cfgA | .error _ => ([], cfgA)
    (applyPlanLive v cfgA plan true { stopOk := true, startOk := true, reconf := [] } { s with ctr := 0 }).2.2
      = [.stop, .commit, .start] := by
  decide +kernel

section Lock
open Conduit.LockTable

/-- `ApplyPlan` / `ApplyPlanLive` hold the pipeline's lock for
their entire body (regenerated: `C16_fact_lock_held_for_body`), and the lock table hands all
callers of one id the SAME mutex: with lookup, create and insert inside one `p.mu` section (the
regenerated section structure, `C16_fact_lock_sections`), for every number of callers, every
assignment of pipeline ids to them, every apply function and **every interleaving** (`sched`):
two callers past the get-or-create step with the same id hold the same table entry, and at most
one caller is inside the per-id section at a time. Full strength for the event-system model. -/
theorem C16_apply_lock_mutual_exclusion {σ : Type} (idOf : Nat → LockTable.Id) (f : Nat → σ → σ) (st0 : LockTable.Id → σ)
    (sched : List Nat) :
    let s := LockTable.run ⟨codeShape, idOf, f⟩ (LT.init st0) sched
    (∀ c1 c2, ((s.cs c1).pc = .acquire ∨ LockTable.holds s c1) → ((s.cs c2).pc = .acquire ∨ LockTable.holds s c2) → idOf c1 = idOf c2 →
        (s.cs c1).l = (s.cs c2).l ∧ ((s.cs c1).l).isSome = true) ∧
    (∀ c1 c2, LockTable.holds s c1 → LockTable.holds s c2 → idOf c1 = idOf c2 → c1 = c2) := by
  intro s
  have hi : LockTable.Inv ⟨codeShape, idOf, f⟩ s := LockTable.inv_run _ rfl sched _ (LockTable.inv_init _ st0)
  refine ⟨?_, fun c1 c2 h1 h2 hid => hi.mutex c1 c2 h1 h2 hid⟩
  intro c1 c2 h1 h2 hid
  obtain ⟨a1, b1⟩ := hi.past c1 h1
  obtain ⟨a2, _⟩ := hi.past c2 h2
  have hid' : (⟨codeShape, idOf, f⟩ : Sys σ).idOf c1 = (⟨codeShape, idOf, f⟩ : Sys σ).idOf c2 := hid
  exact ⟨by rw [a1, a2, hid'], by rw [a1]; exact b1⟩

/-- its use in the C16 argument — "the plan-hash re-check and the apply are atomic with respect
to other applies": in every interleaving, when a caller is about to run the mutating part of its
body, the pipeline's state is exactly the state its re-plan / hash comparison was evaluated on.
(Other *applies*: an external `Start` is not under this lock; that window is `flipState`.) -/
theorem C16_apply_sees_checked_state {σ : Type} (idOf : Nat → LockTable.Id) (f : Nat → σ → σ) (st0 : LockTable.Id → σ)
    (sched : List Nat) (c : Nat) :
    let s := LockTable.run ⟨codeShape, idOf, f⟩ (LT.init st0) sched
    (s.cs c).pc = .apply → (s.cs c).snap = some (s.st (idOf c)) := by
  intro s h
  exact (LockTable.inv_run ⟨codeShape, idOf, f⟩ rfl sched _ (LockTable.inv_init _ st0)).snapOk c h

/-- the same with the apply bodies of this file: any number of concurrent `ApplyPlanLive` calls
(each with its own configuration, presented plan, authorisation and lifecycle script; the state
an apply for pipeline `id` works on is `st id`): the sequential program `applyPlanLive` is what
each call amounts to — its mutation starts from the state its staleness test saw. -/
theorem C16_apply_live_atomic_wrt_applies (v : Variant) (cfgs : Nat → PipeCfg) (plans : Nat → PlanView)
    (allows : Nat → Bool) (envs : Nat → LiveEnv) (st0 : LockTable.Id → St) (sched : List Nat) (c : Nat) :
    let sys : Sys St := ⟨codeShape, fun i => (cfgs i).id,
      fun i s => (applyPlanLive v (cfgs i) (plans i) (allows i) (envs i) s).2.1⟩
    let s := LockTable.run sys (LT.init st0) sched
    (s.cs c).pc = .apply → (s.cs c).snap = some (s.st (cfgs c).id) :=
  C16_apply_sees_checked_state _ _ st0 sched c

/-- the split-section variant (read-locked lookup, creation, write-locked insert without
re-check): two first-ever callers for pipeline 7 both miss the lookup, each creates and locks its
own mutex — both are inside the section; and the second one then applies to a state that is not
the one it checked (a stale plan is applied). -/
theorem C16_apply_lock_mutual_exclusion_counterexample_split :
    let sys : Sys Nat := ⟨splitShape, fun _ => 7, fun _ x => x + 1⟩
    let s := LockTable.run sys (LT.init fun _ => 0) [0, 1, 0, 0, 1, 1, 0, 1]
    let s' := LockTable.run sys s [0, 1, 0]
    (holdsB s 0 = true ∧ holdsB s 1 = true ∧ (s.cs 0).l = some 0 ∧ (s.cs 1).l = some 1) ∧
    ((s'.cs 1).pc = .apply ∧ (s'.cs 1).snap = some 0 ∧ s'.st 7 = 1) := by
  decide

/-- non-vacuity: with the code's structure the same schedule leaves caller 1 blocked at
`acquire` on the mutex caller 0 holds; after caller 0 finished, caller 1 checks the new state. -/
example :
    let sys : Sys Nat := ⟨codeShape, fun _ => 7, fun _ x => x + 1⟩
    let s := LockTable.run sys (LT.init fun _ => 0) [0, 1, 0, 1, 0, 1, 0, 1]
    let s' := LockTable.run sys s [0, 0, 1, 1]
    (holdsB s 0 = true ∧ (s.cs 1).pc = .acquire ∧ (s.cs 0).l = some 0 ∧ (s.cs 1).l = some 0) ∧
    ((s'.cs 1).pc = .apply ∧ (s'.cs 1).snap = some 1 ∧ s'.st 7 = 1) := by
  decide

end Lock

end Conduit.Ctl
