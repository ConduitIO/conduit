import ConduitModel.Proofs.SrcAckProgress
import ConduitModel.Proofs.SrcAckRead

/-!
# C06 — graceful stop drains (source side: `Source.Teardown` / `WaitPersisted`)

Statement (properties.jsonl C06): "After a graceful stop of a healthy pipeline completes, no record
is left half-handled: every record that reached a destination or the dead-letter queue has its
final outcome and was acknowledged to its source connector before that connector was torn down, the
acknowledged records form a prefix of the records read, and the stored position is exactly the last
acknowledged record. When stop-and-wait returns without error all of this is already true and every
connector and processor that was opened has been torn down exactly once; the stop always completes
while plugins and store respond."

This file decides the clauses that live in M3 (source connector, persister, plugin ack stream).
"Healthy … while plugins and store respond" is the explicit hypothesis `ReachH` (`evHealthy`): every
flush succeeds, Send failures are transient, no bounded wait expires, no crash, and the engine does
not call `Source.Ack` once it has called `Source.Teardown`. The safety clauses that need no such
hypothesis are stated for every event list (`Reach`).
-/
namespace Conduit.SrcAck

/-- C06 `stop_drained` — in every state of a healthy run in which `Source.Teardown` has returned nil:
nothing is pending or queued, every Ack call of this incarnation was delivered to the plugin (in
order, no gap), nothing was dropped, the committed store is exactly the instance state = the last
acknowledged position, the plugin was torn down exactly once, and no further delivery is possible
(so every delivery preceded the plugin teardown). -/
theorem C06_stop_drained (c : Cfg) (s : St) (h : ReachH c s) (hd : s.td = .done true) :
    s.pending = [] ∧ s.deferred = [] ∧ s.batch = none ∧
    s.deliveredI = s.ackedI ∧ s.dropped = [] ∧ s.droppedG = [] ∧
    s.store = s.inst ∧ (∀ a, s.ackedI.getLast? = some a → s.store = ⟨a.seq, a.ps.getLast?⟩) ∧
    s.teardowns = 1 ∧ s.pluginUp = false ∧
    (∀ ok, step c s (.deliver ok) = none) := by
  obtain ⟨hv, ht, hh⟩ := invAll_reach h
  have hr0 : s.td.rank = 0 := by rw [hd]; rfl
  have hpend := (hh.waitedP (by omega)).1
  have hlast := (hh.waitedP (by omega)).2
  have hbn := hh.flushedB (by omega)
  have hdg : s.dgDone = true := ht.jnd (by omega)
  have hdef := (ht.dgd hdg).1
  have hstore : s.store = s.inst := by
    cases hg : s.gens.getLast? with
    | none =>
      exact ((hv.bnone hbn).1 (List.getLast?_eq_none_iff.mp hg)).symm
    | some g =>
      rw [hv.lastOk g hg (hlast g hg).1]
      exact (hv.bnone hbn).2 g hg
  have hpre := hv.prefixI hh.noDrop.2
  rw [hdef, hh.noDrop.1, hpend] at hpre
  have hup : s.pluginUp = false := by rw [ht.pup, hd]; rfl
  refine ⟨hpend, hdef, hbn, by simpa using hpre, hh.noDrop.1, hh.noDrop.2, hstore, ?_, ?_, hup, ?_⟩
  · intro a ha; rw [hstore]; exact hv.lastAck a ha
  · rw [ht.tdn, hd]; rfl
  · intro ok; simp [step, hdef]

/-- C06 — "torn down exactly once", for every event list: the plugin of an incarnation is torn
down at most once, exactly once iff Teardown has completed, and a completed Teardown cannot tear it
down again. -/
theorem C06_teardown_exactly_once (c : Cfg) (s : St) (h : Reach c s) :
    s.teardowns ≤ 1 ∧ (s.teardowns = 1 ↔ s.td.isDone = true) ∧
    (s.td.isDone = true → ∀ ok, step c s (.pluginTeardown ok) = none) := by
  have ht := invTd_reach h
  refine ⟨?_, ?_, ?_⟩
  · rw [ht.tdn]; split <;> omega
  · rw [ht.tdn]; split <;> simp_all
  · intro hd ok
    cases htd : s.td <;> simp_all [step, Td.isDone]

/-- C06 — "acknowledged to its source connector before that connector was torn down", for every
event list: once the plugin is down no ack can be delivered any more, and the plugin goes down only
after the delivery goroutine has exited with an empty queue. -/
theorem C06_no_delivery_after_plugin_teardown (c : Cfg) (s : St) (h : Reach c s) (hup : s.pluginUp = false) :
    (∀ ok, step c s (.deliver ok) = none) ∧ s.dgDone = true ∧ s.deferred = [] := by
  have ht := invTd_reach h
  have hdone : s.td.isDone = true := by
    have := ht.pup; rw [hup] at this; simpa using this.symm
  have hr : s.td.rank ≤ 2 := by
    cases htd : s.td <;> simp_all [Td.isDone, Td.rank]
  have hdg := ht.jnd hr
  have hdef := (ht.dgd hdg).1
  exact ⟨fun ok => by simp [step, hdef], hdg, hdef⟩

/-- C06 `stop_no_deadlock` — "the stop always completes while plugins and store respond": in every
state of a healthy run in which `Source.Teardown` has been called and has not returned, some event
allowed by the C06 hypotheses (the store commits, a Send succeeds, a callback or the delivery
goroutine runs, the next statement of Teardown executes — never a timeout, never a failure) is
enabled, and taking it strictly lowers the variant `V` (remaining Teardown statements, batch to flush,
write in flight, outstanding callback, queued acks, delivery goroutine). `V` is a natural number, so
under weak fairness of the internal steps Teardown returns after at most `V s` of them; by
`C06_stop_drained` it then returns drained. -/
theorem C06_stop_no_deadlock (c : Cfg) (s : St) (h : ReachH c s) (hmid : 1 ≤ s.td.rank ∧ s.td.rank ≤ 9) :
    ∃ e s', evHealthy c s e = true ∧ step c s e = some s' ∧ V s' < V s :=
  teardown_progress (invAll_reach h) hmid

/-- … and the state reached is again a state of a healthy run (so the argument iterates). -/
theorem C06_progress_stays_healthy (c : Cfg) (s s' : St) (e : Ev) (h : ReachH c s)
    (he : evHealthy c s e = true) (hs : step c s e = some s') : ReachH c s' := by
  obtain ⟨evs, hr⟩ := h
  exact ⟨evs ++ [e], runH_append.mpr ⟨s, hr, by simp [runH, he, hs]⟩⟩

/-- after Teardown has returned in a healthy run, `StopAndWait`'s final `WaitPersisted` is enabled:
the stop-and-wait completes. -/
theorem C06_wait_persisted_enabled (c : Cfg) (s : St) (h : ReachH c s) (hd : s.td = .done true)
    (hsw : s.swDone = false) : ∃ s', step c s .waitPersisted = some s' ∧ s'.swDone = true := by
  have hh := (invAll_reach h).h
  refine ⟨_, step_complete (.waitPersisted hh.alive (by rw [hd]; rfl) (by simp [hsw]) fun g hg => ?_), rfl⟩
  have := (hh.waitedP (by rw [hd]; decide)).2 g hg
  simp [Gen.writeDone, Gen.callbacksDone, this.1, this.2]

/-! ### The stop position (`Source.Stop`) and the v1 `SourceNode` stop protocol

"the stop always completes … every connector that was opened has been torn down": in the v1 engine a
graceful stop asks the source plugin for the position of the last record it handed out
(`Source.Stop`), sends it to the `SourceNode` loop as a control message, and the loop ends — so that
the deferred `Source.Teardown` (M3's `tdBegin`) can run — once the record it processed last carries
exactly that position. Read-side layer `rstep` over M3 (`Model/SrcAck.lean`), code shape
`fallback = false` = `Source.Stop` returns exactly the plugin's reply (regenerated fact
`sourceStopReturnsPluginReply`, `Facts/C06.lean`). All event lists: any number of runs (crash /
restart with a stored position), records, acks, flushes, stop at any instant. -/

/-- C06 `stop_position_is_last_read` — the position `Source.Stop` returns in a run is the position
of the last record the plugin handed out in THIS run, or empty if it handed out none — never a
position from an earlier run or the stored state (every position of this run lies strictly after
the position the plugin was opened with). -/
theorem C06_stop_position_is_last_read (c : Cfg) (s : RSt) (h : RReach c false s) (r : Option Pos)
    (hf : s.r.fetched = some r) : r = s.r.out ∧ ∀ p, r = some p → openPos s.m < p := by
  have hi := rinv_reach h
  have := hi.fet r hf
  exact ⟨this, fun p hp => hi.outGt p (by rw [← this]; exact hp)⟩

/-- … so once the stop control message has been processed and every record the plugin handed out
has been processed too, the node has left its loop (and `Source.Teardown` may begin): with an empty
stop position (idle run, also one resumed from a stored position) that is immediately, with the
last-read position right after that record. -/
theorem C06_v1_source_node_ends (c : Cfg) (s : RSt) (h : RReach c false s)
    (hctl : s.r.ctl = true) (hq : s.r.q = []) : s.r.ended = true := by
  have hi := rinv_reach h
  cases hen : s.r.ended with
  | true => rfl
  | false =>
    obtain ⟨r, hr, hne⟩ := hi.ctlNE hctl hen
    have := hi.fet r hr
    rw [hi.qNil hq] at hne
    exact absurd this hne

/-- progress of the stop protocol: after `Source.Stop`, as long as the node has not left its loop,
processing the control message or the next already-handed-out record is enabled, and each lowers
`|q| + [control message outstanding]` (the plugin hands out nothing after Stop). -/
theorem C06_v1_stop_no_deadlock (c : Cfg) (s : RSt) (h : RReach c false s) (hal : s.m.alive = true)
    (r : Option Pos) (hf : s.r.fetched = some r) (hen : s.r.ended = false) :
    (∃ s', rstep c false s .ctl = some s' ∧ s'.r.q.length + (if s'.r.ctl then 0 else 1) < s.r.q.length + (if s.r.ctl then 0 else 1)) ∨
    (∃ s', rstep c false s .nodeRead = some s' ∧ s'.r.q.length + (if s'.r.ctl then 0 else 1) < s.r.q.length + (if s.r.ctl then 0 else 1)) := by
  cases hc : s.r.ctl with
  | false =>
    left
    exact ⟨{ s with r := { s.r with ctl := true, ended := r == s.r.nlast } }, by simp [rstep, hf, hal, hc, hen], by simp⟩
  | true =>
    right
    cases hq : s.r.q with
    | nil => rw [C06_v1_source_node_ends c s h hc hq] at hen; simp at hen
    | cons p rest =>
      exact ⟨{ s with r := { s.r with q := rest, nlast := some p, ended := s.r.ctl && s.r.fetched == some (some p) } },
        by simp [rstep, hq, hal, hen], by simp [hc]⟩

/-- for every state and every stored position: restart (the run
resumes from the stored position), no record, graceful stop: `Source.Stop` returns the empty position
and the node ends as soon as it sees the control message. -/
theorem C06_v1_restart_idle_stop_ends (c : Cfg) (s s1 s2 s3 : RSt)
    (h1 : rstep c false s (.m .restart) = some s1) (h2 : rstep c false s1 .stopRpc = some s2)
    (h3 : rstep c false s2 .ctl = some s3) : s2.r.fetched = some none ∧ s3.r.ended = true := by
  simp only [rstep, Option.map_eq_some_iff] at h1
  obtain ⟨m1, _, rfl⟩ := h1
  simp only [rstep] at h2
  split at h2
  · injection h2 with h2; subst h2
    simp only [rstep, stopResult] at h3
    split at h3
    · injection h3 with h3; subst h3; simp [stopResult]
    · simp at h3
  · simp at h2

/-- the other code shape (`fallback = true`: an empty plugin reply is replaced by the stored position)
breaks exactly this: resumed from a stored position `x`, stopped idle, the node is told to stop at `x`,
a record it will never read — it stays in its loop, nothing on the read side is enabled any more and
`Source.Teardown` cannot begin. -/
theorem C06_v1_stop_fallback_hangs (c : Cfg) (s s1 s2 s3 : RSt) (x : Pos)
    (h1 : rstep c true s (.m .restart) = some s1) (hx : s.m.store.pos = some x)
    (h2 : rstep c true s1 .stopRpc = some s2) (h3 : rstep c true s2 .ctl = some s3) :
    s2.r.fetched = some (some x) ∧ s3.r.ended = false ∧
    rstep c true s3 .nodeRead = none ∧ rstep c true s3 .ctl = none ∧ rstep c true s3 .stopRpc = none ∧
    (∀ p, rstep c true s3 (.emit p) = none) ∧ rstep c true s3 (.m .tdBegin) = none := by
  simp only [rstep, Option.map_eq_some_iff] at h1
  obtain ⟨m1, hm1, rfl⟩ := h1
  have hinst : m1.inst.pos = some x := by
    cases step_sound hm1 with | restart => exact hx
  simp only [rstep] at h2
  split at h2
  · injection h2 with h2; subst h2
    simp only [rstep, stopResult, hinst] at h3
    split at h3
    · injection h3 with h3; subst h3
      simp [rstep, stopResult, hinst]
    · simp at h3
  · simp at h2

def cfg6 : Cfg := { maxRetries := 3, bundleThr := 0, txFailCallbacks := false, stopAfterDrop := false }

/-- a healthy stop with an ack still in the debounce batch: Teardown's forced flush, the wait, the
drain (with one transient Send failure) and the plugin teardown; the hypothesis `ReachH` is
satisfiable and the post-condition is reached. -/
def healthyStop : List Ev :=
  [.ack [1], .ack [2, 3], .tdBegin, .tdFlush, .tdSnap, .flushRes .ok, .callback 0, .tdWaited false,
   .closeQueue, .deliver false, .deliver true, .deliver true, .dgExit, .tdDrained false, .stopStream, .join,
   .pluginTeardown true, .waitPersisted]

example : (runH cfg6 init healthyStop).map
    (fun s => (s.td, s.swDone, s.deliveredI.map (·.ps), s.store.pos, s.teardowns)) =
    some (.done true, true, [[1], [2, 3]], some 3, 1) := by decide

/-! ### F11 — what happens outside the hypothesis: a failed final flush

`flushNow` returns before spawning the callbacks when `NewTransaction` fails
(`Cfg.txFailCallbacks = false`; `Facts/C06.lean` instantiates the regenerated value), so that
generation's `callbacksDone` is never closed. `Source.Teardown` still completes (its wait is bounded),
but `StopAndWait`'s final `WaitPersisted` (no timeout) then waits forever: in the state reached by
the run below *no event but a crash is enabled*. Confirmed on the real code by `h_srcack`
(corpus/C06/srcstop_F11_…: trace `a:1 A T FT P1 R1 WH`). The same happens for a failed Commit (the
callback blocks on `errs`, which nobody reads during teardown). Both are outside `evHealthy`
("store responds" is read as "answers successfully"); under the stricter reading "answers at all"
this is a liveness defect of the stop. -/

/-- Teardown whose forced final flush fails at `NewTransaction`; the bounded wait expires -/
def f11Run : List Ev :=
  [.ack [1], .tdBegin, .tdFlush, .tdSnap, .flushRes .txFail, .tdWaited true, .closeQueue, .dgExit,
   .tdDrained false, .stopStream, .join, .pluginTeardown true]

def f11State : St := (run cfg6 init f11Run).getD init

/-- the run is a run of the model; Teardown returned nil, the ack is still pending, nothing is stored -/
theorem C06_F11_reached : (run cfg6 init f11Run).isSome = true ∧ f11State.td = .done true ∧
    f11State.pending.length = 1 ∧ f11State.store.pos = none ∧
    step cfg6 f11State .waitPersisted = none := by decide

/-- Why a generation that failed at `NewTransaction` wedges the stop: once Teardown has returned (plugin
down, batch flushed, delivery goroutine gone) and every flush generation is `txFailed`, no callback, no
flush result and no `WaitPersisted` can fire any more; only the process can die. -/
theorem stuck_of_txFailed {c : Cfg} {s s' : St} {e : Ev} (h : step c s e = some s')
    (hal : s.alive = true) (htd : s.td.isDone = true) (hup : s.pluginUp = false) (hb : s.batch = none)
    (hdef : s.deferred = []) (hesc : s.escalating = false) (hdg : s.dgDone = true)
    (hne : s.gens ≠ []) (hgens : ∀ g ∈ s.gens, g.stat = .txFailed) : e = .crash := by
  have hidx : ∀ (i : Nat) g, s.gens[i]? = some g → g.stat = .txFailed :=
    fun i g hg => hgens g (List.mem_of_getElem? hg)
  have hgl : ∀ g, s.gens.getLast? = some g → g.stat = .txFailed :=
    fun g hg => hgens g (List.mem_of_getLast? hg)
  cases step_sound h with
  | crash => rfl
  | restart hna => exact absurd hal hna
  | waitPersisted _ _ _ hw =>
    cases hg : s.gens.getLast? with
    | none => exact absurd (List.getLast?_eq_none_iff.mp hg) hne
    | some g =>
      have := (hw g hg).2
      simp [Gen.callbacksDone, hgl g hg] at this
  | commit g hg _ hw | flushFail _ g hg _ hw | flushTxFail g hg _ hw => exact nomatch (hgl g hg).symm.trans hw
  | callbackAck i g _ hg _ _ hst | callbackOpen i g hg _ _ hst | callbackFailed i g hg _ _ hst
  | errReadP i g hg _ _ hst => exact nomatch (hidx i g hg).symm.trans hst
  | openPersist _ _ hp | ackPanic _ _ hp | ack _ _ _ hp | tdBegin _ _ hp => exact nomatch hup.symm.trans hp
  | trigger b hbb | tdFlush b _ _ _ hbb | pluginTeardownFlush _ b _ _ _ hbb => exact nomatch hb.symm.trans hbb
  | deliverOk _ _ hd | deliverTornDown _ _ hd | deliverExhausted _ _ hd | deliverRetry _ _ hd
  | backoffAbort _ _ hd | discard _ _ hd => exact nomatch hdef.symm.trans hd
  | errReadS _ he => exact nomatch hesc.symm.trans he
  | dgExit _ hnd => exact absurd hdg hnd
  | tdFlushEmpty _ ht | tdSnap _ ht | tdWaited _ _ ht | closeQueue _ ht | tdDrained _ _ ht | stopStream _ ht
  | join _ ht | pluginTeardown _ _ ht => rw [ht] at htd; cases htd

/-- … and from there nothing but a crash can ever happen: `WaitPersisted` is disabled for good. -/
theorem C06_F11_stop_and_wait_hangs (e : Ev) (s' : St) (h : step cfg6 f11State e = some s') : e = .crash :=
  stuck_of_txFailed h (by decide) (by decide) (by decide) (by decide) (by decide) (by decide) (by decide)
    (by decide) (by decide)

/-- run, ack, restart from the stored position 2, one more record, stop: Stop returns 3 and the node
ends after processing record 3 -/
example : (rrun cfg6 false rinit [.emit 1, .emit 2, .nodeRead, .nodeRead, .m (.ack [1, 2]), .m .trigger, .m (.flushRes .ok),
    .m .crash, .m .restart, .emit 3, .stopRpc, .ctl, .nodeRead]).map
    (fun s => (s.r.fetched, s.r.ended, openPos s.m)) = some (some (some 3), true, 2) := by decide

end Conduit.SrcAck
