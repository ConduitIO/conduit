import ConduitModel.Proofs.MonGTop

/-!
# Monitor soundness for the arch-v2 engine model (C01 / C04 / C05 / C07 / C08 on the run)

The property monitors of `Spec/FunnelMon.lean` (`Mon.run`, evaluated by the check on every trace of
the REAL engine) never fire on a run of the MODEL (`Model/Funnel.lean`): the whole run of a case is
`runBatches fuel tree batches` (`Spec/FunnelRun.lean`; `runCase_eq_runBatches`: exactly what
`Driver/Funnel.lean` `runCase` executes). The violations are split by property
(`Mon.runTagged c`, `Proofs/MonBase.lean`; `Mon.run_eq_runT`: forgetting the tags gives `Mon.run`).

Proved here (all over the whole multi-batch run, every fuel / window / outcome):
* `C04_v2_run_acks_prefix`, `C04_v2_monitor_sound` — the C04 clause, IN FULL (any tree, fan-out,
  nested fan-out, record splitting), from `C04_v2_pass_acks_prefix`;
* `monitor_sound_keyed` — ALL clauses (C01, C04, C05, C07, C08), RECORD SPLITTING INCLUDED, for
  pipelines without fan-out (distinct destination ids) and for trees with fan-out, no fan-out below
  another one (distinct task ids), on a run that obeys `RootPreserving` and the key discipline `Disc κ`
  (Proofs/MonKey.lean) for a key `κ` of the tags that determines the root: equal tags have equal keys, so
  what the proof shows of keys ("not written ahead") gives what the C05 clause asks of tags. It is one
  proof: the task recursion under an abstract handler contract `MC` (Proofs/MonG*.lean, over the
  split-run ledger of Proofs/PassS*.lean read against the monitor in Proofs/MonS*.lean, and the fan-out
  tally of Proofs/MonF*.lean), with the class of trees as a parameter of the top layer
  (`runBatches_monG`). Its four instances:
* `monitor_sound_linear_nosplit` — pipelines without fan-out whose scripts never split a record:
  `κ` = the root; under `RootPreserving` no processor call ever introduces a new root (`Disc.of_NS`), so
  nothing is asked of the tags;
* `monitor_sound_nosplit_fan1` — the same for trees with fan-out, not nested;
* `monitor_sound_linear` — pipelines without fan-out, RECORD SPLITTING INCLUDED (`SplitRecord`, split
  runs, pieces retried / filtered / nacked one by one): `κ = id` under the additional tag discipline
  `FreshTags` of the run (`Disc.of_FT`);
* `monitor_sound_fan1` — trees with fan-out (not nested), RECORD SPLITTING INCLUDED: above the fan-out
  (the split runs are cloned per branch) and inside the branches, under `RootPreserving` and
  `FreshTags`;
* `C01_v2_monitor_sound_linear_nosplit` / `…_nosplit_fan1` / `C01_v2_monitor_sound_linear` /
  `C01_v2_monitor_sound_fan1` — the same per property (`Mon.runTagged c`).

NOT proved (the full statement, kept here as the goal):

    theorem C01_v2_monitor_sound (fuel tree scripts batches s₀)
        (hsrc : tree.kind = .source) (hnd : (tasksS tree).Nodup)
        (hsorted : (batches.flatten.map Mon.root).Pairwise (· < ·))
        (hlog : s₀.log = #[]) (hscr : s₀.scripts = scripts)
        (hrp : RootPreserving scripts ((runBatches fuel tree batches).run.run s₀).2.log.toList)
        (hft : FreshTags scripts batches ((runBatches fuel tree batches).run.run s₀).2.log.toList) :
        Mon.run tree scripts batches ((runBatches fuel tree batches).run.run s₀).2.log.toList = []

  i.e. `monitor_sound_fan1` without `Fan1 tree`. Missing: NESTED fan-out — the handler contract (`MC`,
  Proofs/MonFInv.lean), the tally invariant (`MAInv`, Proofs/MonFMultiDefs.lean) and its contract
  (`multiMC0`) are written for an arbitrary parent chain, and so is the task recursion
  (`pipeG_all`, Proofs/MonGPipe.lean, with the fan-out case as a parameter), but the tally contract
  needs the parent's failed `Ack`s to be benign (`Benign`: the state invariant survives), which holds
  for the root chain (a failed `Worker.Ack` changes nothing) and NOT for a tally as parent:
  `multiAckNacker.Ack` counts the votes BEFORE `releaseLocked` can fail, and `released` of the calling
  tally is not advanced on failure, so a retried release of the same ack run would be counted twice by
  the parent. What excludes this in the model is that an ack run is only ever released from a call of
  the LAST branch of its fan-out, whose failure ends that branch — an argument across nesting levels
  that is not formalised here (in the concurrent Go engine the branches interleave, so there the retry
  is conceivable when `parent.Ack` fails and the pipeline is not torn down at once).
-/
namespace Conduit.Funnel
open Conduit.Funnel.Mon

theorem swf_pos {batches : List (List Rec)} (h : sourceWellFormed batches = true) :
    ∀ r ∈ batches.flatten, r.pos ≠ none := by
  intro r hr hn
  unfold sourceWellFormed at h
  simp only [Bool.and_eq_true, List.all_eq_true, List.mem_map] at h
  have := h.1 r.pos ⟨r, hr, rfl⟩
  rw [hn] at this
  exact absurd this (by decide)

/-- C04 on the whole run (multi-batch lifting of `C04_v2_pass_acks_prefix`): "The sequence of
positions acknowledged to a source connector is always a prefix of the sequence of records that
source produced: in the same order, with nothing skipped and nothing repeated" — for every task
tree, fuel, scripts (record splitting included), DLQ window, fan-out orders and every outcome of the
run, the acknowledged keys are a prefix of the keys of `batches.flatten`; and they are ALL of them
when the run returns without error. Hypotheses: no source position is nil; the run starts with an empty log. -/
theorem C04_v2_run_acks_prefix (fuel : Nat) (tree : TaskNode) (batches : List (List Rec)) (s₀ : PS)
    (hpos : ∀ r ∈ batches.flatten, r.pos ≠ none) (hlog : s₀.log = #[]) :
    ackedKeys ((runBatches fuel tree batches).run.run s₀).2.log <+: batches.flatten.map (fun r => keyOf r.pos) ∧
    (((runBatches fuel tree batches).run.run s₀).1 = .ok () →
      ackedKeys ((runBatches fuel tree batches).run.run s₀).2.log = batches.flatten.map (fun r => keyOf r.pos)) := by
  obtain ⟨ks, h1, h2, h3⟩ := runBatches_acks fuel tree batches s₀ hpos
  rw [hlog, ackedKeys_empty, List.nil_append] at h1
  have e : (runBatches fuel tree batches).run.run s₀ = exec (runBatches fuel tree batches) s₀ := rfl
  rw [e, h1]
  exact ⟨h2, h3⟩

/-- C04 clause of the monitor (`C04 ack beyond the records read`, `C04 ack out of order`): never
fires on a run of the model — any task tree (fan-out, nested fan-out), any scripts (splits
included), any window configuration, fan-out orders, fuel and outcome. The monitor's own source
hypothesis `Mon.sourceWellFormed` is the only one needed (if it fails the monitor is silent). -/
theorem C04_v2_monitor_sound (fuel : Nat) (tree : TaskNode) (scripts : List (Nat × List Reply))
    (batches : List (List Rec)) (s₀ : PS) (hlog : s₀.log = #[]) :
    Mon.runTagged .c04 tree scripts batches ((runBatches fuel tree batches).run.run s₀).2.log.toList = [] := by
  unfold Mon.runTagged Mon.runT
  by_cases hwf : sourceWellFormed batches = true
  · simp only [hwf, Bool.not_true, Bool.false_eq_true, if_false]
    have hp := (C04_v2_run_acks_prefix fuel tree batches s₀ (swf_pos hwf) hlog).1
    have := (c04_fold tree scripts ((runBatches fuel tree batches).run.run s₀).2.log.toList
      { pending := batches.flatten } hp).1
    unfold filt at this
    unfold Mon.runStT
    rw [this]
    rfl
  · simp [hwf]


/-! ## the whole monitor: the general theorem `monitor_sound_keyed`; pipelines without fan-out and without record splitting -/

/-- `RootPreserving scripts log` — the lineage convention of the harness generators, as a checkable
condition on the event log of the run: in every processor call of the log, the scripted reply maps
each input record to outputs with the same root (`Mon.root r = r.tag % 1000`): a `SingleRecord`
keeps the root of its input record, all the pieces of a `MultiRecord` have it. (The monitors
identify a record by its root; a processor that changes roots makes them lose track.) -/
def RootPreserving (scripts : List (Nat × List Reply)) (log : List Ev) : Prop := rpRun scripts [] log = true

instance (scripts : List (Nat × List Reply)) (log : List Ev) : Decidable (RootPreserving scripts log) := by
  unfold RootPreserving; infer_instance

theorem initial_WInvS (G : Ctx) (s₀ : PS) (hlog : s₀.log = #[]) (hscr : s₀.scripts = G.scripts) :
    WInv G 0 s₀ ∧ RestedT G s₀ ∧ WSeen G s₀ := by
  have hmu := mu_initial G s₀ hlog
  have hn : nAcked s₀ = 0 := by unfold nAcked; rw [hlog]; rfl
  have hE : G.errT s₀ = [] := by unfold Ctx.errT; rw [hlog]; rfl
  have hsc : SC G s₀ := by
    intro t
    rw [hmu, hscr]
    cases repliesOf G.scripts t with
    | none => rfl
    | some l => simp [callNoL]
  have hB : Base G s₀ :=
    { safe := (by rw [hmu]), sc := hsc, wr := forall_mem_nil (by rw [hmu]), errIn := forall_mem_nil hE,
      wrIn := forall_mem_nil (by rw [hmu]), ns := fun hg => hscr ▸ hg }
  have hW : WInv G 0 s₀ :=
    { base := hB, acked := (by rw [hlog]; rfl), front := hn, dlqAny := forall_mem_nil (by rw [hmu]),
      dlqOk := forall_mem_nil (by rw [hmu]), dlqAnyS := forall_mem_nil (by rw [hmu]) }
  exact ⟨hW, { err := forall_mem_nil hE, wr := forall_mem_nil (by rw [hmu]) }, forall_mem_nil (by rw [hmu])⟩

/-- ALL clauses of the trace monitor are silent on every run of the model, for a pipeline without fan-out
(`Linear`, distinct destination ids) or a tree with fan-out that is not nested (`Fan1`, distinct task ids),
record splitting included, when the run keeps the roots (`RootPreserving`) and obeys the key discipline
`Disc κ` (Proofs/MonKey.lean) for some key `κ` of the tags that determines the root. The monitor
identifies a written record by its tag; the proof only follows the keys: distinct for the rows of a batch,
handed from a record to its outputs unless new in the run, never written twice to a destination — and
equal tags have equal keys. The four theorems below are its instances: `κ = id` under `FreshTags`, `κ` =
the root for scripts that never split a record. -/
theorem monitor_sound_keyed (κ : Nat → Nat) (hκ : ∀ a b : Nat, κ a = κ b → a % 1000 = b % 1000)
    (fuel : Nat) (tree : TaskNode) (scripts : List (Nat × List Reply)) (batches : List (List Rec)) (s₀ : PS)
    (htree : Linear tree ∧ (Mon.dests tree).Nodup ∨ Fan1 tree ∧ (tasksS tree).Nodup) (hsrc : tree.kind = .source)
    (hsorted : (batches.flatten.map Mon.root).Pairwise (· < ·))
    (hlog : s₀.log = #[]) (hscr : s₀.scripts = scripts)
    (hrp : RootPreserving scripts ((runBatches fuel tree batches).run.run s₀).2.log.toList)
    (hd : Disc κ ⟨tree, scripts, batches⟩ ((runBatches fuel tree batches).run.run s₀).2) :
    Mon.run tree scripts batches ((runBatches fuel tree batches).run.run s₀).2.log.toList = [] := by
  refine run_nil_of_wf fun hwf => ?_
  rcases hx : (runBatches fuel tree batches).run.run s₀ with ⟨r, s'⟩
  rw [hx] at hrp hd
  let G : Ctx := ⟨tree, scripts, batches⟩
  have hs : Src G := ⟨hwf, hsorted⟩
  obtain ⟨hI, hq, hw⟩ := initial_WInvS G s₀ hlog hscr
  rcases htree with ⟨hlin, hnd⟩ | ⟨hfan, hnd⟩
  · exact runBatches_monG hs (pipeG_linear hs) hlin trivial hκ hsrc hnd fuel batches [] s₀ s' r rfl hI hq hw hx
      hrp hd
  · exact runBatches_monG hs (pipeG_fan1 hs) ⟨hfan, hnd, fun x hx _ => hx⟩ rfl hκ hsrc
      ((destsS_sublist_tasksS tree).nodup hnd) fuel batches [] s₀ s' r rfl hI hq hw hx hrp hd

/-- ALL clauses of the trace monitor (C01 unjustified ack, C04 ack order, C05 duplicate / out-of-order
write, C07 DLQ clauses, C08 failed record acked) are silent on every run of the model, for pipelines
WITHOUT FAN-OUT (`Linear tree`, any depth, any mix of processors and destinations) whose scripts
never split a record (`NS scripts`): any fuel, window configuration, batches, DLQ replies, retries,
filters, processor errors, destination nacks and every outcome of the run (ok, error, panic, out of
fuel). Hypotheses: the tree starts with the source and its destination ids are distinct; source
roots strictly increase in read order (the harness uses tags = roots = 1, 2, 3, …); the run obeys
the lineage convention (`RootPreserving`); the run starts with an empty log and the case's scripts. -/
theorem monitor_sound_linear_nosplit (fuel : Nat) (tree : TaskNode) (scripts : List (Nat × List Reply))
    (batches : List (List Rec)) (s₀ : PS)
    (hlin : Linear tree) (hsrc : tree.kind = .source) (hnd : (Mon.dests tree).Nodup)
    (hns : NS scripts) (hsorted : (batches.flatten.map Mon.root).Pairwise (· < ·))
    (hlog : s₀.log = #[]) (hscr : s₀.scripts = scripts)
    (hrp : RootPreserving scripts ((runBatches fuel tree batches).run.run s₀).2.log.toList) :
    Mon.run tree scripts batches ((runBatches fuel tree batches).run.run s₀).2.log.toList = [] :=
  monitor_sound_keyed rootK (fun _ _ h => h) fuel tree scripts batches s₀ (.inl ⟨hlin, hnd⟩) hsrc hsorted hlog hscr hrp
    (Disc.of_NS (G := ⟨tree, scripts, batches⟩) hns hrp)

/-- every clause `c` by itself (`c = .c01`: `C01 unjustified ack`) on linear pipelines without record splitting -/
theorem C01_v2_monitor_sound_linear_nosplit (fuel : Nat) (tree : TaskNode) (scripts : List (Nat × List Reply))
    (batches : List (List Rec)) (s₀ : PS)
    (hlin : Linear tree) (hsrc : tree.kind = .source) (hnd : (Mon.dests tree).Nodup)
    (hns : NS scripts) (hsorted : (batches.flatten.map Mon.root).Pairwise (· < ·))
    (hlog : s₀.log = #[]) (hscr : s₀.scripts = scripts)
    (hrp : RootPreserving scripts ((runBatches fuel tree batches).run.run s₀).2.log.toList) (c : Clause) :
    Mon.runTagged c tree scripts batches ((runBatches fuel tree batches).run.run s₀).2.log.toList = [] :=
  runTagged_nil_of_run
    (monitor_sound_linear_nosplit fuel tree scripts batches s₀ hlin hsrc hnd hns hsorted hlog hscr hrp) c


/-! ## the whole monitor on pipelines WITH fan-out (not nested), without record splitting -/

/-- ALL clauses of the trace monitor (C01, C04, C05, C07, C08) are silent on every run of the model for
task trees WITH FAN-OUT, provided no fan-out lies below another one (`Fan1 tree`: any linear prefix,
one fan-out into any number of branches, each branch a pipeline of any depth) and the scripts never
split a record (`NS scripts`): any fuel, window configuration, batches, order of the branches,
DLQ replies (a failed dead-letter write inside a fan-out is retried when the next branch reports),
retries, filters, processor errors, destination nacks and every outcome of the run. Hypotheses as in
the linear case, except that ALL task ids of the tree must be distinct (`tasksS tree`: with fan-out
the monitor's facts are attributed to tasks). -/
theorem monitor_sound_nosplit_fan1 (fuel : Nat) (tree : TaskNode) (scripts : List (Nat × List Reply))
    (batches : List (List Rec)) (s₀ : PS)
    (hfan : Fan1 tree) (hsrc : tree.kind = .source) (hnd : (tasksS tree).Nodup)
    (hns : NS scripts) (hsorted : (batches.flatten.map Mon.root).Pairwise (· < ·))
    (hlog : s₀.log = #[]) (hscr : s₀.scripts = scripts)
    (hrp : RootPreserving scripts ((runBatches fuel tree batches).run.run s₀).2.log.toList) :
    Mon.run tree scripts batches ((runBatches fuel tree batches).run.run s₀).2.log.toList = [] :=
  monitor_sound_keyed rootK (fun _ _ h => h) fuel tree scripts batches s₀ (.inr ⟨hfan, hnd⟩) hsrc hsorted hlog hscr hrp
    (Disc.of_NS (G := ⟨tree, scripts, batches⟩) hns hrp)

/-- the C01 clause (and every other clause) with fan-out, per property -/
theorem C01_v2_monitor_sound_nosplit_fan1 (fuel : Nat) (tree : TaskNode) (scripts : List (Nat × List Reply))
    (batches : List (List Rec)) (s₀ : PS)
    (hfan : Fan1 tree) (hsrc : tree.kind = .source) (hnd : (tasksS tree).Nodup)
    (hns : NS scripts) (hsorted : (batches.flatten.map Mon.root).Pairwise (· < ·))
    (hlog : s₀.log = #[]) (hscr : s₀.scripts = scripts)
    (hrp : RootPreserving scripts ((runBatches fuel tree batches).run.run s₀).2.log.toList) (c : Clause) :
    Mon.runTagged c tree scripts batches ((runBatches fuel tree batches).run.run s₀).2.log.toList = [] :=
  runTagged_nil_of_run
    (monitor_sound_nosplit_fan1 fuel tree scripts batches s₀ hfan hsrc hnd hns hsorted hlog hscr hrp) c

/-! ## non-vacuity: a concrete case satisfying every hypothesis, and why the hypotheses are there -/
namespace ExMon
open Conduit.Dlq

/-- source → processor → destination → processor (leaf) -/
def lin : TaskNode := .mk 0 .source [.mk 1 .proc [.mk 2 .dest [.mk 3 .proc []]]]
def batches : List (List Rec) := [[⟨1, some 1⟩, ⟨2, some 2⟩, ⟨3, some 3⟩], [⟨4, some 4⟩, ⟨5, some 5⟩]]
/-- P1: keeps record 1 (new payload 1001, same root), errors on record 2 (→ DLQ), does not answer for
record 3 (→ retry); on the retry it filters record 3; second batch: keeps 4 and 5. D2 confirms 1, later
confirms 4 and rejects 5 (→ DLQ). P3 keeps what it gets. The DLQ destination (task 9) confirms both
dead-lettered records. -/
def scripts : List (Nat × List Reply) :=
  [(1, [.proc [.single ⟨1001, some 1⟩, .error none], .proc [.filter], .proc [.single ⟨4, some 4⟩, .single ⟨5, some 5⟩]]),
   (2, [.dest none [.acks [(some 1, none)]], .dest none [.acks [(some 4, none), (some 5, some {})]]]),
   (3, [.proc [.single ⟨1001, some 1⟩], .proc [.single ⟨4, some 4⟩]]),
   (9, [.dest none [.acks [(some 2, none)]], .dest none [.acks [(some 5, none)]]])]
def s0 : PS := { win := Win.new 10 5, thr := 5, size := 10, dlqTask := 9, scripts := scripts }

example : Linear lin :=
  .mk _ _ _ (by decide) (fun n hn => by
    rw [List.mem_singleton.mp hn]
    exact .mk _ _ _ (by decide) (fun n hn => by
      rw [List.mem_singleton.mp hn]
      exact .mk _ _ _ (by decide) (fun n hn => by
        rw [List.mem_singleton.mp hn]
        exact .mk _ _ _ (by decide) (fun _ hn => nomatch hn))))
example : lin.kind = .source := rfl
example : (Mon.dests lin).Nodup := by decide
example : NS scripts := by decide
example : (batches.flatten.map Mon.root).Pairwise (· < ·) := by decide
example : Mon.sourceWellFormed batches = true := by decide
example : s0.log = #[] ∧ s0.scripts = scripts := ⟨rfl, rfl⟩
set_option maxRecDepth 100000 in
example : RootPreserving scripts ((runBatches 30 lin batches).run.run s0).2.log.toList := by decide +kernel
-- the run: processor error and destination nack → DLQ, retry, filter, two batches; everything acked in order
set_option maxRecDepth 100000 in
example : ackedKeys ((runBatches 30 lin batches).run.run s0).2.log = [1, 2, 3, 4, 5] := by decide +kernel

/-- WHY distinct destination ids: the same destination id twice on the path makes the (sound) engine
write each record twice to "the same destination" — the C05 clause fires on the model's own log. -/
def dup : TaskNode := .mk 0 .source [.mk 2 .dest [.mk 2 .dest []]]
def scriptsDup : List (Nat × List Reply) := [(2, [.dest none [.acks [(some 1, none)]], .dest none [.acks [(some 1, none)]]])]
set_option maxRecDepth 100000 in
example : Mon.run dup scriptsDup [[⟨1, some 1⟩]]
    ((runBatches 30 dup [[⟨1, some 1⟩]]).run.run { s0 with scripts := scriptsDup }).2.log.toList ≠ [] := by decide +kernel

/-- WHY `RootPreserving`: a processor that changes the root of a record makes the monitor lose track of
it (the write is booked under another root): the C01 clause fires although the engine is right. -/
def scriptsRoot : List (Nat × List Reply) :=
  [(1, [.proc [.single ⟨7, some 1⟩]]), (2, [.dest none [.acks [(some 1, none)]]]), (3, [.proc [.single ⟨7, some 1⟩]])]
set_option maxRecDepth 100000 in
example : Mon.run lin scriptsRoot [[⟨1, some 1⟩]]
    ((runBatches 30 lin [[⟨1, some 1⟩]]).run.run { s0 with scripts := scriptsRoot }).2.log.toList ≠ [] := by decide +kernel

/-- WHY increasing roots: the C05 / C07 order clauses compare roots, so a source that numbers its
records out of order trips them. -/
def scriptsOrd : List (Nat × List Reply) :=
  [(1, [.proc [.single ⟨2, some 1⟩, .single ⟨1, some 2⟩]]), (2, [.dest none [.acks [(some 1, none), (some 2, none)]]]),
   (3, [.proc [.single ⟨2, some 1⟩, .single ⟨1, some 2⟩]])]
set_option maxRecDepth 100000 in
example : Mon.run lin scriptsOrd [[⟨2, some 1⟩, ⟨1, some 2⟩]]
    ((runBatches 30 lin [[⟨2, some 1⟩, ⟨1, some 2⟩]]).run.run { s0 with scripts := scriptsOrd }).2.log.toList ≠ [] := by decide +kernel

end ExMon

/-! ## non-vacuity of the fan-out theorem -/
namespace ExFan
open Conduit.Dlq

/-- source → processor 1 → fan-out to (destination 2) and (processor 4 → destination 3) -/
def tree : TaskNode := .mk 0 .source [.mk 1 .proc [.mk 2 .dest [], .mk 4 .proc [.mk 3 .dest []]]]
def batches : List (List Rec) := [[⟨1, some 1⟩, ⟨2, some 2⟩, ⟨3, some 3⟩], [⟨4, some 4⟩]]
/-- P1 keeps record 1 (new payload), errors on record 2 (→ DLQ), keeps record 3. Record 1: both branches
deliver it. Record 3: destination 2 rejects it (→ nack → DLQ write FAILS), then the other branch filters
it; when that branch reports, the dead-letter write is retried and confirmed, record 3 is acked. -/
def scripts : List (Nat × List Reply) :=
  [(1, [.proc [.single ⟨1001, some 1⟩, .error none, .single ⟨3, some 3⟩], .proc [.single ⟨4, some 4⟩]]),
   (2, [.dest none [.acks [(some 1, none)]], .dest none [.acks [(some 3, some {})]], .dest none [.acks [(some 4, none)]]]),
   (4, [.proc [.single ⟨1001, some 1⟩], .proc [.filter], .proc [.single ⟨4, some 4⟩]]),
   (3, [.dest none [.acks [(some 1, none)]], .dest none [.acks [(some 4, none)]]]),
   (9, [.dest none [.acks [(some 2, none)]], .dest (some {}) [], .dest none [.acks [(some 3, none)]]])]
def s0 : PS := { win := Win.new 10 5, thr := 5, size := 10, dlqTask := 9, scripts := scripts, orders := [[1, 0], [0, 1], [0, 1]] }

theorem lin_leaf (id : Nat) (k : TaskKind) : Linear (.mk id k []) := .mk _ _ _ (by decide) (fun _ hn => nomatch hn)

example : Fan1 tree :=
  .mk _ _ _ (fun _ n hn => by
      rw [List.mem_singleton.mp hn]
      exact .mk _ _ _ (fun h => absurd h (by decide)) (fun _ n hn => by
        rcases List.mem_cons.mp hn with rfl | hn
        · exact lin_leaf _ _
        · rw [List.mem_singleton.mp hn]
          exact .mk _ _ _ (by decide) (fun n hn => by rw [List.mem_singleton.mp hn]; exact lin_leaf _ _)))
    (fun h => absurd h (by decide))
example : tree.kind = .source := rfl
example : (tasksS tree).Nodup := by decide
example : NS scripts := by decide
example : (batches.flatten.map Mon.root).Pairwise (· < ·) := by decide
example : Mon.sourceWellFormed batches = true := by decide
example : s0.log = #[] ∧ s0.scripts = scripts := ⟨rfl, rfl⟩
set_option maxRecDepth 100000 in
example : RootPreserving scripts ((runBatches 40 tree batches).run.run s0).2.log.toList := by decide +kernel
-- records 1, 2, 3 acknowledged in order (record 3 after the retried dead-letter write); the pass then
-- returns the branch's error, so the second batch is not read
set_option maxRecDepth 100000 in
example : ackedKeys ((runBatches 40 tree batches).run.run s0).2.log = [1, 2, 3] := by decide +kernel

end ExFan

/-! ## the whole monitor on linear pipelines WITH record splitting -/

/-- `FreshTags scripts batches log` — the tag discipline of the harness generators (`fresh` in
harness/cmd/h_funnel/run.go), as a checkable condition on the event log of the run: in every
processor call of the log, the records the scripted reply puts into the batch (a `SingleRecord`, the
pieces of a `MultiRecord`) carry, per input record, distinct tags, and every such tag that is not
the tag of its own input record is NEW in the case: it is not the tag of a source record nor of any
record an earlier (or the same) reply put into a batch, and it is introduced only once. (The C05
"duplicate write" clause identifies a written record by its tag.) -/
def FreshTags (scripts : List (Nat × List Reply)) (batches : List (List Rec)) (log : List Ev) : Prop :=
  ftRun scripts (batches.flatten.map (·.tag)) [] log = true

instance (scripts : List (Nat × List Reply)) (batches : List (List Rec)) (log : List Ev) :
    Decidable (FreshTags scripts batches log) := by
  unfold FreshTags; infer_instance

/-- ALL clauses of the trace monitor (C01 unjustified ack, C04 ack order, C05 duplicate / out-of-order
write, C07 DLQ clauses, C08 failed record acked) are silent on every run of the model, for pipelines
WITHOUT FAN-OUT (`Linear tree`, any depth, any mix of processors and destinations), RECORD SPLITTING
INCLUDED (`SplitRecord`: a processor may reply a `MultiRecord` with two or more pieces; pieces may be
split again, retried, filtered, nacked one by one): any fuel, window configuration, batches, DLQ
replies and every outcome of the run. In particular, for a split record: the original position is
acknowledged only after every piece was confirmed by every destination or filtered, and if any piece
failed (processor error, rejected by a destination) the ORIGINAL record is dead-lettered once and
acknowledged only after the DLQ confirmed it. Hypotheses as for `monitor_sound_linear_nosplit`
(without `NS scripts`), plus the tag discipline `FreshTags` of the run. -/
theorem monitor_sound_linear (fuel : Nat) (tree : TaskNode) (scripts : List (Nat × List Reply))
    (batches : List (List Rec)) (s₀ : PS)
    (hlin : Linear tree) (hsrc : tree.kind = .source) (hnd : (Mon.dests tree).Nodup)
    (hsorted : (batches.flatten.map Mon.root).Pairwise (· < ·))
    (hlog : s₀.log = #[]) (hscr : s₀.scripts = scripts)
    (hrp : RootPreserving scripts ((runBatches fuel tree batches).run.run s₀).2.log.toList)
    (hft : FreshTags scripts batches ((runBatches fuel tree batches).run.run s₀).2.log.toList) :
    Mon.run tree scripts batches ((runBatches fuel tree batches).run.run s₀).2.log.toList = [] :=
  monitor_sound_keyed id (fun _ _ h => congrArg (· % 1000) h) fuel tree scripts batches s₀ (.inl ⟨hlin, hnd⟩) hsrc hsorted hlog
    hscr hrp (Disc.of_FT (G := ⟨tree, scripts, batches⟩) hft)

/-- the same per property (`c = .c01`: the C01 clause, `.c05`, `.c07`, `.c08`, `.c04`) -/
theorem C01_v2_monitor_sound_linear (fuel : Nat) (tree : TaskNode) (scripts : List (Nat × List Reply))
    (batches : List (List Rec)) (s₀ : PS)
    (hlin : Linear tree) (hsrc : tree.kind = .source) (hnd : (Mon.dests tree).Nodup)
    (hsorted : (batches.flatten.map Mon.root).Pairwise (· < ·))
    (hlog : s₀.log = #[]) (hscr : s₀.scripts = scripts)
    (hrp : RootPreserving scripts ((runBatches fuel tree batches).run.run s₀).2.log.toList)
    (hft : FreshTags scripts batches ((runBatches fuel tree batches).run.run s₀).2.log.toList) (c : Clause) :
    Mon.runTagged c tree scripts batches ((runBatches fuel tree batches).run.run s₀).2.log.toList = [] :=
  runTagged_nil_of_run
    (monitor_sound_linear fuel tree scripts batches s₀ hlin hsrc hnd hsorted hlog hscr hrp hft) c

/-! ## non-vacuity of the splitting theorem -/
namespace ExSplit
open Conduit.Dlq

/-- source → processor 1 → processor 5 → destination 2 -/
def lin : TaskNode := .mk 0 .source [.mk 1 .proc [.mk 5 .proc [.mk 2 .dest []]]]
def batches : List (List Rec) := [[⟨1, some 1⟩, ⟨2, some 2⟩, ⟨3, some 3⟩], [⟨4, some 4⟩]]
/-- Tags as the harness generates them: `root + 1000·n`, each new tag used once.
P1 splits record 1 into two pieces and record 3 into three, keeps record 2. P5 keeps the first piece
of record 1, does not answer for the second (→ retry, kept on the second attempt with a new tag),
filters record 2, and errors on the middle piece of record 3 — the nack spreads over the sibling
pieces, the ORIGINAL record 3 is dead-lettered. Second batch: P5 splits record 4, D2 confirms the
first piece and rejects the second: the original record 4 is dead-lettered. -/
def scripts : List (Nat × List Reply) :=
  [(1, [.proc [.multi [⟨1001, some 1⟩, ⟨2001, none⟩], .single ⟨2, some 2⟩,
               .multi [⟨1003, some 3⟩, ⟨2003, none⟩, ⟨3003, some 9⟩]],
        .proc [.single ⟨4, some 4⟩]]),
   (5, [.proc [.single ⟨1001, some 1⟩, .nil, .filter, .single ⟨1003, some 3⟩, .error none, .single ⟨3003, some 9⟩],
        .proc [.single ⟨4001, none⟩],
        .proc [.multi [⟨1004, some 4⟩, ⟨2004, some 4⟩]]]),
   (2, [.dest none [.acks [(some 1, none)]], .dest none [.acks [(none, none)]],
        .dest none [.acks [(some 4, none), (some 4, some {})]]]),
   (9, [.dest none [.acks [(some 3, none)]], .dest none [.acks [(some 4, none)]]])]
def s0 : PS := { win := Win.new 10 5, thr := 5, size := 10, dlqTask := 9, scripts := scripts }

theorem hlin : Linear lin :=
  .mk _ _ _ (by decide) (fun n hn => by
    rw [List.mem_singleton.mp hn]
    exact .mk _ _ _ (by decide) (fun n hn => by
      rw [List.mem_singleton.mp hn]
      exact .mk _ _ _ (by decide) (fun n hn => by
        rw [List.mem_singleton.mp hn]
        exact .mk _ _ _ (by decide) (fun _ hn => nomatch hn))))
example : lin.kind = .source := rfl
example : (Mon.dests lin).Nodup := by decide
example : ¬ NS scripts := by decide
example : (batches.flatten.map Mon.root).Pairwise (· < ·) := by decide
example : Mon.sourceWellFormed batches = true := by decide
example : s0.log = #[] ∧ s0.scripts = scripts := ⟨rfl, rfl⟩
set_option maxRecDepth 100000 in
theorem hrp : RootPreserving scripts ((runBatches 40 lin batches).run.run s0).2.log.toList := by decide +kernel
set_option maxRecDepth 100000 in
theorem hft : FreshTags scripts batches ((runBatches 40 lin batches).run.run s0).2.log.toList := by decide +kernel
-- every record acknowledged, in order: 1 after both pieces were written, 2 filtered, 3 and 4 after
-- the dead-letter write of the ORIGINAL record was confirmed
set_option maxRecDepth 100000 in
example : ackedKeys ((runBatches 40 lin batches).run.run s0).2.log = [1, 2, 3, 4] := by decide +kernel
/-- the theorem applies to this run -/
example : Mon.run lin scripts batches ((runBatches 40 lin batches).run.run s0).2.log.toList = [] :=
  monitor_sound_linear 40 lin scripts batches s0 hlin rfl (by decide) (by decide) rfl rfl hrp hft

/-- WHY `FreshTags`: two pieces of one record with the SAME tag, written to the destination in two
writes (the second piece is retried), look like a duplicate write of one record — the C05 clause
fires although the engine is right. -/
def scriptsTag : List (Nat × List Reply) :=
  [(1, [.proc [.multi [⟨1001, some 1⟩, ⟨1001, none⟩]]]),
   (5, [.proc [.single ⟨1001, some 1⟩, .nil], .proc [.single ⟨1001, none⟩]]),
   (2, [.dest none [.acks [(some 1, none)]], .dest none [.acks [(none, none)]]])]
set_option maxRecDepth 100000 in
example : Mon.run lin scriptsTag [[⟨1, some 1⟩]]
    ((runBatches 40 lin [[⟨1, some 1⟩]]).run.run { s0 with scripts := scriptsTag }).2.log.toList ≠ [] := by decide +kernel
set_option maxRecDepth 100000 in
example : ¬ FreshTags scriptsTag [[⟨1, some 1⟩]]
    ((runBatches 40 lin [[⟨1, some 1⟩]]).run.run { s0 with scripts := scriptsTag }).2.log.toList := by decide +kernel

end ExSplit

/-! ## the whole monitor on pipelines WITH fan-out (not nested) AND record splitting -/

/-- ALL clauses of the trace monitor (C01, C04, C05, C07, C08) are silent on every run of the model for
task trees WITH FAN-OUT, provided no fan-out lies below another one (`Fan1 tree`), RECORD SPLITTING
INCLUDED — above the fan-out (the split runs are cloned for every branch; a record is acknowledged
only when every piece was confirmed or filtered in EVERY branch) and inside the branches (a piece
that fails in one branch dead-letters the ORIGINAL record, once): any fuel, window configuration,
batches, order of the branches, DLQ replies, retries, filters, processor errors, destination nacks
and every outcome of the run. Hypotheses: those of `monitor_sound_nosplit_fan1` without `NS scripts`,
plus the tag discipline `FreshTags` of the run. (A `Linear` tree is `Fan1` — `Linear.fan1`, Proofs/TreeBuild.lean
— so this covers `monitor_sound_linear` for trees whose task ids are all distinct.) -/
theorem monitor_sound_fan1 (fuel : Nat) (tree : TaskNode) (scripts : List (Nat × List Reply))
    (batches : List (List Rec)) (s₀ : PS)
    (hfan : Fan1 tree) (hsrc : tree.kind = .source) (hnd : (tasksS tree).Nodup)
    (hsorted : (batches.flatten.map Mon.root).Pairwise (· < ·))
    (hlog : s₀.log = #[]) (hscr : s₀.scripts = scripts)
    (hrp : RootPreserving scripts ((runBatches fuel tree batches).run.run s₀).2.log.toList)
    (hft : FreshTags scripts batches ((runBatches fuel tree batches).run.run s₀).2.log.toList) :
    Mon.run tree scripts batches ((runBatches fuel tree batches).run.run s₀).2.log.toList = [] :=
  monitor_sound_keyed id (fun _ _ h => congrArg (· % 1000) h) fuel tree scripts batches s₀ (.inr ⟨hfan, hnd⟩) hsrc hsorted hlog
    hscr hrp (Disc.of_FT (G := ⟨tree, scripts, batches⟩) hft)

/-- the same per property (`c = .c01`: the C01 clause, `.c05`, `.c07`, `.c08`, `.c04`) -/
theorem C01_v2_monitor_sound_fan1 (fuel : Nat) (tree : TaskNode) (scripts : List (Nat × List Reply))
    (batches : List (List Rec)) (s₀ : PS)
    (hfan : Fan1 tree) (hsrc : tree.kind = .source) (hnd : (tasksS tree).Nodup)
    (hsorted : (batches.flatten.map Mon.root).Pairwise (· < ·))
    (hlog : s₀.log = #[]) (hscr : s₀.scripts = scripts)
    (hrp : RootPreserving scripts ((runBatches fuel tree batches).run.run s₀).2.log.toList)
    (hft : FreshTags scripts batches ((runBatches fuel tree batches).run.run s₀).2.log.toList) (c : Clause) :
    Mon.runTagged c tree scripts batches ((runBatches fuel tree batches).run.run s₀).2.log.toList = [] :=
  runTagged_nil_of_run
    (monitor_sound_fan1 fuel tree scripts batches s₀ hfan hsrc hnd hsorted hlog hscr hrp hft) c

/-! ## non-vacuity of the fan-out + splitting theorem -/
namespace ExFanSplit
open Conduit.Dlq

/-- source → processor 1 → fan-out to (destination 2) and (processor 4 → destination 3) -/
def tree : TaskNode := .mk 0 .source [.mk 1 .proc [.mk 2 .dest [], .mk 4 .proc [.mk 3 .dest []]]]
def batches : List (List Rec) := [[⟨1, some 1⟩, ⟨2, some 2⟩, ⟨3, some 3⟩]]
/-- P1 splits record 1 ABOVE the fan-out (the run is cloned for both branches). Branch 0: D2 confirms
all four rows. Branch 1: P4 keeps the first piece of record 1 and filters the second, splits record 2
INSIDE the branch and errors on record 3; D3 confirms the piece of record 1, confirms the first piece
of record 2 and rejects the second. So record 1 is acknowledged (every piece confirmed or filtered in
both branches), the ORIGINAL records 2 and 3 are dead-lettered. -/
def scripts : List (Nat × List Reply) :=
  [(1, [.proc [.multi [⟨1001, some 1⟩, ⟨2001, none⟩], .single ⟨2, some 2⟩, .single ⟨3, some 3⟩]]),
   (2, [.dest none [.acks [(some 1, none), (none, none), (some 2, none), (some 3, none)]]]),
   (4, [.proc [.single ⟨1001, some 1⟩, .filter, .multi [⟨3002, some 2⟩, ⟨4002, none⟩], .error none]]),
   (3, [.dest none [.acks [(some 1, none), (some 2, none), (none, some {})]]]),
   (9, [.dest none [.acks [(some 2, none)]], .dest none [.acks [(some 3, none)]]])]
def s0 : PS := { win := Win.new 10 5, thr := 5, size := 10, dlqTask := 9, scripts := scripts, orders := [[0, 1]] }

theorem hfan : Fan1 tree :=
  .mk _ _ _ (fun _ n hn => by
      rw [List.mem_singleton.mp hn]
      exact .mk _ _ _ (fun h => absurd h (by decide)) (fun _ n hn => by
        rcases List.mem_cons.mp hn with rfl | hn
        · exact ExFan.lin_leaf _ _
        · rw [List.mem_singleton.mp hn]
          exact .mk _ _ _ (by decide) (fun n hn => by rw [List.mem_singleton.mp hn]; exact ExFan.lin_leaf _ _)))
    (fun h => absurd h (by decide))
example : tree.kind = .source := rfl
example : (tasksS tree).Nodup := by decide
example : ¬ NS scripts := by decide
example : (batches.flatten.map Mon.root).Pairwise (· < ·) := by decide
example : Mon.sourceWellFormed batches = true := by decide
set_option maxRecDepth 100000 in
theorem hrp : RootPreserving scripts ((runBatches 40 tree batches).run.run s0).2.log.toList := by decide +kernel
set_option maxRecDepth 100000 in
theorem hft : FreshTags scripts batches ((runBatches 40 tree batches).run.run s0).2.log.toList := by decide +kernel
set_option maxRecDepth 100000 in
example : ackedKeys ((runBatches 40 tree batches).run.run s0).2.log = [1, 2, 3] := by decide +kernel
/-- the theorem applies to this run -/
example : Mon.run tree scripts batches ((runBatches 40 tree batches).run.run s0).2.log.toList = [] :=
  monitor_sound_fan1 40 tree scripts batches s0 hfan rfl (by decide) (by decide) rfl rfl hrp hft

end ExFanSplit

end Conduit.Funnel
