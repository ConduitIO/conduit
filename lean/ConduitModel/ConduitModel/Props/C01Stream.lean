import ConduitModel.Proofs.StreamPipe

/-
C01 (default engine) — property theorems.

"A source connector is told that a record is acknowledged only after every destination of the
pipeline has positively confirmed every record derived from it, or the record was confirmed
written to the dead-letter queue, or a processor filtered it out … for any number of sources,
destinations and processors, and whether or not the pipeline later fails or is stopped."
-/
namespace Conduit.Props
open Conduit.Stream

/-- C01 for the Ack component alone (more behaviours than the product: it holds whatever the data
path does); the statement for the pipeline below is its instance. -/
theorem C01_v1_ack_component (M size thr : Nat) (evs : List Ev) (a : Ack)
    (h : Ack.run (Ack.init M size thr) evs = some a) : monC01 M a.log = true := by
  have hI := ainv_reach M size thr evs a h
  have hm := hI.monC01
  have hM := run_M evs h
  simpa [hM, Ack.init] using hm

/-- C01 for the v1 engine: for EVERY topology (any number of sources, destinations, processor
chains and parallel workers), EVERY plugin reply script and EVERY interleaving — i.e. every event
list the pipeline model can perform, of any length; a stop or failure is just a shorter list —
the C01 monitor holds of the trace of observable events: each `Source.Ack` call for `(s,i)` is
preceded, for every destination `d`, by a positive acknowledgment of `(s,i)` from `d` or by a
FilterRecord for `(s,i)` on the way to `d`, or it is preceded by the DLQ plugin's confirmation of
`(s,i)`. The trace of the model is exactly what the fake plugins of the harness record
(`C01_v1_log_is_trace`), and the same function `monC01` is evaluated on every recorded trace. -/
theorem C01_v1_source_ack_justified (τ : Topo) (size thr : Nat) (evs : List Ev) (p : Pipe)
    (h : Pipe.run τ (Pipe.init τ size thr) evs = some p) : monC01 τ.nDst p.ack.log = true :=
  C01_v1_ack_component τ.nDst size thr evs p.ack (pipe_run_proj evs h).2

/-- the log the monitors judge is the list of observable events of the run, newest first. -/
theorem C01_v1_log_is_trace (τ : Topo) (size thr : Nat) (evs : List Ev) (p : Pipe)
    (h : Pipe.run τ (Pipe.init τ size thr) evs = some p) :
    p.ack.log = (evs.filter Ev.observable).reverse := by
  have := run_log evs (pipe_run_proj evs h).2
  simpa [Pipe.init, Ack.init] using this

/-- C01 spelled out: at the moment of ANY source ack (`pre` = everything observed before it),
every destination has confirmed the record or a processor filtered it out on the way there — or
the DLQ has confirmed it. -/
theorem C01_v1_every_ack_event (τ : Topo) (size thr : Nat) (evs : List Ev) (p : Pipe)
    (h : Pipe.run τ (Pipe.init τ size thr) evs = some p)
    (post pre : List Ev) (s i : Nat) (r : SRes) (hl : p.ack.log = post ++ Ev.sack s i r :: pre) :
    (∀ d, d < τ.nDst → dackOkIn pre d s i = true ∨ filtIn pre d s i = true) ∨ dlqaOkIn pre s i = true := by
  have hj := monC01_at_sack (C01_v1_source_ack_justified τ size thr evs p h) hl
  unfold justified at hj
  rcases Bool.or_eq_true_iff.mp hj with hj | hj
  · left
    intro d hd
    rw [List.all_eq_true] at hj
    have := hj d (by simpa using hd)
    simpa using this
  · exact Or.inr hj

/-- C01, the fan-out arbiter: the original message is acked (its ack handler may run) only when
every destination branch acked its clone — for every vote order and every number of branches. -/
theorem C01_v1_fanout_unanimous (M size thr : Nat) (evs : List Ev) (a : Ack)
    (h : Ack.run (Ack.init M size thr) evs = some a) (s i : Nat) (ho : a.ost s i = .acked) :
    a.fanned s i = true ∧ a.rem s i = 0 ∧ ∀ d, d < M → (a.cl s i)[d]? = some .acked := by
  have hM : a.M = M := by simpa [Ack.init] using run_M evs h
  exact hM ▸ all_clones_acked (ainv_reach M size thr evs a h).invJ ho

/-! non-vacuity: a run with two destinations in which the source is acked, and one in which a
nack from one destination sends the record to the DLQ first -/

def exTopo : Topo := { nDst := 2, srcLen := fun _ => 2, plLen := 1, dstLen := fun _ => 2, jobs := fun _ _ => false }

def exRunAck : List Ev :=
  [.read 0, .enq 0 0, .mv (.src 0) 1 0 0, .fan 0 0, .fdeliver 1, .fdeliver 0,
   .mv (.dst 0) 0 0 0, .mv (.dst 1) 0 0 0, .write 1 0 0 true, .write 0 0 0 true,
   .dreply 0 [(some (0, 0), true)], .dreply 1 [(some (0, 0), true)], .sack 0 0 .ok, .winAck 0]

def exRunDlq : List Ev :=
  [.read 0, .enq 0 0, .mv (.src 0) 1 0 0, .fan 0 0, .fdeliver 1, .fdeliver 0,
   .mv (.dst 0) 0 0 0, .mv (.dst 1) 0 0 0, .write 1 0 0 true, .write 0 0 0 true,
   .dreply 0 [(some (0, 0), false)], .dlqw 0 0 true, .dlqa 0 0 true, .sack 0 0 .ok]

example : ((Pipe.run exTopo (Pipe.init exTopo 0 0) exRunAck).map fun p => sackIn p.ack.log 0 0) = some true := by
  decide
example : ((Pipe.run exTopo (Pipe.init exTopo 0 0) exRunDlq).map fun p => sackIn p.ack.log 0 0) = some true := by
  decide
/-- the model refuses the unjustified ack: one destination has not confirmed yet. -/
example : (Pipe.run exTopo (Pipe.init exTopo 0 0) (exRunAck.take 11 ++ [.sack 0 0 .ok])).isNone = true := by
  decide

end Conduit.Props
