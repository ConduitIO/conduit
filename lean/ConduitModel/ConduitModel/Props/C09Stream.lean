import ConduitModel.Proofs.StreamCondMerge
import ConduitModel.Proofs.StreamPipe
import ConduitModel.Props.C01Stream

/-
C09 (default engine + processor package) — property theorems.

"Whatever a plugin returns - fewer, more or zero results, … - the engine neither panics nor
hangs: it either applies the documented handling or stops that pipeline with an error … For a
processor with a condition, records that do not match pass through unchanged in their original
place and every result stays aligned with the record it belongs to."
-/
namespace Conduit.Props
open Conduit.Stream.CondMerge
open Conduit.Stream

/-- C09, last sentence, for `RunnableProcessor.Process` (pkg/processor/runnable_processor.go):
for EVERY match pattern (`conds`: keep / pass / evaluation error per
record), EVERY batch and EVERY plugin (any output length, any content):
the call never panics, and the result is either the coded error "processor returned more
records than input", or a list in which every element sits at the index of the record it
belongs to — a non-matching record is `SingleRecord(records[j])` unchanged at `j`, the result
at a matching position `j` is the plugin's result for that record (`raw[rank conds j]`), a
failed condition evaluation yields the error record at the failing record's index — and which
has the length of the input whenever the plugin answered every kept record and no evaluation
failed. (A shorter plugin reply yields an aligned *prefix*: the documented "short result"
handling of the callers applies.) -/
theorem C09_v1_cond_merge_aligned {ρ τ : Type} (conds : List Cond) (recs : List ρ)
    (plugin : List ρ → List τ) (hlen : conds.length = recs.length) :
    ∃ res, condMerge conds recs plugin = .ok res ∧
      ((keptCount conds < (rawOf conds recs plugin).length ∧ res = [Out.moreErr]) ∨
       ((rawOf conds recs plugin).length ≤ keptCount conds ∧
        Aligned conds recs (rawOf conds recs plugin) res ∧
        ((rawOf conds recs plugin).length = keptCount conds → hasErr conds = false →
          res.length = conds.length))) := by
  rw [condMerge_eq conds recs plugin hlen]
  by_cases h : keptCount conds < (rawOf conds recs plugin).length
  · exact ⟨_, rfl, Or.inl ⟨h, by simp [h]⟩⟩
  · refine ⟨_, rfl, Or.inr ⟨by omega, ?_, ?_⟩⟩
    · rw [if_neg h]; exact spec_aligned _ _ _
    · intro hk he; rw [if_neg h]; exact spec_full_length _ _ _ hlen hk he

/-- C09 "neither panics": no slice access of the merge is out of range, whatever the plugin
returns. -/
theorem C09_v1_cond_merge_never_panics {ρ τ : Type} (conds : List Cond) (recs : List ρ)
    (plugin : List ρ → List τ) (hlen : conds.length = recs.length) (e : Panic) :
    condMerge conds recs plugin ≠ .error e := by
  rw [condMerge_eq conds recs plugin hlen]; intro h; cases h

/-- Non-matching records pass through unchanged in their original place (stated on its own). -/
theorem C09_v1_cond_merge_passthrough_in_place {ρ τ : Type} (conds : List Cond) (recs : List ρ)
    (plugin : List ρ → List τ) (hlen : conds.length = recs.length)
    (hk : (rawOf conds recs plugin).length ≤ keptCount conds)
    (res : List (Out ρ τ)) (hres : condMerge conds recs plugin = .ok res)
    (j : Nat) (x : Out ρ τ) (hx : res[j]? = some x) (hj : conds[j]? = some Cond.pass) :
    ∃ r, recs[j]? = some r ∧ x = Out.single r := by
  obtain ⟨res', h1, h2⟩ := C09_v1_cond_merge_aligned conds recs plugin hlen
  rw [hres] at h1
  cases h1
  rcases h2 with ⟨h, _⟩ | ⟨_, ha, _⟩
  · omega
  · exact (ha.2 j x hx).1 hj

/-- The slice-copying merge `condMergeOld` does panic: pattern keep/keep/pass with a plugin that
answers only the first kept record (DESIGN §9 F4) — the witness kept in corpus/C09. -/
theorem C09_v1_cond_merge_pinned_code_panics :
    condMergeOld [Cond.keep, Cond.keep, Cond.pass] [0, 1, 2] (fun k => k.take 1)
      = (.error .indexOutOfRange : Except Panic (List (Option (Out Nat Nat)))) := by
  rfl

theorem C09_v1_cond_merge_pinned_code_panics_kpkp :
    condMergeOld [Cond.keep, Cond.pass, Cond.keep, Cond.pass] [0, 1, 2, 3] (fun k => k.take 1)
      = (.error .indexOutOfRange : Except Panic (List (Option (Out Nat Nat)))) := by
  rfl

/-! non-vacuity: the hypotheses are satisfiable and every outcome class occurs -/

example : condMerge [Cond.keep, Cond.keep, Cond.pass] [0, 1, 2] (fun k => k.take 1)
    = (.ok [Out.res 0] : Except Panic (List (Out Nat Nat))) := by rfl
example : condMerge [Cond.pass, Cond.keep, Cond.pass, Cond.keep] [0, 1, 2, 3] (fun k => k.map (· + 10))
    = (.ok [Out.single 0, Out.res 11, Out.single 2, Out.res 13] : Except Panic (List (Out Nat Nat))) := by rfl
example : condMerge [Cond.pass, Cond.keep, Cond.err, Cond.keep] [0, 1, 2, 3] (fun k => k)
    = (.ok [Out.single 0, Out.res 1, Out.condErr] : Except Panic (List (Out Nat Nat))) := by rfl
example : condMerge [Cond.keep, Cond.pass] [0, 1] (fun k => k ++ k)
    = (.ok [Out.moreErr] : Except Panic (List (Out Nat Nat))) := by rfl
example : condMerge [Cond.pass, Cond.pass] [0, 1] (fun k => k)
    = (.ok [Out.single 0, Out.single 1] : Except Panic (List (Out Nat Nat))) := by rfl

/-- C09 "neither panics": in EVERY run of the v1 pipeline model — every topology, every
interleaving, every destination reply script (any lengths incl. EMPTY, any positions incl. unknown,
repeated, out of order), every processor result shape, every DLQ / source-ack failure — none of the
panics of the code is reached: not the `acks[0]` of `DestinationAckerNode.worker` (an
empty reply is an error), and not the "BUG: message … ack/nack failed" panics of
message.go (a message is never acked after it was nacked or vice versa: the fan-out arbiter acks
the original only when every clone was acked, and a nacked clone is never acked). -/
theorem C09_v1_no_panic (τ : Topo) (size thr : Nat) (evs : List Ev) (p : Pipe)
    (h : Pipe.run τ (Pipe.init τ size thr) evs = some p) : p.ack.panicked = false :=
  (ainv_reach τ.nDst size thr evs p.ack (pipe_run_proj evs h).2).noPanic

theorem C09_v1_no_panic_ack_component (M size thr : Nat) (evs : List Ev) (a : Ack)
    (h : Ack.run (Ack.init M size thr) evs = some a) : a.panicked = false :=
  (ainv_reach M size thr evs a h).noPanic

/-- C09 "whatever a connector returns … applies the documented handling or stops with an error":
whenever destination d's acker worker is waiting for a reply (a written message at the head of its
queue, no buffered ack), EVERY reply `acks` — any length, any content — is handled: the step is
defined, and it either matches the head (ack / nack it), or stops the worker (`wdead`) leaving the
message unacknowledged; an empty reply stops the worker. -/
theorem C09_v1_every_destination_reply_handled (a : Ack) (d s i : Nat) (acks : List DAck)
    (hq : (a.aq d)[0]? = some (s, i)) (hw : a.wdead d = false) (hb : a.buf d = [])
    (hf : a.clFilt s i d = false) (hc : a.clone s i d = .open) :
    ∃ a', a.step (.dreply d acks) = some a' ∧
      (acks = [] → a'.wdead d = true ∧ a'.clone s i d = .open) ∧
      (∀ x rest, acks = x :: rest → x.1 ≠ some (s, i) → a'.wdead d = true ∧ a'.clone s i d = .open) := by
  cases acks with
  | nil =>
    refine ⟨_, by simp [Ack.step, hq, hw, hb, hf, hc]; rfl, ?_, ?_⟩
    · intro _; simp [Ack.clone] at hc ⊢; exact hc
    · intro x rest hx; cases hx
  | cons y rest =>
    refine ⟨_, by simp [Ack.step, hq, hw, hb, hf, hc, firstAck]; rfl, ?_, ?_⟩
    · intro hx; cases hx
    · intro x rest' hx hne
      injection hx with h1 h2
      subst h1
      simp [Ack.dproc, hne, Ack.clone] at hc ⊢
      exact hc

/-- C09 for processors in the v1 engine: every reply shape of a processor plugin (one unchanged
record, a changed position, filter, error, multi, nil / unknown, zero or several results) has a
defined handling, and everything but an unchanged single record or a filter leaves the record
un-acked: it is nacked (`Ack.procO … .fail` sets the status to nacked; it can then only reach the
source through the DLQ, C01). -/
theorem C09_v1_every_processor_reply_handled (r : ProcReply) :
    (procKind r = .pass ↔ r = .single true) ∧ (procKind r = .filter ↔ r = .filter) ∧
    (procKind r = .fail ↔ r ≠ .single true ∧ r ≠ .filter) := by
  cases r with
  | single b => cases b <;> simp [procKind]
  | _ => simp [procKind]

theorem C09_v1_failed_processor_reply_nacks (a : Ack) (s i : Nat) : (a.procO s i .fail).ost s i = .nacked := by
  simp [Ack.procO]

/-! non-vacuity: an empty reply and a reply for an unknown position are accepted by the model and stop
the worker; the run goes on (teardown nack → DLQ → source ack) -/
example : ((Pipe.run exTopo (Pipe.init exTopo 0 0) (exRunAck.take 10 ++ [.dreply 0 []])).map
    fun p => (p.ack.wdead 0, p.ack.panicked)) = some (true, false) := by decide
example : ((Pipe.run exTopo (Pipe.init exTopo 0 0) (exRunAck.take 10 ++ [.dreply 0 [(none, true)]])).map
    fun p => (p.ack.wdead 0, p.ack.panicked)) = some (true, false) := by decide
example : ((Pipe.run exTopo (Pipe.init exTopo 0 0)
    (exRunAck.take 10 ++ [.dreply 0 [], .nackB 0 0 0, .dlqw 0 0 true, .dlqa 0 0 true, .sack 0 0 .ok])).map
    fun p => sackIn p.ack.log 0 0) = some true := by decide

end Conduit.Props
