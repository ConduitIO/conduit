import ConduitModel.Proofs.LifecycleRun
import ConduitModel.Proofs.LifecycleOpen

/-!
# C11 — start, stop and wait act on the one live run and report its true result

Statement (properties.jsonl C11): "At most one run of a pipeline exists at any time; whenever a
pipeline is reported as running, stop, wait and stop-and-wait act on that run rather than on an
earlier one, and wait returns the terminal result of the run it waited for. The stored status always
ends up agreeing with how the last run actually ended, no sequence of control calls and failures can
wedge a pipeline …, and once a run has ended its connectors and processors are released so the
pipeline can be started again."

Over M5, for every event list (= every history of one-at-a-time control calls interleaved in every
way with start-up, failure, recovery restarts and cleanup, at model-step granularity), both engines.
-/
namespace Conduit.Lifecycle

/-- C11.at_most_one_live_run — "at most one run of a pipeline exists at any time": in every
reachable state at most one run holds the connectors' `Instance.connector` guards (has its plugins
open). The guard that enforces it is `Connector()` / `Open` refusing while `connector != nil`
(`anyHolds` in the model), for user Starts racing recovery restarts alike. -/
theorem C11_at_most_one_live_run {eng cfg fx} {s : State} (hr : Reach eng cfg fx s) (i j : Nat)
    (hi : (s.runs i).holds = true) (hj : (s.runs j).holds = true) : i = j :=
  (reach_inv hr).oneHolder i j hi hj

/-- C11.resources_released — "once a run has ended its connectors and processors are released": a
run whose node / worker goroutines have all returned holds no connector guard … -/
theorem C11_resources_released {eng cfg fx} {s : State} (hr : Reach eng cfg fx s) (i : Nat)
    (hdead : (s.runs i).nodesAlive = false) : (s.runs i).holds = false := by
  cases h : (s.runs i).holds with
  | false => rfl
  | true => have := (reach_inv hr).holdsAlive i h; simp [hdead] at this

/-- … "so the pipeline can be started again": when no run has live nodes, the build of the next
Start is enabled (the `connector is running` refusal cannot fire). -/
theorem C11_restartable {eng cfg fx} {s : State} (hr : Reach eng cfg fx s) (n : Nat)
    (hall : ∀ i, (s.runs i).nodesAlive = false) (hn : n < s.next) (hp : (s.runs n).phase = .building) :
    (step s (.buildOk n)).isSome = true := by
  have hno : anyHolds s = false := by
    unfold anyHolds
    rw [List.any_eq_false]
    intro i _
    simp [C11_resources_released hr i (hall i)]
  simp only [step, stepBuildOk, hp, hno]
  have : ¬ n ≥ s.next := by omega
  simp [this]

/-- C11.wait_returns_own_result — "wait returns the terminal result of the run it waited for":
WaitPipeline binds, at its lookup, to the run published in the map (or to the recorded terminal
error when there is none) … -/
theorem C11_wait_binds {s s' : State} {w : Nat} (h : step s (.waitBegin w) = some s') :
    s'.waits w = some (match s.entry with
      | some m => .run m
      | none => .value (s.terminalErr.getD none)) := by
  simp only [step, stepWaitBegin] at h
  split at h
  · cases h
  · cases h
    simp only [if_true]
    cases s.entry <;> rfl

/-- … and returns only when every goroutine of THAT run has returned, with THAT run's tomb reason. -/
theorem C11_wait_returns_own_result {s s' : State} {w : Nat} {r : Option Cause}
    (h : step s (.waitReturn w r) = some s') :
    (∃ m, s.waits w = some (.run m) ∧ tombDead (s.runs m) = true ∧ r = (s.runs m).tomb) ∨
    (∃ v, s.waits w = some (.value v) ∧ r = v) := by
  simp only [step, stepWaitReturn] at h
  split at h
  · cases h
  · rename_i m hm
    split at h
    · rename_i hc; exact Or.inl ⟨m, hm, hc.1, hc.2⟩
    · cases h
  · rename_i v hv
    split at h
    · rename_i hc; exact Or.inr ⟨v, hv, hc⟩
    · cases h

/-- the terminal error is recorded before the map entry is removed (WaitPipeline's fallback sees
it): the delete step is only enabled after `terminalErrors.Set`. -/
theorem C11_terminal_error_before_delete {s s' : State} {n : Nat}
    (h : step s (.setTerminalErr n) = some s') :
    ∃ e, (s.runs n).cpc = .tail1 e ∧ s'.terminalErr = some e ∧ (s'.runs n).cpc = .tail2 e ∧ s'.entry = s.entry := by
  cases Step.of_step h with
  | setTerminalErr n e he => exact ⟨e, he, rfl, by simp, rfl⟩

/-- C11.published_when_running — FULL STATEMENT (the goal):
`Reach s → s.status = .running → ∃ m, s.entry = some m ∧ s.lastWriter = some m`
("whenever the pipeline is reported as running, the map resolves the run whose Start reported it").
It is FALSE on the unchanged tree; the publication ORDER it rests on is proved (publish strictly
before the StatusRunning write, in both engines; tied to the source by Facts/C11) … -/
theorem C11_publish_before_running_partial {s s' : State} {n : Nat} {ok : Bool}
    (h : step s (.writeRunning n ok) = some s') : (s.runs n).phase = .published := by
  cases Step.of_step h <;> assumption

theorem C11_publish_sets_entry {s s' : State} {n : Nat} (h : step s (.publish n) = some s') :
    s'.entry = some n ∧ (s'.runs n).phase = .published := by
  cases Step.of_step h
  exact ⟨rfl, by simp⟩

/-- FINDING (v2, unchanged tree): the cleanup tail removes the map entry by key (blind
`runningPipelines.Delete`). A terminal status (UserStopped / Degraded) written by a finishing run
already admits a new Start; if that Start publishes before the old run's Delete, the LIVE run's entry
is erased: status Running, plugins open, but Stop / StopAndWait answer "not running" and
WaitPipeline returns nil — the pipeline cannot be stopped. (v1 closed this with a compare-and-delete,
#2806.) -/
theorem C11_blind_delete_v2_counterexample :
    ((runFrom (init .v2 ⟨some 3, 1, 2, 5⟩ {})
      [.startUser, .buildOk 0, .publish 0, .writeRunning 0 true, .startReturn,
       .stop false, .nodeExitClean 0, .cleanupWake 0 none, .writeStatus 0 true,
       .startUser, .setTerminalErr 0, .buildOk 1, .publish 1, .deleteEntry 0, .writeRunning 1 true,
       .startReturn]).map fun s => (s.status, s.entry, (s.runs 1).holds, stopRes s false)) =
      some (.running, none, true, .notRunning) := by decide

/-- with the compare-and-delete fix the same history keeps the live run reachable. -/
example :
    ((runFrom (init .v2 ⟨some 3, 1, 2, 5⟩ { v2CompareDelete := true })
      [.startUser, .buildOk 0, .publish 0, .writeRunning 0 true, .startReturn,
       .stop false, .nodeExitClean 0, .cleanupWake 0 none, .writeStatus 0 true,
       .startUser, .setTerminalErr 0, .buildOk 1, .publish 1, .deleteEntry 0, .writeRunning 1 true,
       .startReturn]).map fun s => (s.status, s.entry, (s.runs 1).holds, stopRes s false)) =
      some (.running, some 1, true, .ok) := by decide

/-- FINDING (both engines, with or without the fixes): a user Start that overlaps the nested Start
of a recovery (both passed the `status != Running` check) — one of them loses the connector guard,
fails, and its caller writes Degraded over the winner's Running: a live, published run under a
Degraded status, which `Stop` refuses ("can't stop pipeline with status degraded"). -/
theorem C11_overlapping_starts_counterexample (eng : Engine) :
    ((runFrom (init eng ⟨some 3, 1, 2, 5⟩ Fixes.allOn)
      [.startUser, .buildOk 0, .publish 0, .writeRunning 0 true, .startReturn,
       .nodeExit 0 .nodeTransient, .cleanupWake 0 none, .recoverBegin 0 1 true, .tick 1,
       .backoffElapsed 0, .startUser, .buildOk 2, .publish 2, .writeRunning 2 true, .startReturn,
       .buildFail 1 false, .writeStatus 0 true]).map
        fun s => (s.status, s.entry, (s.runs 2).nodesAlive, stopRes s true)) =
      some (.degraded, some 2, true, .notRunning) := by
  cases eng <;> decide

/-- C11.no_wedge — FULL STATEMENT (the goal): from every reachable state in which some run has not
finished, some non-call step is enabled until quiescence, and every control call returns.
Proved here: the cleanup goroutine of a run never blocks on anything but its own run's nodes, the
start-up barrier and the back-off timer (local progress); the global statement is NOT proved, and
two wedges of the unchanged tree are recorded as findings (`C11_blind_delete_v2_counterexample`,
`C11_overlapping_starts_counterexample`; v1 graceful-Stop/InjectControlMessage deadlock, see
known_findings.json). -/
theorem C11_no_wedge_partial (s : State) (n : Nat) :
    ((s.runs n).nodesAlive = true → (step s (.nodeExit n .nodeTransient)).isSome = true) ∧
    ((s.runs n).cpc = .waiting → (s.runs n).nodesAlive = false →
        (s.eng = .v1 ∨ (s.runs n).phase = .started ∨ (s.runs n).phase = .failedLive) →
        (step s (.cleanupWake n none)).isSome = true) ∧
    (∀ a, (s.runs n).cpc = .decided a → a ≠ .recover → (step s (.writeStatus n true)).isSome = true) ∧
    ((s.runs n).cpc = .decided .recover → s.cfg.minDelay ≤ s.cfg.maxDelay →
        (step s (.recoverBegin n s.cfg.minDelay true)).isSome = true) ∧
    (∀ w t, (s.runs n).cpc = .backoff w t → w ≤ s.now → (step s (.backoffElapsed n)).isSome = true) ∧
    (∀ e, (s.runs n).cpc = .tail1 e → (step s (.setTerminalErr n)).isSome = true) ∧
    (∀ e, (s.runs n).cpc = .tail2 e → (step s (.deleteEntry n)).isSome = true) := by
  refine ⟨?_, ?_, ?_, ?_, ?_, ?_, ?_⟩
  · intro h
    simp only [step, stepNodeExit, h]
    have : ¬((!true) = true ∨ Cause.nodeTransient ≠ Cause.nodeFatal ∧ Cause.nodeTransient ≠ Cause.nodeTransient) := by
      simp
    simp only [this, if_false]
    split <;> simp
  · intro hc hn hp
    simp only [step, stepCleanupWake, hc, hn]
    rcases hp with hp | hp | hp <;> simp [hp]
  · intro a ha hne
    simp only [step, stepWriteStatus, ha]
    simp [hne]
  · intro hc hle
    simp only [step, stepRecoverBegin, hc]
    have : ¬ s.cfg.maxDelay < s.cfg.minDelay := by omega
    simp [this]
    split <;> simp
  · intro w t hb hw
    simp only [step, stepBackoffElapsed, hb]
    have : ¬ s.now < w := by omega
    simp only [this, if_false]
    iterate 5 apply isSome_ite_some
    rfl
  · intro e he; simp [step, stepSetTerminalErr, he]
  · intro e he; simp [step, stepDeleteEntry, he]

/-- non-vacuity: a plain start / graceful stop / restart history reaches states with a live run. -/
example : ((runFrom (init .v1 ⟨some 3, 1, 2, 5⟩)
    [.startUser, .buildOk 0, .publish 0, .writeRunning 0 true, .startReturn, .openOk 0, .waitBegin 0,
     .stop false, .nodeExitClean 0, .cleanupWake 0 none, .writeStatus 0 true, .setTerminalErr 0,
     .deleteEntry 0, .waitReturn 0 none, .startUser, .buildOk 1]).map
      fun s => (s.status, s.entry, (s.runs 1).nodesAlive)) = some (.userStopped, none, true) := by decide

end Conduit.Lifecycle

namespace Conduit.LifecycleOpen

/-- C11.failed_start_releases_all — "once a run has ended its connectors … are released so the pipeline
can be started again", for the run that never got past its open phase: for every number of sources `n`,
every place the open phase can fail (the shared sink, the source of worker k, the DLQ of worker k — any
k), with the rollback loop closing the whole `opened` slice (`lo = 0`) and a worker that releases its own
source when its DLQ fails, a failed Start leaves NO connector guard set … -/
theorem C11_failed_start_releases_all (sh : Shape) (hlo : sh.lo = 0) (hw : sh.workerRollsBackSource = true)
    (n : Nat) (g : Guards) (hfree : g.anyHeld n = false) (fault : Fault)
    (hfail : (startAttempt sh n g fault).2 = false) : (startAttempt sh n g fault).1.anyHeld n = false := by
  obtain ⟨hs, hsrc⟩ := (anyHeld_false_iff g n).mp hfree
  rw [anyHeld_false_iff]
  simp only [startAttempt, hfree] at hfail ⊢
  cases fault with
  | none => simp at hfail
  | sink => exact ⟨hs, hsrc⟩
  | source k =>
    by_cases hk : k < n
    · simp only [hk, if_true, Bool.false_eq_true, if_false]
      refine ⟨trivial, fun j hj => ?_⟩
      rw [closeDownTo_apply, openUpTo_apply, hsrc j hj, hlo]
      by_cases hjk : j < k <;> simp [hjk]
    · simp [hk] at hfail
  | dlq k =>
    by_cases hk : k < n
    · simp only [hk, if_true, hw, Bool.false_eq_true, if_false]
      refine ⟨trivial, fun j hj => ?_⟩
      rw [closeDownTo_apply, openUpTo_apply, hsrc j hj, hlo]
      by_cases hjk : j < k <;> simp [hjk]
    · simp [hk] at hfail

/-- … so the next Start is not refused by a guard: with the fault gone it acquires everything. -/
theorem C11_start_after_failed_start_enabled (sh : Shape) (hlo : sh.lo = 0) (hw : sh.workerRollsBackSource = true)
    (n : Nat) (g : Guards) (hfree : g.anyHeld n = false) (fault : Fault)
    (hfail : (startAttempt sh n g fault).2 = false) :
    (startAttempt sh n (startAttempt sh n g fault).1 .none).2 = true := by
  have h := C11_failed_start_releases_all sh hlo hw n g hfree fault hfail
  generalize (startAttempt sh n g fault).1 = g' at h
  simp [startAttempt, h]

/-- all or nothing: a Start that succeeds holds the sink and every source (what M5's `buildOk` folds into
one guard; `C11_at_most_one_live_run` is about that folded guard — a second Start is refused as long as
ANY of them is set, `startAttempt`'s first line). -/
theorem C11_open_phase_all_or_nothing (sh : Shape) (n : Nat) (g : Guards) (hfree : g.anyHeld n = false)
    (fault : Fault) (hok : (startAttempt sh n g fault).2 = true) :
    (startAttempt sh n g fault).1.sink = true ∧ ∀ j, j < n → (startAttempt sh n g fault).1.src j = true := by
  simp only [startAttempt, hfree] at hok ⊢
  cases fault with
  | none => simp only [Bool.false_eq_true, if_false]; exact ⟨trivial, fun j hj => by simp [openUpTo_apply, hj]⟩
  | sink => simp at hok
  | source k =>
    by_cases hk : k < n
    · simp [hk] at hok
    · simp only [hk, if_false, Bool.false_eq_true]; exact ⟨trivial, fun j hj => by simp [openUpTo_apply, hj]⟩
  | dlq k =>
    by_cases hk : k < n
    · simp [hk] at hok
    · simp only [hk, if_false, Bool.false_eq_true]; exact ⟨trivial, fun j hj => by simp [openUpTo_apply, hj]⟩

theorem C11_second_start_refused_while_any_guard_set (sh : Shape) (n : Nat) (g : Guards) (h : g.anyHeld n = true)
    (fault : Fault) : startAttempt sh n g fault = (g, false) := by simp [startAttempt, h]

/-- Why `lo = 0` matters (a rollback loop `for j := i-1; j > 0; j--` over `rp.workers`): worker 0 is never closed when a non-first source fails; the next Start is refused. -/
theorem C11_rollback_skips_first_worker_counterexample :
    let r := startAttempt { lo := 1, workerRollsBackSource := true } 3 Guards.free (.source 1)
    (r.2, r.1.src 0, (startAttempt { lo := 1, workerRollsBackSource := true } 3 r.1 .none).2) = (false, true, false) := by
  decide

/-- The tree has `v2WorkerRollsBackSource = true` (`Facts/C11.lean: worker_open_rolls_back_source`). With the flag false —
`funnel.Worker.Open` rolling back with `task.Close` only, `SourceTask.Close` being a no-op, and
`runPipeline` closing only the workers opened BEFORE the failing one — a worker whose DLQ fails to open
leaves its already opened source plugin open: the connector guard stays set and every later Start is
refused ("connector is running"). Trace witness: corpus/C11/lifev2_dlq_open_failure_releases_source.ops. -/
theorem C11_dlq_open_failure_leaks_source_counterexample :
    let sh : Shape := { lo := 0, workerRollsBackSource := false }
    let r := startAttempt sh 2 Guards.free (.dlq 0)
    (r.2, r.1.src 0, (startAttempt sh 2 r.1 .none).2) = (false, true, false) := by
  decide

/-- non-vacuity. -/
example : (startAttempt Shape.asIs 3 Guards.free (.source 2)).2 = false := by decide
example : (startAttempt Shape.asIs 3 Guards.free .none).2 = true := by decide

end Conduit.LifecycleOpen
