import ConduitModel.Proofs.BatchWF

/-!
# C08 / C09 — the batch bookkeeping of the funnel engine: property theorems

C08 (properties.jsonl): "For any combination of processor results over a batch … every source
record ends with exactly one outcome and no other record's outcome is affected." — here: the
data-structure part, `aligned` (the parallel slices of `Batch` stay in lockstep through every
mutator, `filterCount` stays exact) and `mark_hits_right_record` (a mutator addressed by ACTIVE
index touches exactly the physical record that `ActiveRecords()` shows at that index; filtered
records are never touched).

C09: "Whatever a plugin returns - fewer, more or zero results, any mix of result kinds, …
unexpected or out-of-order destination acknowledgments, an error from any call - the engine
neither panics nor hangs: it either applies the documented handling or stops that pipeline with
an error" — here: totality of every `Batch` mutator under the invariant ("no index out of
range"), of `ProcessorTask.Do` for ANY reply list, of `DestinationTask.Do` for ANY ack replies,
and the bound on the retry recursion.

All theorems are for every batch (any size, any mix of filtered / split records), every heap of
split runs, every index and every reply: no bounds. `b.WF h` is `Spec/BatchWF.lean`.
Model: `Model/Funnel.lean` (validated against /repo/pkg/lifecycle-poc/funnel by the harness).
-/
namespace Conduit.Funnel

/-- C08.aligned — `NewBatch` establishes the invariant ("the four lists … the same length"). -/
theorem C08_aligned_new (h : Heap) (recs : List Rec) : (Batch.new recs).WF h := new_WF h recs

/-- C08.aligned — `setFlagNoErr(f, i)` for `f ∈ {ack, nack, retry}` keeps the invariant whenever it
returns (for `f = filter` the caller `Filter` also bumps `filterCount`: see `C08_aligned_filter1`). -/
theorem C08_aligned_setFlag1 {h : Heap} {b b' : Batch} (hwf : b.WF h) {f : Flag} (hf : f ≠ .filter) {i : Nat}
    (hr : b.setFlag1 f i = .ok b') : b'.WF h := by
  have hi := setFlag1_inrange hwf hr
  rw [setFlag1_ok hwf f hi] at hr
  cases hr
  exact WF_flagged hwf hf _ _ _

/-- C08.aligned — `setFlagNoErr(f, i, j)` (`Ack(i, j)`), `f ≠ filter`. -/
theorem C08_aligned_setFlagRange {h : Heap} {b b' : Batch} (hwf : b.WF h) {f : Flag} (hf : f ≠ .filter) {i j : Nat}
    (hr : b.setFlagRange f i j = .ok b') : b'.WF h := by
  obtain ⟨hij, hj⟩ := setFlagRange_inrange hwf hr
  rw [setFlagRange_ok hwf f hij hj] at hr
  cases hr
  exact WF_flagged hwf hf _ _ _

/-- C08.aligned — `Retry(i, j)`. -/
theorem C08_aligned_retry {h : Heap} {b b' : Batch} (hwf : b.WF h) {i j : Nat} (hr : b.retry i j = .ok b') :
    b'.WF h :=
  (call_WF (c := .retry i j) hwf nofun (run_ok hr)).1

/-- C08.aligned — `Filter(i)`: the flag and `filterCount` move together. -/
theorem C08_aligned_filter1 {h : Heap} {b b' : Batch} (hwf : b.WF h) {i : Nat} (hr : b.filter1 i = .ok b') :
    b'.WF h :=
  (call_WF (c := .filter1 i) hwf nofun (run_ok hr)).1

/-- C08.aligned — `Filter(i, j)`. -/
theorem C08_aligned_filterRange {h : Heap} {b b' : Batch} (hwf : b.WF h) {i j : Nat}
    (hr : b.filterRange i j = .ok b') : b'.WF h :=
  (call_WF (c := .filterRange i j) hwf nofun (run_ok hr)).1

/-- C08.aligned — `Nack(i, errs...)` keeps the invariant whenever it returns, including
`filterCount = #filter flags` (the split-extent loop skips filtered pieces). -/
theorem C08_aligned_nack {h : Heap} {b b' : Batch} (hwf : b.WF h) {i : Nat} {errs : List (Option Err)}
    (hr : b.nack i errs = .ok b') : b'.WF h :=
  (call_WF (c := .nack i errs) hwf nofun (run_ok hr)).1

/-- C08.aligned — `SetRecords(i, recs)` only rewrites `records`, in place: whenever it returns,
`len(records)` is unchanged and so is everything else. -/
theorem C08_aligned_setRecords {h : Heap} {b b' : Batch} (hwf : b.WF h) {i : Nat} {recs : List Rec}
    (hr : b.setRecords i recs = .ok b') :
    b'.WF h ∧ b'.st = b.st ∧ b'.pos = b.pos ∧ b'.runs = b.runs ∧ b'.recs.length = b.recs.length := by
  obtain ⟨e, hl, _⟩ := setRecords_of_ok hwf hr
  rw [e]
  exact ⟨hwf.with_recs hl, rfl, rfl, rfl, hl⟩

/-- C08.aligned — `SplitRecord(i, recs)` (`len(recs) ≥ 1`; the engine calls it with ≥ 2): the four
parallel slices grow by `len(recs) - 1` at the same place, the new run is allocated. -/
theorem C08_aligned_splitRecord {h h' : Heap} {b b' : Batch} (hwf : b.WF h) {i : Nat} {recs : List Rec}
    (hrec : 1 ≤ recs.length) (hr : b.splitRecord h i recs = .ok (h', b')) :
    b'.WF h' ∧ h.size ≤ h'.size ∧ b'.recs.length = b.recs.length + (recs.length - 1) := by
  obtain ⟨hi, _, P⟩ := splitRecord_of_ok hwf hrec hr
  exact ⟨P.wf, P.size, by rw [P.recs_eq]; exact length_replace (by rw [← hwf.1.st_len]; exact actList_lt hi) hrec⟩

/-- C08.aligned — `sub(from, to)`: the slice of a well-formed batch is well-formed (`filterCount`
and `splitRecords` are recomputed for the slice). -/
theorem C08_aligned_sub {h : Heap} {b b' : Batch} (hwf : b.WF h) {from_ to : Nat} (hr : b.sub from_ to = .ok b') :
    b'.WF h := by
  by_cases hbad : from_ > to ∨ to > b.recs.length
  · obtain ⟨m, g⟩ := sub_panics hbad
    rw [g] at hr; cases hr
  · obtain ⟨b'', g1, g2⟩ := sub_ok hwf (from_ := from_) (to := to) (by omega) (by omega)
    rw [g1] at hr; cases hr; exact g2

/-- C08.aligned — `clone()` with `cloneRuns`: the copy is well-formed in the extended heap, same
records / statuses / positions, a record has a run in the copy iff it had one. -/
theorem C08_aligned_clone {h : Heap} {b : Batch} (hwf : b.WF h) :
    (b.clone h).2.WF (b.clone h).1 ∧ h.size ≤ (b.clone h).1.size ∧
      (b.clone h).2.recs = b.recs ∧ (b.clone h).2.st = b.st ∧ (b.clone h).2.pos = b.pos ∧
      (∀ p : Nat, ((b.clone h).2.runAt p).isSome = (b.runAt p).isSome) :=
  clone_WF hwf

/-- `cloneRuns`: the clone's runs are fresh copies and "every member of one run keeps pointing at
the SAME cloned splitRun" (sharing is preserved exactly). -/
theorem C08_clone_runs_copied {h : Heap} {b : Batch} (hwf : b.WF h) :
    (∀ i : Nat, i < h.size → (b.clone h).1[i]! = h[i]!) ∧
    (∀ k id : Nat, b.runAt k = some id → ∃ nid, (b.clone h).2.runAt k = some nid ∧ h.size ≤ nid ∧
        nid < (b.clone h).1.size ∧ (b.clone h).1[nid]! = h[id]!) ∧
    (∀ k l id id' nid nid' : Nat, b.runAt k = some id → b.runAt l = some id' →
        (b.clone h).2.runAt k = some nid → (b.clone h).2.runAt l = some nid' → (id = id' ↔ nid = nid')) :=
  clone_copy hwf

/-- C08.aligned — `originalBatch()`. -/
theorem C08_aligned_original {h : Heap} {b : Batch} (hwf : b.WF h) : b.original.WF h := original_WF hwf

/-- C09.mutators_total — "no index out of range": for a well-formed batch every mutator called
with in-range ACTIVE indices (`i < len(ActiveRecords())`, `i < j ≤ len(ActiveRecords())`, …)
returns — it never panics. `SplitRecord` returns whenever the `splittable` guard holds for the
target (non-nil original position or an existing run); `SetRecords` with filtered records
present stays in range (`findTo` included); `sub` needs `from ≤ to ≤ len(records)`. -/
theorem C09_mutators_total {h : Heap} {b : Batch} (hwf : b.WF h) :
    (∀ (f : Flag) (i : Nat), i < b.active.length → ∃ b', b.setFlag1 f i = .ok b') ∧
    (∀ (f : Flag) (i j : Nat), i < j → j ≤ b.active.length → ∃ b', b.setFlagRange f i j = .ok b') ∧
    (∀ (i : Nat) (errs : List (Option Err)), i + errs.length ≤ b.active.length → ∃ b', b.nack i errs = .ok b') ∧
    (∀ i j : Nat, i < j → j ≤ b.active.length → ∃ b', b.retry i j = .ok b') ∧
    (∀ i : Nat, i < b.active.length → ∃ b', b.filter1 i = .ok b') ∧
    (∀ i j : Nat, i < j → j ≤ b.active.length → ∃ b', b.filterRange i j = .ok b') ∧
    (∀ (i : Nat) (recs : List Rec), i + recs.length ≤ b.active.length → ∃ b', b.setRecords i recs = .ok b') ∧
    (∀ (i p : Nat) (recs : List Rec), i < b.active.length → 1 ≤ recs.length → b.phys i = .ok p →
        b.splittableAt p = true → ∃ hb, b.splitRecord h i recs = .ok hb) ∧
    (∀ from_ to : Nat, from_ ≤ to → to ≤ b.recs.length → ∃ b', b.sub from_ to = .ok b') := by
  have hact := active_length hwf.1.st_len hwf.2
  rw [hact]
  refine ⟨?_, ?_, ?_, ?_, ?_, ?_, ?_, ?_, ?_⟩
  · intro f i hi; exact ⟨_, setFlag1_ok hwf f hi⟩
  · intro f i j hij hj; exact ⟨_, setFlagRange_ok hwf f hij hj⟩
  · intro i errs hi
    obtain ⟨st', g, _⟩ := nack_ok_ext hwf (.inr hi)
    exact ⟨_, g⟩
  · intro i j hij hj; exact ⟨_, retry_ok hwf hij hj⟩
  · intro i hi; exact ⟨_, filter1_ok hwf hi⟩
  · intro i j hij hj; exact ⟨_, filterRange_ok hwf hij hj⟩
  · intro i recs hi
    obtain ⟨out, g, _⟩ := setRecords_effect hwf hi
    exact ⟨_, g⟩
  · intro i p recs hi hrec hp hs
    have hp' := phys_ok hwf.2 hi
    rw [hp] at hp'
    cases Except.ok.inj hp'
    obtain ⟨h', b', g, _⟩ := splitRecord_ok_aux hwf (List.getElem?_eq_getElem hi) (recs := recs) hs hrec
    exact ⟨(h', b'), g⟩
  · intro from_ to hft hto
    obtain ⟨b', g, _⟩ := sub_ok hwf hft hto
    exact ⟨b', g⟩

/-- the guards are necessary: `SplitRecord` on a record without position and run panics ("(bug)
SplitRecord: record has a nil position but no known split run"), `sub` out of bounds panics. -/
theorem C09_guards_necessary {h : Heap} {b : Batch} (hwf : b.WF h) :
    (∀ (i p : Nat) (recs : List Rec), i < b.active.length → b.phys i = .ok p → b.splittableAt p = false →
        ∃ m, b.splitRecord h i recs = .error (.panic m)) ∧
    (∀ from_ to : Nat, (from_ > to ∨ to > b.recs.length) → ∃ m, b.sub from_ to = .error (.panic m)) := by
  refine ⟨?_, fun _ _ hbad => sub_panics hbad⟩
  intro i p recs hi hp hs
  rw [active_length hwf.1.st_len hwf.2] at hi
  have hp' := phys_ok hwf.2 hi
  rw [hp] at hp'
  have hpe : p = (actList b.st)[i]'hi := Except.ok.inj hp'
  exact splitRecord_panics_of_not_splittable hwf hi (by rw [← hpe]; exact hs)

/-- C09.mutators_total (the `findTo` clause) — the bisection of `SetRecords` only probes indices
strictly inside `(l, r)`, and for a monotone check that holds at `l` it returns the END of the
block on which the check holds (with `r - l` fuel; `SetRecords` gives it `len(recs) + 1`). -/
theorem C09_findTo_returns_block_end (check : Nat → R Bool) (P : Nat → Bool) (fuel lo hi : Nat)
    (hc : ∀ t : Nat, lo < t → t < hi → check t = .ok (P t)) (hfuel : hi - lo ≤ fuel)
    (hmono : ∀ t t' : Nat, lo ≤ t → t ≤ t' → t' < hi → P t' = true → P t = true) (hlo : P lo = true) :
    ∃ t : Nat, findToLoop check fuel lo hi = .ok t ∧ lo ≤ t ∧ (lo < hi → t < hi) ∧
      ∀ s : Nat, lo ≤ s → s < hi → (P s = true ↔ s ≤ t) :=
  findToLoop_block check P fuel lo hi hc hfuel hmono hlo

/-- the `k`-th record of `ActiveRecords()` is the record at the physical index that the mutators
resolve the active index `k` to (`activeRecordIndices()[k]`, or `k` itself when nothing is filtered). -/
theorem C08_active_index_is_phys {h : Heap} {b : Batch} (hwf : b.WF h) {k p : Nat} (hk : k < b.active.length)
    (hp : b.phys k = .ok p) : b.active[k]? = b.recs[p]? ∧ p < b.recs.length ∧
      ∃ s, b.st[p]? = some s ∧ s.flag ≠ .filter := by
  rw [active_length hwf.1.st_len hwf.2] at hk
  have hk' : k < b.st.length := by have := b.nAct_eq; omega
  have h1 := (phys_iff hwf hk').mp hp
  obtain ⟨h2, h3, _⟩ := actList_getElem?_iff.mp h1
  exact ⟨active_getElem? hwf h1, by rw [← hwf.1.st_len]; exact h2, b.st[p], by simp [h2], (notFilt_iff h2).mp h3⟩

/-- C08.mark_hits_right_record — `setFlagNoErr(f, i, j)` (`Ack`/`Retry`/`Filter` ranges) changes
exactly the flag of the statuses at the physical indices of the active records `i … j-1`;
everything else in the batch — records, positions, runs, every other status, and in particular
every filtered record — is unchanged. -/
theorem C08_mark_hits_right_record {h : Heap} {b b' : Batch} (hwf : b.WF h) {f : Flag} {i j : Nat}
    (hr : b.setFlagRange f i j = .ok b') :
    b'.recs = b.recs ∧ b'.pos = b.pos ∧ b'.runs = b.runs ∧ b'.split = b.split ∧ b'.st.length = b.st.length ∧
    (∀ k p : Nat, i ≤ k → k < j → b.phys k = .ok p → b'.st[p]? = (b.st[p]?).map (setFlagP f)) ∧
    (∀ q : Nat, (¬ ∃ k : Nat, i ≤ k ∧ k < j ∧ b.phys k = .ok q) → b'.st[q]? = b.st[q]?) ∧
    (∀ (q : Nat) (s : Status), b.st[q]? = some s → s.flag = .filter → b'.st[q]? = some s) := by
  obtain ⟨hij, hj⟩ := setFlagRange_inrange hwf hr
  rw [setFlagRange_ok hwf f hij hj] at hr
  cases hr
  have ph : ∀ {k p : Nat}, k < j → (b.phys k = .ok p ↔ (actList b.st)[k]? = some p) :=
    fun hk => phys_iff hwf (by have := b.nAct_eq; omega)
  refine ⟨rfl, rfl, rfl, rfl, length_setFlags .., ?_, ?_, fun q s hq hs => filtered_untouched b f i j q s hq hs⟩
  · intro k p hik hkj hp
    exact (getElem?_flagged b f i j p).1 ⟨k, hik, hkj, (ph hkj).mp hp⟩
  · intro q hn
    exact (getElem?_flagged b f i j q).2 fun ⟨k, hik, hkj, hk⟩ => hn ⟨k, hik, hkj, (ph hkj).mpr hk⟩

/-- C08.mark_hits_right_record — single index form `setFlagNoErr(f, i)`. -/
theorem C08_mark_hits_right_record_single {h : Heap} {b b' : Batch} (hwf : b.WF h) {f : Flag} {i : Nat}
    (hr : b.setFlag1 f i = .ok b') :
    b'.recs = b.recs ∧ b'.pos = b.pos ∧ b'.runs = b.runs ∧ b'.split = b.split ∧
    ∃ p : Nat, b.phys i = .ok p ∧ b'.st = b.st.modify p (setFlagP f) ∧
      ∃ s, b.st[p]? = some s ∧ s.flag ≠ .filter := by
  have hi := setFlag1_inrange hwf hr
  rw [setFlag1_ok hwf f hi] at hr
  cases hr
  refine ⟨rfl, rfl, rfl, rfl, (actList b.st)[i]'hi, phys_ok hwf.2 hi, ?_, _, List.getElem?_eq_getElem (actList_lt hi),
    actList_flag hi⟩
  show b.flagged f i (i+1) = _
  rw [Batch.flagged, physRange_single hi]; rfl

/-- C08.mark_hits_right_record — `Filter(i, j)` makes `activeRecordIndices` skip exactly the
active records `i … j-1`: the new index map is the old one with that block removed. -/
theorem C08_filter_skips_exactly {h : Heap} {b b' : Batch} (hwf : b.WF h) {i j : Nat}
    (hr : b.filterRange i j = .ok b') :
    b'.activeIdx = some ((actList b.st).take i ++ (actList b.st).drop j) ∧
    b'.active.length = b.active.length - (j - i) ∧ b'.recs = b.recs ∧ b'.pos = b.pos ∧ b'.runs = b.runs := by
  obtain ⟨hij, hj⟩ := filterRange_inrange hwf hr
  have hwf' := C08_aligned_filterRange hwf hr
  have hl' := active_length hwf'.1.st_len hwf'.2
  rw [filterRange_ok hwf hij hj] at hr
  cases hr
  refine ⟨?_, ?_, rfl, rfl, rfl⟩
  · unfold Batch.activeIdx
    have : ¬ b.filterCount + (j - i) = 0 := by omega
    simp only [this, if_false]
    exact congrArg some (actList_flagged_filter b (by omega))
  · rw [hl', active_length hwf.1.st_len hwf.2]
    exact nAct_filtered b (by omega) hj _

/-- C08.mark_hits_right_record — `Nack(i, errs...)`: every target (the physical record of active
index `i+k`) ends flagged nack; a status that changed became a nack carrying one of the given
errors and lies in the split extent of a target; filtered records are never touched (flag and
error kept, so the active-index map is unchanged); records, positions, runs are unchanged.
Without split records in the batch the effect is exact: target `i+k` gets `(nack, errs[k])`,
every other status is unchanged. -/
theorem C08_mark_hits_right_record_nack {h : Heap} {b b' : Batch} (hwf : b.WF h) {i : Nat} {errs : List (Option Err)}
    (hi : i + errs.length ≤ b.active.length) (hr : b.nack i errs = .ok b') :
    b'.recs = b.recs ∧ b'.pos = b.pos ∧ b'.runs = b.runs ∧ b'.split = b.split ∧ b'.filterCount = b.filterCount ∧
    actList b'.st = actList b.st ∧
    (∀ (q : Nat) (s : Status), b.st[q]? = some s → s.flag = .filter → b'.st[q]? = some s) ∧
    (∀ k : Nat, k < errs.length → ∃ p s, b.phys (i+k) = .ok p ∧ b'.st[p]? = some s ∧ s.flag = .nack) ∧
    (∀ q : Nat, b'.st[q]? ≠ b.st[q]? → ∃ k p : Nat, k < errs.length ∧ b.phys (i+k) = .ok p ∧
        findSplitFrom b.pos p ≤ q ∧ q ≤ findSplitTo b.pos (p+1) b.pos.length - 1 ∧
        b'.st[q]? = some { flag := .nack, err := (errs[k]?).join }) ∧
    (b.split = [] → ∀ q : Nat,
        (∀ k : Nat, k < errs.length → b.phys (i+k) = .ok q → b'.st[q]? = some { flag := .nack, err := (errs[k]?).join }) ∧
        ((¬ ∃ k : Nat, k < errs.length ∧ b.phys (i+k) = .ok q) → b'.st[q]? = b.st[q]?)) := by
  rw [active_length hwf.1.st_len hwf.2] at hi
  have ph : ∀ {k p : Nat}, k < errs.length → (b.phys (i+k) = .ok p ↔ (actList b.st)[i+k]? = some p) :=
    fun hk => phys_iff hwf (by have := b.nAct_eq; omega)
  obtain ⟨st', k1, hl, P⟩ := nack_ok_ext hwf (.inr hi)
  cases k1.symm.trans hr
  refine ⟨rfl, rfl, rfl, rfl, rfl, (P.inPlace hwf hl).1, fun q s => P.filtered, ?_, ?_, ?_⟩
  · intro k hk
    obtain ⟨p, k', h1, _, h2⟩ := P.hit k hk
    exact ⟨p, _, (ph hk).mpr h1, h2, rfl⟩
  · intro q hq
    rcases P.changed q with h1 | ⟨_, _, k, hk, h2, p, h3, h4⟩
    · exact absurd h1 hq
    · exact ⟨k, p, hk, (ph hk).mpr h3, h4.1, Nat.le_sub_one_of_lt h4.2, h2⟩
  · intro hsp q
    obtain ⟨m1, m2⟩ := P.plain hsp q
    exact ⟨fun k hk hp => m1 k hk ((ph hk).mp hp), fun hn => m2 fun ⟨k, hk, hq⟩ => hn ⟨k, hk, (ph hk).mpr hq⟩⟩

/-- C08.mark_hits_right_record — `SetRecords(i, recs)` writes `recs[k]` at the physical index of
active record `i+k` and nowhere else. -/
theorem C08_setRecords_hits_right_record {h : Heap} {b b' : Batch} (hwf : b.WF h) {i : Nat} {recs : List Rec}
    (hi : i + recs.length ≤ b.active.length) (hr : b.setRecords i recs = .ok b') :
    (∀ k : Nat, k < recs.length → ∃ p : Nat, b.phys (i+k) = .ok p ∧ b'.recs[p]? = recs[k]?) ∧
    (∀ q : Nat, (¬ ∃ k : Nat, k < recs.length ∧ b.phys (i+k) = .ok q) → b'.recs[q]? = b.recs[q]?) := by
  rw [active_length hwf.1.st_len hwf.2] at hi
  have ph : ∀ {k p : Nat}, k < recs.length → (b.phys (i+k) = .ok p ↔ (actList b.st)[i+k]? = some p) :=
    fun hk => phys_iff hwf (by have := b.nAct_eq; omega)
  obtain ⟨_, _, g3, g4⟩ := setRecords_of_ok hwf hr
  refine ⟨fun k hk => ?_, fun q hn => g4 q fun ⟨k, h1, h2, hq⟩ => hn ⟨k - i, Nat.sub_lt_left_of_lt_add h1 h2,
    (ph (Nat.sub_lt_left_of_lt_add h1 h2)).mpr (by rw [Nat.add_sub_cancel' h1]; exact hq)⟩⟩
  have hk' : i + k < (actList b.st).length := Nat.lt_of_lt_of_le (Nat.add_lt_add_left hk i) hi
  refine ⟨_, (ph hk).mpr (List.getElem?_eq_getElem hk'), ?_⟩
  rw [g3 _ _ (Nat.le_add_right _ _) (Nat.add_lt_add_left hk i) (List.getElem?_eq_getElem hk'), Nat.add_sub_cancel_left]

/-- C09.procDo_total — "Whatever a plugin returns - fewer, more or zero results, any mix of result
kinds": for a well-formed batch and ANY processor reply `out` (any length, any mix of
Single/Filter/Error/Multi{0,1,n}/nil), `ProcessorTask.Do` returns either `.ok` with a
well-formed batch (in a heap that only grew) or a returned error — never a panic. -/
theorem C09_procDo_total {h : Heap} {b : Batch} (hwf : b.WF h) (out : List PR) :
    (∃ (h' : Heap) (b' : Batch), procDoP h b out = .ok (h', b') ∧ b'.WF h' ∧ h.size ≤ h'.size) ∨
    (∃ e : Err, procDoP h b out = .error (.err e)) :=
  procDoP_total hwf out

/-- C09.procDo_total, as an inequation: no reply makes `ProcessorTask.Do` panic. -/
theorem C09_procDo_never_panics {h : Heap} {b : Batch} (hwf : b.WF h) (out : List PR) (m : String) :
    procDoP h b out ≠ .error (.panic m) := by
  rcases procDoP_total hwf out with ⟨h', b', g, _⟩ | ⟨e, g⟩ <;> rw [g] <;> intro hc <;> cases hc

/-- C09.procDo_total — zero results ("processor didn't return any records") and more results than
records are returned errors. -/
theorem C09_procDo_bad_length (h : Heap) (b : Batch) (out : List PR)
    (hl : out.length = 0 ∨ out.length > b.active.length) : procDoP h b out = .error (.err plainErr) := by
  rcases hl with hl | hl
  · have : out = [] := List.length_eq_zero_iff.mp hl
    subst this; rfl
  · exact procDoP_too_many h b out hl

/-- C09.procDo_total — "returned short so the rest is retried": a reply with fewer results than
records is padded with nil results, and a group of nil results is marked `Retry` as a whole. -/
theorem C09_procDo_short_reply_retries (h : Heap) (b : Batch) (out : List PR) (h0 : out.length ≠ 0)
    (hl : out.length < b.active.length) :
    (padOut b.active.length out).length = b.active.length ∧
    (∀ k : Nat, out.length ≤ k → k < b.active.length → (padOut b.active.length out)[k]? = some PR.nil) ∧
    (∀ k : Nat, k < out.length → (padOut b.active.length out)[k]? = out[k]?) ∧
    procDoP h b out = (do
      (List.range out.length).forM (procCheckStep b out)
      let s ← (List.range (padOut b.active.length out).length).reverse.foldlM
        (procGroupStep (padOut b.active.length out)) ((h, b), (padOut b.active.length out).length)
      pure s.1) ∧
    (∀ (hb : Heap × Batch) (from_ : Nat) (rest : List PR),
      procMarkP hb from_ (PR.nil :: rest) = (do let b' ← hb.2.retry from_ (from_ + (rest.length + 1)); pure (hb.1, b'))) := by
  refine ⟨length_padOut (by omega), ?_, ?_, procDoP_eq h b out h0 (by omega), fun _ _ _ => rfl⟩
  · intro k h1 h2
    unfold padOut
    have : b.active.length > out.length := hl
    simp only [this, if_true]
    rw [List.getElem?_append_right h1]
    have : k - out.length < b.active.length - out.length := by omega
    simp [this]
  · intro k hk
    unfold padOut
    have : b.active.length > out.length := hl
    simp only [this, if_true]
    exact List.getElem?_append_left hk

/-- C09.destDo_total — "unexpected or out-of-order destination acknowledgments, an error from any
call": for a well-formed batch and ANY destination reply (write error or not, any list of ack
responses with any positions / errors / lengths) `DestinationTask.Do` (ack loop +
`markBatchRecords`) never panics: it returns a returned error, or `.ok b'` — and `.ok` only if the
write succeeded and the consumed responses were all ack lists whose concatenation `all` covers
every written (active) record exactly once, in order, each ack matching the position of the
record it is counted for (`validateAcks`). `b'` is well-formed, same records and index map. -/
theorem C09_destDo_total {h : Heap} {b : Batch} (hwf : b.WF h) (werr : Option Err) (resps : List AckResp) :
    (∃ (b' : Batch) (all : List (PosV × Option Err)), destDoP b werr resps = .ok b' ∧ werr = none ∧
        b'.WF h ∧ b'.recs = b.recs ∧ actList b'.st = actList b.st ∧
        all.length = b.active.length ∧
        (∃ k : Nat, (∀ r ∈ resps.take k, ∃ l, r = AckResp.acks l) ∧ all = (resps.take k).flatMap ackList) ∧
        (∀ i : Nat, i < all.length → ∃ a r, all[i]? = some a ∧ b.active[i]? = some r ∧ keyOf a.1 = keyOf r.pos)) ∨
    (∃ e : Err, destDoP b werr resps = .error (.err e)) := by
  have hact := active_length hwf.1.st_len hwf.2
  rcases destDoP_total hwf werr resps with ⟨b', g1⟩ | ⟨e, g⟩
  · left
    obtain ⟨g2, g3, mark, _⟩ := destDoP_ok hwf g1
    obtain ⟨_, _, valid⟩ := ackScan_spec (b.active.map (·.pos)) b.nAct 0 resps (Nat.zero_le _)
    refine ⟨b', _, g1, g2, mark.wf, mark.recs, mark.act, by rw [g3, hact],
      ackScan_consumed _ _ 0 resps (Nat.zero_le _), ?_⟩
    intro i hi
    obtain ⟨a, p, h1, h2, h3⟩ := valid i hi
    simp only [Nat.zero_add, List.getElem?_map] at h2
    cases hr : b.active[i]? with
    | none => simp [hr] at h2
    | some r => simp [hr] at h2; exact ⟨a, r, h1, rfl, by rw [h3, ← h2]⟩
  · right; exact ⟨e, g⟩

/-- C09.destDo_total, as an inequation. -/
theorem C09_destDo_never_panics {h : Heap} {b : Batch} (hwf : b.WF h) (werr : Option Err) (resps : List AckResp)
    (m : String) : destDoP b werr resps ≠ .error (.panic m) :=
  destDoP_ne_panic hwf werr resps m

/-- the ack loop alone (`destAckLoop` from any `ackCount ≤ len(positions)`, any fuel) never panics. -/
theorem C09_destAckLoop_never_panics {h : Heap} {b : Batch} (hwf : b.WF h) (positions : List PosV) (fuel : Nat)
    (hpos : positions.length ≤ b.active.length) (ackCount : Nat) (hac : ackCount ≤ positions.length)
    (resps : List AckResp) (m : String) : destAckLoop positions fuel b ackCount resps ≠ .error (.panic m) := by
  rw [active_length hwf.1.st_len hwf.2] at hpos
  rcases destAckLoop_total positions fuel hwf hpos ackCount hac resps with ⟨b', n, all, g, _⟩ | ⟨e, g⟩ <;>
    rw [g] <;> intro hc <;> cases hc

/-- C08.dest_marks_right_record — when `DestinationTask.Do` returns `.ok b'` with consumed acks
`all` (one per active record, see `C09_destDo_total`): every record whose ack carried an error is
flagged nack in `b'`; a status only ever changes into a nack; filtered records are untouched.
If the batch holds no split records the marking is exact: the record of active index `i` gets
`(nack, e)` iff `all[i]` carried the error `e`, every other status is unchanged. -/
theorem C08_dest_marks_right_record {h : Heap} {b b' : Batch} (hwf : b.WF h) {werr : Option Err} {resps : List AckResp}
    (hr : destDoP b werr resps = .ok b') :
    ∃ all : List (PosV × Option Err), all.length = b.active.length ∧
      (∃ k : Nat, all = (resps.take k).flatMap ackList) ∧
      (∀ (i : Nat) (ap : PosV) (e : Err) (p : Nat), all[i]? = some (ap, some e) → b.phys i = .ok p →
          ∃ s, b'.st[p]? = some s ∧ s.flag = .nack) ∧
      (∀ q : Nat, b'.st[q]? ≠ b.st[q]? → ∃ s, b'.st[q]? = some s ∧ s.flag = .nack) ∧
      (∀ (q : Nat) (s : Status), b.st[q]? = some s → s.flag = .filter → b'.st[q]? = some s) ∧
      (b.split = [] → ∀ q : Nat,
          (∀ (i : Nat) (ap : PosV) (e : Err), all[i]? = some (ap, some e) → b.phys i = .ok q →
              b'.st[q]? = some { flag := .nack, err := some e }) ∧
          ((¬ ∃ (i : Nat) (ap : PosV) (e : Err), all[i]? = some (ap, some e) ∧ b.phys i = .ok q) →
              b'.st[q]? = b.st[q]?)) := by
  have hlen : b.nAct ≤ b.st.length := by have := b.nAct_eq; omega
  obtain ⟨_, g3, mark, _⟩ := destDoP_ok hwf hr
  generalize hall : (ackScan (b.active.map (·.pos)) b.nAct 0 resps).1.flatten = all at g3 mark
  have hphys : ∀ {i p : Nat}, i < all.length → (b.phys i = .ok p ↔ (actList b.st)[0 + i]? = some p) := by
    intro i p hi; rw [Nat.zero_add]; exact phys_iff hwf (by omega)
  have hlt : ∀ {i : Nat} {a : PosV × Option Err}, all[i]? = some a → i < all.length :=
    fun hi => (List.getElem?_eq_some_iff.mp hi).1
  refine ⟨all, by rw [g3, active_length hwf.1.st_len hwf.2], ?_, ?_, mark.weak.2.1, mark.weak.2.2, ?_⟩
  · obtain ⟨k, _, hk⟩ := ackScan_consumed (b.active.map (·.pos)) b.nAct 0 resps (Nat.zero_le _)
    exact ⟨k, hall ▸ hk⟩
  · intro i ap e p hi hp
    exact mark.weak.1 p e ⟨i, ap, g3 ▸ hlt hi, (hphys (hlt hi)).mp hp, hi⟩
  · intro hsp q
    obtain ⟨m1, m2⟩ := mark.marked hsp q
    constructor
    · intro i ap e hi hp
      exact m1 e ⟨i, ap, g3 ▸ hlt hi, (hphys (hlt hi)).mp hp, hi⟩
    · intro hn
      apply m2
      rintro ⟨e, i, ap, hi, hq, ha⟩
      exact hn ⟨i, ap, e, ha, (hphys (g3 ▸ hi)).mpr hq⟩

/-- C09.procDo_total for the model's `procDo` itself (`M = ExceptT Stop (StateM PS)`): whatever
reply the script holds for the task (including none), running `ProcessorTask.Do` on a batch that
is well-formed in the current heap ends in `.ok` with a batch well-formed in the new heap, or in
a returned error — never in a panic. -/
theorem C09_procDo_model_total (task : Nat) (b : Batch) (s : PS) (hwf : b.WF s.heap) :
    (∃ (b' : Batch) (s' : PS), (procDo task b).run.run s = (.ok b', s') ∧ b'.WF s'.heap ∧
        s.heap.size ≤ s'.heap.size) ∨
    (∃ (e : Err) (s' : PS), (procDo task b).run.run s = (.error (.err e), s')) := by
  obtain ⟨hp, h1, h2⟩ := procDo_eq_model task b s
  simp only at h1 h2
  have hheap := popReplyP_heap { s with log := s.log.push (.pcall task b.active) } task
  have hwf' : b.WF (popReplyP { s with log := s.log.push (.pcall task b.active) } task).2.heap := by
    rw [hheap]; exact hwf
  rcases procDoP_total hwf' (procOut (popReplyP { s with log := s.log.push (.pcall task b.active) } task).1) with
    ⟨h', b', g1, g2, g3⟩ | ⟨e, g1⟩
  · left
    have := h2 h' b' g1
    subst this
    rw [g1] at h1
    exact ⟨b', _, h1, g2, by rw [hheap] at g3; exact g3⟩
  · right
    rw [g1] at h1
    exact ⟨e, _, h1⟩

/-- C09.destDo_total for the model's `destDo` itself (regular destination or the DLQ
destination): `.ok` with a well-formed batch (heap untouched) or a returned error, never a panic. -/
theorem C09_destDo_model_total (task : Nat) (b : Batch) (info : Option (List (Rec × Option Err × Nat))) (s : PS)
    (hwf : b.WF s.heap) :
    (∃ (b' : Batch) (s' : PS), (destDo task b info).run.run s = (.ok b', s') ∧ b'.WF s'.heap ∧ s'.heap = s.heap) ∨
    (∃ (e : Err) (s' : PS), (destDo task b info).run.run s = (.error (.err e), s')) := by
  rw [destDo_eq_model]
  simp only
  generalize hs0 : ({ s with log := s.log.push (match info with | none => Ev.write task b.active | some i => Ev.dlqw task i) } : PS) = s0
  have hheap : (popReplyP s0 task).2.heap = s.heap := by rw [popReplyP_heap, ← hs0]
  rcases C09_destDo_total hwf (destReply (popReplyP s0 task).1).1 (destReply (popReplyP s0 task).1).2 with
    ⟨b', all, g1, _, g2, _⟩ | ⟨e, g1⟩
  · left; exact ⟨b', _, by rw [g1], by rw [hheap]; exact g2, hheap⟩
  · right; exact ⟨e, _, by rw [g1]⟩

/-- C09.retry_terminates — one accepted retry round (`nextRetry` mirrors the `RecordFlagRetry`
branch of `doTaskAttempt`): the count strictly increases and stays `≤ maxRetryAttempts`, the
stall counter stays `< maxRetryStall`, it is incremented on a non-shrinking round and reset
ONLY by a strictly smaller sub-batch. -/
theorem C09_retry_round {r n : RetryAttempt} {size : Nat} (hn : nextRetry (some r) size = .ok n) :
    n.count = r.count + 1 ∧ n.size = size ∧ n.count ≤ maxRetryAttempts ∧ n.stall < maxRetryStall ∧
      (r.size ≤ size → n.stall = r.stall + 1) ∧ (size < r.size → n.stall = 0) :=
  nextRetry_some_ok hn

/-- C09.retry_terminates — "bounded retry (CodeRetryNotConverging)": any chain of nested retries
(each round accepted by `nextRetry` from the attempt record of the round before) has at most
`maxRetryAttempts` rounds — `maxRetryAttempts + 1` attempts counting the first, non-retry one —
and never contains `maxRetryStall` consecutive non-shrinking rounds. So the retry recursion of
`doTaskAttempt` terminates: the measure `maxRetryAttempts - count` strictly decreases. -/
theorem C09_retry_terminates (sizes : List Nat) (hc : retryChain none sizes = true) :
    sizes.length ≤ maxRetryAttempts ∧
    ∀ t : Nat, t + maxRetryStall < sizes.length →
      ∃ u : Nat, u < maxRetryStall ∧ (sizes[t+u+1]?.getD 0) < (sizes[t+u]?.getD 0) := by
  constructor
  · rcases retryChain_length hc with h | h
    · simpa using h
    · subst h; simp [maxRetryAttempts]
  · intro t ht
    obtain ⟨r', h1, h2, h3⟩ := retryChain_drop hc t (by omega)
    -- otherwise `maxRetryStall` consecutive non-shrinking rounds follow round `t`
    apply Classical.byContradiction
    intro hcon
    have hall : ∀ u : Nat, u < maxRetryStall → (sizes[t+u]?.getD 0) ≤ (sizes[t+u+1]?.getD 0) := by
      intro u hu
      apply Classical.byContradiction
      intro hlt
      exact hcon ⟨u, hu, by omega⟩
    have := retryChain_stall h3 maxRetryStall (by simp; omega) (by
      intro u hu
      have hu' := hall u hu
      by_cases h0 : u = 0
      · subst h0
        simp only [if_true, List.getElem?_drop]
        have e1 : sizes[t]?.getD 0 = sizes[t] := by simp [show t < sizes.length by omega]
        simp only [Nat.add_zero] at hu'
        rw [h1, ← e1]; simpa [Nat.add_comm, Nat.add_assoc] using hu'
      · simp only [h0, if_false, List.getElem?_drop]
        have e2 : t + 1 + (u - 1) = t + u := by omega
        have e3 : t + 1 + u = t + u + 1 := by omega
        rw [e2, e3]; exact hu')
    simp [maxRetryStall] at this
    omega

namespace Ex

def sA : Status := {}
def sF : Status := { flag := .filter }
def e1 : Err := { script := some 1 }
def e2 : Err := { script := some 2 }

/-- run 0: the record at position 5 was split into three pieces -/
def h0 : Heap := #[{ origPos := some 5, origRec := ⟨1, some 5⟩, total := 3 }]

/-- `x1 x2 x3` are the pieces of run 0 (`x2` filtered by a later processor), `y` and `z` are
ordinary records, `z` filtered: 5 physical records, 3 active (`x1`, `x3`, `y`). -/
def b0 : Batch where
  recs := [⟨10, some 5⟩, ⟨11, some 5⟩, ⟨12, some 5⟩, ⟨2, some 9⟩, ⟨3, some 7⟩]
  st := [sA, sF, sA, sA, sF]
  pos := [some 5, none, none, some 9, some 7]
  runs := some [some 0, some 0, some 0, none, none]
  filterCount := 2
  split := [(5, ⟨1, some 5⟩)]

example : b0.WF h0 := by decide
example : b0.active = [⟨10, some 5⟩, ⟨12, some 5⟩, ⟨2, some 9⟩] := by decide
example : actList b0.st = [0, 2, 3] := by decide
example : (Batch.new [⟨1, some 5⟩, ⟨2, none⟩]).WF #[] := by decide
-- `SetRecords` across a filtered record: two contiguous blocks `[0]`, `[2,3]`
example : (b0.setRecords 0 [⟨20, none⟩, ⟨21, none⟩, ⟨22, none⟩]).toOption.map (·.recs) =
    some [⟨20, none⟩, ⟨11, some 5⟩, ⟨21, none⟩, ⟨22, none⟩, ⟨3, some 7⟩] := by decide
-- `Nack` of `x3` (active 1) spreads over the run but leaves the filtered piece `x2` filtered
example : (b0.nack 1 [some e1]).toOption.map (fun b => (b.st.map (·.flag), b.filterCount)) =
    some ([.nack, .filter, .nack, .ack, .filter], 2) := by decide
-- a tail piece (nil position) is splittable through its run; `y` through its position
example : b0.splittableAt 2 = true ∧ b0.splittableAt 3 = true := by decide
example : ((b0.splitRecord h0 1 [⟨30, none⟩, ⟨31, none⟩]).toOption.map fun hb => (hb.2.pos, hb.2.runs, hb.1.size)) =
    some ([some 5, none, none, none, some 9, some 7], some [some 0, some 0, some 0, some 0, none, none], 1) := by decide
example : ((b0.splitRecord h0 1 [⟨30, none⟩, ⟨31, none⟩]).toOption.map fun hb => decide (hb.2.WF hb.1)) = some true := by
  decide
-- a processor reply shorter than the batch (split `x1`, error on `x3`, `y` not returned ⇒ retry):
-- ok, well-formed, tainted; the new piece is inserted after `x1` with the default flag
example : ((procDoP h0 b0 [.multi [⟨40, none⟩, ⟨41, none⟩], .error none]).toOption.map fun hb =>
    (decide (hb.2.WF hb.1), hb.2.tainted, hb.2.st.map (·.flag))) =
    some (true, true, [.nack, .ack, .filter, .nack, .retry, .filter]) := by decide
-- the destination answers in two responses; the second nack lands on `y` (physical 3)
example : ((destDoP b0 none [.acks [(some 5, some e1)], .acks [(some 5, none), (some 9, some e2)]]).toOption.map
    fun b => b.st.map (fun s => (s.flag, s.err.bind (·.script)))) =
    some [(.nack, some 1), (.filter, none), (.nack, some 1), (.nack, some 2), (.filter, none)] := by decide
-- an ack for a wrong position and an exhausted stream are returned errors
example : (destDoP b0 none [.acks [(some 6, none)]]).toOption.isNone = true := by decide
example : (destDoP b0 none []).toOption.isNone = true := by decide
-- retry chains: shrinking sizes are accepted, three non-shrinking rounds in a row are refused
example : retryChain none [5, 4, 4, 4, 3, 3, 3] = true := by decide
example : retryChain none [5, 5, 5, 5] = false := by decide

end Ex

end Conduit.Funnel
