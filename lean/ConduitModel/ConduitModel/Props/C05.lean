import ConduitModel.Proofs.GroupEnd

/-!
# C05 / C04 (arch-v2) — the tainted loop hands out the batch left to right, once

`Worker.doTaskAttempt` splits a tainted batch with `subBatchByFlag` (model: `groupEnd`) and
processes the groups strictly in index order (`idx += span`). These theorems state, for every
status vector, that the groups are non-empty, contiguous, in order and cover the batch exactly
once — so records reach the next task (and finally each destination) in batch order with no
record skipped or handed out twice, and acks are produced group by group in read order.

The whole pass is in Props/PassC04.lean (acks, every tree) and Props/MonSound.lean (the C05 clauses
of the monitor: per-destination write order, for trees without nested fan-out).
-/
namespace Conduit.Funnel

/-- the cut points of the tainted loop: `[0 = c₀ < c₁ < … < c_k = len]`, by fuel. -/
def cutsFrom (st : List Status) : Nat → Nat → List (Nat × Nat)
  | 0, _ => []
  | fuel+1, i => if i ≥ st.length then [] else (i, groupEnd st i) :: cutsFrom st fuel (groupEnd st i)

/-- C05.subbatches_partition — the groups handed out by the tainted loop, concatenated in the
order they are processed, are exactly the batch (every record once, in batch order). -/
theorem C05_subbatches_partition {α} (st : List Status) (xs : List α) (hx : xs.length = st.length) :
    ∀ (fuel i : Nat), i ≤ st.length → st.length - i ≤ fuel →
      ((cutsFrom st fuel i).map fun (a, b) => (xs.take b).drop a).flatten = xs.drop i := by
  intro fuel
  induction fuel with
  | zero =>
    intro i hi hf
    have : i = st.length := by omega
    simp [cutsFrom, this, ← hx]
  | succ fuel ih =>
    intro i hi hf
    unfold cutsFrom
    by_cases hge : i ≥ st.length
    · have : i = st.length := by omega
      simp [this, ← hx]
    · have hlt : i < st.length := by omega
      simp only [hge, if_false, List.map_cons, List.flatten_cons]
      have h1 := groupEnd_gt st i hlt
      have h2 := groupEnd_le st i hi
      rw [ih (groupEnd st i) h2 (by omega)]
      have : xs.drop i = (xs.take (groupEnd st i)).drop i ++ xs.drop (groupEnd st i) := by
        conv => lhs; rw [← List.take_append_drop (groupEnd st i) xs]
        rw [List.drop_append_of_le_length (by simp; omega)]
      rw [this]

/-- C05.groups_progress — every group is non-empty and inside the batch: the loop terminates
after at most `len` groups and never re-reads a handed-out span. -/
theorem C05_groups_progress (st : List Status) (i : Nat) (h : i < st.length) :
    i < groupEnd st i ∧ groupEnd st i ≤ st.length :=
  ⟨groupEnd_gt st i h, groupEnd_le st i (Nat.le_of_lt h)⟩

/-- whole-batch instance: starting at 0 with enough fuel the groups rebuild the batch. -/
theorem C05_subbatches_cover {α} (st : List Status) (xs : List α) (hx : xs.length = st.length) :
    ((cutsFrom st st.length 0).map fun (a, b) => (xs.take b).drop a).flatten = xs := by
  have := C05_subbatches_partition st xs hx st.length 0 (Nat.zero_le _) (by omega)
  simpa using this

example : cutsFrom [{flag := .ack}, {flag := .filter}, {flag := .nack}, {flag := .nack}, {flag := .retry}, {flag := .ack}] 6 0
    = [(0,2), (2,4), (4,5), (5,6)] := by decide

end Conduit.Funnel
