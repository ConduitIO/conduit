import ConduitModel.Props.C05

/-!
# C04 (arch-v2) — acks reach the source in read order

The two places where the arch-v2 engine decides the *order* of source acks:

* the tainted loop of `doTaskAttempt` hands out sub-batches strictly left to right, each once
  (`C04_groups_in_read_order`, from the partition law of Props/C05.lean), and acks are produced
  per sub-batch as it completes;
* under fan-out the `multiAckNacker` releases positions only as the in-order prefix
  `0,1,…,released-1`, whatever the order in which the branches vote
  (`C04_ma_release_prefix`, `C04_ma_release_next` in Props/ArbiterProps.lean).

The whole pass — these two with the task recursion, the split-run ledger and `Source.Ack` — is
`C04_v2_pass_acks_prefix` (Props/PassC04.lean), the whole multi-batch run `C04_v2_run_acks_prefix`
(Props/MonSound.lean).
-/
namespace Conduit.Funnel

/-- C04.groups_in_read_order — "in the same order, with nothing skipped and nothing repeated":
the position lists of the sub-batches the worker processes one after the other concatenate to
exactly the batch's positions. -/
theorem C04_groups_in_read_order (st : List Status) (pos : List PosV) (h : pos.length = st.length) :
    ((cutsFrom st st.length 0).map fun (a, b) => (pos.take b).drop a).flatten = pos :=
  C05_subbatches_cover st pos h

/-- C04.groups_strictly_advance — the loop cursor strictly increases and stays inside the batch,
so no span is handed out twice and the loop ends. -/
theorem C04_groups_strictly_advance (st : List Status) (i : Nat) (h : i < st.length) :
    i < groupEnd st i ∧ groupEnd st i ≤ st.length :=
  C05_groups_progress st i h

end Conduit.Funnel
