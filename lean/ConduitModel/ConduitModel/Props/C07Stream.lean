import ConduitModel.Props.C01Stream

/-
C07 (default engine, pipeline-level clauses) — property theorems. The window clause (ring buffer
≡ "last size outcomes" specification, v1 ≡ v2 verdicts) is Props/C07.lean; the pipeline model
reuses that very window (`Conduit.Dlq.Win`) for its verdicts.

"A record rejected by a destination or a processor is … written exactly once to the DLQ … and
only then acknowledged to its source; otherwise the pipeline stops with an error and that record
stays unacknowledged. … a failed DLQ write never results in an ack, dead-lettered records of one
source reach the DLQ in source order …"
-/
namespace Conduit.Props
open Conduit.Stream

/-- C07 for the v1 engine, monitor form, every run of every topology: see `monC07`. -/
theorem C07_v1_dlq_monitor (τ : Topo) (size thr : Nat) (evs : List Ev) (p : Pipe)
    (h : Pipe.run τ (Pipe.init τ size thr) evs = some p) : monC07 p.ack.log = true :=
  (ainv_reach τ.nDst size thr evs p.ack (pipe_run_proj evs h).2).monC07

theorem C07_v1_ack_component (M size thr : Nat) (evs : List Ev) (a : Ack)
    (h : Ack.run (Ack.init M size thr) evs = some a) : monC07 a.log = true :=
  (ainv_reach M size thr evs a h).monC07

/-- `dlq_exactly_once` + `dlq_in_source_order`: the DLQ records of a source are strictly
increasing in the emit index — a record is dead-lettered at most once (also when several
destinations of a fan-out reject it, in any vote order), and in source order. -/
theorem C07_v1_dlq_once_in_source_order (τ : Topo) (size thr : Nat) (evs : List Ev) (p : Pipe)
    (h : Pipe.run τ (Pipe.init τ size thr) evs = some p) (s : Nat) :
    List.Pairwise (· < ·) (dlqSeq s p.ack.log) :=
  dlqSeq_of_monC07 s _ (C07_v1_dlq_monitor τ size thr evs p h)

/-- `dlq_then_ack`: a record that went to the DLQ is acked to its source only after the DLQ
plugin confirmed it; and a record is never handed to the DLQ after it was acked. -/
theorem C07_v1_dlq_then_ack (τ : Topo) (size thr : Nat) (evs : List Ev) (p : Pipe)
    (h : Pipe.run τ (Pipe.init τ size thr) evs = some p) (post pre : List Ev) (s i : Nat) :
    (∀ r, p.ack.log = post ++ Ev.sack s i r :: pre → dlqwIn pre s i = true → dlqaOkIn pre s i = true) ∧
    (∀ ok, p.ack.log = post ++ Ev.dlqw s i ok :: pre → sackIn pre s i = false) := by
  have hm := C07_v1_dlq_monitor τ size thr evs p h
  exact ⟨fun r hl => (monC07_at_sack hm hl).1, fun ok hl => (monC07_at_dlqw hm hl).1⟩

/-- `failed_dlq_write_never_acks`: after a DLQ write (or its acknowledgment) failed for a record
of source `s`, no record of `s` — in particular not that one — is acked any more, and nothing of
`s` is handed to the DLQ any more (`fail` latch of its SourceAckerNode). -/
theorem C07_v1_failed_dlq_write_never_acks (τ : Topo) (size thr : Nat) (evs : List Ev) (p : Pipe)
    (h : Pipe.run τ (Pipe.init τ size thr) evs = some p) (post pre : List Ev) (s i : Nat) :
    (∀ r, p.ack.log = post ++ Ev.sack s i r :: pre → dlqFailOf pre s = false) ∧
    (∀ ok, p.ack.log = post ++ Ev.dlqw s i ok :: pre → dlqFailOf pre s = false) := by
  have hm := C07_v1_dlq_monitor τ size thr evs p h
  exact ⟨fun r hl => (monC07_at_sack hm hl).2, fun ok hl => (monC07_at_dlqw hm hl).2⟩

/-- `rejected_unacked_and_fatal`: when the DLQ refuses a nacked record (window verdict, not
running, broken) the handler returns an error (`hfail`), which latches `fail`: the record and
everything after it of that source stay unacknowledged (`C04_v1_fail_latch`), and the caller of
`Nack` gets the error, which stops the run. -/
theorem C07_v1_rejected_unacked (M size thr : Nat) (evs : List Ev) (a a' : Ack)
    (h : Ack.run (Ack.init M size thr) evs = some a) (s i : Nat) (hs : a.step (.hfail s i) = some a') :
    a'.fail s = true ∧ sackIn a'.log s i = false := by
  have hI := ainv_reach M size thr evs a h
  obtain ⟨_, _, _, _, _, _, hH, rfl⟩ := step_handler hs rfl
  cases hH with
  | hfail hh =>
    have := (hI.sinv.src s).cur .sack
    rw [← (Handler.turn (hI.sinv.src s) (.hfail hh ‹_› ‹_› ‹_›)).1, hh] at this
    exact ⟨upd_same .., this⟩

example : ((Pipe.run exTopo (Pipe.init exTopo 0 0) exRunDlq).map fun p => dlqSeq 0 p.ack.log) = some [0] := by
  decide
/-- a failed DLQ write: the source ack is refused by the model. -/
example : (Pipe.run exTopo (Pipe.init exTopo 0 0)
    (exRunDlq.take 12 ++ [.dlqa 0 0 false, .sack 0 0 .ok])).isNone = true := by decide
/-- window size 1 / threshold 0 tolerates no nack: the DLQ write is refused by the model. -/
example : (Pipe.run exTopo (Pipe.init exTopo 1 0) (exRunDlq.take 12)).isNone = true := by decide

end Conduit.Props
