import ConduitModel.Spec.Rebuild
import ConduitModel.Proofs.Rebuild

/-!
# C11 on the build step: processor reservations over build attempts, run ends and repairs

Property C11: "… once a run has ended its connectors and processors are released so the pipeline can
be started again". `Model/Rebuild.lean` follows the processor reservations (`Instance.running`, taken
by `MakeRunnableProcessor`, cleared by `RunnableProcessor.Teardown`) through a sequence of
`buildRunnablePipeline` calls, run ends and configuration edits, for both engines, AS THE CODE IS; it
is compared with the real services on every check run (`rebuild`, trace acceptance) and
`Facts/C11Build.lean` pins the statements it mirrors.

Proved:
* `C11_build_ok_reserves_exactly_its_processors` — a successful build reserves exactly the processors
  of the configuration (each once, none of them reserved before), in the engine's build order;
* `C11_teardown_releases_all` — the end of the live runs releases every processor those runs
  reserved, and leaves nothing reserved when every reservation belonged to a live run;
* `C11_no_failed_build_no_leak` — over any history without a failed build attempt, every run end
  leaves nothing reserved (so the restart is enabled: `C11_rebuild_after_teardown`);
* `C11_failed_build_adds_a_prefix` — an attempt, failed or not, only adds in front of what was held
  (`attempt_adds`: what it adds is a prefix of the configuration's processors in build order);
* `C11_failed_build_leaks_reservation_counterexample` — and that can be non-empty, in BOTH engines,
  after which the repaired configuration does not build ("processor already running") although no run
  exists, a run end releases nothing, and the monitor `noLeakAfterFailedBuild` fails.

The open phase of `Start` (arch-v2 `runPipeline`: `sink.Open`, every `worker.Open`, with the rollback
performed on a failure; v1: every node opens inside its own `Run`):
* `C11_open_failure_releases_opened` — what a failed open phase releases: only processors whose `Open`
  had succeeded, and the WHOLE shared sink when the failure is in a worker; no run becomes live;
* `C11_v1_start_releases_all` — v1 releases everything whichever `Open` fails;
* `C11_failed_open_leaks_unopened_processor_reservations_counterexample` — arch-v2 keeps the
  reservations of the processors it never opened and of the one whose `Open` failed (known finding
  `failed-open-leaks-unopened-processor-reservations-v2`); NOT holding: "after a failed `Start` the
  reservations are those before it" (`(step .v2 s .start).2 = .started .openFailed h' → h' = s.held`).

NOT holding of the code as it is (the full-strength statement; it is the goal of the proposed fix —
release the runnables already made on the error exits of the builders):

    theorem C11_failed_build_releases_all (eng : Eng) (openC held : List Nat) (cfg : PipeCfg) (e : BuildErr) (h : List Nat)
        (hfail : attempt eng openC held cfg = (.err e, h)) : h = held

  and with it `∀ cfg steps, noLeakAfterFailedBuild eng cfg steps = .ok`. Refuted by the
  counterexample below and by the `rebuild` traces of the real services (known findings
  `failed-build-leaks-processor-reservation-v1` and `-v2`).
-/
namespace Conduit.Rebuild
open Conduit.Funnel

/-- the processors a build of `cfg` reserves, in the order the engine reserves them -/
def reservedBy : Eng → PipeCfg → List Nat
  | .v2, cfg => srcProcIds cfg.conns ++ dstProcIds cfg.conns ++ procIds cfg.procs
  | .v1, cfg => srcProcIds cfg.conns ++ procIds cfg.procs ++ dstProcIds cfg.conns

theorem reservedBy_v2 (cfg : PipeCfg) : reservedBy .v2 cfg = allProcIds cfg := rfl

/-- What ANY attempt does to the reservations: on top of what was held it reserves a prefix of the
configuration's processors in the engine's build order, each once and none reserved before — all of
them iff it succeeds. The error exits release nothing. -/
theorem attempt_adds (eng : Eng) (openC held : List Nat) (cfg : PipeCfg) :
    Adds (reservedBy eng cfg) held (attempt eng openC held cfg).2 ((attempt eng openC held cfg).1 = .ok) := by
  have src := fun held => kindProcIds_source cfg.conns ▸ reserveConns_adds .source openC cfg.conns held
  have dst := fun held => kindProcIds_dest cfg.conns ▸ reserveConns_adds .dest openC cfg.conns held
  cases eng with
  | v2 =>
    simp only [attempt, attemptV2, reservedBy, List.append_assoc]
    refine (src held).andThen fun h1 => ?_
    split
    · exact .none nofun
    refine (dst h1).andThen fun h2 => ?_
    split
    · exact .none nofun
    rw [← List.append_nil (procIds cfg.procs)]
    refine (reserve_adds cfg.procs h2).andThen fun h3 => ?_
    cases buildWorkers cfg with
    | ok _ => exact .none fun _ => rfl
    | error _ => exact .none nofun
  | v1 =>
    simp only [attempt, attemptV1, reservedBy, List.append_assoc]
    refine (src held).andThen fun h1 => ?_
    split
    · exact .none nofun
    refine (reserve_adds cfg.procs h1).andThen fun h2 => ?_
    rw [← List.append_nil (dstProcIds cfg.conns)]
    refine (dst h2).andThen fun h3 => ?_
    split
    · exact .none nofun
    · exact .none fun _ => rfl

/-- A successful build attempt reserves exactly the processors of the configuration: the new
reservation state is those processors on top of what was held, they are pairwise distinct, and none
of them was reserved before. -/
theorem C11_build_ok_reserves_exactly_its_processors (eng : Eng) (openC held : List Nat) (cfg : PipeCfg) (h : List Nat)
    (hok : attempt eng openC held cfg = (.ok, h)) :
    h = (reservedBy eng cfg).reverse ++ held ∧ (reservedBy eng cfg).Nodup ∧
      (∀ x ∈ reservedBy eng cfg, x ∉ held) ∧ added held h = (reservedBy eng cfg).reverse := by
  obtain ⟨pre, -, hn, hf, hh, hfull⟩ := attempt_adds eng openC held cfg
  rw [hok] at hh hfull
  cases hfull rfl
  replace hh : h = _ := hh
  exact ⟨hh, hn, hf, by rw [hh, added_append]⟩

/-- every reservation belongs to a run that has been built and has not ended -/
def AllLive (s : St) : Prop := ∀ x ∈ s.held, x ∈ s.live.flatten

/-- The end of the live runs (`Worker.Close` / `Sink.Close` closing every task, v1: every
`ProcessorNode.Run` returning; each calls `RunnableProcessor.Teardown`, which clears the
reservation): exactly the processors reserved by those runs are released, no run stays live — and
when every reservation belonged to a live run, NOTHING stays reserved. -/
theorem C11_teardown_releases_all (eng : Eng) (s : St) :
    (∀ x, x ∈ (step eng s .teardown).1.held ↔ x ∈ s.held ∧ x ∉ s.live.flatten) ∧
    (step eng s .teardown).1.live = [] ∧ (step eng s .teardown).1.openC = [] ∧
    (AllLive s → (step eng s .teardown).1.held = []) := by
  refine ⟨fun x => by simp [step, release], rfl, rfl, fun hall => ?_⟩
  simp only [step, release]
  exact List.filter_eq_nil_iff.mpr (fun x hx => by simpa using hall x hx)

theorem teardown_held_nil (eng : Eng) {s : St} (hs : AllLive s) : (step eng s .teardown).1.held = [] :=
  (C11_teardown_releases_all eng s).2.2.2 hs

/-- an observation that is not a failure of a build attempt or of a `Start` -/
def Good : Obs → Prop
  | .built o _ => o = .ok
  | .started o _ => o = .ok ∨ o = .ran ∨ o = .plRunning
  | _ => True

theorem allLive_of_ok {eng : Eng} {s : St} {h : List Nat} (hs : AllLive s)
    (ha : attempt eng s.openC s.held s.cfg = (.ok, h)) :
    ∀ x ∈ h, x ∈ (s.live ++ [added s.held h]).flatten := by
  obtain ⟨h1, _, _, h4⟩ := C11_build_ok_reserves_exactly_its_processors eng s.openC s.held s.cfg h ha
  intro x hx
  simp only [List.flatten_append, List.flatten_cons, List.flatten_nil, List.append_nil, List.mem_append]
  rw [h1] at hx
  rcases List.mem_append.mp hx with hx | hx
  · right; rw [h4]; exact hx
  · left; exact hs x hx

theorem allLive_step_ok (eng : Eng) (s : St) (e : Step) (hs : AllLive s)
    (hok : Good (step eng s e).2) : AllLive (step eng s e).1 := by
  cases e with
  | build =>
    rcases ha : attempt eng s.openC s.held s.cfg with ⟨o, h⟩
    have ho : o = .ok := by simpa [step, ha, Good] using hok
    subst ho
    intro x hx
    simp only [step, ha, if_true] at hx ⊢
    exact allLive_of_ok hs ha x hx
  | teardown =>
    intro x hx
    rw [teardown_held_nil eng hs] at hx
    cases hx
  | start =>
    cases eng with
    | v1 =>
      rcases ha : attempt .v1 s.openC s.held s.cfg with ⟨o, h⟩
      cases o with
      | ok => simp only [step, ha]; exact hs
      | err e => simp [step, ha, Good] at hok
    | v2 =>
      by_cases hst : s.started = true
      · simp only [step, hst, if_true]; exact hs
      · rcases ha : attempt .v2 s.openC s.held s.cfg with ⟨o, h⟩
        cases o with
        | err e => simp [step, hst, ha, Good] at hok
        | ok =>
          cases hop : openPhaseV2 s.cfg s.failP s.failC with
          | some rel => simp [step, hst, ha, hop, Good] at hok
          | none =>
            intro x hx
            simp only [step, hst, ha, hop, Bool.false_eq_true, if_false] at hx ⊢
            exact allLive_of_ok hs ha x hx
  | mk id => exact hs
  | rmp id => exact hs
  | rmc id => exact hs
  | addc k id => exact hs
  | failp id => exact hs
  | failc id => exact hs
  | failclear => exact hs

/-- Over any history of build attempts, `Start`s, run ends, injected `Open` failures and
configuration edits in which NO build attempt and NO `Start` failed, every reservation belongs to a
live run at every point — so every run end leaves nothing reserved. (A failed build or a failed open
phase is the only way to break this: see the counterexamples.) -/
theorem C11_no_failed_build_no_leak (eng : Eng) (steps : List Step) : ∀ (s : St), AllLive s →
    (∀ t ∈ run eng s steps, Good t.2.2.2) →
    ∀ t ∈ run eng s steps, AllLive t.2.2.1 ∧ (t.2.1 = .teardown → t.2.2.1.held = []) := by
  induction steps with
  | nil => intro s _ _ t ht; simp [run] at ht
  | cons e es ih =>
    intro s hs hok t ht
    simp only [run] at ht hok
    have hstep : AllLive (step eng s e).1 := allLive_step_ok eng s e hs (hok _ (List.mem_cons_self ..))
    rcases List.mem_cons.mp ht with rfl | ht
    · refine ⟨hstep, fun he => ?_⟩
      simp only at he
      subst he
      exact teardown_held_nil eng hs
    · exact ih (step eng s e).1 hstep (fun t' ht' => hok t' (List.mem_cons_of_mem _ ht')) t ht

/-- After a run end that left nothing reserved the same configuration builds again iff it builds from
scratch: the result of the attempt is the result with nothing reserved and no connector open. -/
theorem C11_rebuild_after_teardown (eng : Eng) (s : St) (hs : AllLive s) :
    attempt eng (step eng s .teardown).1.openC (step eng s .teardown).1.held (step eng s .teardown).1.cfg =
      attempt eng [] [] s.cfg := by
  rw [teardown_held_nil eng hs]
  rfl

/-- What ANY attempt (failed or not) does to the reservations: it only adds, in front of what was
held. In particular a failed attempt never releases anything it or an earlier attempt reserved. -/
theorem C11_failed_build_adds_a_prefix (eng : Eng) (openC held : List Nat) (cfg : PipeCfg) :
    ∃ a, (attempt eng openC held cfg).2 = a ++ held := by
  obtain ⟨pre, -, -, -, hh, -⟩ := attempt_adds eng openC held cfg
  exact ⟨pre.reverse, hh⟩

/-- the processors an open sequence opened are processors of its tasks, none of them set to fail, and all
of them when no task failed -/
theorem openSeq_procs (failP failC : List Nat) (ts : List OpenTask) : ∀ (oc : List Nat),
    (∀ x ∈ (openSeq failP failC oc ts).1, x ∈ procsOf ts ∧ x ∉ failP) ∧
    ((openSeq failP failC oc ts).2.2 = false → (openSeq failP failC oc ts).1 = procsOf ts) := by
  induction ts with
  | nil => exact fun oc => ⟨nofun, fun _ => rfl⟩
  | cons t ts ih =>
    intro oc
    obtain ⟨b, id⟩ := t
    rw [openSeq]
    by_cases hf : taskFails failP failC oc (b, id) = true
    · rw [if_pos hf]; exact ⟨nofun, nofun⟩
    · rw [if_neg hf]
      have ⟨ih1, ih2⟩ := ih (if b then oc else id :: oc)
      cases b with
      | false => exact ⟨ih1, ih2⟩
      | true =>
        refine ⟨fun x hx => ?_, fun hfl => congrArg (id :: ·) (ih2 hfl)⟩
        rcases List.mem_cons.mp hx with rfl | hx
        · exact ⟨List.mem_cons_self .., by simpa [taskFails] using hf⟩
        · exact ⟨List.mem_cons_of_mem _ (ih1 x hx).1, (ih1 x hx).2⟩

theorem workersOpen_released (failP failC sinkProcs : List Nat) (cs : List ConnCfg) :
    ∀ (oc closed rel : List Nat), workersOpen failP failC sinkProcs oc closed cs = some rel →
      (∀ x ∈ sinkProcs, x ∈ rel) ∧ (∀ x ∈ closed, x ∈ rel) ∧
      (∀ x ∈ rel, x ∈ sinkProcs ∨ x ∈ closed ∨ (x ∉ failP ∧ ∃ c ∈ cs, x ∈ procsOf (workerTasks c))) := by
  induction cs with
  | nil => intro oc closed rel h; simp [workersOpen] at h
  | cons c cs ih =>
    intro oc closed rel h
    rw [workersOpen] at h
    rcases hr : openSeq failP failC oc (workerTasks c) with ⟨ps, oc', f⟩
    have hps := (openSeq_procs failP failC (workerTasks c) oc).1
    rw [hr] at h hps
    simp only at hps
    cases f with
    | true =>
      simp only [Option.some.injEq] at h
      subst h
      refine ⟨fun x hx => by simp [hx], fun x hx => by simp [hx], fun x hx => ?_⟩
      simp only [List.mem_append] at hx
      rcases hx with (hx | hx) | hx
      · exact Or.inr (Or.inr ⟨(hps x hx).2, c, List.mem_cons_self .., (hps x hx).1⟩)
      · exact Or.inr (Or.inl hx)
      · exact Or.inl hx
    | false =>
      simp only at h
      obtain ⟨h1, h2, h3⟩ := ih oc' (closed ++ ps) rel h
      refine ⟨h1, fun x hx => h2 x (List.mem_append_left _ hx), fun x hx => ?_⟩
      rcases h3 x hx with h | h | ⟨hnf, d, hd, hx'⟩
      · exact Or.inl h
      · rcases List.mem_append.mp h with h | h
        · exact Or.inr (Or.inl h)
        · exact Or.inr (Or.inr ⟨(hps x h).2, c, List.mem_cons_self .., (hps x h).1⟩)
      · exact Or.inr (Or.inr ⟨hnf, d, List.mem_cons_of_mem _ hd, hx'⟩)

/-- **What a failed open phase DOES release (arch-v2).** When `Start`'s open phase fails, the
reservations afterwards are those of the successful build minus `released`, where `released` holds
only processors whose `Open` had succeeded (none of the failing ones); and when the failure is in a
worker (the sink had opened completely), EVERY processor of the shared sink is among them
(`rp.sink.Close` closes every shared task). No run becomes live, no connector stays open. -/
theorem C11_open_failure_releases_opened (s : St) (h' : List Nat)
    (hstep : (step .v2 s .start).2 = .started .openFailed h') :
    ∃ h released, attempt .v2 s.openC s.held s.cfg = (.ok, h) ∧
      openPhaseV2 s.cfg s.failP s.failC = some released ∧
      (step .v2 s .start).1.held = h' ∧ (∀ x, x ∈ h' ↔ x ∈ h ∧ x ∉ released) ∧
      (∀ x ∈ released, x ∉ s.failP) ∧
      ((openSeq s.failP s.failC [] (sinkTasks s.cfg)).2.2 = false → ∀ x ∈ procsOf (sinkTasks s.cfg), x ∈ released) ∧
      (step .v2 s .start).1.live = s.live ∧ (step .v2 s .start).1.started = s.started ∧
      (step .v2 s .start).1.openC = s.openC := by
  by_cases hst : s.started = true
  · simp [step, hst] at hstep
  · rcases ha : attempt .v2 s.openC s.held s.cfg with ⟨o, h⟩
    cases o with
    | err e => simp [step, hst, ha] at hstep
    | ok =>
      cases hop : openPhaseV2 s.cfg s.failP s.failC with
      | none => simp [step, hst, ha, hop] at hstep
      | some rel =>
        have hs : step .v2 s .start =
            ({ s with held := h.filter fun x => !rel.contains x }, .started .openFailed (h.filter fun x => !rel.contains x)) := by
          simp only [step, hst, ha, hop, Bool.false_eq_true, if_false]
        rw [hs] at hstep ⊢
        have hh : (h.filter fun x => !rel.contains x) = h' := by
          simp only [Obs.started.injEq, true_and] at hstep; exact hstep
        refine ⟨h, rel, rfl, rfl, hh, fun x => by rw [← hh]; simp, ?_, ?_, rfl, rfl, rfl⟩
        · intro x hx
          rw [openPhaseV2] at hop
          rcases hr : openSeq s.failP s.failC [] (sinkTasks s.cfg) with ⟨ps, oc, f⟩
          have hps := openSeq_procs s.failP s.failC (sinkTasks s.cfg) []
          rw [hr] at hop hps
          cases f with
          | true =>
            simp only [Option.some.injEq] at hop
            subst hop
            exact (hps.1 x hx).2
          | false =>
            simp only at hop
            rcases (workersOpen_released _ _ _ _ _ _ _ hop).2.2 x hx with h1 | h1 | ⟨h1, _⟩
            · -- a processor of the sink, all of which opened
              exact (hps.1 x (hps.2 rfl ▸ h1)).2
            · cases h1
            · exact h1
        · intro hf x hx
          rw [openPhaseV2] at hop
          rcases hr : openSeq s.failP s.failC [] (sinkTasks s.cfg) with ⟨ps, oc, f⟩
          rw [hr] at hop hf
          simp only at hf
          subst hf
          simp only at hop
          exact (workersOpen_released _ _ _ _ _ _ _ hop).1 x hx

/-- v1: a `Start` whose build succeeds leaves the reservations exactly as they were once its run has
ended, whichever `Open` failed: every node is run, and every `ProcessorNode.Run` tears its processor
down on every exit (the teardown is deferred before `Open`). -/
theorem C11_v1_start_releases_all (s : St) (h : List Nat) (hb : attempt .v1 s.openC s.held s.cfg = (.ok, h)) :
    step .v1 s .start = (s, .started .ran s.held) := by
  simp [step, hb]

namespace ExLeak

/-- source 1 with processor 2, destination 6; the pipeline lists a processor 7 that does not exist -/
def cfg : PipeCfg := { conns := [⟨.source, 1, [(2, true)]⟩, ⟨.dest, 6, []⟩], procs := [(7, false)] }

/-- the operator's history: Start (fails: unknown processor 7) — remove 7 from the pipeline — Start
again — (nothing runs, but end whatever might) — Start again -/
def history : List Step := [.build, .rmp 7, .build, .teardown, .build]

def obs (eng : Eng) : List Obs := (run eng { cfg } history).map (·.2.2.2)

end ExLeak

/-- **Counterexample (both engines).** The first attempt fails with "could not fetch processor" and
keeps the reservation of processor 2 it made before; the repaired configuration — which builds from
scratch — is then refused with "processor already running" although no run exists; a run end
releases nothing (no run holds the reservation); the refusal is permanent. The monitor
`noLeakAfterFailedBuild` reports the leak at step 0. -/
theorem C11_failed_build_leaks_reservation_counterexample :
    (∀ eng : Eng,
      ExLeak.obs eng = [.built (.err .processor) [2], .none, .built (.err .running) [2], .torn [2], .built (.err .running) [2]] ∧
      (attempt eng [] [] (editCfg ExLeak.cfg (.rmp 7))).1 = .ok ∧
      noLeakAfterFailedBuild eng ExLeak.cfg ExLeak.history = .failedBuildKeepsReservations 0 [2]) ∧
    -- hence the full-strength statement is false:
    ¬ (∀ (eng : Eng) (held : List Nat) (cfg : PipeCfg) (e : BuildErr) (h : List Nat),
        attempt eng [] held cfg = (.err e, h) → h = held) := by
  refine ⟨fun eng => by cases eng <;> decide, fun hall => ?_⟩
  have := hall .v2 [] ExLeak.cfg .processor [2] (by decide)
  cases this

namespace ExOpenLeak

/-- sources 1 (processor 2) and 7 (processor 8), shared processor 3, destination 6 behind its processor 5 -/
def cfg : PipeCfg :=
  { conns := [⟨.source, 1, [(2, true)]⟩, ⟨.source, 7, [(8, true)]⟩, ⟨.dest, 6, [(5, true)]⟩], procs := [(3, true)] }

/-- processor 5's `Open` fails on the first Start; the fault is lifted; Start again; a run end; Start again -/
def sinkFault : List Step := [.failp 5, .start, .failclear, .start, .teardown, .start]
/-- the same with the SECOND source's processor 8 failing (the sink and the first worker had opened) -/
def workerFault : List Step := [.failp 8, .start, .failclear, .start, .teardown, .start]

def obs (eng : Eng) (h : List Step) : List Obs := ((run eng { cfg } h).map (·.2.2.2)).filter (· ≠ .none)

end ExOpenLeak

/-- **Counterexample (arch-v2 only).** A `Start` whose open phase fails keeps the reservations of the
processors it never got to open — and of the one whose `Open` failed:
* processor 5 (destination 6's) fails in `sink.Open`: the rollback closes processor 3 (opened before
  it); 5 itself and the processors 2 and 8 of the two workers (never opened, never closed) stay
  reserved;
* processor 8 (second source's) fails in the second `worker.Open`: the first worker and the sink are
  closed (2, 3, 5 released); 8 stays reserved.
Every later Start is refused "processor already running" (and, being a failed build, reserves more on
the way), a run end releases nothing. The monitor reports the leak at the failed Start.
v1 on the same histories releases everything: the monitor holds. -/
theorem C11_failed_open_leaks_unopened_processor_reservations_counterexample :
    ExOpenLeak.obs .v2 ExOpenLeak.sinkFault =
      [.started .openFailed [5, 8, 2], .started (.buildErr .running) [5, 8, 2], .torn [5, 8, 2],
       .started (.buildErr .running) [5, 8, 2]] ∧
    noLeakAfterFailedBuild .v2 ExOpenLeak.cfg ExOpenLeak.sinkFault = .failedOpenKeepsReservations 1 [5, 8, 2] ∧
    ExOpenLeak.obs .v2 ExOpenLeak.workerFault =
      [.started .openFailed [8], .started (.buildErr .running) [2, 8], .torn [2, 8], .started (.buildErr .running) [2, 8]] ∧
    noLeakAfterFailedBuild .v2 ExOpenLeak.cfg ExOpenLeak.workerFault = .failedOpenKeepsReservations 1 [8] ∧
    (attempt .v2 [] [] ExOpenLeak.cfg).1 = .ok ∧
    ExOpenLeak.obs .v1 ExOpenLeak.sinkFault = [.started .ran [], .started .ran [], .torn [], .started .ran []] ∧
    noLeakAfterFailedBuild .v1 ExOpenLeak.cfg ExOpenLeak.sinkFault = .ok ∧
    noLeakAfterFailedBuild .v1 ExOpenLeak.cfg ExOpenLeak.workerFault = .ok := by decide

namespace ExOk
def cfg : PipeCfg :=
  { conns := [⟨.source, 1, [(2, true)]⟩, ⟨.dest, 6, [(5, true)]⟩], procs := [(3, true)] }
example : attempt .v2 [] [] cfg = (.ok, [3, 5, 2]) := by decide
example : attempt .v1 [] [] cfg = (.ok, [5, 3, 2]) := by decide
example : reservedBy .v2 cfg = [2, 5, 3] ∧ reservedBy .v1 cfg = [2, 3, 5] := by decide
/-- run, end, run again, end: nothing is ever left reserved and the monitor holds -/
example : (run .v2 { cfg } [.build, .teardown, .build, .teardown]).map (·.2.2.2) =
    [.built .ok [3, 5, 2], .torn [], .built .ok [3, 5, 2], .torn []] := by decide
example : noLeakAfterFailedBuild .v2 cfg [.build, .teardown, .build, .teardown] = .ok := by decide
example : noLeakAfterFailedBuild .v1 cfg [.build, .teardown, .build, .teardown] = .ok := by decide
/-- the same through `Start`; a second Start while the run is live is refused without any effect; a bare
build during the live run stops at the connector guard -/
example : (run .v2 { cfg } [.start, .start, .build, .teardown, .start, .teardown]).map (·.2.2.2) =
    [.started .ok [3, 5, 2], .started .plRunning [3, 5, 2], .built (.err .connRunning) [3, 5, 2], .torn [],
     .started .ok [3, 5, 2], .torn []] := by decide
example : noLeakAfterFailedBuild .v2 cfg [.start, .start, .build, .teardown, .start, .teardown] = .ok := by decide
/-- an open failure that hits the very first shared task leaks everything the build reserved; one that hits
the first worker's source releases the whole sink -/
example : openPhaseV2 cfg [3] [] = some [] ∧ openPhaseV2 cfg [] [1] = some [3, 5] ∧ openPhaseV2 cfg [] [] = none := by decide
/-- a failed attempt that had reserved nothing yet is harmless (the unknown connector comes first) -/
example : noLeakAfterFailedBuild .v2 { cfg with conns := ⟨.missing, 9, []⟩ :: cfg.conns } [.build, .rmc 9, .build, .teardown] = .ok := by
  decide
end ExOk

end Conduit.Rebuild
