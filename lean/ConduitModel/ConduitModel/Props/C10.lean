import ConduitModel.Proofs.LifecycleStop

/-!
# C10 — fatal failures degrade, transient ones recover (bounded), stopped stays stopped

Statement (properties.jsonl C10): "When a running pipeline fails, a fatal cause … leaves it degraded
with the cause recorded and it is never restarted automatically, while a transient cause leads to
automatic restarts …, each after a back-off delay within the configured bounds and no more than the
configured number of attempts within the configured window. A pipeline that a user stopped, or that
stopped because the server is shutting down, is never restarted by recovery and ends in the matching
stopped status."

All theorems are over M5 (`Model/Lifecycle.lean`): every event list = every interleaving of control
calls, run start-up, node failures, cleanup goroutines, recovery timers and store failures, for both
engines and every configuration.  `Fixes` are four source facts regenerated from the Go code
(`Generated.Lifecycle`).
-/
namespace Conduit.Lifecycle

/-- C10.fatal_degrades_never_restarts (classification) — "a fatal cause leaves it degraded with the
cause recorded": whenever a cleanup goroutine classifies a run whose tomb reason `c` is fatal, it
takes the Degraded arm with exactly `c`, in both engines and regardless of the graceful-shutdown /
intentional-stop flags or a sink close error. -/
theorem C10_fatal_degrades {s s' : State} {n : Nat} {sink : Option Cause} {c : Cause}
    (h : step s (.cleanupWake n sink) = some s') (ht : (s.runs n).tomb = some c) (hf : c.isFatal = true) :
    (s'.runs n).cpc = .decided (.degrade c) ∧ (s'.runs n).cerr = some c := by
  cases Step.of_step h
  simp only [setRun_runs, if_pos, ht]
  exact ⟨congrArg _ (classify_fatal hf), rfl⟩

/-- … and the status write of that arm stores `Degraded`, the terminal error is `c`. -/
theorem C10_degraded_written {s s' : State} {n : Nat} {c : Cause}
    (h : step s (.writeStatus n true) = some s') (hc : (s.runs n).cpc = .decided (.degrade c)) :
    s'.status = .degraded ∧ (s'.runs n).cpc = .tail1 (some c) := by
  cases Step.of_step h with
  | statusOk n a ha =>
    cases ha.symm.trans hc
    exact ⟨rfl, by simp [Action.err]⟩

/-- C10.fatal_degrades_never_restarts (no restart) — "it is never restarted automatically": in every
reachable state, a cleanup goroutine that is on the recovery path (decided to recover, sleeping in
the back-off, or inside the nested Start) classified a NON-fatal error. -/
theorem C10_fatal_never_restarts {eng cfg fx} {s : State} (hr : Reach eng cfg fx s) (i : Nat)
    (hrec : recoverish (s.runs i).cpc = true) : ∃ c, (s.runs i).cerr = some c ∧ c.isFatal = false :=
  (reach_inv hr).recoverNonFatal i hrec

/-- … in particular the step that performs a restart (`backoffElapsed` entering the nested Start,
recognisable by a new run id) is taken only by a run that classified a non-fatal error. -/
theorem C10_restart_only_after_transient {eng cfg fx} {s s' : State} {n : Nat} (hr : Reach eng cfg fx s)
    (h : step s (.backoffElapsed n) = some s') (_hnew : s'.next ≠ s.next) :
    ∃ c, (s.runs n).cerr = some c ∧ c.isFatal = false := by
  cases Step.of_step h with
  | giveUp n w t c hb | restart n w t hb => exact (reach_inv hr).recoverNonFatal n (by rw [hb]; rfl)

/-- The error a failing node reports IS the tomb reason (so the two theorems above are about the
failure that happened) in engine v2, and in v1 once the node goroutine records it before
`nodesWg.Done()` (fix flag `v1KillBeforeDone`). -/
theorem C10_failure_is_recorded {s s' : State} {n : Nat} {c : Cause}
    (hfix : s.eng = .v2 ∨ s.fx.v1KillBeforeDone = true)
    (h : step s (.nodeExit n c) = some s') (ht : (s.runs n).tomb = none) : (s'.runs n).tomb = some c := by
  cases Step.of_step h with
  | nodeExitPending n c h1 hk => rcases hfix with hf | hf <;> simp [h1, hk] at hf
  | nodeExit => simp only [setRun_runs, if_pos, ht]; rfl

/-- FINDING (v1, unchanged tree): the node goroutine only *returns* its error; `nodesWg.Done()` is
deferred and fires before tomb.v2 records the returned error, so the cleanup goroutine can read
`tomb.ErrStillAlive` for a pipeline that died with a FATAL error and finalize it as UserStopped with
a nil error. Full-strength `C10_failure_is_recorded` is false for v1 without the fix: -/
theorem C10_fatal_degrades_v1_counterexample :
    ((runFrom (init .v1 ⟨some 3, 1, 2, 5⟩ {})
      [.startUser, .buildOk 0, .publish 0, .writeRunning 0 true, .startReturn, .openOk 0,
       .nodeExit 0 .nodeFatal, .cleanupWake 0 none, .writeStatus 0 true, .setTerminalErr 0]).map
        fun s => (s.status, s.terminalErr)) = some (.userStopped, some none) := by decide

/-- with the fix the same history degrades with the cause recorded. -/
example :
    ((runFrom (init .v1 ⟨some 3, 1, 2, 5⟩ { v1KillBeforeDone := true })
      [.startUser, .buildOk 0, .publish 0, .writeRunning 0 true, .startReturn, .openOk 0,
       .nodeExit 0 .nodeFatal, .cleanupWake 0 none, .writeStatus 0 true, .setTerminalErr 0]).map
        fun s => (s.status, s.terminalErr)) = some (.degraded, some (some .nodeFatal)) := by decide

/-- C10.transient_restart_bounds (attempts) — "no more than the configured number of attempts within
the configured window": every recovery that is granted a restart arms one decrement timer that stays
pending until `MaxRetriesWindow` after the restart's scheduled time; in every reachable state the
pending timers of one pipeline (attempt chain) number at most `MaxRetries`, and never more than the
attempt counter. -/
theorem C10_transient_restart_bounds {eng cfg fx} {s : State} (hr : Reach eng cfg fx s) (ch : Nat) :
    (timersOf s ch).length ≤ s.cnt ch ∧ ∀ m, s.cfg.maxRetries = some m → (timersOf s ch).length ≤ m :=
  ⟨(reach_inv hr).timersLeCnt ch, (reach_inv hr).timersLeMax ch⟩

/-- … a restart is only granted while the attempt counter does not exceed `MaxRetries`; beyond it
the recovery takes the Degraded arm with ErrPipelineCannotRecover (fatal). -/
theorem C10_retries_exhausted_degrades {s s' : State} {n d m : Nat}
    (h : step s (.recoverBegin n d true) = some s') (hm : s.cfg.maxRetries = some m)
    (hex : m < s.cnt (s.runs n).chain + 1) :
    (s'.runs n).cpc = .decided (.degrade .cannotRecover) ∧ s'.timers = s.timers := by
  have he : exceeded s.cfg (s.cnt (s.runs n).chain + 1) = true := by simp [exceeded, hm, hex]
  cases Step.of_step h with
  | recoverExhausted => exact ⟨by simp, rfl⟩
  | recoverBackoff n d _ _ _ hne => rw [he] at hne; cases hne

/-- C10.transient_restart_bounds (delay) — "each after a back-off delay within the configured
bounds": a sleeping recovery was scheduled between MinDelay and MaxDelay after StatusRecovering was
written … -/
theorem C10_backoff_delay_bounds {eng cfg fx} {s : State} (hr : Reach eng cfg fx s) (i w t : Nat)
    (hb : (s.runs i).cpc = .backoff w t) :
    (s.runs i).recAt + s.cfg.minDelay ≤ w ∧ w ≤ (s.runs i).recAt + s.cfg.maxDelay :=
  ⟨((reach_inv hr).delayBounds i w t hb).1, ((reach_inv hr).delayBounds i w t hb).2.1⟩

/-- … and the restart itself happens no earlier than MinDelay after it. -/
theorem C10_restart_not_before_min_delay {eng cfg fx} {s s' : State} {n : Nat} (hr : Reach eng cfg fx s)
    (h : step s (.backoffElapsed n) = some s') : (s.runs n).recAt + s.cfg.minDelay ≤ s.now := by
  cases Step.of_step h with
  | giveUp n w t c hb hw | restart n w t hb hw => exact Nat.le_trans ((reach_inv hr).delayBounds n w t hb).1 hw

/-- C10.user_or_shutdown_stop_never_restarted — FULL STATEMENT (the goal):
`∀ evs s, runFrom (init eng cfg fx) evs = some s → s.badRestarts = 0`
("no recovery restart is performed while a user stop / shutdown request accepted since the last user
Start is in force").  It is FALSE on the unchanged tree (counterexamples below) and is proved here
for engine v2 with the two stop fixes, for every event list in which no Stop/StopAll call overlaps a
Start that has passed its status check but not yet published its run (`hypStop`). -/
theorem C10_user_or_shutdown_stop_never_restarted_partial (cfg : Cfg) (fx : Fixes)
    (h1 : fx.v2RecheckStop = true) (h2 : fx.v2KeepIntent = true) (evs : List Event) (s : State)
    (h : runFromH hypStop (init .v2 cfg fx) evs = some s) : s.badRestarts = 0 :=
  (runFromH_invStop evs (inv_init _ _ _) (invStop_init cfg fx h1 h2) h).noBad

/-- FINDING F9 (v2, unchanged tree, graceful): Stop while StatusRecovering resolves the dead run,
returns nil, and the recovery restarts the pipeline after the back-off. -/
theorem C10_stop_during_backoff_v2_counterexample :
    ((runFrom (init .v2 ⟨some 3, 1, 2, 5⟩ {})
      [.startUser, .buildOk 0, .publish 0, .writeRunning 0 true, .startReturn,
       .nodeExit 0 .nodeTransient, .cleanupWake 0 none, .recoverBegin 0 1 true,
       .stop false, .tick 1, .backoffElapsed 0]).map fun s => (stopRes s false, s.badRestarts, s.stopIntent)) =
      some (.ok, 1, true) := by decide

/-- FINDING F9 (both engines, unchanged tree, force): a force stop during the back-off kills an
already dead tomb, returns nil, and the pipeline is restarted. -/
theorem C10_force_stop_during_backoff_counterexample (eng : Engine) :
    ((runFrom (init eng ⟨some 3, 1, 2, 5⟩ {})
      [.startUser, .buildOk 0, .publish 0, .writeRunning 0 true, .startReturn,
       .nodeExit 0 .nodeTransient, .tombRecord 0, .cleanupWake 0 none, .recoverBegin 0 1 true,
       .stop true, .tick 1, .backoffElapsed 0]).map fun s => s.badRestarts) = some 1 ∨
    ((runFrom (init eng ⟨some 3, 1, 2, 5⟩ {})
      [.startUser, .buildOk 0, .publish 0, .writeRunning 0 true, .startReturn,
       .nodeExit 0 .nodeTransient, .cleanupWake 0 none, .recoverBegin 0 1 true,
       .stop true, .tick 1, .backoffElapsed 0]).map fun s => s.badRestarts) = some 1 := by
  cases eng
  · left; decide
  · right; decide

/-- FINDING (v2, unchanged tree): a repeated graceful Stop finds every worker already stopping,
so `armedSources` is empty and `intentionalStop` is reset to false; a transient error of the drain
(here: the shared sink's close error) then takes the recovery arm. -/
theorem C10_repeated_stop_v2_counterexample :
    ((runFrom (init .v2 ⟨some 3, 1, 2, 5⟩ {})
      [.startUser, .buildOk 0, .publish 0, .writeRunning 0 true, .startReturn,
       .stop false, .nodeExitClean 0, .stop false, .cleanupWake 0 (some .nodeTransient),
       .recoverBegin 0 1 true, .tick 1, .backoffElapsed 0]).map fun s => s.badRestarts) = some 1 := by decide

/-- with the fixes the three v2 histories end stopped: the recovery wake-up takes the Degraded
(force) / UserStopped (graceful) arm and performs no restart. -/
example :
    ((runFrom (init .v2 ⟨some 3, 1, 2, 5⟩ Fixes.allOn)
      [.startUser, .buildOk 0, .publish 0, .writeRunning 0 true, .startReturn,
       .nodeExit 0 .nodeTransient, .cleanupWake 0 none, .recoverBegin 0 1 true,
       .stop false, .tick 1, .backoffElapsed 0, .writeStatus 0 true]).map fun s => (s.status, s.restarts)) =
      some (.userStopped, 0) := by decide
example :
    ((runFrom (init .v2 ⟨some 3, 1, 2, 5⟩ Fixes.allOn)
      [.startUser, .buildOk 0, .publish 0, .writeRunning 0 true, .startReturn,
       .nodeExit 0 .nodeTransient, .cleanupWake 0 none, .recoverBegin 0 1 true,
       .stop true, .tick 1, .backoffElapsed 0, .writeStatus 0 true]).map fun s => (s.status, s.restarts)) =
      some (.degraded, 0) := by decide
example :
    ((runFrom (init .v2 ⟨some 3, 1, 2, 5⟩ Fixes.allOn)
      [.startUser, .buildOk 0, .publish 0, .writeRunning 0 true, .startReturn,
       .stop false, .nodeExitClean 0, .stop false, .cleanupWake 0 (some .nodeTransient),
       .writeStatus 0 true]).map fun s => (s.status, s.restarts)) = some (.userStopped, 0) := by decide

/-- FINDING (v1, unchanged tree, by design of v1 — no intentional-stop marker, no shutdown gate): a
transient error of the drain after a graceful user Stop / StopAll takes the recovery arm. -/
theorem C10_stop_then_transient_v1_counterexample :
    ((runFrom (init .v1 ⟨some 3, 1, 2, 5⟩ Fixes.allOn)
      [.startUser, .buildOk 0, .publish 0, .writeRunning 0 true, .startReturn, .openOk 0,
       .stop false, .nodeExit 0 .nodeTransient, .cleanupWake 0 none, .recoverBegin 0 1 true,
       .tick 1, .backoffElapsed 0]).map fun s => s.badRestarts) = some 1 := by decide

theorem C10_shutdown_then_transient_v1_counterexample :
    ((runFrom (init .v1 ⟨some 3, 1, 2, 5⟩ Fixes.allOn)
      [.startUser, .buildOk 0, .publish 0, .writeRunning 0 true, .startReturn, .openOk 0,
       .stopAll false, .nodeExit 0 .nodeTransient, .cleanupWake 0 none, .recoverBegin 0 1 true,
       .tick 1, .backoffElapsed 0]).map fun s => s.badRestarts) = some 1 := by decide

/-- even with the fixes, a Stop that lands while the nested Start of a recovery is between its
status check and its publication is absorbed by the dead run (hypothesis `hypStop` is necessary). -/
theorem C10_stop_during_nested_start_counterexample :
    ((runFrom (init .v2 ⟨some 3, 1, 2, 5⟩ Fixes.allOn)
      [.startUser, .buildOk 0, .publish 0, .writeRunning 0 true, .startReturn,
       .nodeExit 0 .nodeTransient, .cleanupWake 0 none, .recoverBegin 0 1 true, .tick 1,
       .backoffElapsed 0, .stop false, .buildOk 1, .publish 1, .writeRunning 1 true]).map
        fun s => (s.stopIntent, s.status, (s.runs 1).nodesAlive)) = some (true, .running, true) := by decide

/-- C10.terminal_status_matches_cause — the arm the cleanup switch takes, as a function of the
engine, the error it sees (`isFatal` is a predicate on causes, tied to `cerrors.IsFatalError` by
C20) and the flags. -/
theorem C10_terminal_status_matches_cause (s : State) (r : Run) :
    (∀ c, c.isFatal = true → classify s r (some c) = .degrade c) ∧
    (s.eng = .v1 → classify s r none = (if r.gracefulNode then .stopSystem else .stopUser)) ∧
    (s.eng = .v1 → ∀ c, c.isFatal = false → classify s r (some c) = .recover) ∧
    (s.eng = .v2 → classify s r none = (if s.shutdown then .stopSystem else .stopUser)) ∧
    (s.eng = .v2 → ∀ c, c.isFatal = false → classify s r (some c) =
        (if s.shutdown then .stopSystem else if r.intentional then .stopUser else .recover)) := by
  refine ⟨?_, ?_, ?_, ?_, ?_⟩
  · exact fun c hc => classify_fatal hc
  · intro h; simp [classify, h]
  · intro h c hc; simp [classify, h, hc]
  · intro h; simp [classify, h]
  · intro h c hc; simp [classify, h, hc]

/-- the status that an arm stores. -/
theorem C10_status_written_matches {s s' : State} {n : Nat} {ok : Bool}
    (h : step s (.writeStatus n ok) = some s') :
    ∃ a, (s.runs n).cpc = .decided a ∧ a ≠ .recover ∧ s'.status = a.status := by
  cases Step.of_step h with
  | statusOk n a ha hne | statusFail n a ha hne => exact ⟨a, ha, hne, rfl⟩

end Conduit.Lifecycle
