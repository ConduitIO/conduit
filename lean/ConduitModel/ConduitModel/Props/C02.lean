import ConduitModel.Proofs.SrcAckStep
import ConduitModel.Proofs.SrcAckPos
import ConduitModel.Proofs.SrcAckMon

/-!
# C02 — source position durable before the connector is told, and only moves forward

Statement (properties.jsonl C02): "A source connector plugin receives the acknowledgment for a
position only after a store commit that contains that position (or a later one of the same
source) has succeeded; if the store write or commit fails, no acknowledgment covered only by
that write is ever sent. The position stored for a source only ever advances in read order - it
never goes backwards or becomes empty - and at every commit all records at or before the stored
position have been handled downstream."

Quantifier: every event list of M3 (`Reach c s` = ∃ event list from `init`), i.e. every sequence of
engine acks, every timing of debounce / bundle / forced flushes and of commit completion, every
order of flush callbacks and delivery-goroutine steps, every transient send failure, every store
Set / Commit / NewTransaction failure, teardown anywhere, crashes and restarts anywhere; every
configuration `c` (retry bound, bundle threshold, both code shapes of F11/F12).

`a.seq` is the (ghost, global) number of the `Source.Ack` call; `Stored.seq` the number of the
call whose state a store value holds. `s.commits` is the history of successful commits.
-/
namespace Conduit.SrcAck

/-- C02(i) — "receives the acknowledgment for a position only after a store commit that contains
that position (or a later one of the same source) has succeeded": in every reachable state every
ack the plugin has received is covered by the committed store. -/
theorem C02_delivered_implies_durable (c : Cfg) (s : St) (h : Reach c s) :
    ∀ a ∈ s.delivered, a.seq ≤ s.store.seq :=
  fun a ha => (inv_reach h).ord.out a (Or.inr ha)

/-- C02(i), happened-before form: the successful commit covering a delivered ack is in the commit
history of the very state in which the delivery took place (histories are append-only,
`step_commits` / `step_delivered`): the commit precedes the delivery. -/
theorem C02_delivered_after_commit (c : Cfg) (s : St) (h : Reach c s) :
    ∀ a ∈ s.delivered, ∃ x ∈ s.commits, a.seq ≤ x.seq := by
  intro a ha
  have hi := inv_reach h
  have hle := hi.ord.out a (Or.inr ha)
  have hpos := (hi.allLe a (Or.inl ha)).2
  rcases hi.commitsLast with hn | hs
  · have : s.commits = [] := by simpa using hn
    have := hi.commitsNone this
    omega
  · exact ⟨s.store, List.mem_of_getLast? hs, hle⟩

/-- C02(i) for what is merely queued for delivery: an ack is handed to the delivery goroutine
only when it is already durable. -/
theorem C02_queued_implies_durable (c : Cfg) (s : St) (h : Reach c s) :
    ∀ a ∈ s.deferred, a.seq ≤ s.store.seq :=
  fun a ha => (inv_reach h).ord.out a (Or.inl ha)

/-- C02(iii) — "if the store write or commit fails, no acknowledgment covered only by that write is
ever sent": whatever flushes failed, an ack not covered by a *successful* commit is neither
delivered nor queued for delivery. -/
theorem C02_failed_flush_never_acks (c : Cfg) (s : St) (h : Reach c s) (a : AckRec)
    (hcov : s.store.seq < a.seq) : a ∉ s.delivered ∧ a ∉ s.deferred := by
  have hi := inv_reach h
  constructor
  · intro ha; have := hi.ord.out a (Or.inr ha); omega
  · intro ha; have := hi.ord.out a (Or.inl ha); omega

/-- C02(iii), step form: a failed flush (NewTransaction, Set or Commit) changes neither the store
nor what is delivered / queued / considered durable. -/
theorem C02_failed_flush_changes_nothing (c : Cfg) (s s' : St) (r : FlushRes) (hr : r ≠ .ok)
    (h : step c s (.flushRes r) = some s') :
    s'.store = s.store ∧ s'.delivered = s.delivered ∧ s'.deferred = s.deferred ∧
    s'.durable = s.durable ∧ s'.pending = s.pending ∧ s'.commits = s.commits := by
  cases step_sound h with
  | commit => exact absurd rfl hr
  | flushFail | flushTxFail => exact ⟨rfl, rfl, rfl, rfl, rfl, rfl⟩

/-- C02(iii): the callback of a failed generation (`onPersistFlushed(seq, err)`) releases nothing. -/
theorem C02_failed_callback_releases_nothing (c : Cfg) (s s' : St) (i : Nat) (g : Gen)
    (hg : s.gens[i]? = some g) (hf : g.stat = .failed) (h : step c s (.callback i) = some s') :
    s'.deferred = s.deferred ∧ s'.durable = s.durable ∧ s'.pending = s.pending ∧ s'.delivered = s.delivered := by
  cases step_sound h with
  | callbackAck _ g' _ hg' _ _ hst | callbackOpen _ g' hg' _ _ hst =>
    cases hg.symm.trans hg'; exact nomatch hf.symm.trans hst
  | callbackFailed => exact ⟨rfl, rfl, rfl, rfl⟩

/-- C02(ii) — "never goes backwards or becomes empty": one step never lowers the sequence number
held by the committed store and never turns a stored position into none. -/
theorem C02_store_monotone (c : Cfg) (s s' : St) (e : Ev) (h : Reach c s) (hs : step c s e = some s') :
    s.store.seq ≤ s'.store.seq ∧ (s.store.pos.isSome = true → s'.store.pos.isSome = true) := by
  have hi := inv_reach h
  have hle := hi.ord.store_mono hs
  -- a position is stored iff the sequence number is positive, in the store and in every snapshot
  refine ⟨hle, fun hp => ?_⟩
  rcases step_store hs with heq | ⟨g, hg, _, heq, _⟩
  · rw [heq]; exact hp
  · rw [List.getLast?_eq_getElem?] at hg
    rw [heq] at hle ⊢
    exact (hi.psGens _ g hg).mpr (Nat.lt_of_lt_of_le (hi.psStore.mp hp) hle)

/-- C02(ii) over whole runs: the history of successful commits is non-decreasing. -/
theorem C02_commit_history_monotone (c : Cfg) (s : St) (h : Reach c s) :
    s.commits.Pairwise (fun x y => x.seq ≤ y.seq) :=
  (inv_reach h).ord.commitsSorted

/-- C02(iv) (shared with C04) — FIFO, no repeat: the acks the plugin received are strictly
increasing in Ack-call order. -/
theorem C02_delivered_fifo (c : Cfg) (s : St) (h : Reach c s) :
    s.delivered.Pairwise (fun a b => a.seq < b.seq) :=
  (List.pairwise_append.mp (inv_reach h).chain).1

/-- C02(iv) — no gap: as long as the delivery goroutine did not have to drop an ack (retries
exhausted / stream torn down), what the plugin received in this incarnation followed by what is
queued (for delivery, dropped at close, awaiting durability) is exactly the sequence of Ack calls:
the delivered acks are a gap-free prefix. -/
theorem C02_delivered_prefix (c : Cfg) (s : St) (h : Reach c s) (hnd : s.droppedG = []) :
    s.deliveredI ++ (s.deferred ++ (s.dropped ++ s.pending)) = s.ackedI :=
  (inv_reach h).prefixI hnd

/-- C02(v) — "at every commit all records at or before the stored position have been handled
downstream", given the engine-side hypothesis (C01/C04: what the engine acks is justified and in
read order, `ReachO`): every record at or before the committed position — and at or before every
position ever committed — has been handed to `Source.Ack`. -/
theorem C02_stored_position_handled (c : Cfg) (s : St) (h : ReachO c s) :
    (∀ r : Nat, 1 ≤ r → r ≤ s.store.posN → r ∈ s.handled) ∧
    (∀ x ∈ s.commits, ∀ r : Nat, 1 ≤ r → r ≤ x.posN → r ∈ s.handled) := by
  have hi := (invO_reach h).1
  exact ⟨hi.covStore, fun x hx r h1 h2 => hi.covStore r h1 (Nat.le_trans h2 (hi.ord.commits x hx))⟩

/-- C02(ii) in read order: under the same hypothesis the committed *position* (read index) never
decreases over a step. -/
theorem C02_stored_position_monotone (c : Cfg) (s s' : St) (e : Ev) (h : ReachO c s)
    (hs : step c s e = some s') : s.store.posN ≤ s'.store.posN :=
  (invO_reach h).1.ord.store_mono hs

/-- C02(ii) in read order, over the whole commit history. -/
theorem C02_commit_positions_monotone (c : Cfg) (s : St) (h : ReachO c s) :
    s.commits.Pairwise (fun x y => x.posN ≤ y.posN) :=
  (invO_reach h).1.ord.commitsSorted

/-- C02(i) in positions: under the hypothesis, no position the plugin was told is past the
committed position. -/
theorem C02_delivered_positions_durable (c : Cfg) (s : St) (h : ReachO c s) :
    ∀ a ∈ s.delivered, ∀ p : Nat, p ∈ a.ps → p ≤ s.store.posN :=
  fun a ha => (invO_reach h).1.ord.out a (Or.inr ha)

/-- The monitor evaluated on implementation traces (`Spec/SrcAck.lean`, `holds`) is sound for the
model — PARTIAL: for the durability clauses. Along every hypothesis-respecting run of M3 (any event
list: faults, crashes, restarts, teardown anywhere), the monitor fed with the observations the run
emits (`traceO`: Ack calls, commits with their stored position, delivered ack messages, reopen
positions, …) never raises `C02:ack-delivered-before-durable`, `C02:store-went-backwards`,
`C02:store-became-empty`, `C03:stored-position-past-unhandled-record`,
`C03:snapshot-reopens-at-other-position` or `C03:reopened-at-other-than-stored-position`.
So a trace of the implementation that the model accepts cannot trip these clauses.

Not covered: `holds strict (traceO c init evs) = true` as a whole, i.e. the ordering / prefix clauses
(`C02:ack-repeated-or-out-of-order`, `C04:ack-sequence-gap`) and the C06 clauses; no simulation
relates the monitor's per-incarnation lists to `deliveredI`/`ackedI`. -/
theorem C02_monitor_sound_partial (c : Cfg) (strict : Bool) (evs : List Ev) :
    ∀ w, (monRun strict (traceO c init evs)).bad = some w → coreBad w = false :=
  mon_run strict evs init {} invO_init inv_init
    ⟨rfl, by intro r hr; simp [init] at hr⟩ (by intro w hw; simp at hw)

def cfg0 : Cfg := { maxRetries := 3, bundleThr := 0, txFailCallbacks := false, stopAfterDrop := false }

/-- ack, flush, commit, callback, deliver: the plugin is told position 2 after commit of 2. -/
example : (run cfg0 init [.ack [1, 2], .trigger, .flushRes .ok, .callback 0, .deliver true]).map
    (fun s => (s.delivered.map (·.ps), s.store.pos, s.commits.length)) = some ([[1, 2]], some 2, 1) := by decide

/-- a failed Set: nothing is delivered, the store stays empty, the ack stays pending. -/
example : (run cfg0 init [.ack [1], .trigger, .flushRes .setFail, .callback 0]).map
    (fun s => (s.delivered.length, s.deferred.length, s.pending.length, s.store.pos)) = some (0, 0, 1, none) := by decide

/-- … and a later successful flush covers it (out-of-order callbacks included). -/
example : (run cfg0 init [.ack [1], .trigger, .flushRes .commitFail, .ack [2], .trigger, .flushRes .ok,
    .callback 1, .callback 0, .deliver true, .deliver true]).map
    (fun s => (s.delivered.map (·.ps), s.store.pos)) = some ([[1], [2]], some 2) := by decide

/-- the monitor does fire on a trace that violates the clause (it is not vacuously quiet) -/
example : (monRun false [.ack [1], .sack [1]]).bad = some "C02:ack-delivered-before-durable" := by decide

/-- … and stays quiet on the observations of a correct run -/
example : holds false (traceO cfg0 init [.ack [1, 2], .trigger, .flushRes .ok, .callback 0, .deliver true]) = true := by
  decide

/-- the read-order hypothesis is satisfiable (and is what the harness generates) -/
example : (runO cfg0 init [.ack [1, 2], .ack [3], .trigger, .flushRes .ok]).isSome = true := by decide

end Conduit.SrcAck
