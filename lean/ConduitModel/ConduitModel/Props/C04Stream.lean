import ConduitModel.Props.C01Stream

/-
C04 (default engine) — property theorems.

"The sequence of positions acknowledged to a source connector is always a prefix of the sequence
of records that source produced: in the same order, with nothing skipped and nothing repeated, no
matter in which order destinations, parallel processor workers or dead-letter writes finish.
Filtered and dead-lettered records take their turn in the same sequence."
-/
namespace Conduit.Props
open Conduit.Stream

theorem range_prefix {m n : Nat} (h : m ≤ n) : List.range m <+: List.range n := by
  refine ⟨(List.range' m (n - m)), ?_⟩
  rw [List.range_eq_range', List.range_eq_range']
  have := List.range'_append (s := 0) (m := m) (n := n - m) (step := 1)
  simp at this
  rw [this]
  congr 1; omega

/-- C04 for the v1 engine, monitor form: in every run (every topology, reply script and
interleaving) the k-th `Source.Ack` a source sees is for its k-th record and that record was
already read — the ticket invariant of `SourceAckerNode` (`sem.Enqueue` / `sem.Acquire` order, the
`fail` latch), whatever the completion order of destination branches, parallel workers and DLQ
writes. -/
theorem C04_v1_acks_in_read_order (τ : Topo) (size thr : Nat) (evs : List Ev) (p : Pipe)
    (h : Pipe.run τ (Pipe.init τ size thr) evs = some p) : monC04 p.ack.log = true :=
  (ainv_reach τ.nDst size thr evs p.ack (pipe_run_proj evs h).2).monC04

theorem C04_v1_ack_component (M size thr : Nat) (evs : List Ev) (a : Ack)
    (h : Ack.run (Ack.init M size thr) evs = some a) : monC04 a.log = true :=
  (ainv_reach M size thr evs a h).monC04

/-- C04 spelled out: at every instant the list of positions acked to source `s` (acks, filtered
records and dead-lettered records alike) is `0, 1, …, k-1` — a prefix of what `s` produced
(`0, …, reads s - 1`): same order, no gap, no repeat. -/
theorem C04_v1_ack_sequence_is_prefix (τ : Topo) (size thr : Nat) (evs : List Ev) (p : Pipe)
    (h : Pipe.run τ (Pipe.init τ size thr) evs = some p) (s : Nat) :
    sackSeq s p.ack.log = List.range (sackCount p.ack.log s) ∧
    sackCount p.ack.log s ≤ p.ack.reads s ∧
    sackSeq s p.ack.log <+: List.range (p.ack.reads s) := by
  have ha := (pipe_run_proj evs h).2
  have hI := ainv_reach τ.nDst size thr evs p.ack ha
  obtain ⟨h1, h2⟩ := sackSeq_of_monC04 s p.ack.log hI.monC04
  rw [hI.readCount s] at h2
  refine ⟨h1, h2, ?_⟩
  rw [h1]
  exact range_prefix h2

/-- once a handler of source `s` failed (`fail` latch), `s` is never acked again. -/
theorem C04_v1_fail_latch (M size thr : Nat) (evs : List Ev) (a : Ack)
    (h : Ack.run (Ack.init M size thr) evs = some a) (s i : Nat) (r : SRes) (hf : a.fail s = true) :
    a.step (.sack s i r) = none := by
  have hI := ainv_reach M size thr evs a h
  cases hs : a.step (.sack s i r) with
  | none => rfl
  | some a' =>
    exfalso
    obtain ⟨_, _, _, _, _, _, hH, _⟩ := step_handler hs rfl
    have : a.fail s = false := by
      cases hH with
      | sackErr _ _ _ hf | sack _ _ _ _ hf => exact hf
      | sackDlq _ hh => exact ((hI.sinv.src s).busy _ (by rw [hh]; rfl)).2.2
    simp [hf] at this

/-! non-vacuity: the example run of C01Stream acks position 0 -/
example : ((Pipe.run exTopo (Pipe.init exTopo 0 0) exRunAck).map fun p => sackSeq 0 p.ack.log) = some [0] := by
  decide

end Conduit.Props
