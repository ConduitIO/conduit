import ConduitModel.Model.FlockFile
import ConduitModel.Proofs.EventSys

/-!
C19, "concurrent installs serialise on the index-state / manifest / target locks": the flock contract the
install model assumes, proved for the lock-file model `Model/FlockFile.lean`, for every number of
processes and every interleaving.
-/
namespace Conduit.FlockFile

/-- every open descriptor and every held lock is on the inode the path names; at most one holder -/
structure Inv (s : St) : Prop where
  fdsPath : ∀ f ∈ s.fds, s.path = some f.2
  holdPath : ∀ h ∈ s.holders, s.path = some h.2
  one : s.holders.length ≤ 1

theorem inv_init : Inv {} := ⟨by simp, by simp, by simp⟩

theorem inv_step {s s' : St} {e : Ev} (hi : Inv s) (hne : e ≠ .unlink) (h : step s e = some s') : Inv s' := by
  cases e with
  | unlink => exact absurd rfl hne
  | openP p =>
    simp only [step] at h
    split at h
    · simp at h
    · split at h
      · rename_i i hp
        injection h with h; subst h
        refine ⟨?_, hi.holdPath, hi.one⟩
        intro f hf
        rcases List.mem_cons.mp hf with rfl | hf
        · exact hp
        · exact hi.fdsPath f hf
      · rename_i hp
        injection h with h; subst h
        refine ⟨?_, ?_, hi.one⟩
        · intro f hf
          rcases List.mem_cons.mp hf with rfl | hf
          · rfl
          · have := hi.fdsPath f hf; rw [hp] at this; cases this
        · intro x hx
          have := hi.holdPath x hx; rw [hp] at this; cases this
  | lock p =>
    simp only [step] at h
    split at h
    · simp at h
    · rename_i f hf
      split at h
      · simp at h
      · rename_i hg
        injection h with h; subst h
        have hfm : f ∈ s.fds := List.mem_of_find?_eq_some hf
        have hfp := hi.fdsPath f hfm
        have hempty : s.holders = [] := by
          cases hh : s.holders with
          | nil => rfl
          | cons x xs =>
            exfalso
            apply hg
            have hx := hi.holdPath x (by rw [hh]; exact List.mem_cons_self)
            rw [hfp] at hx
            injection hx with hx
            simp [hh, hx]
        refine ⟨hi.fdsPath, ?_, ?_⟩
        · intro x hx
          rcases List.mem_cons.mp hx with rfl | hx
          · exact hfp
          · exact hi.holdPath x hx
        · simp [hempty]
  | unlock p =>
    simp only [step] at h
    split at h
    · injection h with h; subst h
      refine ⟨?_, ?_, ?_⟩
      · intro f hf; exact hi.fdsPath f (List.mem_filter.mp hf).1
      · intro x hx; exact hi.holdPath x (List.mem_filter.mp hx).1
      · exact Nat.le_trans (List.length_filter_le _ _) hi.one
    · simp at h

theorem run_eq (evs : List Ev) (s : St) : run s evs = evs.foldlM step s :=
  EventSys.run_eq (fun _ => rfl) (fun s e _ => by cases h : step s e <;> simp [run, h]) evs s

/-- **C19 flock contract.** While nobody unlinks the lock file, at most one process is inside the
critical section — every number of processes, every interleaving of open / lock / unlock. -/
theorem C19_flock_mutual_exclusion : ∀ (evs : List Ev) (s s' : St), Inv s → Ev.unlink ∉ evs →
    run s evs = some s' → s'.inside ≤ 1 := fun evs _ _ hi hn h =>
  (EventSys.run_induct_mem evs (fun _ _ _ he hi => inv_step hi fun hu => hn (hu ▸ he)) hi (run_eq .. ▸ h)).one

theorem C19_flock_mutual_exclusion_from_start (evs : List Ev) (s' : St) (hn : Ev.unlink ∉ evs)
    (h : run {} evs = some s') : s'.inside ≤ 1 :=
  C19_flock_mutual_exclusion evs {} s' inv_init hn h

/-- non-vacuity: a contended history without unlink runs, and the second locker is refused while the first holds -/
example : (run {} [.openP 1, .lock 1, .openP 2, .unlock 1, .lock 2, .openP 3, .unlock 2, .lock 3]).isSome = true := by decide
example : run {} [.openP 1, .lock 1, .openP 2, .lock 2] = none := by decide

/-- **The contract needs its hypothesis**: the holder unlinks the lock file before it unlocks (the
"tidy up the lock file" change); a waiter that had the old file open and a newcomer that re-creates the
path are then both inside. -/
theorem C19_flock_unlink_counterexample :
    ∃ s', run {} [.openP 1, .lock 1, .openP 2, .unlink, .unlock 1, .lock 2, .openP 3, .lock 3] = some s' ∧ s'.inside = 2 := by
  refine ⟨_, rfl, ?_⟩
  decide

end Conduit.FlockFile
