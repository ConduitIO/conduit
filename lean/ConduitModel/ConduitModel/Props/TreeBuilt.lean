import ConduitModel.Proofs.TreeBuilt
import ConduitModel.Props.TreeShape

/-!
# Every worker tree of every pipeline the arch-v2 service accepts

`buildWorkers cfg` (`Model/TreeBuild.lean`) models the whole of `lifecycle-poc.buildRunnablePipeline`
as far as trees and error exits go: `cfg` is what the connector / processor services answer for
`pl.ConnectorIDs` / `pl.ProcessorIDs` (kinds, ids, processor lists, unknown ids), the result the
`worker.FirstTask` of every worker or the error exit taken. It is compared with the REAL builder on
generated configurations (`treeshape`). Proved here, for EVERY configuration:

* `built_is_workerTree` — each tree returned is `workerTree (srcChain …) procs (destChain …)`
  (`Model/TreeBuild.lean`; its shape: `Props/TreeShape.lean`) for a source connector of the configuration;
* `built_fan1`, `built_kind`, `built_dests` — `Fan1`, source root, destinations = the destination
  connectors of the configuration (the same for every worker: they share the sink);
* `buildWorkers_never_bug` — the "(bug)" exits (`AppendToEnd`'s "multiple next tasks", the empty
  destination branch) are unreachable;
* `built_nodup` — the task ids of a tree are pairwise distinct, from the checks the build itself makes
  (`NewSink`: shared part; `NewWorker`: the source's own prefix; `MakeRunnableProcessor`: a processor
  instance is reserved once) plus `IdSpaces cfg`: connector ids and processor ids do not meet and no id
  is both a source and a destination. The code does NOT check `IdSpaces` (connector and processor
  instances live in separate services; a source connector "x" and a shared processor "x" build
  fine — witnessed by `ExBuilt.collision`); besides these checks a task id only ends up in log lines, error
  messages and the nack-node metadata of a dead-lettered record in the Go engine;
* `monitor_sound_service`, `C01_v2_monitor_sound_service` — monitor soundness for every tree of every
  accepted configuration.
-/
namespace Conduit.Funnel
open Conduit.Funnel.Mon

/-- connector ids and processor ids are separate id spaces, and a connector is a source or a
destination, not both -/
structure IdSpaces (cfg : PipeCfg) : Prop where
  sep : ∀ c ∈ cfg.conns, c.id ∉ allProcIds cfg
  kinds : ∀ c ∈ cfg.conns, ∀ d ∈ cfg.conns, c.kind = .source → d.kind = .dest → c.id ≠ d.id

theorem mem_srcConns {cs : List ConnCfg} {c : ConnCfg} : c ∈ srcConns cs ↔ c ∈ cs ∧ c.kind = .source := by
  simp [srcConns]

theorem mem_dstConns {cs : List ConnCfg} {c : ConnCfg} : c ∈ dstConns cs ↔ c ∈ cs ∧ c.kind = .dest := by
  simp [dstConns]

theorem destSetsOf_eq (cs : List ConnCfg) :
    destSetsOf cs = ((dstConns cs).map fun c => (c.id, procIds c.procs)).map fun d => destChain d.1 d.2 := by
  simp [destSetsOf, Function.comp_def]

/-- Each tree of a successful build is the `workerTree` of one of the configuration's sources. -/
theorem built_is_workerTree (cfg : PipeCfg) (trees : List TaskNode) (h : buildWorkers cfg = .ok trees)
    (t : TaskNode) (ht : t ∈ trees) :
    ∃ c ∈ cfg.conns, c.kind = .source ∧
      workerTree (srcChain c.id (procIds c.procs)) (procIds cfg.procs) (destSetsOf cfg.conns) = some t := by
  have B := buildWorkers_ok cfg trees h
  rw [B.trees_eq] at ht
  obtain ⟨c, hc, rfl⟩ := List.mem_map.mp ht
  obtain ⟨hc1, hc2⟩ := mem_srcConns.mp hc
  refine ⟨c, hc1, hc2, ?_⟩
  rw [srcChain, workerTree_ok _ _ _ _ (destSetsOf_ne cfg.conns)]
  rfl

/-- No fan-out below a fan-out, in every tree of every accepted configuration. -/
theorem built_fan1 (cfg : PipeCfg) (trees : List TaskNode) (h : buildWorkers cfg = .ok trees)
    (t : TaskNode) (ht : t ∈ trees) : Fan1 t := by
  obtain ⟨c, _, _, hw⟩ := built_is_workerTree cfg trees h t ht
  exact workerTree_fan1 _ _ _ (srcChain_ok _ _) (destSetsOf_ne _) t hw

/-- The root of every tree is a source task. -/
theorem built_kind (cfg : PipeCfg) (trees : List TaskNode) (h : buildWorkers cfg = .ok trees)
    (t : TaskNode) (ht : t ∈ trees) : t.kind = .source := by
  obtain ⟨c, _, _, hw⟩ := built_is_workerTree cfg trees h t ht
  exact workerTree_kind _ _ _ (srcChain_ok _ _) (destSetsOf_ne _) t hw

/-- The destinations of every tree are the destination connectors of the configuration, in
`pl.ConnectorIDs` order (there is at least one, and one worker per source connector). -/
theorem built_dests (cfg : PipeCfg) (trees : List TaskNode) (h : buildWorkers cfg = .ok trees)
    (t : TaskNode) (ht : t ∈ trees) :
    Mon.dests t = (dstConns cfg.conns).map (·.id) ∧ dstConns cfg.conns ≠ [] ∧
      trees.length = (srcConns cfg.conns).length ∧ srcConns cfg.conns ≠ [] := by
  have B := buildWorkers_ok cfg trees h
  obtain ⟨c, _, _, hw⟩ := built_is_workerTree cfg trees h t ht
  refine ⟨?_, B.has_dst, by rw [B.trees_eq, List.length_map], B.has_src⟩
  rw [destSetsOf_eq] at hw
  rw [workerTree_dests_service _ _ _ _ t hw]
  simp [Function.comp_def]

/-- The "(bug)" exits of the tree construction are unreachable from `buildRunnablePipeline`. -/
theorem buildWorkers_never_bug (cfg : PipeCfg) (e : TreeErr) :
    buildWorkers cfg ≠ .error (.tail e) ∧ buildWorkers cfg ≠ .error (.append e) := by
  have := buildWorkers_spec cfg
  constructor <;> intro h <;> rw [h] at this <;> simp at this

theorem mem_destSets_ids {cs : List ConnCfg} {x : Nat} (hx : x ∈ (destSetsOf cs).flatten.map (·.1)) :
    x ∈ dstProcIds cs ∨ ∃ d ∈ dstConns cs, x = d.id := by
  simp only [destSetsOf, List.mem_map, List.mem_flatten] at hx
  obtain ⟨t, ⟨_, ⟨c, hc, rfl⟩, ht⟩, rfl⟩ := hx
  simp only [destChain, List.mem_append, List.mem_map, List.mem_singleton] at ht
  rcases ht with ⟨q, hq, rfl⟩ | rfl
  · left
    simp only [dstProcIds, List.mem_flatten, List.mem_map]
    exact ⟨_, ⟨c, hc, rfl⟩, hq⟩
  · exact Or.inr ⟨c, hc, rfl⟩

theorem mem_srcProcIds {cs : List ConnCfg} {c : ConnCfg} (hc : c ∈ srcConns cs) {x : Nat} (hx : x ∈ procIds c.procs) :
    x ∈ srcProcIds cs := by
  simp only [srcProcIds, List.mem_flatten, List.mem_map]
  exact ⟨_, ⟨c, hc, rfl⟩, hx⟩

/-- Pairwise distinct task ids in every tree of every accepted configuration whose connector and
processor ids do not meet. -/
theorem built_nodup (cfg : PipeCfg) (trees : List TaskNode) (h : buildWorkers cfg = .ok trees) (hid : IdSpaces cfg)
    (t : TaskNode) (ht : t ∈ trees) : (tasksS t).Nodup := by
  have B := buildWorkers_ok cfg trees h
  rw [B.trees_eq] at ht
  obtain ⟨c, hc, rfl⟩ := List.mem_map.mp ht
  obtain ⟨hc1, hc2⟩ := mem_srcConns.mp hc
  have hshared : tasksL (sharedOf cfg) = procIds cfg.procs ++ (destSetsOf cfg.conns).flatten.map (·.1) :=
    tasksL_sharedRoots _ _ (destSetsOf_ne cfg.conns)
  have hpre : (c.id :: procIds c.procs).Nodup := B.prefix_nodup c hc
  have hall := B.procs_nodup
  unfold allProcIds at hall
  obtain ⟨hSD, hP, hSDP⟩ := List.nodup_append.mp hall
  obtain ⟨_, _, hS_D⟩ := List.nodup_append.mp hSD
  -- an id of the shared part is a pipeline processor, a destination's processor or a destination connector
  have hcases : ∀ x ∈ tasksL (sharedOf cfg),
      x ∈ procIds cfg.procs ∨ x ∈ dstProcIds cfg.conns ∨ ∃ d ∈ dstConns cfg.conns, x = d.id := by
    intro x hx
    rw [hshared] at hx
    rcases List.mem_append.mp hx with hx | hx
    · exact Or.inl hx
    · exact Or.inr (mem_destSets_ids hx)
  have hdisj : ∀ x ∈ c.id :: procIds c.procs, x ∉ tasksL (sharedOf cfg) := by
    intro x hx hm
    rcases List.mem_cons.mp hx with rfl | hx
    · -- the source connector's id
      have hsep := hid.sep c hc1
      unfold allProcIds at hsep
      rcases hcases _ hm with h | h | ⟨d, hd, he⟩
      · exact hsep (List.mem_append_right _ h)
      · exact hsep (List.mem_append_left _ (List.mem_append_right _ h))
      · obtain ⟨hd1, hd2⟩ := mem_dstConns.mp hd
        exact hid.kinds c hc1 d hd1 hc2 hd2 he
    · -- one of the source's own processors
      have hxS : x ∈ srcProcIds cfg.conns := mem_srcProcIds hc hx
      rcases hcases _ hm with h | h | ⟨d, hd, he⟩
      · exact hSDP x (List.mem_append_left _ hxS) x h rfl
      · exact hS_D x hxS x h rfl
      · obtain ⟨hd1, _⟩ := mem_dstConns.mp hd
        apply hid.sep d hd1
        unfold allProcIds
        rw [← he]
        exact List.mem_append_left _ (List.mem_append_left _ hxS)
  have : tasksS (treeOf (sharedOf cfg) c) = (c.id :: procIds c.procs) ++ tasksL (sharedOf cfg) := by
    rw [treeOf, tasksS_chainN]
    simp [procSpecs, Function.comp_def]
  rw [this]
  exact nodup_append_of hpre B.shared_nodup (fun x hx hm => hdisj x hm hx)

/-- **Monitor soundness for every pipeline the service accepts.** For every configuration `cfg` for
which the builder succeeds, every worker tree `tree` it returns, and every run of the engine model on
that tree: ALL clauses of the trace monitor (C01, C04, C05, C07, C08) are silent. Hypotheses: the id
spaces of connectors and processors do not meet (`IdSpaces cfg`, see the file comment), and the run
hypotheses of `monitor_sound_fan1`. -/
theorem monitor_sound_service (cfg : PipeCfg) (trees : List TaskNode) (hbuilt : buildWorkers cfg = .ok trees)
    (hid : IdSpaces cfg) (tree : TaskNode) (htree : tree ∈ trees)
    (fuel : Nat) (scripts : List (Nat × List Reply)) (batches : List (List Rec)) (s₀ : PS)
    (hsorted : (batches.flatten.map Mon.root).Pairwise (· < ·))
    (hlog : s₀.log = #[]) (hscr : s₀.scripts = scripts)
    (hrp : RootPreserving scripts ((runBatches fuel tree batches).run.run s₀).2.log.toList)
    (hft : FreshTags scripts batches ((runBatches fuel tree batches).run.run s₀).2.log.toList) :
    Mon.run tree scripts batches ((runBatches fuel tree batches).run.run s₀).2.log.toList = [] :=
  monitor_sound_fan1 fuel tree scripts batches s₀ (built_fan1 cfg trees hbuilt tree htree)
    (built_kind cfg trees hbuilt tree htree) (built_nodup cfg trees hbuilt hid tree htree) hsorted hlog hscr hrp hft

/-- the same per property clause (`c = .c01`, `.c04`, `.c05`, `.c07`, `.c08`) -/
theorem C01_v2_monitor_sound_service (cfg : PipeCfg) (trees : List TaskNode) (hbuilt : buildWorkers cfg = .ok trees)
    (hid : IdSpaces cfg) (tree : TaskNode) (htree : tree ∈ trees)
    (fuel : Nat) (scripts : List (Nat × List Reply)) (batches : List (List Rec)) (s₀ : PS)
    (hsorted : (batches.flatten.map Mon.root).Pairwise (· < ·))
    (hlog : s₀.log = #[]) (hscr : s₀.scripts = scripts)
    (hrp : RootPreserving scripts ((runBatches fuel tree batches).run.run s₀).2.log.toList)
    (hft : FreshTags scripts batches ((runBatches fuel tree batches).run.run s₀).2.log.toList) (c : Clause) :
    Mon.runTagged c tree scripts batches ((runBatches fuel tree batches).run.run s₀).2.log.toList = [] :=
  C01_v2_monitor_sound_fan1 fuel tree scripts batches s₀ (built_fan1 cfg trees hbuilt tree htree)
    (built_kind cfg trees hbuilt tree htree) (built_nodup cfg trees hbuilt hid tree htree) hsorted hlog hscr hrp hft c

/-! ## non-vacuity -/
namespace ExBuilt

/-- two sources (1 with processor 2; 8), shared processors 3 and 4, destination 6 behind its processor 5, destination 7 -/
def cfg : PipeCfg :=
  { conns := [⟨.source, 1, [(2, true)]⟩, ⟨.dest, 6, [(5, true)]⟩, ⟨.source, 8, []⟩, ⟨.dest, 7, []⟩], procs := [(3, true), (4, true)] }

def shared : List TaskNode := [.mk 3 .proc [.mk 4 .proc [.mk 5 .proc [.mk 6 .dest []], .mk 7 .dest []]]]

example : buildWorkers cfg = .ok [.mk 1 .source [.mk 2 .proc shared], .mk 8 .source shared] := rfl

example : IdSpaces cfg := ⟨by decide, by decide⟩

/-- no shared processors: the destination branches are the shared roots, the fan-out is at the source's tail -/
example : buildWorkers { conns := [⟨.dest, 6, [(5, true)]⟩, ⟨.source, 1, [(2, true)]⟩, ⟨.dest, 7, []⟩], procs := [] } =
    .ok [.mk 1 .source [.mk 2 .proc [.mk 5 .proc [.mk 6 .dest []], .mk 7 .dest []]]] := rfl

/-- one destination: a linear pipeline -/
example : buildWorkers { conns := [⟨.source, 1, []⟩, ⟨.dest, 6, [(5, true)]⟩], procs := [(3, true)] } =
    .ok [.mk 1 .source [.mk 3 .proc [.mk 5 .proc [.mk 6 .dest []]]]] := rfl

/-- the error exits -/
example : buildWorkers { conns := [⟨.dest, 6, []⟩], procs := [] } = .error .nosrc := rfl
example : buildWorkers { conns := [⟨.source, 1, []⟩], procs := [] } = .error .nodst := rfl
example : buildWorkers { conns := [⟨.source, 1, []⟩, ⟨.missing, 9, []⟩, ⟨.dest, 6, []⟩], procs := [] } = .error .connector := rfl
example : buildWorkers { conns := [⟨.source, 1, [(2, false)]⟩, ⟨.dest, 6, []⟩], procs := [] } = .error .processor := rfl
/-- a processor instance referenced twice (by a source and by the pipeline) -/
example : buildWorkers { conns := [⟨.source, 1, [(2, true)]⟩, ⟨.dest, 6, []⟩], procs := [(2, true)] } = .error .running := rfl
/-- a destination connector id equal to a shared processor id: refused by `NewSink` -/
example : buildWorkers { conns := [⟨.source, 1, []⟩, ⟨.dest, 3, []⟩], procs := [(3, true)] } = .error .sink := rfl
/-- a source connector id equal to the id of one of its own processors: refused by `NewWorker` -/
example : buildWorkers { conns := [⟨.source, 1, [(1, true)]⟩, ⟨.dest, 6, []⟩], procs := [] } = .error .worker := rfl

/-- a SOURCE connector id equal to a SHARED processor id is accepted: the tree has the id 3 twice
(`IdSpaces` fails, `built_nodup` does not apply; the real builder accepts it as well — corpus line
`pipe P=3 C=s3:-;d6:-`) -/
def collision : PipeCfg := { conns := [⟨.source, 3, []⟩, ⟨.dest, 6, []⟩], procs := [(3, true)] }
example : buildWorkers collision = .ok [.mk 3 .source [.mk 3 .proc [.mk 6 .dest []]]] := rfl
example : ¬ IdSpaces collision := fun h => h.sep ⟨.source, 3, []⟩ (List.mem_cons_self ..) (by decide)
example : ¬ (tasksS (.mk 3 .source [.mk 3 .proc [.mk 6 .dest []]])).Nodup := by decide

end ExBuilt

end Conduit.Funnel
