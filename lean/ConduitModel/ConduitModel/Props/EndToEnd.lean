import ConduitModel.Props.MonSound
import ConduitModel.Props.C02
import ConduitModel.Props.C03
import ConduitModel.Props.C04Stream
import ConduitModel.Proofs.SrcAckEngine

/-!
# Engine ∘ connector: the engine-side hypothesis of C02(v) / C03 is discharged (arch v2, then v1)

`Props/C02.lean` and `Props/C03.lean` prove the position clauses under the hypothesis `ReachO`
("the positions handed to `Source.Ack` continue, without gap, the read order of this incarnation"),
which those files take as an assumption about the engine. This file connects the two models:

* engine side (`Model/Funnel.lean`): `C04_v2_run_acks_prefix` says the positions acknowledged by a
  whole multi-batch run are a prefix of the positions read. `sackCalls log` are the individual
  `Source.Ack` calls of the run (`Ev.sack`);
* connector side (`Model/SrcAck.lean`): `ReachO.incarnation(s)` (Proofs/SrcAckEngine.lean) says that
  M3 needs nothing else.

`C03_v2_engine_feeds_connector` : for every task tree, fuel, script, window, fan-out order and outcome of
a run whose source plugin — opened at read index `p` — produced the records `p+1, p+2, …`, the run's
`Source.Ack` calls satisfy `ChunksFrom p`.  `C03_v2_composed_crash_safe` then states C03's crash-safety clause
for the composed system with NO engine-side hypothesis left except `NoEmptyAckCall` (no `Source.Ack`
call with an empty position list — the real `connector.Source.Ack` indexes `p[len(p)-1]`; the funnel
harness's source fake panics exactly there, so every implementation run checks it; proved locally
for `Worker.Nack`'s call site, `workerNack` acknowledges `take n` with `0 < n ≤ length`).
-/
namespace Conduit.Funnel

open Conduit.SrcAck (ChunksFrom acksOf ReachO)

/-- the `Source.Ack` calls of a run, each as the list of read indices it acknowledges -/
def sackCalls (log : Array Ev) : List (List Nat) :=
  log.toList.filterMap fun e => match e with
    | .sack ps => some (ps.map keyOf)
    | _ => none

def NoEmptyAckCall (log : Array Ev) : Prop := ∀ ps, Ev.sack ps ∈ log.toList → ps ≠ []

theorem sackCalls_flatten (log : Array Ev) : (sackCalls log).flatten = ackedKeys log := by
  unfold sackCalls ackedKeys
  induction log.toList with
  | nil => rfl
  | cons e es ih =>
    cases e <;> simp_all [evKeys, List.flatMap_cons]

theorem sackCalls_nonempty {log : Array Ev} (h : NoEmptyAckCall log) : ∀ c ∈ sackCalls log, c ≠ [] := by
  intro c hc
  obtain ⟨e, he, hm⟩ := List.mem_filterMap.mp hc
  cases e with
  | sack ps => cases hm; simpa using h ps he
  | _ => cases hm

theorem prefix_of_range_eq {l : List Nat} {s n : Nat} (h : l <+: List.range' s n) : l = List.range' s l.length := by
  obtain ⟨t, ht⟩ := h
  have := List.range'_eq_append_iff.mp ht.symm
  obtain ⟨k, _, hl, _⟩ := this
  rw [hl]
  simp

/-- **Engine side.** Whatever the run does, its `Source.Ack` calls continue the read order. -/
theorem C03_v2_engine_feeds_connector (fuel : Nat) (tree : TaskNode) (batches : List (List Rec)) (s₀ : PS)
    (p : Nat) (hlog : s₀.log = #[])
    (hread : batches.flatten.map (fun r => keyOf r.pos) = List.range' (p + 1) batches.flatten.length)
    (hne : NoEmptyAckCall ((runBatches fuel tree batches).run.run s₀).2.log) :
    ChunksFrom p (sackCalls ((runBatches fuel tree batches).run.run s₀).2.log) := by
  have hpos : ∀ r ∈ batches.flatten, r.pos ≠ none := by
    intro r hr hnone
    have hm : keyOf r.pos ∈ batches.flatten.map (fun r => keyOf r.pos) := List.mem_map.mpr ⟨r, hr, rfl⟩
    rw [hread, List.mem_range'_1, hnone] at hm
    simp [keyOf] at hm
  have hp := (C04_v2_run_acks_prefix fuel tree batches s₀ hpos hlog).1
  rw [hread] at hp
  rw [Conduit.SrcAck.chunksFrom_iff]
  refine ⟨sackCalls_nonempty hne, ?_⟩
  rw [sackCalls_flatten]
  exact prefix_of_range_eq hp

/-- **The composed system, one incarnation.** A connector in any state reachable under the engine-side
hypothesis (e.g. freshly opened: `ReachO c init`), whose in-memory position is read index `p`, is
driven by an arch-v2 run that read `p+1, p+2, …`; `evs` is any interleaving of the connector's events
(flushes, store outcomes, callbacks, deliveries, teardown, crash) in which the `Source.Ack` events are
the run's calls. Then the resulting state is again inside `ReachO` — and C03's crash-safety holds in
it, with no assumption about the engine left. -/
theorem C03_v2_composed_crash_safe (c : SrcAck.Cfg) (s s' : SrcAck.St) (evs : List SrcAck.Ev)
    (fuel : Nat) (tree : TaskNode) (batches : List (List Rec)) (s₀ : PS) (hlog : s₀.log = #[])
    (hr : ReachO c s)
    (hread : batches.flatten.map (fun r => keyOf r.pos) = List.range' (s.inst.posN + 1) batches.flatten.length)
    (hne : NoEmptyAckCall ((runBatches fuel tree batches).run.run s₀).2.log)
    (hnr : SrcAck.Ev.restart ∉ evs)
    (hacks : acksOf evs = sackCalls ((runBatches fuel tree batches).run.run s₀).2.log)
    (hrun : SrcAck.run c s evs = some s') :
    ReachO c s' ∧
    (∀ r : Nat, 1 ≤ r → r ≤ s'.store.posN → r ∈ s'.handled) ∧
    (∀ a ∈ s'.delivered, ∀ q : Nat, q ∈ a.ps → q ≤ s'.store.posN) := by
  have hch := C03_v2_engine_feeds_connector fuel tree batches s₀ s.inst.posN hlog hread hne
  rw [← hacks] at hch
  have hr' := hr.incarnation evs hnr hch hrun
  exact ⟨hr', SrcAck.C03_crash_safe c s' hr'⟩

/-- **The composed system, whole history** (any number of crashes and restarts): if in every process
incarnation the engine's `Source.Ack` calls continue the read order after the position the connector
was (re)opened with (`IncsFed`; for arch v2 this is `C03_v2_engine_feeds_connector` applied to each
incarnation's run, the reopen position being the stored one), then every state of the history is
inside `ReachO`, hence crash-safe. -/
theorem C03_composed_history_crash_safe (c : SrcAck.Cfg) (incs : List (List SrcAck.Ev)) (s' : SrcAck.St)
    (hf : SrcAck.IncsFed c SrcAck.init incs) (hrun : SrcAck.run c SrcAck.init (SrcAck.joinIncs incs) = some s') :
    (∀ r : Nat, 1 ≤ r → r ≤ s'.store.posN → r ∈ s'.handled) ∧
    (∀ a ∈ s'.delivered, ∀ q : Nat, q ∈ a.ps → q ≤ s'.store.posN) :=
  SrcAck.C03_crash_safe c s' (SrcAck.ReachO.incarnations incs SrcAck.init s' ⟨[], rfl⟩ hf hrun)

/-- non-vacuity: a two-incarnation history (ack 1,2 · flush · commit · crash | restart · ack 3) is fed -/
example : SrcAck.IncsFed ⟨12, 100, true, true⟩ SrcAck.init
    [[.ack [1, 2], .trigger, .flushRes .ok, .crash], [.ack [3], .trigger, .flushRes .ok]] :=
  SrcAck.incsFedB_sound _ _ (by decide)

/-- … and the model does run it (the hypotheses of `C03_composed_history_crash_safe` are satisfiable) -/
example : (SrcAck.run ⟨12, 100, true, true⟩ SrcAck.init (SrcAck.joinIncs
    [[.ack [1, 2], .trigger, .flushRes .ok, .crash], [.ack [3], .trigger, .flushRes .ok]])).isSome = true := by decide

/-- a run whose second incarnation skips record 3 is NOT fed (the hypothesis is not vacuous the other way) -/
example : SrcAck.incsFedB ⟨12, 100, true, true⟩ SrcAck.init
    [[.ack [1, 2], .trigger, .flushRes .ok, .crash], [.ack [4]]] = false := by decide

/-- `Worker.Nack`'s call site never produces an empty `Source.Ack`: it acknowledges `positions[:n]`
with `0 < n ≤ len(positions)`. -/
theorem take_nonempty_of_pos {α} (l : List α) (n : Nat) (h0 : 0 < n) (hle : n ≤ l.length) : l.take n ≠ [] := by
  intro h
  have := congrArg List.length h
  simp only [List.length_take, List.length_nil] at this
  omega

end Conduit.Funnel

/-! ## default engine (v1): the same composition, with no hypothesis left

The stream engine acknowledges one position per `Source.Ack` call (`SourceAckerNode`), so no call is
empty; `C04_v1_ack_sequence_is_prefix` gives the sequence. -/
namespace Conduit.Props
open Conduit.Stream Conduit.SrcAck

theorem chunksFrom_singletons (p : Nat) : ∀ (k a : Nat),
    ChunksFrom (p + a) ((List.range' a k).map fun i => [p + 1 + i])
  | 0, _ => by simp [ChunksFrom]
  | k + 1, a => by
    simp only [List.range'_succ, List.map_cons, ChunksFrom, List.length_cons, List.length_nil, Nat.zero_add]
    refine ⟨by simp, ?_, ?_⟩
    · show [p + 1 + a] = List.range' (p + a + 1) 1
      rw [List.range'_one]
      congr 1
      omega
    · have := chunksFrom_singletons p k (a + 1)
      rw [show p + a + 1 = p + (a + 1) by omega]
      exact this

/-- **Engine side, v1.** For every topology, DLQ window and event list of the v1 pipeline model, and every
source `s` whose plugin was opened at read index `p`: the `Source.Ack` calls of `s` (record `i` of the
incarnation is read index `p + 1 + i`) continue the read order — `ChunksFrom p`, nothing assumed. -/
theorem C03_v1_engine_feeds_connector (τ : Topo) (size thr : Nat) (evs : List Stream.Ev) (pp : Pipe)
    (h : Pipe.run τ (Pipe.init τ size thr) evs = some pp) (s p : Nat) :
    ChunksFrom p ((sackSeq s pp.ack.log).map fun i => [p + 1 + i]) := by
  rw [(C04_v1_ack_sequence_is_prefix τ size thr evs pp h s).1, List.range_eq_range']
  exact chunksFrom_singletons p _ 0

/-- **The composed system, v1, one incarnation**: C03's crash-safety with no engine-side hypothesis. -/
theorem C03_v1_composed_crash_safe (c : SrcAck.Cfg) (st st' : SrcAck.St) (cevs : List SrcAck.Ev)
    (τ : Topo) (size thr : Nat) (evs : List Stream.Ev) (pp : Pipe)
    (h : Pipe.run τ (Pipe.init τ size thr) evs = some pp) (s : Nat)
    (hr : ReachO c st) (hnr : SrcAck.Ev.restart ∉ cevs)
    (hacks : acksOf cevs = (sackSeq s pp.ack.log).map fun i => [st.inst.posN + 1 + i])
    (hrun : SrcAck.run c st cevs = some st') :
    ReachO c st' ∧
    (∀ r : Nat, 1 ≤ r → r ≤ st'.store.posN → r ∈ st'.handled) ∧
    (∀ a ∈ st'.delivered, ∀ q : Nat, q ∈ a.ps → q ≤ st'.store.posN) := by
  have hch := C03_v1_engine_feeds_connector τ size thr evs pp h s st.inst.posN
  rw [← hacks] at hch
  have hr' := hr.incarnation cevs hnr hch hrun
  exact ⟨hr', SrcAck.C03_crash_safe c st' hr'⟩

/-- **C02(v) for the composed system, whole history**: if every incarnation is fed in read order
(`IncsFed`: `C03_v1_engine_feeds_connector` / `C03_v2_engine_feeds_connector` per incarnation), then at
the end of the history — and, the history being arbitrary, at every instant of it — the committed
position never went backwards, every committed position covers handled records only, and nothing the
plugin was told is past the committed position. -/
theorem C02_composed_history_positions (c : SrcAck.Cfg) (incs : List (List SrcAck.Ev)) (s' : SrcAck.St)
    (hf : IncsFed c SrcAck.init incs) (hrun : SrcAck.run c SrcAck.init (joinIncs incs) = some s') :
    s'.commits.Pairwise (fun x y => x.posN ≤ y.posN) ∧
    (∀ x ∈ s'.commits, ∀ r : Nat, 1 ≤ r → r ≤ x.posN → r ∈ s'.handled) ∧
    (∀ a ∈ s'.delivered, ∀ q : Nat, q ∈ a.ps → q ≤ s'.store.posN) := by
  have hr := ReachO.incarnations incs SrcAck.init s' ⟨[], rfl⟩ hf hrun
  exact ⟨C02_commit_positions_monotone c s' hr, (C02_stored_position_handled c s' hr).2,
    C02_delivered_positions_durable c s' hr⟩

/-- … and the next step of a composed history never moves the committed position backwards. -/
theorem C02_composed_history_store_forward (c : SrcAck.Cfg) (incs : List (List SrcAck.Ev)) (s' s'' : SrcAck.St)
    (e : SrcAck.Ev) (hf : IncsFed c SrcAck.init incs) (hrun : SrcAck.run c SrcAck.init (joinIncs incs) = some s')
    (hs : SrcAck.step c s' e = some s'') : s'.store.posN ≤ s''.store.posN :=
  C02_stored_position_monotone c s' s'' e (ReachO.incarnations incs SrcAck.init s' ⟨[], rfl⟩ hf hrun) hs

end Conduit.Props
