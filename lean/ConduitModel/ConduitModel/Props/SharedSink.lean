import ConduitModel.Proofs.SharedSink

/-!
# C01 / C04 / C05 (arch-v2) — N source workers on ONE shared sink

C01 (properties.jsonl): a record is acknowledged to its source only when every destination wrote
it durably — on a shared destination this needs that the acks a worker reads from the
destination's single ack stream are the acks of ITS OWN writes. C04: acks reach a source in its
read order. C05: a destination receives each source's records in that source's read order.

Model: `Model/SharedSink.lean` — W workers × R shared roots, every interleaving of the statements
of `Worker.doTask`'s `sharedBoundary` branch (`sharedMu.Lock()`, deferred `Unlock()`,
`poisoned.Load()`, the sub-pass, `poisoned.Store(true)` on error) with the destination writes and
ack-stream reads of the sub-passes. All theorems quantify over every accepted event list
(`Reach R s`), any number of workers, roots, destinations per root, hand-offs and sub-pass
behaviours. Source tie: `Facts/SharedSink.lean`; implementation tie: driver component
`sharedsink` (trace acceptance of the real concurrent workers).
-/
namespace Conduit.SharedSink

/-- At most one worker is inside a given shared root (between `sharedMu.Lock()` and the deferred
`Unlock()`) at any time, and it is the one recorded as the lock's holder. -/
theorem C01_v2_shared_mutual_exclusion (R : Nat) (s : St) (h : Reach R s) (w w' r : Nat)
    (hw : (s.bpc w r).holds = true) (hw' : (s.bpc w' r).holds = true) : w = w' ∧ s.lock r = some w := by
  have hi := (reach_inv h).1
  have h1 := hi.holdsLock w r hw
  have h2 := hi.holdsLock w' r hw'
  rw [h1] at h2
  exact ⟨Option.some.inj h2, h1⟩

/-- Serializability: in every reachable state the event log of every shared root is a
concatenation of COMPLETE visits — each a refusal or a whole sub-pass (`enter t`, then only
processor calls / destination writes / ack-stream reads of that same worker and hand-off `t`, then
`exit t`) — followed, iff a sub-pass is running, by the prefix of that one sub-pass. So the writes
and ack reads of two workers (or two batches) never interleave inside a root. -/
theorem C01_v2_shared_serializable (R : Nat) (s : St) (h : Reach R s) (r : Nat) :
    ∃ (blocks : List (List REv)) (tail : List REv), s.rlog r = blocks.flatten ++ tail ∧ (∀ b ∈ blocks, Block b) ∧
      (openOn s r = none → tail = []) ∧
      (∀ t, openOn s r = some t → ∃ body, tail = .enter t :: body ∧ ∀ x ∈ body, x.isBody = true ∧ x.tag = t) :=
  ((reach_inv h).2.serial r).blocks

/-- … and the open sub-pass is the lock holder's current hand-off. -/
theorem C01_v2_shared_open_is_holder (R : Nat) (s : St) (_h : Reach R s) (r : Nat) (t : Tag)
    (ho : openOn s r = some t) : s.lock r = some t.1 ∧ s.bpc t.1 r = .running ∧ t.2 = s.seq t.1 := by
  unfold openOn at ho
  cases hl : s.lock r with
  | none => rw [hl] at ho; cases ho
  | some w =>
    rw [hl] at ho
    by_cases hb : s.bpc w r = .running
    · simp [hb] at ho; subst ho; exact ⟨rfl, hb, rfl⟩
    · simp [hb] at ho

/-- C01/C04 on a shared destination: every ack a worker consumes from a destination's ack stream
was produced by a write of that SAME worker in the SAME sub-pass — for every accepted event list,
every `Ack()` read by `w` on destination `d` of root `r` pops only entries tagged `(w, seq w)`.
No worker ever consumes (and then acknowledges to its own source) another worker's acks. -/
theorem C01_v2_shared_no_foreign_acks (R : Nat) (pre post : List Ev) (w r d n : Nat) (s : St)
    (h : run R init (pre ++ .ackRead w r d n :: post) = some s) :
    ∃ s₁, run R init pre = some s₁ ∧ n ≤ (s₁.pend r d).length ∧ ∀ t ∈ (s₁.pend r d).take n, t = (w, s₁.seq w) := by
  obtain ⟨s₁, s₂, h1, h2, -⟩ := run_split h
  have hv := (Reach.root ⟨pre, h1⟩ r)
  cases step_iff.mp h2 with
  | ackRead _ _ _ _ hb hn => exact ⟨s₁, h1, hn, fun t ht => (hv.at hb rfl).2.own d t (List.mem_of_mem_take ht)⟩

/-- state form: the ghost flag "an ack of another sub-pass was consumed" is never set -/
theorem C01_v2_shared_foreign_flag_never_set (R : Nat) (s : St) (h : Reach R s) : s.foreign = false :=
  (reach_inv h).1.noForeign

/-- C04: whenever a root is free and not poisoned, every ack stream in it is empty — the next
sub-pass starts on a clean stream, so the k-th ack it reads answers its own k-th written record. -/
theorem C04_v2_shared_stream_clean_when_free (R : Nat) (s : St) (h : Reach R s) (r d : Nat)
    (hl : s.lock r = none) (hp : s.poison r = false) : s.pend r d = [] := by
  exact ((h.root r).free hl hp).2 d

/-- C04: a sub-pass returns WITHOUT error only after it has consumed every ack of every write it
made (all streams of the root are empty again). -/
theorem C04_v2_shared_clean_subpass_consumed_all (R : Nat) (s s' : St) (h : Reach R s) (w r : Nat)
    (hs : step R s (.subEnd w r true) = some s') : ∀ d, s.pend r d = [] := by
  cases step_iff.mp hs with
  | subEndOk _ _ hb hall => exact pend_nil_of_subEnd_ok ((h.root r).at hb rfl).2 hall

/-- No window: the poison is stored BEFORE the lock is released — in every reachable state in
which a root is free (any worker could take the lock now), an error of an earlier sub-pass on
that root is already visible as `poisoned = true`. (While the failing worker still holds the lock
it is between the return of the sub-pass and `poisoned.Store(true)`.) -/
theorem C01_v2_shared_poison_before_unlock (R : Nat) (s : St) (h : Reach R s) (r : Nat)
    (he : s.errEnded r = true) :
    s.poison r = true ∨ ∃ w, s.lock r = some w ∧ s.bpc w r = .failedSub := by
  cases hp : s.poison r with
  | true => exact .inl rfl
  | false => exact .inr ((h.root r).err_cases hp he)

/-- The latch: once a sub-pass on root `r` has ended with an error, NO later processor call,
destination write or ack-stream read of ANY worker happens inside that root — for every accepted
event list `pre ++ subEnd w r false :: mid ++ e :: post`, `e` is not an event inside `r`. (Every
later entry is refused at the poison check: `C01_v2_shared_poisoned_entry_refused`.) -/
theorem C01_v2_shared_poison_latch (R : Nat) (pre mid post : List Ev) (w r : Nat) (e : Ev) (s : St)
    (h : run R init (pre ++ .subEnd w r false :: (mid ++ e :: post)) = some s) :
    (∀ w', e ≠ .procCall w' r) ∧ (∀ w' d k ok pz, e ≠ .write w' r d k ok pz) ∧ (∀ w' d n, e ≠ .ackRead w' r d n) ∧
    (∀ w' ok, e ≠ .subEnd w' r ok) := by
  obtain ⟨s₀, s₁, h0, hq, h⟩ := run_split h
  obtain ⟨s₂, s₃, h1, he, -⟩ := run_split h
  -- the failed sub-pass is on record in the state right before `e`, so nobody is running on `r` there
  have herr : s₂.errEnded r = true := (latch_mono_run mid h1 r).1 (by
    cases step_iff.mp hq with | subEndErr _ _ _ => exact upd_same ..)
  have hv := (((Reach.step ⟨pre, h0⟩ hq).after mid h1).root r)
  have hnorun : ∀ w', s₂.bpc w' r ≠ .running := fun w' hrun =>
    absurd ((hv.at hrun rfl).2.noErr.symm.trans herr) nofun
  -- each of the four kinds of event has the guard that its worker is running on `r`
  refine ⟨fun w' => ?_, fun w' d k ok pz => ?_, fun w' d n => ?_, fun w' ok => ?_⟩ <;>
    (rintro rfl; cases step_iff.mp he <;> exact hnorun _ ‹_›)

/-- … every entry into a poisoned root is refused at the check, right after the lock was taken
and before anything else: from a reachable state with `poison r`, the only step of a branch that
holds the lock of `r` and has not checked yet is the refusal, and nobody is inside `r`. -/
theorem C01_v2_shared_poisoned_entry_refused (R : Nat) (s : St) (h : Reach R s) (r : Nat) (hp : s.poison r = true) :
    (∀ w, s.bpc w r ≠ .running) ∧
    (∀ w s', step R s (.checkPoison w r) = some s' → s'.bpc w r = .exiting .refused ∧
      s'.rlog r = s.rlog r ++ [.refuse (w, s.seq w)]) := by
  refine ⟨fun w hrun => ?_, fun w s' hs => ?_⟩
  · have := (reach_inv h).1.runClean w r hrun; rw [hp] at this; cases this
  · cases step_iff.mp hs with
    | refuse _ _ _ _ => exact ⟨upd2_same .., upd_same ..⟩
    | enter _ _ _ hp' => rw [hp] at hp'; cases hp'

/-- C05 on M independently locked roots (and on one): in the log of every root, the visits of a
worker `w` (entries and refusals) carry strictly increasing hand-off numbers — `seq w` numbers
w's batches in read order and the sub-batches of a batch in index order — and no event of `w`
carries a number beyond the hand-off `w` is currently in. Together with serializability: root
`r` sees w's sub-batches one at a time, whole, in w's read order, whatever the other workers and
the other roots do. -/
theorem C05_v2_shared_per_root_source_order (R : Nat) (s : St) (h : Reach R s) (r w : Nat) :
    ((s.rlog r).filterMap (REv.entryOf w)).Pairwise (· < ·) ∧
    (∀ e ∈ s.rlog r, e.tag.1 = w → e.tag.2 ≤ s.seq w) := by
  have hl := (reach_inv h).2
  refine ⟨hl.entrySorted r w, fun e he hw => ?_⟩
  have := (hl.entryBound r e he).1
  rw [hw] at this; exact this

/-- What the code does: a branch (one goroutine: the worker itself with one root, a pool goroutine
per root with R > 1) takes the lock of ITS root only, and only while it holds nothing; no step
changes the holder of any other root. A worker as a whole may hold several root locks at once
(one per branch goroutine) — see the example below — but no goroutine ever waits for a lock while
holding one. -/
theorem C01_v2_shared_one_lock_per_branch (R : Nat) (s s' : St) (e : Ev) (hs : step R s e = some s') (r : Nat)
    (hne : s'.lock r ≠ s.lock r) :
    (∃ w, e = .acquire w r ∧ s.bpc w r = .want ∧ s.lock r = none) ∨
    (∃ w res, e = .release w r ∧ s.bpc w r = .exiting res) := by
  cases step_iff.mp hs with
  | acquire w r' hb hl =>
    by_cases hr : r = r'
    · subst hr; exact .inl ⟨w, rfl, hb, hl⟩
    · exact absurd (upd_other _ _ hr) hne
  | release w r' res hb =>
    by_cases hr : r = r'
    · subst hr; exact .inr ⟨w, res, rfl, hb⟩
    · exact absurd (upd_other _ _ hr) hne
  | _ => exact absurd rfl hne

/-- the lock holder can always move on towards its `Unlock()` without needing anything else (the
only environment assumption: a running sub-pass eventually returns — `subEnd … false` is always
enabled), and each such step decreases its rank (≤ 4): a branch waiting for the lock of `r` is
never blocked forever. -/
theorem C01_v2_shared_lock_holder_progress (R : Nat) (s : St) (h : Reach R s) (r w : Nat) (hl : s.lock r = some w) :
    ∃ e s', step R s e = some s' ∧ (s'.bpc w r).rank < (s.bpc w r).rank ∧
      (e = .checkPoison w r ∨ e = .subEnd w r false ∨ e = .setPoison w r ∨ e = .release w r) := by
  have hh := (reach_inv h).1.lockHolds w r hl
  have rank : ∀ p q : BPc, p.rank < q.rank → (upd2 s.bpc w r p w r).rank < q.rank := fun p q hp => by
    rwa [upd2_same]
  cases hb : s.bpc w r with
  | held =>
    cases hp : s.poison r with
    | true => exact ⟨_, _, step_iff.mpr (.refuse w r hb hp), rank (.exiting .refused) _ (by decide), .inl rfl⟩
    | false => exact ⟨_, _, step_iff.mpr (.enter w r hb hp), rank .running _ (by decide), .inl rfl⟩
  | running => exact ⟨_, _, step_iff.mpr (.subEndErr w r hb), rank .failedSub _ (by decide), .inr (.inl rfl)⟩
  | failedSub => exact ⟨_, _, step_iff.mpr (.setPoison w r hb), rank (.exiting .err) _ (by decide), .inr (.inr (.inl rfl))⟩
  | exiting res => exact ⟨_, _, step_iff.mpr (.release w r res hb), rank (.done res) _ (Nat.lt_succ_self 0), .inr (.inr (.inr rfl))⟩
  | idle | want | done _ => rw [hb] at hh; cases hh

/-- No deadlock: in every reachable state in which some worker is inside `doNextTask` towards the
sink, a protocol step is enabled (join, acquire of a free lock, or a step of some lock holder). -/
theorem C01_v2_shared_no_deadlock (R : Nat) (s : St) (h : Reach R s) (w : Nat) (hw : s.wpc w = .fanned) :
    ∃ e s', step R s e = some s' := by
  by_cases hall : ∀ r, r < R → (s.bpc w r).isDone = true
  · exact ⟨_, _, step_iff.mpr (.join w hw hall)⟩
  · obtain ⟨r, hr⟩ := Classical.not_forall.mp hall
    obtain ⟨_, hnd⟩ := Classical.not_imp.mp hr
    cases hb : s.bpc w r with
    | done res => rw [hb] at hnd; exact absurd rfl hnd
    | idle => exact ⟨_, _, step_iff.mpr (.ownStep w (.inr hw))⟩
    | want =>
      cases hl : s.lock r with
      | none => exact ⟨_, _, step_iff.mpr (.acquire w r hb hl)⟩
      | some h' =>
        obtain ⟨e, s', hs, _⟩ := C01_v2_shared_lock_holder_progress R s h r h' hl
        exact ⟨e, s', hs⟩
    | held | running | failedSub | exiting _ =>
      have hl := (reach_inv h).1.holdsLock w r (by rw [hb]; rfl)
      obtain ⟨e, s', hs, _⟩ := C01_v2_shared_lock_holder_progress R s h r w hl
      exact ⟨e, s', hs⟩

/-- two workers, ONE shared root with two destinations (shared processor): worker 0's sub-pass,
then worker 1's; each reads only its own acks -/
def exOneRoot : List Ev :=
  [.fanStart 0, .fanStart 1, .acquire 0 0, .checkPoison 0 0, .procCall 0 0, .write 0 0 10 2 true false,
   .write 0 0 11 2 true false, .ackRead 0 0 10 2, .ackRead 0 0 11 1, .ackRead 0 0 11 1, .subEnd 0 0 true,
   .release 0 0, .acquire 1 0, .join 0, .checkPoison 1 0, .write 1 0 10 1 true false, .ackRead 1 0 10 1,
   .subEnd 1 0 true, .release 1 0, .join 1, .finish 0, .finish 1]

example : ∃ s, run 1 init exOneRoot = some s ∧ s.wpc 0 = .finished ∧ s.wpc 1 = .finished ∧ s.foreign = false ∧
    (s.rlog 0).length = 12 ∧ s.lock 0 = none := by
  refine ⟨_, rfl, ?_⟩; decide

/-- an ack read error in worker 0's sub-pass leaves an ack unread: the root is poisoned before the
lock is released and worker 1 (already waiting for the lock) is refused without writing -/
def exPoison : List Ev :=
  [.fanStart 0, .fanStart 1, .acquire 0 0, .checkPoison 0 0, .write 0 0 10 2 true false, .ackRead 0 0 10 1,
   .ackRead 0 0 10 0, .subEnd 0 0 false, .setPoison 0 0, .release 0 0, .acquire 1 0, .checkPoison 1 0,
   .release 1 0, .join 0, .join 1]

example : ∃ s, run 1 init exPoison = some s ∧ s.poison 0 = true ∧ s.pend 0 10 = [(0, 1)] ∧
    s.wpc 0 = .failed ∧ s.wpc 1 = .failed ∧ s.rlog 0 = [.enter (0, 1), .write (0, 1) 10 2, .ack (0, 1) 10 1,
      .ack (0, 1) 10 0, .exit (0, 1) false, .refuse (1, 1)] := by
  refine ⟨_, rfl, ?_⟩; decide

/-- the model rejects what a poison check placed before the lock would produce: worker 1
writing into the root after worker 0's failed sub-pass -/
example : run 1 init [.fanStart 0, .fanStart 1, .acquire 0 0, .checkPoison 0 0, .write 0 0 10 2 true false,
    .ackRead 0 0 10 0, .subEnd 0 0 false, .setPoison 0 0, .release 0 0, .acquire 1 0, .checkPoison 1 0,
    .write 1 0 10 1 true false] = none := by decide

/-- two independently locked roots: worker 0 is inside root 0 and waits for root 1 while worker 1
is inside root 1 and waits for root 0 (each worker holds one lock and wants the other: reachable)
— and the run completes: no goroutine holds a lock while waiting -/
def exCross : List Ev :=
  [.fanStart 0, .fanStart 1, .acquire 0 0, .acquire 1 1, .checkPoison 0 0, .checkPoison 1 1,
   .write 0 0 10 1 true false, .write 1 1 11 1 true false, .ackRead 1 1 11 1, .ackRead 0 0 10 1,
   .subEnd 0 0 true, .subEnd 1 1 true, .release 1 1, .release 0 0, .acquire 0 1, .acquire 1 0,
   .checkPoison 0 1, .checkPoison 1 0, .write 0 1 11 1 true false, .write 1 0 10 1 true false,
   .ackRead 0 1 11 1, .ackRead 1 0 10 1, .subEnd 0 1 true, .subEnd 1 0 true, .release 0 1, .release 1 0,
   .join 0, .join 1]

example : ∃ s, run 2 init (exCross.take 4) = some s ∧ s.lock 0 = some 0 ∧ s.lock 1 = some 1 ∧
    s.bpc 0 1 = .want ∧ s.bpc 1 0 = .want := by
  refine ⟨_, rfl, ?_⟩; decide

example : ∃ s, run 2 init exCross = some s ∧ s.wpc 0 = .between ∧ s.wpc 1 = .between ∧
    s.rlog 0 = [.enter (0, 1), .write (0, 1) 10 1, .ack (0, 1) 10 1, .exit (0, 1) true,
                .enter (1, 1), .write (1, 1) 10 1, .ack (1, 1) 10 1, .exit (1, 1) true] := by
  refine ⟨_, rfl, ?_⟩; decide

end Conduit.SharedSink
