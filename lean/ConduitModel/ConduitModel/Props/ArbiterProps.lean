import ConduitModel.Proofs.Tally
import ConduitModel.Proofs.RunLedger

/-!
# The two ack arbiters of the arch-v2 engine: property theorems

`multiAckNacker` (worker.go) arbitrates the votes of the `M` destination branches of a fan-out;
`runAckNacker`/`splitRun` (run_ledger.go) withholds the original position of a split record until
all its pieces are terminal. The theorems are about the pure step functions of
`Spec/Arbiter.lean` (proved equal to the monadic model `Model/Funnel.lean` in
`Proofs/Arbiter.lean`), for EVERY number of branches, batch size, vote sequence and vote order.

A vote sequence `vs : List Vote` is any serialisation (the mutex serialises the calls) of the
`Ack`/`Nack` calls of the branches; `maRun m₀ vs` is the final tally and the parent calls made,
`releasedOf` flattens the parent calls into (position index, acked?) pairs.
-/
namespace Conduit.Funnel

/-- from any tally satisfying the invariant: a slot handed to the parent as acked has collected
`branches` ack votes, those it had plus those of the sequence. -/
theorem ma_ack_votes (m : MA) (inv : m.Inv) (vs : List Vote) (i : Nat)
    (h : (i, true) ∈ releasedOf (maRun m vs).2) : m.branches ≤ m.votes i + ackCount vs i := by
  obtain ⟨h1, h2, ha⟩ := (maRun_released_iff vs m (i, true)).mp h
  have ht := (maRun_log vs m).2.2.2 i h1 h2
  -- a terminal slot is a slot of the tally; its final state is the fold of the votes cast on it
  have hi : i < m.positions.length := by
    apply Classical.byContradiction; intro hc
    have := congrArg Slot.term ((maRun_wf vs m inv.toWF).slot_ge ((maRun_frame vs m).1 ▸ Nat.le_of_not_lt hc))
    rw [show ((maRun m vs).1.slot i).term = true from ht] at this; cases this
  have hs := maRun_slot i vs m inv.toWF hi
  have hfull := Slot.foldl_full (M := m.branches) (hits vs i) (σ := m.slot i) (inv.full i) (by rw [← hs]; exact ht)
    (by rw [← hs]; exact ha)
  have := Slot.foldl_votes_le (M := m.branches) (hits vs i) (m.slot i)
  rw [hfull, hits_count] at this
  exact this

/-- C01 ("A source connector is told that a record is acknowledged only after every destination
of the pipeline has positively confirmed every record derived from it"), fan-out arbiter:
for every vote sequence in which each of the `M` branches votes each position at most once,
a position handed to the parent as ACKED was voted ack by every one of the `M` branches. -/
theorem C01_ma_ack_unanimous (m₀ : MA) (hf : m₀.Fresh) (vs : List Vote)
    (wv : WellVoted m₀.branches vs) (i : Nat) (h : (i, true) ∈ releasedOf (maRun m₀ vs).2) :
    ∀ b : Nat, b < m₀.branches → ∃ v ∈ vs, v.branch = b ∧ v.isAck = true ∧ i ∈ v.idxs := by
  have hcnt := ma_ack_votes m₀ hf.inv vs i h
  have hz : m₀.votes i = 0 := by
    rw [MA.votes, hf.2.1]; simp [List.getElem?_replicate]; split <;> rfl
  rw [hz, Nat.zero_add] at hcnt
  exact ackCount_unanimous m₀.branches vs wv i hcnt

/-- C04, from any reachable tally (not only a fresh one): one more sequence of calls releases
exactly the next positions `released, released+1, …` in order. -/
theorem C04_ma_release_next (m : MA) (vs : List Vote) :
    (releasedOf (maRun m vs).2).map (·.1) =
      List.range' m.released ((maRun m vs).1.released - m.released) ∧
    m.released ≤ (maRun m vs).1.released :=
  ⟨by rw [(maRun_log vs m).2.2.1, List.map_map]; exact List.map_id'' (fun _ => rfl) _, (maRun_log vs m).1⟩

/-- C04 ("The sequence of positions acknowledged to a source connector is always a prefix of the
sequence of records that source produced: in the same order, with nothing skipped and nothing
repeated, no matter in which order destinations … finish"), fan-out arbiter: after ANY vote
sequence (well-formed or not) the positions handed to the parent, in call order and with the
acked runs expanded, are exactly `0, 1, …, released-1`; `released` never exceeds the batch and
never moves backwards. -/
theorem C04_ma_release_prefix (m₀ : MA) (hf : m₀.Fresh) (vs : List Vote) :
    (releasedOf (maRun m₀ vs).2).map (·.1) = List.range (maRun m₀ vs).1.released ∧
    (maRun m₀ vs).1.released ≤ m₀.positions.length ∧
    ∀ ws : List Vote, (maRun m₀ vs).1.released ≤ (maRun m₀ (vs ++ ws)).1.released := by
  have h2 := (maRun_log vs m₀).2.1
  have h3 := (C04_ma_release_next m₀ vs).1
  rw [hf.1] at h2 h3
  refine ⟨?_, h2 (Nat.zero_le _), ?_⟩
  · rw [h3, List.range_eq_range']; simp
  · intro ws
    rw [maRun_append]
    exact (maRun_log ws _).1

/-- C07 ("A record rejected by a destination … is … written exactly once to the DLQ"; worker.go:
"if ANY branch nacks a position, it is routed to the parent's DLQ exactly once, regardless of how
the other branches voted"), fan-out arbiter: for every vote sequence and order
(1) every position is handed to the parent at most once overall — acked XOR nacked, never twice;
(2) if each branch votes each position at most once, a position that received a nack vote is
    never handed to the parent as acked. -/
theorem C07_ma_nack_once (m₀ : MA) (hf : m₀.Fresh) (vs : List Vote) :
    ((releasedOf (maRun m₀ vs).2).map (·.1)).Nodup ∧
    (WellVoted m₀.branches vs → ∀ v ∈ vs, v.isAck = false → ∀ i ∈ v.idxs,
      (i, true) ∉ releasedOf (maRun m₀ vs).2) := by
  constructor
  · rw [(C04_ma_release_prefix m₀ hf vs).1]; exact List.nodup_range
  · intro wv v hv hnack i hi hrel
    obtain ⟨w, hw, hb, hack, hiw⟩ := C01_ma_ack_unanimous m₀ hf vs wv i hrel v.branch (wv.2 v hv)
    have hne : v ≠ w := by intro e; rw [e, hack] at hnack; cases hnack
    exact votePairs_two vs wv.1 v w hv hw hne (v.branch, i)
      (List.mem_map.mpr ⟨i, hi, rfl⟩) (List.mem_map.mpr ⟨i, hiw, by rw [hb]⟩)

theorem ma_nack_wins (m : MA) (wf : m.WF) (pre post : List Vote) (v : Vote)
    (hnack : v.isAck = false) (i : Nat) (hi : i ∈ v.idxs) (hlt : i < m.positions.length)
    (hopen : (maRun m pre).1.term i = false) :
    (i, true) ∉ releasedOf (maRun m (pre ++ v :: post)).2 := by
  intro hrel
  have hfin : ((maRun m (pre ++ v :: post)).1.slot i).ack = true := ((maRun_released_iff _ m (i, true)).mp hrel).2.2
  -- the votes on slot `i`: those of `pre`, then at least one nack, then the rest
  obtain ⟨it, hit, hix⟩ := List.mem_map.mp hi
  obtain ⟨l, hl⟩ : ∃ l, hits (v :: post) i = false :: l := by
    obtain ⟨x, tl, hf⟩ := List.exists_cons_of_ne_nil
      (List.ne_nil_of_mem (List.mem_filter.mpr ⟨hit, beq_iff_eq.mpr hix⟩) : v.items.filter (·.ix == i) ≠ [])
    rw [hits, List.flatMap_cons, hnack, hf]
    exact ⟨_, rfl⟩
  rw [maRun_slot i _ m wf hlt, hits_append, List.foldl_append, ← maRun_slot i pre m wf hlt, hl,
    Slot.foldl_nack hopen] at hfin
  cases hfin

/-- C07, nack wins, with NO assumption on the votes: a nack vote for a position that is not yet
terminal when the vote arrives decides it — whatever is voted before or after, in whatever
order, the position is never handed to the parent as acked (and by `C07_ma_nack_once` at most
once as nacked). -/
theorem C07_ma_nack_wins (m₀ : MA) (hf : m₀.Fresh) (pre post : List Vote) (v : Vote)
    (hnack : v.isAck = false) (i : Nat) (hi : i ∈ v.idxs) (hlt : i < m₀.positions.length)
    (hopen : (maRun m₀ pre).1.term i = false) :
    (i, true) ∉ releasedOf (maRun m₀ (pre ++ v :: post)).2 :=
  ma_nack_wins m₀ hf.inv.toWF pre post v hnack i hi hlt hopen

theorem ext_getD {α} (d : α) {l₁ l₂ : List α} (hl : l₁.length = l₂.length)
    (h : ∀ i : Nat, l₁[i]?.getD d = l₂[i]?.getD d) : l₁ = l₂ := by
  apply List.ext_getElem hl
  intro i h1 h2
  have := h i
  rwa [List.getElem?_eq_getElem h1, List.getElem?_eq_getElem h2] at this

theorem ma_release_order_independent (m₀ : MA) (wf : m₀.WF) (hs : m₀.Stable) (vs₁ vs₂ : List Vote)
    (hp : vs₁.Perm vs₂) (hack : ∀ v ∈ vs₁, v.isAck = true) :
    (maRun m₀ vs₁).1.ackVotes = (maRun m₀ vs₂).1.ackVotes ∧
    (maRun m₀ vs₁).1.terminal = (maRun m₀ vs₂).1.terminal ∧
    (maRun m₀ vs₁).1.acked = (maRun m₀ vs₂).1.acked ∧
    (maRun m₀ vs₁).1.released = (maRun m₀ vs₂).1.released ∧
    ∀ i : Nat, (i, true) ∈ releasedOf (maRun m₀ vs₁).2 ↔ (i, true) ∈ releasedOf (maRun m₀ vs₂).2 := by
  have w₁ := maRun_wf vs₁ m₀ wf
  have w₂ := maRun_wf vs₂ m₀ wf
  have p₁ := congrArg List.length (maRun_frame vs₁ m₀).1
  have p₂ := congrArg List.length (maRun_frame vs₂ m₀).1
  -- with acks only, the votes cast on a slot are so many acks, in whatever order the calls come
  have hhits : ∀ i : Nat, hits vs₁ i = hits vs₂ i := fun i => by
    have hall : ∀ vs : List Vote, (∀ v ∈ vs, v.isAck = true) → hits vs i = List.replicate (hits vs i).length true :=
      fun vs hv => List.eq_replicate_iff.mpr ⟨rfl, fun x hx => by
        obtain ⟨v, hv', hx⟩ := List.mem_flatMap.mp hx
        obtain ⟨_, _, rfl⟩ := List.mem_map.mp hx
        exact hv v hv'⟩
    rw [hall vs₁ hack, hall vs₂ fun v hv => hack v (hp.mem_iff.mpr hv)]
    exact congrArg (List.replicate · true) (hp.flatMap_right _).length_eq
  have hslot : ∀ i : Nat, (maRun m₀ vs₁).1.slot i = (maRun m₀ vs₂).1.slot i := fun i => by
    by_cases hi : i < m₀.positions.length
    · rw [maRun_slot i vs₁ m₀ wf hi, maRun_slot i vs₂ m₀ wf hi, hhits]
    · rw [w₁.slot_ge (p₁ ▸ Nat.le_of_not_lt hi), w₂.slot_ge (p₂ ▸ Nat.le_of_not_lt hi)]
  have hv := ext_getD 0 (by rw [w₁.votes_len, w₂.votes_len, p₁, p₂]) fun i => congrArg Slot.votes (hslot i)
  have ht := ext_getD false (by rw [w₁.term_len, w₂.term_len, p₁, p₂]) fun i => congrArg Slot.term (hslot i)
  have ha := ext_getD false (by rw [w₁.ack_len, w₂.ack_len, p₁, p₂]) fun i => congrArg Slot.ack (hslot i)
  have hr : (maRun m₀ vs₁).1.released = (maRun m₀ vs₂).1.released :=
    stable_released_eq _ _ (maRun_stable vs₁ m₀ hs) (maRun_stable vs₂ m₀ hs) (by rw [p₁, p₂]) ht
  refine ⟨hv, ht, ha, hr, ?_⟩
  -- the acked released positions are determined by `released` and the final `acked` flags
  intro i
  rw [maRun_released_iff, maRun_released_iff, hr, MA.ack, MA.ack, ha]

/-- C01/C04 ("no matter in which order destinations … finish"), fan-out arbiter: two serialisations
of the same multiset of ack calls (any permutation, e.g. the branches finishing in a different
order) end in the same vote counts, the same terminal and acked positions and the same released
prefix — and hence release exactly the same positions as acked. -/
theorem C01_ma_release_order_independent (m₀ : MA) (hf : m₀.Fresh) (vs₁ vs₂ : List Vote)
    (hp : vs₁.Perm vs₂) (hack : ∀ v ∈ vs₁, v.isAck = true) :
    (maRun m₀ vs₁).1.ackVotes = (maRun m₀ vs₂).1.ackVotes ∧
    (maRun m₀ vs₁).1.terminal = (maRun m₀ vs₂).1.terminal ∧
    (maRun m₀ vs₁).1.acked = (maRun m₀ vs₂).1.acked ∧
    (maRun m₀ vs₁).1.released = (maRun m₀ vs₂).1.released ∧
    ∀ i : Nat, (i, true) ∈ releasedOf (maRun m₀ vs₁).2 ↔ (i, true) ∈ releasedOf (maRun m₀ vs₂).2 :=
  ma_release_order_independent m₀ hf.inv.toWF hf.stable vs₁ vs₂ hp hack

/-- three branches, four positions; branch 1 nacks position 2; branch 2 votes out of order. -/
def exVotes : List Vote :=
  [ { branch := 2, isAck := true, items := [{ ix := 3 }, { ix := 1 }] },
    { branch := 0, isAck := true, items := [{ ix := 0 }, { ix := 1 }, { ix := 2 }, { ix := 3 }] },
    { branch := 1, isAck := true, items := [{ ix := 0 }, { ix := 1 }] },
    { branch := 1, isAck := false, task := 7, items := [{ ix := 2 }] },
    { branch := 2, isAck := true, items := [{ ix := 0 }, { ix := 2 }] },
    { branch := 1, isAck := true, items := [{ ix := 3 }] } ]

example : (MA.init 3 4).Fresh := by decide
example : WellVoted 3 exVotes := by decide
example : (maRun (MA.init 3 4) exVotes).2 = [.ackRun 0 2, .nackOne 2, .ackRun 3 4] := by decide
example : (maRun (MA.init 3 4) exVotes).1.released = 4 := by decide
example : (1, true) ∈ releasedOf (maRun (MA.init 3 4) exVotes).2 := by decide
example : ((maRun (MA.init 3 4) (exVotes.take 3)).1.term 2 = false) := by decide
example : (maRun (MA.init 3 4) (exVotes.take 4)).2 = [] := by decide

/-- an all-ack sequence and a permutation of it (branch 1 finishes first instead of last). -/
def exAcks : List Vote :=
  [ { branch := 0, isAck := true, items := [{ ix := 0 }, { ix := 1 }, { ix := 2 }] },
    { branch := 1, isAck := true, items := [{ ix := 1 }, { ix := 0 }] },
    { branch := 1, isAck := true, items := [{ ix := 2 }] } ]
def exAcks' : List Vote :=
  [ { branch := 1, isAck := true, items := [{ ix := 2 }] },
    { branch := 0, isAck := true, items := [{ ix := 0 }, { ix := 1 }, { ix := 2 }] },
    { branch := 1, isAck := true, items := [{ ix := 1 }, { ix := 0 }] } ]
example : exAcks.Perm exAcks' := by decide
example : ∀ v ∈ exAcks, v.isAck = true := by decide
example : (maRun (MA.init 2 3) exAcks).2 = [.ackRun 0 2, .ackRun 2 3] := by decide
example : (maRun (MA.init 2 3) exAcks').2 = [.ackRun 0 3] := by decide

/-- C08 with a LIVE total (`Batch.SplitRecord` may split a member further between votes, `grow`):
for every interleaving `pre` of group votes and growth, the next vote is answered with an error if
the run was already forwarded, and otherwise by `runVerdict` on the CURRENT total
(`total₀ + growth so far`); the run was already forwarded iff an Ack/Nack was already issued;
and at most one Ack/Nack is ever issued. -/
theorem C08_run_released_once_live (r₀ : SplitRun) (hf : r₀.Fresh) (pre : List RunOp) (v : RVote) :
    (runOps r₀ (pre ++ [.vote v])).2.getLast? = some
      (if (runOps r₀ pre).1.released then .err
       else runVerdict (r₀.total + opsGrow pre) (opsSum pre + v.k) (opsAllAck pre && v.isAck)) ∧
    ((runOps r₀ pre).1.released = true ↔ ∃ o ∈ (runOps r₀ pre).2, o.isRelease = true) ∧
    ∀ ops : List RunOp, (runOps r₀ ops).2.countP RunOut.isRelease ≤ 1 := by
  obtain ⟨hf1, hf2, hf3⟩ := hf
  refine ⟨?_, ?_, ?_⟩
  · rw [runOps_snoc, List.getLast?_append]
    simp only [List.getLast?_singleton, Option.some_or]
    obtain ⟨s1, s2, s3⟩ := runOps_state pre r₀
    obtain ⟨v1, v2⟩ := runVote_spec (runOps r₀ pre).1 v.k v.isAck v.task v.err
    cases hr : (runOps r₀ pre).1.released with
    | true => rw [v1 hr]; rfl
    | false =>
      obtain ⟨g1, g2⟩ := s3 hr
      rw [runVote_verdict _ _ _ _ _ hr, g1, g2, s1, hf1, hf2]
      simp only [Nat.zero_add, Bool.false_or, Bool.not_not, Bool.false_eq_true, if_false]
  · have := (runOps_once pre r₀).2 hf3
    constructor
    · intro h
      rw [h] at this
      have hpos : 0 < (runOps r₀ pre).2.countP RunOut.isRelease := by rw [this]; decide
      exact List.countP_pos_iff.mp hpos
    · intro h
      have hpos := List.countP_pos_iff.mpr h
      cases hr : (runOps r₀ pre).1.released with
      | true => rfl
      | false => rw [hr] at this; simp only [Bool.false_eq_true, if_false] at this; omega
  · intro ops
    have := (runOps_once ops r₀).2 hf3
    rw [this]; split <;> omega

/-- C08 ("every source record ends with exactly one outcome … a failure of any piece
dead-letters the original record once"), split-run ledger with a fixed number `total` of pieces:
for EVERY sequence of group votes (non-empty groups), the vote that follows the votes `pre`
is answered with
 * nothing (`hold`) while fewer than `total` members were voted,
 * the single forward of the original record exactly when the count reaches `total` — an Ack if
   no vote so far was a nack, a Nack (DLQ) if some vote was,
 * a `(bug)` error when more than `total` members were voted (which includes every vote
   arriving after the release);
and over the whole sequence the original record is forwarded at most once. -/
theorem C08_run_released_once (r₀ : SplitRun) (hf : r₀.Fresh) (pre post : List RVote) (v : RVote)
    (hk : 0 < v.k) :
    (runVotes r₀ (pre ++ v :: post)).2[pre.length]? =
      some (runVerdict r₀.total ((pre.map (·.k)).sum + v.k) ((pre ++ [v]).all (·.isAck))) ∧
    (runVotes r₀ (pre ++ v :: post)).2.countP RunOut.isRelease ≤ 1 := by
  obtain ⟨hf1, hf2, hf3⟩ := hf
  constructor
  · -- the answer to `v` is the last answer of `pre ++ [v]`, which the live-total theorem gives for no growth
    have e : (pre ++ v :: post).map RunOp.vote = (pre.map .vote ++ [.vote v]) ++ post.map .vote := by simp
    have hlen : (runOps r₀ (pre.map .vote ++ [.vote v])).2.length = pre.length + 1 := by
      have := runVotes_length (pre ++ [v]) r₀
      simpa [runVotes] using this
    rw [runVotes, e, runOps_append]
    dsimp only
    rw [List.getElem?_append_left (by omega), show pre.length = (runOps r₀ (pre.map .vote ++ [.vote v])).2.length - 1 by omega,
      ← List.getLast?_eq_getElem?, (C08_run_released_once_live r₀ ⟨hf1, hf2, hf3⟩ (pre.map .vote) v).1, opsGrow_votes,
      opsSum_votes, opsAllAck_votes]
    cases hr : (runOps r₀ (pre.map .vote)).1.released with
    | true =>
      -- forwarded already: the pieces voted so far make up the total, one more group exceeds it
      have := runVotes_released_sum pre r₀ hr
      rw [hf3, hf1] at this
      have hge : r₀.total ≤ (pre.map (·.k)).sum := by
        rcases this with h | h
        · cases h
        · omega
      simp only [runVerdict, if_true]
      rw [if_neg (by omega), if_neg (by omega)]
    | false => simp [List.all_append]
  · have := (runOps_once ((pre ++ v :: post).map .vote) r₀).2 hf3
    rw [runVotes, this]
    split <;> omega

/-- C08, the headline case "votes for no more members than the run has": never an error, and the
original record is forwarded exactly once exactly when the voted count reaches `total`, never
before (it stays withheld while a piece is outstanding). -/
theorem C08_run_within_total (r₀ : SplitRun) (hf : r₀.Fresh) (vs : List RVote)
    (hk : ∀ v ∈ vs, 0 < v.k) (hs : (vs.map (·.k)).sum ≤ r₀.total) :
    RunOut.err ∉ (runVotes r₀ vs).2 ∧
    (runVotes r₀ vs).2.countP RunOut.isRelease = (if vs ≠ [] ∧ (vs.map (·.k)).sum = r₀.total then 1 else 0) := by
  refine ⟨fun hmem => ?_, ?_⟩
  · -- an answer is the verdict on the pieces voted up to it, which are within the total
    obtain ⟨n, hn⟩ := List.getElem?_of_mem hmem
    have hlt : n < vs.length := by
      rw [← runVotes_length vs r₀]; exact (List.getElem?_eq_some_iff.mp hn).1
    have e : vs = vs.take n ++ vs[n] :: vs.drop (n + 1) := by simp
    have hsum := congrArg (fun l => (l.map (·.k)).sum) e
    simp only [List.map_append, List.map_cons, List.sum_append, List.sum_cons] at hsum
    have h1 := (C08_run_released_once r₀ hf (vs.take n) (vs.drop (n + 1)) vs[n] (hk _ (List.getElem_mem _))).1
    rw [← e, List.length_take, Nat.min_eq_left (Nat.le_of_lt hlt), hn, Option.some.injEq] at h1
    exact runVerdict_ne_err (by omega) h1.symm
  · have hiff : (runOps r₀ (vs.map .vote)).1.released = true ↔ vs ≠ [] ∧ (vs.map (·.k)).sum = r₀.total := by
      constructor
      · intro h
        have := runVotes_released_sum vs r₀ h
        rw [hf.2.2, hf.1] at this
        refine ⟨fun e => ?_, by rcases this with h | h; cases h; omega⟩
        rw [e, List.map_nil, runOps_nil, hf.2.2] at h; cases h
      · -- the last vote completes the run, so it is answered with the forward
        intro ⟨hne, hsum⟩
        obtain ⟨pre, v, e⟩ := (List.eq_nil_or_concat vs).resolve_left hne
        rw [List.concat_eq_append] at e
        subst e
        simp only [List.map_append, List.sum_append, List.map_cons, List.map_nil, List.sum_cons, List.sum_nil] at hsum
        have h1 := (C08_run_released_once r₀ hf pre [] v (hk v (by simp))).1
        refine (C08_run_released_once_live r₀ hf _ v).2.1.mpr ⟨_, List.mem_of_getElem? h1, ?_⟩
        rw [runVerdict, if_neg (by omega), if_pos (by omega)]
        split <;> rfl
    rw [runVotes, (runOps_once (vs.map .vote) r₀).2 hf.2.2]
    by_cases hc : vs ≠ [] ∧ (vs.map (·.k)).sum = r₀.total
    · rw [if_pos hc, if_pos (hiff.mpr hc)]
    · rw [if_neg hc, if_neg (mt hiff.mp hc)]

/-- a vote is answered with a forward to the parent only when it completes the run (every live
piece voted, none twice), and the forward is an Ack exactly when no vote so far was a nack. -/
theorem run_forward_complete (r₀ : SplitRun) (hf : r₀.Fresh) (pre : List RunOp) (v : RVote) (o : RunOut)
    (ho : o.isRelease = true) (h : (runOps r₀ (pre ++ [.vote v])).2.getLast? = some o) :
    opsSum (pre ++ [.vote v]) = r₀.total + opsGrow (pre ++ [.vote v]) ∧
    opsAllAck (pre ++ [.vote v]) = decide (o = .ack) := by
  rw [(C08_run_released_once_live r₀ hf pre v).1, Option.some.injEq] at h
  rw [opsSum_append, opsGrow_append, opsAllAck_append]
  simp only [opsSum, opsGrow, opsAllAck, Nat.add_zero, Bool.and_true]
  subst h
  cases hr : (runOps r₀ pre).1.released with
  | true => rw [hr] at ho; cases ho
  | false =>
    rw [hr] at ho
    simp only [runVerdict, Bool.false_eq_true, if_false] at ho ⊢
    by_cases h1 : opsSum pre + v.k < r₀.total + opsGrow pre
    · rw [if_pos h1] at ho; cases ho
    · rw [if_neg h1] at ho ⊢
      by_cases h2 : opsSum pre + v.k = r₀.total + opsGrow pre
      · rw [if_pos h2]
        exact ⟨h2, by cases (opsAllAck pre && v.isAck) <;> rfl⟩
      · rw [if_neg h2] at ho; cases ho

/-- C08 ("All pieces of a split record are delivered before the original is acknowledged"):
the original position of a run is acked to the parent only by a vote at which every one of the
run's currently live `total` pieces has been voted (none outstanding, none counted twice) and
every vote so far was an ack. -/
theorem C08_split_all_before_ack (r₀ : SplitRun) (hf : r₀.Fresh) (pre : List RunOp) (v : RVote)
    (h : (runOps r₀ (pre ++ [.vote v])).2.getLast? = some .ack) :
    opsSum (pre ++ [.vote v]) = r₀.total + opsGrow (pre ++ [.vote v]) ∧
    opsAllAck (pre ++ [.vote v]) = true :=
  run_forward_complete r₀ hf pre v .ack rfl h

/-- C08 ("a failure of any piece dead-letters the original record once"): the run is nacked to
the parent only when all live pieces were voted and some vote was a nack. -/
theorem C08_split_nack_only_after_failure (r₀ : SplitRun) (hf : r₀.Fresh) (pre : List RunOp) (v : RVote)
    (h : (runOps r₀ (pre ++ [.vote v])).2.getLast? = some .nack) :
    opsSum (pre ++ [.vote v]) = r₀.total + opsGrow (pre ++ [.vote v]) ∧
    opsAllAck (pre ++ [.vote v]) = false :=
  run_forward_complete r₀ hf pre v .nack rfl h

def exRun : SplitRun := { origPos := some 5, origRec := { tag := 1, pos := some 5 }, total := 6 }

example : exRun.Fresh := by decide
example : (runVotes exRun [{ k := 2, isAck := true }, { k := 1, isAck := false, task := 3 }, { k := 3, isAck := true }]).2
    = [.hold, .hold, .nack] := by decide
example : (runVotes exRun [{ k := 2, isAck := true }, { k := 4, isAck := true }, { k := 1, isAck := true }]).2
    = [.hold, .ack, .err] := by decide
example : (runVotes exRun [{ k := 4, isAck := true }, { k := 3, isAck := true }]).2 = [.hold, .err] := by decide
/-- a member is split further (+2) after the first vote: the release waits for the new pieces. -/
example : (runOps exRun [.vote { k := 5, isAck := true }, .grow 2, .vote { k := 1, isAck := true },
    .vote { k := 2, isAck := true }]).2 = [.hold, .hold, .ack] := by decide

end Conduit.Funnel
