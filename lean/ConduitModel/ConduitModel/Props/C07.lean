import ConduitModel.Proofs.DlqWindow

/-!
# C07 — DLQ nack window: property theorems (window part)

Statement (properties.jsonl C07, window clause): "A rejection is tolerated only while the
rejections among the most recent window-size outcomes, counting it, do not exceed the
threshold (a window size of zero removes the limit, a threshold of zero tolerates none) …
and both engines take identical decisions for identical outcome sequences."

All theorems are for every `size`, `thr`, every outcome history and every batch partition.
-/
namespace Conduit.Dlq

/-- C07.window_refines — the v1 ring buffer gives, for every configuration and every history,
exactly the verdicts of the abstract "last `size` outcomes" specification. -/
theorem C07_window_refines (size thr : Nat) (h : List Bool) :
    (runV1 (Win.new size thr) h).2 = (Spec.run size thr Spec.init h).2 :=
  (v1_run h _ _ (rel_init size thr)).2

/-- two rings related to the same spec state take the same decisions, v2 batch by batch and v1 record by
record (the rings themselves may differ: the v2 `Ack` shortcut does not move the cursor). -/
theorem v2_v1_batches {size thr : Nat} : ∀ (bs : List (Bool × Nat)) (w2 w1 : Win) (s : Spec),
    Rel size thr w2 s → Rel size thr w1 s → (runV2 w2 bs).2 = (runV1Batches w1 bs).2
  | [], _, _, _, _, _ => rfl
  | (x, n) :: bs, w2, w1, s, r2, r1 => by
    have h1 := v1_run (List.replicate n x) w1 s r1
    cases x with
    | false =>
      simp only [runV2, runV1Batches]
      rw [v2_v1_batches bs _ _ _ (v2_ackN r2 n) h1.1, h1.2, run_acks_all_true]
      simp
    | true =>
      have h2 := v2_storeN r2 true n
      simp only [runV2, runV1Batches, Win.nackN]
      rw [v2_v1_batches bs _ _ _ h2.1 h1.1, h2.2 rfl, h1.2]

/-- C07.v1_v2_same_decisions — for every configuration and every sequence of batches (i.e.
every outcome sequence and every partition of it into same-kind batches), the arch-v2 window
accepts exactly as many nacks of each batch as the v1 window does when fed record by record. -/
theorem C07_v1_v2_same_decisions (size thr : Nat) (bs : List (Bool × Nat)) :
    (runV2 (Win.new size thr) bs).2 = (runV1Batches (Win.new size thr) bs).2 :=
  v2_v1_batches bs _ _ _ (rel_init size thr) (rel_init size thr)

/-- C07.size_zero_no_limit — "a window size of zero removes the limit". -/
theorem C07_size_zero_no_limit (thr : Nat) (h : List Bool) :
    ∀ v ∈ (runV1 (Win.new 0 thr) h).2, v = true := by
  rw [C07_window_refines, run_size_zero]
  intro v hv; exact (List.mem_replicate.mp hv).2

/-- the spec characterisation, stated outright: a nack arriving in a non-frozen state is
tolerated iff the nacks among the most recent `size` outcomes, counting it, do not exceed `thr`. -/
theorem C07_tolerated_iff (size thr : Nat) (s : Spec) (hs : size ≠ 0) (hnf : s.frozen = false) :
    (Spec.step size thr s true).2 = true ↔ recentNacks size (s.hist ++ [true]) ≤ thr := by
  unfold Spec.step
  simp only [hs, if_false, hnf, Bool.false_eq_true]
  by_cases h : thr < recentNacks size (s.hist ++ [true])
  · simp [h]
  · simp [h]; omega

/-- C07.frozen_sticky — once a rejection was refused, every later rejection is refused. -/
theorem C07_frozen_sticky (size thr : Nat) (s : Spec) (hs : size ≠ 0) (hf : s.frozen = true) (os : List Bool) :
    (Spec.run size thr s os).1 = s ∧ ∀ i : Nat, os[i]? = some true → (Spec.run size thr s os).2[i]? = some false := by
  induction os with
  | nil => exact ⟨rfl, by intro i h; simp at h⟩
  | cons o os ih =>
    have hstep : Spec.step size thr s o = (s, !o) := by simp [Spec.step, hs, hf]
    simp only [Spec.run, hstep]
    refine ⟨ih.1, ?_⟩
    intro i h
    cases i with
    | zero => simp at h; subst h; simp
    | succ i => simp at h ⊢; exact ih.2 i h

/-- a refused nack freezes the spec. -/
theorem C07_refusal_freezes (size thr : Nat) (s : Spec) (h : (Spec.step size thr s true).2 = false) :
    (Spec.step size thr s true).1.frozen = true := by
  unfold Spec.step at h ⊢
  by_cases hs : size = 0
  · simp [hs] at h
  · by_cases hf : s.frozen = true
    · simp [hs, hf]
    · have hnf : s.frozen = false := by simpa using hf
      simp only [hs, if_false, hnf, Bool.false_eq_true] at h ⊢
      by_cases hc : thr < recentNacks size (s.hist ++ [true])
      · simp [hc]
      · simp [hc] at h

/-- C07.thr_zero_none — "a threshold of zero tolerates none" (for a non-zero window). -/
theorem C07_thr_zero_none (size : Nat) (hs : 0 < size) (h : List Bool) :
    ∀ i : Nat, h[i]? = some true → (runV1 (Win.new size 0) h).2[i]? = some false := by
  rw [C07_window_refines]
  -- generalise over the (reachable) spec state: any state works because one nack always exceeds 0
  suffices H : ∀ (s : Spec) (i : Nat), h[i]? = some true → (Spec.run size 0 s h).2[i]? = some false from H _
  induction h with
  | nil => intro s i hi; simp at hi
  | cons o os ih =>
    intro s i hi
    cases i with
    | zero =>
      simp at hi; subst hi
      have hne : size ≠ 0 := by omega
      simp only [Spec.run, List.getElem?_cons_zero, Option.some.injEq]
      unfold Spec.step
      simp only [hne, if_false]
      split
      · rfl
      · have : 0 < recentNacks size (s.hist ++ [true]) := by
          unfold recentNacks
          rw [lastN_snoc _ _ _ hs]
          simp [List.count_append]
        simp [this]
    | succ i =>
      simp only [Spec.run, List.getElem?_cons_succ] at hi ⊢
      exact ih _ i hi

example : (runV1 (Win.new 3 1) [true, false, true, false, false, true]).2 = [true, true, false, true, true, false] := by decide
example : (runV2 (Win.new 3 1) [(true, 1), (false, 1), (true, 2)]).2 = [1, 1, 0] := by decide
example : (runV2 (Win.new 4 2) [(true, 2), (false, 3), (true, 3)]).2 = [2, 3, 2] := by decide
example : (Spec.run 3 1 Spec.init [true, false, true]).2 = [true, true, false] := by decide

end Conduit.Dlq
