import ConduitModel.Proofs.StreamLink
import ConduitModel.Props.C01Stream

/-
C05 (default engine) — property theorems.

"For each destination and each source, the records written to that destination appear in the
order the source produced them (filtered or dead-lettered records simply absent), including when
processors run with several parallel workers, when several sources are merged and when the stream
is fanned out to several destinations. Within one uninterrupted run no record is written twice to
the same destination."
-/
namespace Conduit.Props
open Conduit.Stream

/-- C05 for the v1 engine, on the node protocols themselves (Flow component): for EVERY topology
(any number of sources and destinations, processor chains of any length, ParallelNodes with any
number of workers), EVERY interleaving of hand-offs, worker completions (`pdone`, in any order),
fan-in choices, fan-out deliveries (in any order) and nacks: what destination `d` is given of
source `s` is strictly increasing in the emit index — the order `s` produced the records, nothing
twice. `ParallelNode`: the coordinator takes the oldest job only; `FanoutNode`: the next message
is taken only when every branch accepted the previous one; `FaninNode`: per input FIFO. -/
theorem C05_v1_node_protocols_preserve_order (τ : Topo) (evs : List Ev) (f : Flow)
    (h : Flow.run τ (Flow.init τ) evs = some f) (d s : Nat) :
    List.Pairwise (· < ·) (idxOf s (f.wlog d)) :=
  flow_writes_sorted τ evs f h d s

/-- … only records that were read are written, and a record for which a processor on its way to
`d` returned FilterRecord is never written to `d` (`Message.Clone` keeps the filtered flag through the
fan-out). -/
theorem C05_v1_filtered_absent (τ : Topo) (evs : List Ev) (f : Flow)
    (h : Flow.run τ (Flow.init τ) evs = some f) (d : Nat) :
    ∀ m ∈ f.wlog d, m.i < f.reads m.s ∧ (none, m.s, m.i) ∉ f.flt ∧ (some d, m.s, m.i) ∉ f.flt := by
  intro m hm
  exact ⟨flow_writes_read τ evs f h d m hm, flow_filtered_absent τ evs f h d m hm⟩

/-- C05 for the whole v1 pipeline, monitor form: in every run of the product system the trace of
observable events satisfies `monC05`: when destination `d` is given `(s,i)` by a `Write` call, every
earlier `Write` of `d` for a record of `s` had a smaller index, the record was read, and no processor
on the way to `d` had filtered it. -/
theorem C05_v1_writes_in_read_order (τ : Topo) (size thr : Nat) (evs : List Ev) (p : Pipe)
    (h : Pipe.run τ (Pipe.init τ size thr) evs = some p) : monC05 p.ack.log = true :=
  (link_run evs (link_init τ size thr) h).mon

/-- C05 spelled out on the trace: per destination and source the sequence of written indices is
strictly increasing (read order, no duplicate write in a run). -/
theorem C05_v1_write_sequence_sorted (τ : Topo) (size thr : Nat) (evs : List Ev) (p : Pipe)
    (h : Pipe.run τ (Pipe.init τ size thr) evs = some p) (d s : Nat) :
    List.Pairwise (· < ·) (writeSeq d s p.ack.log) :=
  writeSeq_of_monC05 d s _ (C05_v1_writes_in_read_order τ size thr evs p h)

/-! non-vacuity: two workers finishing out of order, the destination still gets 0 then 1 -/

def exTopoPar : Topo :=
  { nDst := 1, srcLen := fun _ => 2, plLen := 3, dstLen := fun _ => 2,
    jobs := fun g k => match g with | .pl => k == 1 | _ => false }

def exRunPar : List Ev :=
  [.read 0, .enq 0 0, .read 0, .enq 0 1, .mv (.src 0) 1 0 0, .mv (.src 0) 1 0 1,
   .mv .pl 0 0 0, .mv .pl 0 0 1,            -- both jobs dispatched
   .pdone .pl 1 0 1, .proc none 0 1 .pass,   -- the second finishes first
   .pdone .pl 1 0 0, .proc none 0 0 .pass,
   .mv .pl 1 0 0, .mv .pl 1 0 1,            -- the coordinator emits in dispatch order
   .fan 0 0, .fdeliver 0, .fan 0 1, .fdeliver 0,
   .mv (.dst 0) 0 0 0, .write 0 0 0 true, .mv (.dst 0) 0 0 1, .write 0 0 1 true]

example : ((Pipe.run exTopoPar (Pipe.init exTopoPar 0 0) exRunPar).map fun p => writeSeq 0 0 p.ack.log) = some [0, 1] := by
  decide
/-- the coordinator cannot emit the second job while the first is unfinished. -/
example : (Pipe.run exTopoPar (Pipe.init exTopoPar 0 0) (exRunPar.take 10 ++ [.mv .pl 1 0 1])).isNone = true := by
  decide

end Conduit.Props
