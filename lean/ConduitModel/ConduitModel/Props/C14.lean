import ConduitModel.Proofs.CtlRefsOps

/-!
# C14 — API changes are all-or-nothing and keep memory, store and references consistent

Statement (properties.jsonl C14): "Every create, update or delete of a pipeline, connector or
processor through the management API either takes full effect or leaves everything exactly as
it was, also when a store operation fails midway. After any sequence of such calls the
in-memory view equals what a restarted server loads from the store, pipelines reference exactly
their existing connectors and processors and vice versa, and resources of a running or
file-provisioned pipeline are never modified."

Model: `Model/Ctl.lean` (M6). All theorems are for every state, every operation with every
argument (valid or not), every failing store-operation index `k` and every code variant `v`
(which mutate-then-store sites restore memory — regenerated from the source, `Generated.Ctl`).

The code at the pinned commit (`Variant.asFound`) violates the all-or-nothing clause at the
store-failure points listed by `f7Trigger` (DESIGN §9 F7); the full-strength statement

    theorem C14_atomic (v s op k) (hi : Inv s) : Atomic v s op k

is therefore false of it (see the `…_counterexample`s, proved by evaluation); what is proved is
the statement outside the triggers, for every variant, so that each local repair removes its
trigger (`C14_atomic_repaired`).
-/
namespace Conduit.Ctl

/-- C14.atomic (partial: outside the F7 triggers) — "either takes full effect or leaves
everything exactly as it was, also when a store operation fails midway": for every API
operation, every argument, every failing store-operation index. -/
theorem C14_atomic_partial (v : Variant) (s : St) (op : Op) (k : Option Nat) (hapi : op.isApi = true)
    (hi : Inv s) (ht : f7Trigger v s op k = false) : Atomic v s op k := by
  cases op with
  | plCreate name desc => exact atomic_plCreate v s name desc k
  | plUpdate i name desc => exact atomic_plUpdate v s i name desc k ht
  | plUpdateDLQ i d => exact atomic_plUpdateDLQ v s i d k ht
  | plDelete i => exact atomic_plDelete v s i k
  | cnCreate typ plugin pid name settings => exact atomic_cnCreate v s typ plugin pid name settings k hi ht
  | cnUpdate i plugin name settings => exact atomic_cnUpdate v s i plugin name settings k hi ht
  | cnDelete i => exact atomic_cnDelete v s i k hi ht
  | prCreate plugin ptype parent settings workers cond =>
    exact atomic_prCreate v s plugin ptype parent settings workers cond k hi ht
  | prUpdate i plugin settings workers => exact atomic_prUpdate v s i plugin settings workers k hi ht
  | prDelete i => exact atomic_prDelete v s i k hi ht
  | envStatus _ _ => simp [Op.isApi] at hapi
  | envState _ _ => simp [Op.isApi] at hapi
  | envPl _ => simp [Op.isApi] at hapi
  | envCn _ _ _ _ => simp [Op.isApi] at hapi
  | envPr _ _ _ => simp [Op.isApi] at hapi

theorem f7Trigger_repaired (v : Variant) (hs : v.svcRestores = true) (ho : v.cnOrchOldPlugin = true)
    (s : St) (op : Op) (k : Option Nat) : f7Trigger v s op k = f7Residual s op k := by
  simp only [Variant.svcRestores, Bool.and_eq_true] at hs
  obtain ⟨⟨⟨⟨⟨⟨⟨⟨⟨a1, a2⟩, a3⟩, a4⟩, a5⟩, a6⟩, a7⟩, a8⟩, a9⟩, a10⟩ := hs
  -- with every flag set, each entry of the trigger table is the entry of `f7Residual`
  unfold f7Trigger
  split <;> simp only [f7Residual, a1, a2, a3, a4, a5, a6, a7, a8, a9, a10, ho, Bool.not_true, Bool.false_or, ite_self]

/-- C14.atomic for the repaired services (every mutate-then-store site restores memory, the
connector update rollback passes the old plugin): all-or-nothing everywhere except at the two
`Delete` rollbacks (`f7Residual`, recorded as a finding). -/
theorem C14_atomic_repaired (v : Variant) (hs : v.svcRestores = true) (ho : v.cnOrchOldPlugin = true)
    (s : St) (op : Op) (k : Option Nat) (hapi : op.isApi = true) (hi : Inv s)
    (ht : f7Residual s op k = false) : Atomic v s op k :=
  C14_atomic_partial v s op k hapi hi (by rw [f7Trigger_repaired v hs ho]; exact ht)

/-- C14.atomic, creations and deletions of pipelines — full strength, every variant, no
hypothesis on the state: the store is written before memory. -/
theorem C14_atomic_pipeline_create_delete (v : Variant) (s : St) (k : Option Nat) :
    (∀ name desc, Atomic v s (.plCreate name desc) k) ∧ (∀ i, Atomic v s (.plDelete i) k) :=
  ⟨fun name desc => atomic_plCreate v s name desc k, fun i => atomic_plDelete v s i k⟩

/-- "resources of a running or file-provisioned pipeline are never modified":
an API call on such a resource fails and changes nothing, for every variant, every state and
every failing store-operation index (full strength). -/
theorem C14_guards (v : Variant) (s : St) (op : Op) (k : Option Nat) : Guarded v s op k :=
  Guarded.holds v s op k

/-- C14.mem_eq_store, successful calls — full strength: whatever the variant, the state and
the failing index, a call (API or environment) that returns success leaves the store an exact
copy of memory with no transaction open. -/
theorem C14_mem_eq_store_success (v : Variant) (s : St) (op : Op) (k : Option Nat)
    (h : MemEqStore s) (hok : (exec v s op k).1 = .ok ()) : MemEqStore (exec v s op k).2 :=
  exec_ok_memEq v s op k h hok

theorem minv_of_inv {s : St} (hi : Inv s) : MInv s.next s.mem :=
  ⟨hi.names, hi.uniq, (refs_iff_links _).1 hi.refs, hi.wf, hi.fresh.pls, hi.fresh.cns, hi.fresh.prs⟩

/-- the whole invariant (no open transaction, memory = store, names, references,
fresh ids, well-formedness) is preserved by every step of every kind — API or environment
operation, every argument and guard outcome, every failing store-operation index — outside the
F7 trigger table (the recorded known findings). -/
theorem C14_inv_step (v : Variant) (s : St) (op : Op) (k : Option Nat) (hi : Inv s)
    (ht : f7Trigger v s op k = false) : Inv (exec v s op k).2 := by
  have htx := exec_tx_none v s op k hi.tx
  have fin : MInv (s.next + 1) (exec v s op k).2.mem → MemEqStore (exec v s op k).2 → Inv (exec v s op k).2 := fun hm he =>
    have hr := (refs_iff_links _).2 hm.links
    ⟨htx, he, hm.names, hm.uniq, hr, fresh_of_keys hr hm.keys, hm.wf⟩
  by_cases hok : (exec v s op k).1 = .ok ()
  · exact fin (opBody_ok_minv v s.next op { s with ctr := 0, failAt := if op.isApi then k else none } (minv_of_inv hi) hok)
      (exec_ok_memEq v s op k hi.eq hok)
  · have hv : (exec v s op k).2.view = s.view := by
      by_cases hapi : op.isApi = true
      · exact (C14_atomic_partial v s op k hapi hi ht).2 hok
      · exact env_err_unchanged v s op k (by simpa using hapi) hok
    simp only [St.view, View.mk.injEq] at hv
    obtain ⟨h1, h2, h3, h4, h5, h6, h7⟩ := hv
    have hmem : (exec v s op k).2.mem = s.mem := Mem.ext' h1 h2 h3 h4
    obtain ⟨a, b, c, _⟩ := hi.eq
    exact fin (hmem ▸ (minv_of_inv hi).mono (Nat.le_succ s.next)) ⟨by rw [h1, h5, a], by rw [h2, h6, b], by rw [h3, h7, c], htx⟩

/-- C14.mem_eq_store, one API step (partial: outside the F7 triggers): also failed calls keep
memory = store. -/
theorem C14_mem_eq_store_step_partial (v : Variant) (s : St) (op : Op) (k : Option Nat) (hapi : op.isApi = true)
    (hi : Inv s) (ht : f7Trigger v s op k = false) : MemEqStore (exec v s op k).2 :=
  (C14_inv_step v s op k hi ht).eq

theorem inv_init : Inv St.init := by
  refine ⟨rfl, ⟨rfl, rfl, rfl, rfl⟩, ?_, ?_, ?_, ?_, ?_⟩
  · intro n; simp [St.init, Mem.empty]
  · intro i j p q hp; simp [St.init, Mem.empty] at hp
  · constructor <;> intros <;> simp_all [St.init, Mem.empty]
  · constructor <;> intros <;> simp_all [St.init, Mem.empty]
  · constructor <;> intros <;> simp_all [St.init, Mem.empty]

/-- memory = store carries reference consistency over to what a restarted server loads. -/
theorem refInv_storeImage {s : St} (he : MemEqStore s) (h : RefInv s) : RefInv (storeImage s) := by
  obtain ⟨a, b, c, _⟩ := he
  have : (storeImage s).mem = s.mem := Mem.ext' a.symm b.symm c.symm rfl
  unfold RefInv; rw [this]; exact h

/-- a history all of whose steps are outside the F7 trigger table (the trigger is evaluated in
the state each step starts from): a fold over an arbitrary op list. -/
def TriggerFreeRun (v : Variant) : St → List (Op × Option Nat) → Prop
  | _, [] => True
  | s, (op, k) :: rest => f7Trigger v s op k = false ∧ TriggerFreeRun v (exec v s op k).2 rest

/-- the states reachable by trigger-free histories (inductive form of `TriggerFreeRun`). -/
inductive TriggerFree (v : Variant) : St → Prop
  | init : TriggerFree v St.init
  | step {s : St} (op : Op) (k : Option Nat) : TriggerFree v s → f7Trigger v s op k = false →
      TriggerFree v (exec v s op k).2

theorem TriggerFree.inv {v : Variant} {s : St} (h : TriggerFree v s) : Inv s := by
  induction h with
  | init => exact inv_init
  | @step s op k _ ht ih => exact C14_inv_step v s op k ih ht

theorem TriggerFree.of_run {v : Variant} (h : List (Op × Option Nat)) :
    ∀ {s}, TriggerFree v s → TriggerFreeRun v s h → TriggerFree v (run v s h) := by
  induction h with
  | nil => exact fun hs _ => hs
  | cons x rest ih =>
    obtain ⟨op, k⟩ := x
    exact fun hs ht => ih (hs.step op k ht.1) ht.2

/-- the empty server is reference-consistent, in memory and in the store image. -/
theorem C14_refs_init : RefInv St.init ∧ RefInv (storeImage St.init) :=
  ⟨inv_init.refs, refInv_storeImage inv_init.eq inv_init.refs⟩

/-- "pipelines reference exactly their existing connectors and processors and
vice versa": one step of any kind (every op, every argument, every guard outcome, every failing
store-operation index outside the trigger table) keeps the references consistent, in memory and
in what a restarted server loads. -/
theorem C14_refs_step (v : Variant) (s : St) (op : Op) (k : Option Nat) (hi : Inv s)
    (ht : f7Trigger v s op k = false) :
    RefInv (exec v s op k).2 ∧ RefInv (storeImage (exec v s op k).2) := by
  have h := C14_inv_step v s op k hi ht
  exact ⟨h.refs, refInv_storeImage h.eq h.refs⟩

/-- the three-way agreement "memory = store = references" over ALL op
sequences: after any history (any length, any mix of API and environment operations, valid and
invalid arguments, a failing store operation on any call) that stays outside the trigger table,
the in-memory view is reference-consistent, equals the store, and the store image (what a
restarted server loads) is reference-consistent too; pipeline names are unique and
`instanceNames` is exactly the set of names. -/
theorem C14_refs_reachable (v : Variant) (h : List (Op × Option Nat)) (ht : TriggerFreeRun v St.init h) :
    RefInv (run v St.init h) ∧ MemEqStore (run v St.init h) ∧ RefInv (storeImage (run v St.init h)) ∧
    NamesOk (run v St.init h).mem ∧ NameUniq (run v St.init h).mem := by
  have hi := (TriggerFree.of_run h .init ht).inv
  exact ⟨hi.refs, hi.eq, refInv_storeImage hi.eq hi.refs, hi.names, hi.uniq⟩

/-- C14.mem_eq_store (partial only in the trigger table) — "after any sequence of such calls the
in-memory view equals what a restarted server loads from the store": by induction over
histories of any length, for every variant. -/
theorem C14_mem_eq_store_partial (v : Variant) (s : St) (h : TriggerFree v s) : MemEqStore s := h.inv.eq

theorem nodupB_of_nodup : ∀ (l : List Id), l.Nodup → nodupB l = true
  | [], _ => rfl
  | x :: xs, h => by
    have h' := List.nodup_cons.1 h
    simp [nodupB, h'.1, nodupB_of_nodup xs h'.2]

/-- the executable monitor agrees: under the invariant `refsB` (what the driver evaluates on
every history) holds — `Refs` is at least as strong on the id universe `[0, next)`. -/
theorem C14_refsB_of_inv {s : St} (hi : Inv s) : refsB s = true := by
  unfold refsB
  simp only [List.all_eq_true, List.mem_range]
  intro i _
  simp only [Bool.and_eq_true]
  refine ⟨⟨?_, ?_⟩, ?_⟩
  · cases hp : s.mem.pls i with
    | none => rfl
    | some p =>
      simp only [Bool.and_eq_true, List.all_eq_true]
      refine ⟨⟨⟨?_, ?_⟩, ?_⟩, ?_⟩
      · intro c hc
        obtain ⟨c0, hc0, e⟩ := hi.refs.plConn i p c hp hc
        simp [hc0, e]
      · intro r hr
        obtain ⟨r0, hr0, e1, e2⟩ := hi.refs.plProc i p r hp hr
        simp [hr0, e1, e2]
      · exact nodupB_of_nodup _ (hi.refs.plNodupC i p hp)
      · exact nodupB_of_nodup _ (hi.refs.plNodupR i p hp)
  · cases hc : s.mem.cns i with
    | none => rfl
    | some c =>
      simp only [Bool.and_eq_true, List.all_eq_true]
      obtain ⟨p, hp, hin⟩ := hi.refs.connPl i c hc
      refine ⟨⟨?_, ?_⟩, ?_⟩
      · simp [hp, hin]
      · intro r hr
        obtain ⟨r0, hr0, e1, e2⟩ := hi.refs.cnProc i c r hc hr
        simp [hr0, e1, e2]
      · exact nodupB_of_nodup _ (hi.refs.cnNodupR i c hc)
  · cases hr : s.mem.prs i with
    | none => rfl
    | some r =>
      rcases hi.refs.procPar i r hr with ⟨e, p, hp, hin⟩ | ⟨e, c, hc, hin⟩
      · simp [e, hp, hin]
      · simp [e, hc, hin]

/-- what a restarted server loads (`Init`: running pipelines become system-stopped). -/
def reloadPls (k : KV) : Map Pl := fun id => (k.pls id).map fun p => if p.status = 1 then { p with status := 2 } else p

/-- the reload of the store is `Init` applied to the in-memory view — the literal form of the
clause, from memory = store. -/
theorem C14_mem_eq_reload_partial (v : Variant) (s : St) (h : TriggerFree v s) :
    reloadPls s.kv = (fun id => (s.mem.pls id).map fun p => if p.status = 1 then { p with status := 2 } else p) ∧
    s.kv.cns = s.mem.cns ∧ s.kv.prs = s.mem.prs := by
  obtain ⟨a, b, c, _⟩ := C14_mem_eq_store_partial v s h
  exact ⟨by unfold reloadPls; rw [a], b.symm, c.symm⟩

/-- history prefix used by the witnesses: a pipeline with two connectors (the first with a
stored position) and three processors. -/
def witnessHistory : List (Op × Option Nat) :=
  [ (.plCreate 1 1, none), (.cnCreate 1 1 0 2 1, none), (.cnCreate 2 1 0 3 1, none), (.envState 1 7, none),
    (.prCreate 1 2 0 1 1 0, none), (.prCreate 2 2 0 1 1 0, none), (.prCreate 1 2 0 1 1 0, none) ]

def witnessState (v : Variant) : St := run v St.init witnessHistory

/-- F7: `pipeline.Service.Update` with a failing `store.Set` — memory holds the new name, the
store (and a restarted server) the old one; `PipelineOrchestrator.Update` has no rollback. -/
theorem C14_atomic_counterexample_pipeline_update :
    ¬ Atomic Variant.asFound (witnessState Variant.asFound) (.plUpdate 0 2 1) (some 1) ∧
    ¬ MemEqStore (exec Variant.asFound (witnessState Variant.asFound) (.plUpdate 0 2 1) (some 1)).2 := by
  constructor
  · intro h
    have h2 := congrArg (fun w => (w.mpls 0).map (·.name)) (h.2 (by decide))
    revert h2; decide
  · intro h
    have h2 := congrFun h.1 0
    revert h2; decide

/-- F7: `Connectors.Create` when `AddConnector`'s `store.Set` fails — the pipeline keeps the id
of a connector that the rollback deleted (a dangling reference). -/
theorem C14_refs_counterexample_connector_create :
    ¬ Refs (exec Variant.asFound (witnessState Variant.asFound) (.cnCreate 1 1 0 4 1) (some 3)).2.mem := by
  intro h
  cases hp : (exec Variant.asFound (witnessState Variant.asFound) (.cnCreate 1 1 0 4 1) (some 3)).2.mem.pls 0 with
  | none => revert hp; decide
  | some p =>
    have hl : ((exec Variant.asFound (witnessState Variant.asFound) (.cnCreate 1 1 0 4 1) (some 3)).2.mem.pls 0).map (·.conns)
        = some [1, 2, 7] := by decide
    rw [hp] at hl
    simp at hl
    obtain ⟨c, hc, _⟩ := h.plConn 0 p 7 hp (by rw [hl]; simp)
    have hn : (exec Variant.asFound (witnessState Variant.asFound) (.cnCreate 1 1 0 4 1) (some 3)).2.mem.cns 7 = none := by
      decide
    rw [hn] at hc; cases hc

/-- F7: `Connectors.Update` when `Commit` fails — the rollback passes `conn.Plugin` of the
already-updated instance: the new plugin stays in memory. -/
theorem C14_atomic_counterexample_connector_update_plugin :
    ¬ Atomic Variant.asFound (witnessState Variant.asFound) (.cnUpdate 1 9 2 1) (some 3) := by
  intro h
  have h2 := congrArg (fun w => (w.mcns 1).map (·.plugin)) (h.2 (by decide))
  revert h2; decide

/-- F7: `Connectors.Delete` when `Commit` fails — the rollback re-creates the connector
without its `State` (the stored position is gone from memory) and re-adds it at the end of the
pipeline's connector list. -/
theorem C14_atomic_counterexample_connector_delete :
    ¬ Atomic Variant.repaired (witnessState Variant.repaired) (.cnDelete 1) (some 4) := by
  intro h
  have h2 := congrArg (fun w => (w.mcns 1).map (·.state)) (h.2 (by decide))
  revert h2; decide

/-- F7: `Processors.Delete` when `Commit` fails — the rollback appends the processor at the
end: the processing order in memory differs from the stored one (also with every local repair). -/
theorem C14_atomic_counterexample_processor_delete_order :
    ¬ Atomic Variant.repaired (witnessState Variant.repaired) (.prDelete 4) (some 4) := by
  intro h
  have h2 := congrArg (fun w => (w.mpls 0).map (·.procs)) (h.2 (by decide))
  revert h2; decide

/-- `TriggerFreeRun` is satisfiable by histories with store failures: the witness prefix followed
by a connector creation whose `Commit` fails and a processor update whose store write fails
(both handled by the repaired code) and a pipeline deletion the guards refuse, and the invariant
is not vacuous there: the run has three processors listed in the pipeline, all existing. -/
example : TriggerFreeRun Variant.repaired St.init
    (witnessHistory ++ [(.cnCreate 1 1 0 4 1, some 4), (.prUpdate 4 2 2 1, some 2), (.plDelete 0, none)]) :=
  ⟨rfl, rfl, rfl, rfl, rfl, rfl, rfl, rfl, rfl, rfl, trivial⟩

example : ((run Variant.repaired St.init witnessHistory).mem.pls 0).map (·.procs) = some [4, 5, 6] ∧
    ((run Variant.repaired St.init witnessHistory).mem.prs 5).isSome = true := by decide

/-- memory = store holds of the empty server, and the trigger-free hypothesis is satisfiable
with a failing store operation. -/
example : MemEqStore St.init ∧ f7Trigger Variant.asFound St.init (.plCreate 1 1) (some 1) = false :=
  ⟨⟨rfl, rfl, rfl, rfl⟩, rfl⟩

/-- a failing store operation that *is* handled atomically by the code as found:
`Connectors.Create` with a failing `Commit` (the full rollback stack runs). -/
example : (exec Variant.asFound (witnessState Variant.asFound) (.cnCreate 1 1 0 4 1) (some 4)).1 = .error .st ∧
    f7Trigger Variant.asFound (witnessState Variant.asFound) (.cnCreate 1 1 0 4 1) (some 4) = false := by decide

/-- the guards' hypothesis is satisfiable: a running pipeline's connector. -/
example : protectedOp (exec Variant.asFound (witnessState Variant.asFound) (.envStatus 0 1) none).2.mem (.cnDelete 2) = true := by
  decide

end Conduit.Ctl
