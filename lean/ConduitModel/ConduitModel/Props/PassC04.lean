import ConduitModel.Proofs.PassSFan

/-!
# C04 (arch-v2), pass level — acks reach the source in read order

C04 (properties.jsonl): "The sequence of positions acknowledged to a source connector is always a
prefix of the sequence of records that source produced: in the same order, with nothing skipped
and nothing repeated, no matter in which order destinations, parallel processor workers or
dead-letter writes finish. Filtered and dead-lettered records take their turn in the same
sequence."

Here: one pass `runPass fuel tree recs` of `Worker.doTask` (model `Model/Funnel.lean`, validated
against /repo/pkg/lifecycle-poc/funnel) over ANY task tree (any depth, any fan-out, nested
fan-outs), for ANY recursion budget `fuel` (so: on every prefix of an execution), ANY plugin
scripts (processor results: keep / filter / error / retry, short replies; destination write errors
and acks with or without errors; DLQ destination replies), ANY DLQ window state and configuration,
ANY order in which the branches of each fan-out run, and ANY outcome of the pass (ok, returned
error, panic, out of fuel). `ackedKeys log` is the concatenation, in log order, of the keys of the
positions of every `.sack` event (= `Source.Ack` call).

Proved here:
* `C04_v2_pass_acks_prefix` (and `_next`, `_ok_acks_all`) — the statement in full: EVERY task
  tree (fan-out, nested fan-out), ANY scripts including record splitting (`SplitRecord`, split runs,
  the `runAckNacker` ledger, splits of pieces, nacks / filters / retries of pieces, split runs
  reaching a fan-out: `validateRunsWholeBeforeFanOut`, `clone()`, `originalBatch()`), with the only
  hypothesis that no source position is nil.
* `_nosplit` — every task tree, no hypothesis on the source positions at all (empty or duplicate
  positions make the engine stop before it acks them), but no scripted processor reply contains a
  `MultiRecord` of two or more records (`NS`).
* `_linear` — the instance for trees without fan-out (its proof does not use `Linear`).
-/
namespace Conduit.Funnel

/-- C04, pass level, IN FULL, from any state (any event log, split-run heap, tallies, DLQ window,
scripts, fan-out orders): "The sequence of positions acknowledged to a source connector is always
a prefix of the sequence of records that source produced: in the same order, with nothing skipped
and nothing repeated, no matter in which order destinations … or dead-letter writes finish.
Filtered and dead-lettered records take their turn in the same sequence." — for every task tree,
every fuel and every outcome, provided no source position is nil (`hpos`), the ack log grows by a
prefix `ks` of the keys of the batch's positions. -/
theorem C04_v2_pass_acks_next (fuel : Nat) (tree : TaskNode) (recs : List Rec) (s₀ : PS)
    (hpos : ∀ r ∈ recs, r.pos ≠ none) :
    ∃ ks, ackedKeys ((runPass fuel tree recs).run.run s₀).2.log = ackedKeys s₀.log ++ ks ∧
      ks <+: recs.map (fun r => keyOf r.pos) := by
  have := spipe_full fuel .worker wContract tree (Batch.new recs) none true s₀ _ _ (fun _ => 0) trivial
    (new_SInv s₀.heap recs hpos) (rfl : exec (runPass fuel tree recs) s₀ = (_, _))
  obtain ⟨ks, hp, hd, _⟩ := this.res.1
  rw [new_fk] at hp
  exact ⟨ks, hd, hp⟩

/-- C04, pass level, the headline statement: starting with an empty event log, after the pass —
for every task tree, fuel, script, DLQ configuration, fan-out order and outcome, no source position
being nil — the acknowledged positions are a prefix of the positions of the records the source
produced: same order, nothing skipped, nothing repeated. -/
theorem C04_v2_pass_acks_prefix (fuel : Nat) (tree : TaskNode) (recs : List Rec) (s₀ : PS)
    (hpos : ∀ r ∈ recs, r.pos ≠ none) (hlog : s₀.log = #[]) :
    ackedKeys ((runPass fuel tree recs).run.run s₀).2.log <+: recs.map (fun r => keyOf r.pos) := by
  obtain ⟨ks, h1, h2⟩ := C04_v2_pass_acks_next fuel tree recs s₀ hpos
  rw [h1, hlog, ackedKeys_empty, List.nil_append]
  exact h2

/-- C04, pass level, completion: when the pass returns WITHOUT error, every position of the batch
has been acknowledged — the ack log grew by exactly the batch's positions, in order (filtered,
dead-lettered and split records included). -/
theorem C04_v2_pass_ok_acks_all (fuel : Nat) (tree : TaskNode) (recs : List Rec) (s₀ : PS)
    (hpos : ∀ r ∈ recs, r.pos ≠ none) (hok : ((runPass fuel tree recs).run.run s₀).1 = .ok ()) :
    ackedKeys ((runPass fuel tree recs).run.run s₀).2.log = ackedKeys s₀.log ++ recs.map (fun r => keyOf r.pos) := by
  have := spipe_full fuel .worker wContract tree (Batch.new recs) none true s₀ _ _ (fun _ => 0) trivial
    (new_SInv s₀.heap recs hpos) (rfl : exec (runPass fuel tree recs) s₀ = (_, _))
  have hd := (this.res.2 hok).1
  rw [new_fk] at hd
  exact hd

/-- C04, pass level, any task tree, no record splitting, from any state: "always a prefix … in the
same order, with nothing skipped and nothing repeated, no matter in which order destinations …
or dead-letter writes finish. Filtered and dead-lettered records take their turn in the same
sequence." — whatever one pass of the engine does and however it ends, the ack log grows by a
prefix `ks` of the batch's positions. -/
theorem C04_v2_pass_acks_next_nosplit (fuel : Nat) (tree : TaskNode) (recs : List Rec) (s₀ : PS)
    (hns : NS s₀.scripts) :
    ∃ ks, ackedKeys ((runPass fuel tree recs).run.run s₀).2.log = ackedKeys s₀.log ++ ks ∧
      ks <+: recs.map (fun r => keyOf r.pos) := by
  have := pipe_nosplit fuel (.run .worker) workerContract tree (Batch.new recs) none true s₀ _ _ trivial trivial hns
    (new_BInv recs) (rfl : exec (runPass fuel tree recs) s₀ = (_, _))
  obtain ⟨ks, hp, hd, _⟩ := this.1
  refine ⟨ks, hd, ?_⟩
  rw [← new_keys]; exact hp

/-- C04, pass level, the headline statement for pipelines without record splitting: starting with
an empty event log, after the pass — for every task tree, fuel, script, DLQ configuration, fan-out
order and outcome — the acknowledged positions are a prefix of the positions of the records the
source produced: same order, nothing skipped, nothing repeated. -/
theorem C04_v2_pass_acks_prefix_nosplit (fuel : Nat) (tree : TaskNode) (recs : List Rec) (s₀ : PS)
    (hns : NS s₀.scripts) (hlog : s₀.log = #[]) :
    ackedKeys ((runPass fuel tree recs).run.run s₀).2.log <+: recs.map (fun r => keyOf r.pos) := by
  obtain ⟨ks, h1, h2⟩ := C04_v2_pass_acks_next_nosplit fuel tree recs s₀ hns
  rw [h1, hlog, ackedKeys_empty, List.nil_append]
  exact h2

/-- C04, pass level, completion: when the pass returns WITHOUT error, every position of the
batch has been acknowledged — the ack log grew by exactly the batch's positions, in order
(filtered and dead-lettered records included). -/
theorem C04_v2_pass_ok_acks_all_nosplit (fuel : Nat) (tree : TaskNode) (recs : List Rec) (s₀ : PS)
    (hns : NS s₀.scripts) (hok : ((runPass fuel tree recs).run.run s₀).1 = .ok ()) :
    ackedKeys ((runPass fuel tree recs).run.run s₀).2.log = ackedKeys s₀.log ++ recs.map (fun r => keyOf r.pos) := by
  have := pipe_nosplit fuel (.run .worker) workerContract tree (Batch.new recs) none true s₀ _ _ trivial trivial hns
    (new_BInv recs) (rfl : exec (runPass fuel tree recs) s₀ = (_, _))
  have hd := (this.2 hok).1
  rw [← new_keys]; exact hd

/-- the `_linear` special case (no fan-out; record splitting allowed). -/
theorem C04_v2_pass_acks_prefix_linear (fuel : Nat) (tree : TaskNode) (recs : List Rec) (s₀ : PS)
    (_hlin : Linear tree) (hpos : ∀ r ∈ recs, r.pos ≠ none) (hlog : s₀.log = #[]) :
    ackedKeys ((runPass fuel tree recs).run.run s₀).2.log <+: recs.map (fun r => keyOf r.pos) :=
  C04_v2_pass_acks_prefix fuel tree recs s₀ hpos hlog

namespace ExC04
open Conduit.Dlq

/-- source → processor → fan-out to two destinations -/
def tree : TaskNode := .mk 0 .source [.mk 1 .proc [.mk 2 .dest [], .mk 3 .dest []]]
def recs : List Rec := [⟨1, some 1⟩, ⟨2, some 2⟩, ⟨3, some 3⟩]
/-- the processor keeps record 1, fails record 2 (→ DLQ), keeps record 3; destination 3 nacks
record 3 (→ DLQ); branch 3 runs before branch 2. -/
def scripts : List (Nat × List Reply) :=
  [(1, [.proc [.single ⟨1, some 1⟩, .error none, .single ⟨3, some 3⟩]]),
   (2, [.dest none [.acks [(some 1, none)]], .dest none [.acks [(some 3, none)]]]),
   (3, [.dest none [.acks [(some 1, none)]], .dest none [.acks [(some 3, some {})]]]),
   (9, [.dest none [.acks [(some 2, none)]], .dest none [.acks [(some 3, none)]]])]
def s0 : PS := { win := Win.new 10 5, thr := 5, size := 10, dlqTask := 9, scripts := scripts, orders := [[1, 0]] }
/-- the same with a DLQ that tolerates no nack (threshold 0): the pass stops at record 2 -/
def s0strict : PS := { s0 with win := Win.new 10 0, thr := 0 }

example : NS s0.scripts := by decide
example : s0.log = #[] := rfl
example : ¬ Linear tree := by
  intro h; have := h.child _ (List.mem_singleton.mpr rfl) |>.len; exact absurd this (by decide)
set_option maxRecDepth 10000 in
example : ackedKeys ((runPass 20 tree recs).run.run s0).2.log = [1, 2, 3] := by decide +kernel
set_option maxRecDepth 10000 in
example : ackedKeys ((runPass 20 tree recs).run.run s0strict).2.log = [1] := by decide +kernel
-- a budget that ends the pass in the middle (out of fuel): still a prefix
set_option maxRecDepth 10000 in
example : ackedKeys ((runPass 16 tree recs).run.run s0).2.log = [1, 2] := by decide +kernel

/-- linear: source → processor → destination -/
def lin : TaskNode := .mk 0 .source [.mk 1 .proc [.mk 2 .dest []]]
example : Linear lin :=
  .mk _ _ _ (by decide) (fun n hn => by
    rw [List.mem_singleton.mp hn]
    exact .mk _ _ _ (by decide) (fun n hn => by
      rw [List.mem_singleton.mp hn]
      exact .mk _ _ _ (by decide) (fun _ hn => nomatch hn)))
set_option maxRecDepth 10000 in
example : ackedKeys ((runPass 20 lin recs).run.run s0).2.log = [1, 2, 3] := by decide +kernel

/-- linear with two processors that split: record 2 is split in two, record 3 is split in two and
one of its pieces fails in the second processor (the whole record 3 is dead-lettered). -/
def lin2 : TaskNode := .mk 0 .source [.mk 1 .proc [.mk 4 .proc [.mk 2 .dest []]]]
def a1 : AckResp := .acks [(none, none)]
def splitScripts : List (Nat × List Reply) :=
  [(1, [.proc [.single ⟨1, none⟩, .multi [⟨21, none⟩, ⟨22, none⟩], .multi [⟨31, none⟩, ⟨32, none⟩]]]),
   (4, [.proc [.single ⟨1, none⟩, .single ⟨21, none⟩, .single ⟨22, none⟩, .error none, .multi [⟨321, none⟩, ⟨322, none⟩]]]),
   (2, [.dest none [a1, a1, a1, a1, a1], .dest none [a1, a1, a1, a1, a1]]),
   (9, [.dest none [.acks [(some 3, none)]]])]
def s0split : PS := { win := Win.new 10 5, thr := 5, size := 10, dlqTask := 9, scripts := splitScripts }
example : ¬ NS s0split.scripts := by decide
example : ∀ r ∈ recs, r.pos ≠ none := by decide
example : Linear lin2 :=
  .mk _ _ _ (by decide) (fun n hn => by
    rw [List.mem_singleton.mp hn]
    exact .mk _ _ _ (by decide) (fun n hn => by
      rw [List.mem_singleton.mp hn]
      exact .mk _ _ _ (by decide) (fun n hn => by
        rw [List.mem_singleton.mp hn]
        exact .mk _ _ _ (by decide) (fun _ hn => nomatch hn))))
set_option maxRecDepth 10000 in
example : ackedKeys ((runPass 14 lin2 recs).run.run s0split).2.log = [1, 2, 3] := by decide +kernel
set_option maxRecDepth 10000 in
example : ackedKeys ((runPass 11 lin2 recs).run.run s0split).2.log = [1] := by decide +kernel

/-- fan-out BELOW a splitting processor: P1 splits records 2 and 3, then fan-out (the runs are
cloned per branch) to P4 → D2 and to D3; P4 splits a piece again and fails a piece of record 3,
so record 3 is dead-lettered as a whole; branch 3 runs first. -/
def treeFS : TaskNode := .mk 0 .source [.mk 1 .proc [.mk 4 .proc [.mk 2 .dest []], .mk 3 .dest []]]
def scriptsFS : List (Nat × List Reply) :=
  [(1, [.proc [.single ⟨1, none⟩, .multi [⟨21, none⟩, ⟨22, none⟩], .multi [⟨31, none⟩, ⟨32, none⟩]]]),
   (4, [.proc [.single ⟨1, none⟩, .single ⟨21, none⟩, .multi [⟨221, none⟩, ⟨222, none⟩], .error none, .single ⟨32, none⟩]]),
   (2, [.dest none [a1, a1, a1, a1, a1, a1], .dest none [a1, a1, a1, a1, a1]]),
   (3, [.dest none [a1, a1, a1, a1, a1, a1]]),
   (9, [.dest none [.acks [(some 3, none)]]])]
def s0FS : PS := { win := Win.new 10 5, thr := 5, size := 10, dlqTask := 9, scripts := scriptsFS, orders := [[1, 0]] }
example : ¬ NS s0FS.scripts := by decide
example : ¬ Linear treeFS := by
  intro h; have := h.child _ (List.mem_singleton.mpr rfl) |>.len; exact absurd this (by decide)
set_option maxRecDepth 10000 in
example : ackedKeys ((runPass 20 treeFS recs).run.run s0FS).2.log = [1, 2, 3] := by decide +kernel
set_option maxRecDepth 10000 in
example : ackedKeys ((runPass 17 treeFS recs).run.run s0FS).2.log = [1] := by decide +kernel

end ExC04

end Conduit.Funnel
