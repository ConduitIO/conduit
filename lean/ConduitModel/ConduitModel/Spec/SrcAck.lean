import ConduitModel.Model.SrcAck

/-!
Observable traces of the source-ack / persister system and the property monitors of
C02 / C03 / C06, defined once: `C02_monitor_sound_partial` proves the
durability clauses of every run of the model (`Proofs/SrcAckMon.lean`: `mon_run`), and the driver
evaluates the same function on every trace recorded from the implementation.

Observation points (process boundary): `Source.Ack` call, store transaction outcome, ack message
at the plugin stream, plugin Teardown call, return of `Source.Teardown` / `WaitPersisted`,
process death and the position handed to the plugin's `Open` on restart.
-/
namespace Conduit.SrcAck

inductive Obs
  | ack (ps : List Pos)                 -- engine calls Source.Ack(ps)
  | ackRet                              -- … and the call returned nil
  /-- a store transaction committed; `pos` the source's stored position, `reopen` the position a
  fresh process started on exactly this store content hands to the plugin's Open -/
  | commit (pos : Option Pos) (reopen : Option Pos)
  | flushFail (r : FlushRes)            -- NewTransaction / Set / Commit failed
  | sack (ps : List Pos)                -- ack message received by the source plugin
  | sendFail                            -- a stream.Send of an ack failed
  | tdBegin                             -- Source.Teardown called
  | pluginTd (ok : Bool)                -- plugin.Teardown called
  | tdRet (ok : Bool)                   -- Source.Teardown returned (ok = nil)
  | waited                              -- connectors.WaitPersisted returned
  | waitHang                            -- … did not return
  | crash
  | reopen (pos : Option Pos)           -- new process: plugin.Open(pos)
  | emit (p : Pos)                      -- the plugin handed out the record at position p
  | stopRet (pos : Option Pos)          -- Source.Stop returned pos (the v1 node's stop position)
  | nodeEnded                           -- SourceNode.Run returned after a graceful stop
  | nodeHang                            -- … did not return
deriving Repr, DecidableEq, Inhabited

structure Mon where
  /-- read index of the last successfully committed position (0 = none) -/
  committed : Nat := 0
  /-- largest position ever handed to Source.Ack -/
  handledMax : Nat := 0
  /-- largest position ever delivered to the plugin -/
  sackMax : Nat := 0
  /-- positions acked by the engine / delivered to the plugin in this incarnation -/
  acksI : List Pos := []
  sacksI : List Pos := []
  /-- last acked position of this incarnation (the reopen position before the first ack) -/
  hi : Nat := 0
  /-- 0: running, 1: Teardown called, 2: plugin torn down, 3: Teardown returned, 4: WaitPersisted returned -/
  td : Nat := 0
  ptd : Nat := 0
  /-- position of the last record the plugin handed out in this incarnation (0 = none) -/
  lastEmit : Nat := 0
  bad : Option String := none
deriving Repr, DecidableEq, Inhabited

def optN (p : Option Pos) : Nat := p.getD 0

def flag (m : Mon) (cond : Bool) (why : String) : Mon :=
  if m.bad.isNone && !cond then { m with bad := some why } else m

def maxL (l : List Nat) : Nat := l.foldl max 0

/-- one observation. `strictStop`: the run was made in a healthy environment — the harness injected
no store or send fault and held nothing, and the teardown budget cannot expire — so a nil return of
Teardown promises the C06 post-condition and the stop must complete. (A failed Send or flush that
shows up in such a run is the implementation's own doing, e.g. a stream it cancelled too early, and
excuses nothing.) Without `strictStop` faults were injected and bounded waits may expire: only the
clauses that hold unconditionally are checked. -/
def monStep (strictStop : Bool) (m : Mon) : Obs → Mon
  | .ack ps =>
    { m with handledMax := max m.handledMax (maxL ps), acksI := m.acksI ++ ps, hi := max m.hi (maxL ps) }
  | .commit pos reopen =>
    -- C02: the stored position never goes backwards, never becomes empty, and every record at
    -- or before it has been handled; C03: so it is never past an unhandled record
    let m := flag m (m.committed ≤ optN pos) "C02:store-went-backwards"
    let m := flag m (pos.isSome || m.committed == 0) "C02:store-became-empty"
    let m := flag m (optN pos ≤ m.handledMax) "C03:stored-position-past-unhandled-record"
    let m := flag m (reopen == pos) "C03:snapshot-reopens-at-other-position"
    -- C03/C06: `WaitPersisted` is the durability barrier of a stopped pipeline (its connectors may be
    -- re-created once it returned): no write of the stopped incarnation may land after it
    let m := flag m (m.td != 4) "C03:commit-after-durability-barrier"
    { m with committed := optN pos }
  | .ackRet => m
  | .flushFail _ => m
  | .sack ps =>
    -- C02: told only what is durable (also: a failed flush never acks); C03: upstream never
    -- told to discard beyond the store; C04 tail: strictly increasing
    let m := flag m (maxL ps ≤ m.committed) "C02:ack-delivered-before-durable"
    let m := flag m (ps.all (fun p => m.sackMax < p) || ps.isEmpty) "C02:ack-repeated-or-out-of-order"
    -- C02(iv)/C04 tail: what the plugin has been told is a prefix of what the engine acked
    let m := flag m ((m.sacksI ++ ps).isPrefixOf m.acksI) "C04:ack-sequence-gap"
    let m := flag m (m.td < 2) "C06:ack-after-plugin-teardown"
    { m with sackMax := max m.sackMax (maxL ps), sacksI := m.sacksI ++ ps }
  | .sendFail => m
  | .tdBegin => { m with td := 1 }
  | .pluginTd _ =>
    let m := flag m (m.ptd == 0) "C06:plugin-torn-down-twice"
    { m with td := 2, ptd := m.ptd + 1 }
  | .tdRet ok =>
    let m := flag m (m.ptd == 1) "C06:teardown-returned-without-exactly-one-plugin-teardown"
    if ok && strictStop then
      -- C06: graceful stop of a healthy pipeline completed
      let m := flag m (m.sacksI == m.acksI) "C06:acks-not-all-delivered-at-stop"
      let m := flag m (m.committed == m.hi) "C06:stored-position-not-last-acked-at-stop"
      { m with td := 3 }
    else { m with td := 3 }
  | .waited => { m with td := 4 }
  | .waitHang => flag m (!strictStop) "C06:stop-and-wait-did-not-complete"
  | .crash => m
  | .reopen pos =>
    -- C03: the source is reopened exactly at the durable position
    let m := flag m (optN pos == m.committed) "C03:reopened-at-other-than-stored-position"
    { m with acksI := [], sacksI := [], hi := optN pos, td := 0, ptd := 0, lastEmit := 0 }
  | .emit p => { m with lastEmit := p }
  -- C06: the stop position is the last record handed out in THIS run (empty if none): the v1 SourceNode
  -- ends only after reading exactly that record, so a position of an earlier run would keep it running
  | .stopRet pos => flag m (optN pos == m.lastEmit) "C06:stop-position-not-last-read"
  | .nodeEnded => m
  -- C06: in a healthy environment a graceful stop completes
  | .nodeHang => flag m (!strictStop) "C06:graceful-stop-did-not-complete"

def monRun (strictStop : Bool) (tr : List Obs) : Mon := tr.foldl (monStep strictStop) {}

/-- the property monitor: C02 ∧ C03 ∧ C06 on an observed trace -/
def holds (strictStop : Bool) (tr : List Obs) : Bool := (monRun strictStop tr).bad.isNone

end Conduit.SrcAck
