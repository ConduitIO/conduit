import ConduitModel.Model.Funnel

/-!
# Batch bookkeeping: the alignment invariant and pure restatements (C08 / C09)

`Batch.Aligned` is the shape part (parallel slices, allocated runs, split keys) and what makes
every slice index of the engine stay in range; `Batch.WF` adds the exact filter accounting
`filterCount = #(filter flags)`, which makes the active-index ↦ physical-index map of
`activeRecordIndices` the right one. Every mutator keeps both.

The second half restates the loops of the model (`for … in … do` with `let mut`) as plain
recursive / `foldlM` functions, and `ProcessorTask.Do` / `DestinationTask.Do` as pure
functions without the script / event-log plumbing. The agreement lemmas (`…_eq_model`) are in
`Proofs/BatchFlags.lean`, `BatchNack.lean`, `BatchDest.lean` and `BatchAgree.lean`. Everything here is
executable. Core-only.
-/
namespace Conduit.Funnel

/-! ## the invariant -/

/-- "the record at physical index `i` is not filtered" (the test of `activeRecordIndices`). -/
def notFilt (st : List Status) (i : Nat) : Bool := (st[i]?.map (·.flag)) != some Flag.filter

/-- physical indices of the active (non-filtered) records: what `activeRecordIndices`
computes when `filterCount ≠ 0`. -/
def actList (st : List Status) : List Nat := (List.range st.length).filter (notFilt st)

/-- number of active records as the mutators see it (via the flags). -/
def Batch.nAct (b : Batch) : Nat := (actList b.st).length

/-- `b.runs[p]` with a nil `runs` slice / nil entry / out of range all reading as "no run". -/
def Batch.runAt (b : Batch) (p : Nat) : Option Nat :=
  match b.runs with
  | none => none
  | some rs => (rs[p]?).join

/-- `Batch.splittable` on a physical index. -/
def Batch.splittableAt (b : Batch) (p : Nat) : Bool :=
  (b.pos[p]? != some none) || (b.runAt p).isSome

/-- a `runs` entry is nil or an allocated run -/
def runIdOK (h : Heap) : Option Nat → Bool
  | none => true
  | some id => decide (id < h.size)

/-- `runs` is nil, or parallel to `records` with every run id allocated in the heap. -/
def runsOK (h : Heap) (n : Nat) : Option (List (Option Nat)) → Prop
  | none => True
  | some rs => rs.length = n ∧ ∀ r ∈ rs, runIdOK h r = true

instance (h : Heap) (n : Nat) (r : Option (List (Option Nat))) : Decidable (runsOK h n r) :=
  match r with
  | none => isTrue trivial
  | some rs => inferInstanceAs (Decidable (rs.length = n ∧ ∀ r ∈ rs, runIdOK h r = true))

/-- The alignment invariant of `Batch` (batch.go: "runs is … kept in lockstep with
records/recordStatuses/positions").
* `records`, `recordStatuses`, `positions` have the same length, `runs` is nil or has that
  length and only refers to allocated runs;
* every key of `splitRecords` is the key of some position of the batch. -/
structure Batch.Aligned (h : Heap) (b : Batch) : Prop where
  st_len : b.st.length = b.recs.length
  pos_len : b.pos.length = b.recs.length
  runs_ok : runsOK h b.recs.length b.runs
  split_keys : ∀ kv ∈ b.split, ∃ p ∈ b.pos, keyOf p = kv.1

/-- The full well-formedness: aligned, and `filterCount` is exactly the number of filtered
records (so `filterCount = 0` ⇒ nothing is filtered and the identity index map is right). -/
def Batch.WF (h : Heap) (b : Batch) : Prop := b.Aligned h ∧ b.filterCount = countFilter b.st

instance (h : Heap) (b : Batch) : Decidable (b.Aligned h) :=
  decidable_of_iff
    (b.st.length = b.recs.length ∧ b.pos.length = b.recs.length ∧ runsOK h b.recs.length b.runs ∧
      (∀ kv ∈ b.split, ∃ p ∈ b.pos, keyOf p = kv.1))
    ⟨fun ⟨a, b', c, f⟩ => ⟨a, b', c, f⟩, fun ⟨a, b', c, f⟩ => ⟨a, b', c, f⟩⟩

instance (h : Heap) (b : Batch) : Decidable (b.WF h) := inferInstanceAs (Decidable (_ ∧ _))

/-! ## pure restatements of the loops -/

/-- `recordStatuses[p].Flag = f` -/
def setFlagP (f : Flag) (s : Status) : Status := { s with flag := f }

/-- one iteration of the `setFlagNoErr` range loop -/
def sfStep (b : Batch) (f : Flag) (st : List Status) (k : Nat) : R (List Status) := do
  let p ← b.phys k
  setFlagAt st p f

/-- `setFlagNoErr(f, i, j)` as a `foldlM` -/
def Batch.setFlagRangeP (b : Batch) (f : Flag) (i j : Nat) : R Batch :=
  if i ≥ j then panic "invalid range" else do
    let st ← (List.range' i (j - i)).foldlM (sfStep b f) b.st
    pure { b with st := st }

/-- one iteration of the split-extent loop of `setFlagWithErr`: a filtered piece stays filtered -/
def nackExtent (e : Option Err) (st : List Status) (j : Nat) : R (List Status) := do
  let sj ← idx st j "recordStatuses"
  if sj.flag != .filter then pure (st.set j { flag := .nack, err := e }) else pure st

/-- one iteration of the `setFlagWithErr` loop: active index `q`, error `e`. -/
def nackStep (b : Batch) (act : Option (List Nat)) (st : List Status) (q : Nat) (e : Option Err) : R (List Status) := do
  let p ← match act with
    | some a => idx a q "activeIndices"
    | none => pure q
  let _ ← idx st p "recordStatuses"
  let st := st.set p { flag := .nack, err := e }
  if b.split.length > 0 then
    let ps ← idx b.pos p "positions"
    if ps == none ∨ (lookup b.split (keyOf ps)).isSome then
      let from_ := findSplitFrom b.pos p
      let to := findSplitTo b.pos (p+1) b.pos.length - 1
      (List.range' from_ (to + 1 - from_)).foldlM (nackExtent e) st
    else pure st
  else pure st

/-- the `setFlagWithErr` loop from active index `q` on -/
def nackGo (b : Batch) (act : Option (List Nat)) : List (Option Err) → Nat → List Status → R (List Status)
  | [], _, st => pure st
  | e :: es, q, st => do
    let st ← nackStep b act st q e
    nackGo b act es (q+1) st

/-- `Nack(i, errs...)` -/
def Batch.nackP (b : Batch) (i : Nat) (errs : List (Option Err)) : R Batch := do
  let st ← nackGo b b.activeIdx errs i b.st
  pure { b with st := st, tainted := true }

/-! ## `ProcessorTask.Do` / `DestinationTask.Do` without the script and log plumbing -/

/-- one entry of the `MultiRecord` loop of `markBatchRecords` -/
def procMultiStep (from_ : Nat) (records : List PR) (hb : Heap × Batch) (i : Nat) : R (Heap × Batch) :=
  match records[i]? with
  | some (.multi m) =>
    match m.length with
    | 0 => do let b ← hb.2.filter1 (from_ + i); pure (hb.1, b)
    | 1 => do let b ← hb.2.setRecords (from_ + i) m; pure (hb.1, b)
    | _ => hb.2.splitRecord hb.1 (from_ + i) m
  | _ => pure hb

/-- `ProcessorTask.markBatchRecords` on `(heap, batch)` -/
def procMarkP (hb : Heap × Batch) (from_ : Nat) (records : List PR) : R (Heap × Batch) :=
  match records with
  | [] => pure hb
  | .single _ :: _ => do
    let b ← hb.2.setRecords from_ (records.filterMap fun | .single r => some r | _ => none)
    pure (hb.1, b)
  | .filter :: _ => do
    let b ← hb.2.filterRange from_ (from_ + records.length)
    pure (hb.1, b)
  | .error _ :: _ => do
    let b ← hb.2.nack from_ (records.filterMap fun | .error e => some (some (e.getD plainErr)) | _ => none)
    pure (hb.1, b)
  | .multi _ :: _ => (List.range records.length).reverse.foldlM (procMultiStep from_ records) hb
  | .nil :: _ => do
    let b ← hb.2.retry from_ (from_ + records.length)
    pure (hb.1, b)

/-- the `splittable` pre-check of `ProcessorTask.Do` for result `i` -/
def procCheckStep (b : Batch) (out : List PR) (i : Nat) : R Unit :=
  match out[i]? with
  | some (.multi m) =>
    if m.length > 1 then do
      let p ← b.phys i
      let ps ← idx b.pos p "positions[i]"
      let run : Option Nat := match b.runs with
        | none => none
        | some rs => (rs[p]?).join
      if ps == none ∧ run == none then throw (.err (coded "pipeline.empty_source_position")) else pure ()
    else pure ()
  | _ => pure ()

/-- one step of the end→start group loop of `ProcessorTask.Do`; state = (heap, batch, to) -/
def procGroupStep (out : List PR) (s : (Heap × Batch) × Nat) (i : Nat) : R ((Heap × Batch) × Nat) :=
  let boundary := i == 0 || !(sameType (out[i-1]?.getD .nil) (out[i]?.getD .nil))
  if boundary then do
    let hb ← procMarkP s.1 i ((out.take s.2).drop i)
    pure (hb, i)
  else pure s

/-- `ProcessorTask.Do` given the plugin's reply `out` -/
def procDoP (h : Heap) (b : Batch) (out : List PR) : R (Heap × Batch) := do
  let recsIn := b.active
  if out.length = 0 then throw (.err plainErr)
  if out.length > recsIn.length then throw (.err plainErr)
  (List.range out.length).forM (procCheckStep b out)
  let out := if recsIn.length > out.length then out ++ List.replicate (recsIn.length - out.length) PR.nil else out
  let s ← (List.range out.length).reverse.foldlM (procGroupStep out) ((h, b), out.length)
  pure s.1

/-- one entry of `DestinationTask.markBatchRecords` -/
def destMarkStep (from_ : Nat) (acks : List (PosV × Option Err)) (b : Batch) (i : Nat) : R Batch :=
  match acks[i]? with
  | some (_, some e) => b.nack (from_ + i) [some e]
  | _ => pure b

/-- `DestinationTask.markBatchRecords` as a `foldlM` -/
def destMarkP (b : Batch) (from_ : Nat) (acks : List (PosV × Option Err)) : R Batch :=
  (List.range acks.length).reverse.foldlM (destMarkStep from_ acks) b

/-- `DestinationTask.Do` given the destination's reply (write error, ack responses). -/
def destDoP (b : Batch) (werr : Option Err) (resps : List AckResp) : R Batch := do
  let positions := b.active.map (·.pos)
  if let some e := werr then throw (.err (wrap e))
  let (b, ackCount) ← destAckLoop positions positions.length b 0 resps
  if ackCount < positions.length then throw (.err plainErr)
  pure b

/-! ## retry accounting of `doTaskAttempt` (`RecordFlagRetry` branch) -/

/-- the attempt record passed to the nested `doTaskAttempt`, or the fatal
`pipeline.retry_not_converging` refusal. -/
def nextRetry (retry : Option RetryAttempt) (size : Nat) : Except Err RetryAttempt :=
  match retry with
  | none => .ok { count := 1, size := size }
  | some r =>
    let stall := if size ≥ r.size then r.stall + 1 else 0
    if stall ≥ maxRetryStall then .error (fatalE (coded "pipeline.retry_not_converging"))
    else if r.count + 1 > maxRetryAttempts then .error (fatalE (coded "pipeline.retry_not_converging"))
    else .ok { count := r.count + 1, size := size, stall := stall }

/-- a chain of nested retry rounds: the sizes of the successive retried sub-batches, each
accepted by `nextRetry` from the attempt record of the round before. -/
def retryChain : Option RetryAttempt → List Nat → Bool
  | _, [] => true
  | r, size :: rest =>
    match nextRetry r size with
    | .ok n => retryChain (some n) rest
    | .error _ => false

end Conduit.Funnel
