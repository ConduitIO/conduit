import ConduitModel.Model.DlqWindow

/-
M2 — the arch-v2 ("funnel") engine: one pass of `Worker.doTask` over a task tree.

Mirrors /repo/pkg/lifecycle-poc/funnel:
  batch.go        Batch and its mutators (Ack/Nack/Retry/Filter/SetRecords/SplitRecord/sub/clone/originalBatch)
  processor.go    ProcessorTask.Do / markBatchRecords / isSameType
  destination.go  DestinationTask.Do / validateAcks / markBatchRecords
  run_ledger.go   splitRun, runAckNacker.vote, validateRunsWholeBeforeFanOut
  worker.go       doTaskAttempt (tainted loop, retry accounting), subBatchByFlag, doNextTask,
                  multiAckNacker, Worker.Ack / Worker.Nack, validateAckPositions
  dlq.go          DLQ.Ack / DLQ.Nack / sendToDLQ (window = Model/DlqWindow v2)

Conventions: every slice index is partial — an out-of-range index is the outcome `.panic`,
exactly where Go would panic. Sub-batches have value semantics (see DESIGN.md §6 M2, aliasing
decision); the `*splitRun` objects shared by pointer live in an explicit heap threaded through
the pass and deep-copied at `clone`. Plugins (processors, destinations, the DLQ destination)
are scripts: lists of replies consumed call by call. Core-only.
-/
namespace Conduit.Funnel
open Conduit.Dlq

inductive Flag | ack | nack | retry | filter
deriving DecidableEq, Repr, Inhabited

/-- `opencdc.Position`: `none` = nil slice, `some 0` = empty non-nil, `some (k+1)` = non-empty bytes #k. -/
abbrev PosV := Option Nat

/-- `string(p)` as a map key: nil and empty collide (both ""), as in Go. `p.String()`, the key of
`splitRecords`, is "<nil>" for a nil position, a key never written: where that map is read the model tests
for nil first (`nack`, `sub`, `original`). -/
def keyOf : PosV → Nat
  | none => 0
  | some k => k

/-- `len(p) == 0` -/
def posEmpty (p : PosV) : Bool := keyOf p == 0

/-- a record: payload identity `tag`, and its own `Position` field (processors may rewrite it). -/
structure Rec where
  tag : Nat
  pos : PosV
deriving DecidableEq, Repr, Inhabited

/-- an error value, reduced to what classification observes: fatal mark, conduiterr code,
and the scripted root-cause id if it is still reachable through the wrap chain. -/
structure Err where
  fatal : Bool := false
  code : Option String := none
  script : Option Nat := none
deriving DecidableEq, Repr, Inhabited

/-- `RecordStatus`. `err = none` is a nil error. -/
structure Status where
  flag : Flag := .ack
  err : Option Err := none
deriving DecidableEq, Repr, Inhabited

/-- `splitRun` (run_ledger.go). -/
structure SplitRun where
  origPos : PosV
  origRec : Rec
  total : Nat
  terminal : Nat := 0
  nacked : Bool := false
  nackErr : Option Err := none
  nackTask : Nat := 0
  released : Bool := false
deriving Repr, Inhabited

structure Batch where
  recs : List Rec := []
  st : List Status := []
  pos : List PosV := []
  /-- `runs []*splitRun`: `none` = nil slice; entries are heap ids -/
  runs : Option (List (Option Nat)) := none
  filterCount : Nat := 0
  tainted : Bool := false
  /-- `splitRecords map[string]Record` keyed by `keyOf` -/
  split : List (Nat × Rec) := []
deriving Repr, Inhabited

/-- why a pass stopped early -/
inductive Stop
  | panic (msg : String)
  | err (e : Err)
deriving Repr, Inhabited

abbrev R := Except Stop

def panic {α} (msg : String) : R α := .error (.panic msg)

def idx {α} (l : List α) (i : Nat) (what : String) : R α :=
  match l[i]? with
  | some x => pure x
  | none => panic s!"index out of range: {what}"

def setAt {α} (l : List α) (i : Nat) (x : α) (what : String) : R (List α) :=
  if i < l.length then pure (l.set i x) else panic s!"index out of range: {what}"

def lookup (m : List (Nat × Rec)) (k : Nat) : Option Rec :=
  (m.find? (·.1 == k)).map (·.2)

/-- `NewBatch` -/
def Batch.new (recs : List Rec) : Batch :=
  { recs := recs, st := recs.map (fun _ => {}), pos := recs.map (·.pos),
    runs := some (recs.map fun _ => none) }

/-- `activeRecordIndices`: `none` when nothing is filtered. -/
def Batch.activeIdx (b : Batch) : Option (List Nat) :=
  if b.filterCount = 0 then none
  else some ((List.range b.st.length).filter fun i => (b.st[i]?.map (·.flag)) != some Flag.filter)

def Batch.hasActive (b : Batch) : Bool := b.filterCount < b.recs.length

/-- `ActiveRecords` -/
def Batch.active (b : Batch) : List Rec :=
  if b.filterCount = 0 then b.recs
  else if b.filterCount = b.recs.length then []
  else (b.recs.zip b.st).filterMap fun (r, s) => if s.flag = .filter then none else some r

/-- physical index of active index `i` -/
def Batch.phys (b : Batch) (i : Nat) : R Nat :=
  match b.activeIdx with
  | none => pure i
  | some act => idx act i "activeIndices"

def setFlagAt (st : List Status) (i : Nat) (f : Flag) : R (List Status) := do
  let s ← idx st i "recordStatuses"
  pure (st.set i { s with flag := f })

/-- `setFlagNoErr(f, i)` (single index form) -/
def Batch.setFlag1 (b : Batch) (f : Flag) (i : Nat) : R Batch := do
  let p ← b.phys i
  let st ← setFlagAt b.st p f
  pure { b with st := st }

/-- `setFlagNoErr(f, i, j)` (range form) -/
def Batch.setFlagRange (b : Batch) (f : Flag) (i j : Nat) : R Batch := do
  if i ≥ j then panic "invalid range"
  let mut st := b.st
  for k in List.range' i (j - i) do
    let p ← b.phys k
    st ← setFlagAt st p f
  pure { b with st := st }

/-- `findSplitRecord` -/
def findSplitFrom (pos : List PosV) : Nat → Nat
  | 0 => 0
  | i+1 => if pos[i+1]? == some none then findSplitFrom pos i else i+1

def findSplitTo (pos : List PosV) (t : Nat) : Nat → Nat
  | 0 => t
  | fuel+1 => if t < pos.length ∧ pos[t]? == some none then findSplitTo pos (t+1) fuel else t

/-- `Nack(i, errs...)` = `setFlagWithErr(nack, i, errs)`; `tainted = true`. -/
def Batch.nack (b : Batch) (i : Nat) (errs : List (Option Err)) : R Batch := do
  let act := b.activeIdx
  let mut st := b.st
  let mut k := 0
  for e in errs do
    let mut p := i + k
    if let some a := act then p ← idx a p "activeIndices"
    let _ ← idx st p "recordStatuses"
    st := st.set p { flag := .nack, err := e }
    if b.split.length > 0 then
      let ps ← idx b.pos p "positions"
      if ps == none ∨ (lookup b.split (keyOf ps)).isSome then
        let from_ := findSplitFrom b.pos p
        let to := findSplitTo b.pos (p+1) b.pos.length - 1
        for j in List.range' from_ (to + 1 - from_) do
          let sj ← idx st j "recordStatuses"
          -- a filtered piece stays filtered (filterCount and the active indices stay exact)
          if sj.flag != .filter then
            st := st.set j { flag := .nack, err := e }
    k := k + 1
  pure { b with st := st, tainted := true }

def Batch.retry (b : Batch) (i j : Nat) : R Batch := do
  let b ← b.setFlagRange .retry i j
  pure { b with tainted := true }

def Batch.filter1 (b : Batch) (i : Nat) : R Batch := do
  let b ← b.setFlag1 .filter i
  pure { b with filterCount := b.filterCount + 1 }

def Batch.filterRange (b : Batch) (i j : Nat) : R Batch := do
  let b ← b.setFlagRange .filter i j
  pure { b with filterCount := b.filterCount + (j - i) }

/-- `copy(dst[at:], src)` on a list: overwrite as many as fit. -/
def copyInto {α} (dst : List α) (at_ : Nat) (src : List α) : List α :=
  dst.take at_ ++ (src.take (dst.length - at_)) ++ dst.drop (at_ + min src.length (dst.length - at_))

/-- `findTo` bisection. `check` may panic (index out of range). -/
def findToLoop (check : Nat → R Bool) : Nat → Nat → Nat → R Nat
  | 0, maxT, _ => pure maxT
  | fuel+1, maxT, minF =>
    if maxT + 1 < minF then do
      let mid := (maxT + minF) / 2
      if (← check mid) then findToLoop check fuel mid minF else findToLoop check fuel maxT mid
    else pure maxT

/-- `SetRecords(i, recs)` -/
def Batch.setRecords (b : Batch) (i : Nat) (recs : List Rec) : R Batch :=
  match b.activeIdx with
  | none =>
    if i > b.recs.length then panic "slice bounds out of range: records[i:]"
    else pure { b with recs := copyInto b.recs i recs }
  | some act =>
    let rec go : Nat → Nat → List Rec → List Rec → R (List Rec)
      | 0, _, _, out => pure out
      | fuel+1, from_, recs, out =>
        if recs.isEmpty then pure out else do
          let activeFrom ← idx act from_ "activeIndices[from]"
          let check := fun (t : Nat) => do
            let a ← idx act t "activeIndices[idx]"
            pure (decide (a - activeFrom = t - from_ ∧ a ≥ activeFrom))
          let to ← findToLoop check (recs.length + 1) from_ (from_ + recs.length)
          let activeTo ← idx act to "activeIndices[to]"
          let n := to - from_ + 1
          let seg := recs.take n
          -- copy(b.records[activeFrom:activeTo+1], recs[:n])
          let out' := out.take activeFrom ++ seg.take (activeTo + 1 - activeFrom)
                        ++ out.drop (activeFrom + min seg.length (activeTo + 1 - activeFrom))
          go fuel (to + 1) (recs.drop n) out'
    do
      let out ← go (recs.length + 1) i recs b.recs
      pure { b with recs := out }

abbrev Heap := Array SplitRun

/-- `SplitRecord(i, recs)` (called with `len(recs) ≥ 2`). -/
def Batch.splitRecord (h : Heap) (b : Batch) (i : Nat) (recs : List Rec) : R (Heap × Batch) := do
  let i ← b.phys i
  let origPos ← idx b.pos i "positions[i]"
  let mut run : Option Nat := none
  if let some rs := b.runs then run ← idx rs i "runs[i]"
  let mut h := h
  let mut b := b
  let rid ← match run with
    | some r => pure r
    | none => do
      if origPos == none then panic "(bug) SplitRecord: record has a nil position but no known split run"
      let cur ← idx b.recs i "records[i]"
      let origRec := (lookup b.split (keyOf origPos)).getD cur
      if (lookup b.split (keyOf origPos)).isNone then
        b := { b with split := b.split ++ [(keyOf origPos, cur)] }
      let rid := h.size
      h := h.push { origPos := origPos, origRec := origRec, total := 1 }
      let rs := b.runs.getD (b.recs.map fun _ => none)
      let rs ← setAt rs i (some rid) "runs[i]"
      b := { b with runs := some rs }
      pure rid
  let r := h[rid]!
  h := h.set! rid { r with total := r.total + recs.length - 1 }
  let n := recs.length - 1
  if i + 1 > b.recs.length ∨ i + 1 > b.st.length ∨ i + 1 > b.pos.length then panic "slice bounds out of range: SplitRecord"
  let rs := b.runs.getD []
  if i + 1 > rs.length then panic "slice bounds out of range: runs[:i+1]"
  pure (h, { b with
    recs := b.recs.take i ++ recs ++ b.recs.drop (i+1),
    st := b.st.take (i+1) ++ List.replicate n {} ++ b.st.drop (i+1),
    pos := b.pos.take (i+1) ++ List.replicate n none ++ b.pos.drop (i+1),
    runs := some (rs.take (i+1) ++ List.replicate n (some rid) ++ rs.drop (i+1)) })

def countFilter (st : List Status) : Nat := (st.filter (·.flag = .filter)).length

/-- `sub(from, to)` -/
def Batch.sub (b : Batch) (from_ to : Nat) : R Batch := do
  if from_ > to ∨ to > b.recs.length ∨ to > b.st.length ∨ to > b.pos.length then panic "slice bounds out of range: sub"
  let sl {α} (l : List α) := (l.take to).drop from_
  let fc := if b.filterCount > 0 then countFilter (sl b.st) else 0
  let split := if b.split.length ≠ 0 then
      -- `pos.String()` of a nil position is "<nil>", a key SplitRecord never writes (it refuses nil
      -- positions), so a nil position finds nothing — unlike an EMPTY position, whose key "" can be present
      (sl b.pos).foldl (fun acc p => if p == none then acc else match lookup b.split (keyOf p) with
        | some r => if (lookup acc (keyOf p)).isSome then acc else acc ++ [(keyOf p, r)]
        | none => acc) []
    else []
  let runs ← match b.runs with
    | none => pure none
    | some rs => if to > rs.length then panic "slice bounds out of range: runs" else pure (some (sl rs))
  pure { recs := sl b.recs, st := sl b.st, pos := sl b.pos, runs := runs, filterCount := fc, tainted := false, split := split }

/-- `clone()` with `cloneRuns` (deep copy of the referenced runs, sharing preserved). -/
def Batch.clone (h : Heap) (b : Batch) : Heap × Batch :=
  match b.runs with
  | none => (h, b)
  | some rs =>
    let (h', seen, out) := rs.foldl (fun (acc : Heap × List (Nat × Nat) × List (Option Nat)) r =>
      let (h, seen, out) := acc
      match r with
      | none => (h, seen, out ++ [none])
      | some id =>
        match seen.find? (·.1 == id) with
        | some (_, nid) => (h, seen, out ++ [some nid])
        | none => (h.push h[id]!, seen ++ [(id, h.size)], out ++ [some h.size])) (h, [], [])
    let _ := seen
    (h', { b with runs := some out })

/-- `originalBatch()` -/
def Batch.original (b : Batch) : Batch :=
  if b.split.length = 0 then b else
  let rows := (b.pos.zip (b.recs.zip b.st)).filter fun (p, _) => p != none
  let recs := rows.map fun (p, r, _) => (lookup b.split (keyOf p)).getD r
  let st := rows.map fun (_, _, s) => s
  let pos := rows.map fun (p, _, _) => p
  { recs := recs, st := st, pos := pos, runs := some (recs.map fun _ => none),
    filterCount := if b.filterCount > 0 then countFilter st else 0, tainted := false, split := [] }

/-! ## plugin scripts -/

/-- one `sdk.ProcessedRecord` -/
inductive PR
  | single (r : Rec)
  | filter
  | error (e : Option Err)
  | multi (rs : List Rec)
  | nil
deriving Repr, Inhabited

def PR.kind : PR → Nat
  | .single _ => 0 | .filter => 1 | .error _ => 2 | .multi _ => 3 | .nil => 4

/-- one `Destination.Ack()` response -/
inductive AckResp
  | err (e : Err)
  | acks (l : List (PosV × Option Err))
deriving Repr, Inhabited

/-- scripted reply of one plugin call -/
inductive Reply
  | proc (out : List PR)
  | dest (writeErr : Option Err) (acks : List AckResp)
deriving Repr, Inhabited

inductive Ev
  | pcall (task : Nat) (recs : List Rec)
  | write (task : Nat) (recs : List Rec)
  | dlqw (task : Nat) (recs : List (Rec × Option Err × Nat))  -- record, nack error, failing task
  | sack (ps : List PosV)
deriving Repr, Inhabited

/-- `multiAckNacker` state -/
structure MA where
  branches : Nat
  positions : List PosV
  ackVotes : List Nat
  terminal : List Bool
  acked : List Bool
  record : List Rec
  nackErr : List (Option Err)
  nackTask : List Nat
  released : Nat := 0
deriving Repr, Inhabited

inductive TaskKind | source | proc | dest
deriving DecidableEq, Repr, Inhabited

inductive TaskNode
  | mk (id : Nat) (kind : TaskKind) (next : List TaskNode)
deriving Repr, Inhabited

def TaskNode.id : TaskNode → Nat | .mk i _ _ => i
def TaskNode.kind : TaskNode → TaskKind | .mk _ k _ => k
def TaskNode.next : TaskNode → List TaskNode | .mk _ _ n => n

/-- the ack/nack handler chain: Worker ← runAckNacker ← multiAckNacker ← runAckNacker … -/
inductive Acker
  | worker
  | run (parent : Acker)
  | multi (id : Nat) (parent : Acker)
deriving Repr, Inhabited

structure PS where
  heap : Heap := #[]
  log : Array Ev := #[]
  win : Win
  thr : Nat
  size : Nat
  dlqTask : Nat := 0
  scripts : List (Nat × List Reply) := []
  mas : Array MA := #[]
  /-- branch orders, one per fan-out invocation, consumed in sequence (indices into `next`);
  missing / malformed ⇒ source order -/
  orders : List (List Nat) := []
deriving Inhabited

abbrev M := ExceptT Stop (StateM PS)

def liftR {α} (r : R α) : M α := match r with | .ok a => pure a | .error e => throw e

def emit (e : Ev) : M Unit := modify fun s => { s with log := s.log.push e }

/-- pop the next scripted reply of a task; an exhausted script is a plugin error. -/
def popReply (task : Nat) : M (Option Reply) := do
  let s ← get
  match s.scripts.find? (·.1 == task) with
  | some (_, r :: rest) =>
    set { s with scripts := s.scripts.map fun (t, l) => if t == task then (t, rest) else (t, l) }
    pure (some r)
  | _ => pure none

def wrap (e : Err) : Err := e            -- `cerrors.Errorf("…: %w", e)` keeps everything
def fatalE (e : Err) : Err := { e with fatal := true }
def coded (c : String) : Err := { code := some c }
def plainErr : Err := {}
def scriptExhausted : Err := { script := some 999 }

/-- `errors.Join(a, b)` as classification sees it (`As`/`Is` walk the joined errors in order). -/
def joinErr (a b : Err) : Err :=
  { fatal := a.fatal || b.fatal, code := a.code <|> b.code, script := a.script <|> b.script }

/-! ## tasks -/

def sameType (a b : PR) : Bool := a.kind == b.kind

/-- `ProcessorTask.markBatchRecords` -/
def procMark (b : Batch) (from_ : Nat) (records : List PR) : M Batch := do
  match records with
  | [] => pure b
  | .single _ :: _ =>
    let recs := records.filterMap fun | .single r => some r | _ => none
    liftR (b.setRecords from_ recs)
  | .filter :: _ => liftR (b.filterRange from_ (from_ + records.length))
  | .error _ :: _ =>
    -- a nil error is replaced by a fixed reason ("processor returned an error record without an error")
    let errs := records.filterMap fun | .error e => some (some (e.getD plainErr)) | _ => none
    liftR (b.nack from_ errs)
  | .multi _ :: _ =>
    let mut b := b
    for i in (List.range records.length).reverse do
      match records[i]? with
      | some (.multi m) =>
        match m.length with
        | 0 => b ← liftR (b.filter1 (from_ + i))
        | 1 => b ← liftR (b.setRecords (from_ + i) m)
        | _ =>
          let s ← get
          let (h, b') ← liftR (b.splitRecord s.heap (from_ + i) m)
          set { s with heap := h }
          b := b'
      | _ => pure ()
    pure b
  | .nil :: _ => liftR (b.retry from_ (from_ + records.length))

/-- `ProcessorTask.Do` -/
def procDo (task : Nat) (b : Batch) : M Batch := do
  let recsIn := b.active
  emit (.pcall task recsIn)
  let out ← match (← popReply task) with
    | some (.proc out) => pure out
    | _ => pure []
  if out.length = 0 then throw (.err plainErr)
  if out.length > recsIn.length then throw (.err plainErr)
  -- a record about to be split needs a source position or an existing run (`Batch.splittable`)
  for i in List.range out.length do
    match out[i]? with
    | some (.multi m) =>
      if m.length > 1 then
        let p ← liftR (b.phys i)
        let ps ← liftR (idx b.pos p "positions[i]")
        let run : Option Nat := match b.runs with
          | none => none
          | some rs => (rs[p]?).join
        if ps == none ∧ run == none then throw (.err (coded "pipeline.empty_source_position"))
    | _ => pure ()
  let out := if recsIn.length > out.length then out ++ List.replicate (recsIn.length - out.length) PR.nil else out
  let mut b := b
  let mut to := out.length
  for i in (List.range out.length).reverse do
    let boundary := i == 0 || !(sameType (out[i-1]?.getD .nil) (out[i]?.getD .nil))
    if boundary then
      b ← procMark b i ((out.take to).drop i)
      to := i
  pure b

/-- `DestinationTask.validateAcks` -/
def validateAcks (acks : List (PosV × Option Err)) (positions : List PosV) : Bool :=
  acks.length ≤ positions.length ∧
    (acks.zip positions).all fun ((ap, _), p) => keyOf ap == keyOf p

/-- `DestinationTask.markBatchRecords` -/
def destMark (b : Batch) (from_ : Nat) (acks : List (PosV × Option Err)) : R Batch := do
  let mut b := b
  for i in (List.range acks.length).reverse do
    match acks[i]? with
    | some (_, some e) => b ← b.nack (from_ + i) [some e]
    | _ => pure ()
  pure b

/-- the ack loop of `DestinationTask.Do` -/
def destAckLoop (positions : List PosV) : Nat → Batch → Nat → List AckResp → R (Batch × Nat)
  | 0, b, ackCount, _ => pure (b, ackCount)
  | fuel+1, b, ackCount, resps =>
    match resps with
    | [] => throw (.err scriptExhausted)
    | .err e :: _ => throw (.err (wrap e))
    | .acks acks :: rest =>
      if !validateAcks acks (positions.drop ackCount) then throw (.err plainErr) else do
        let b ← destMark b ackCount acks
        let ackCount := ackCount + acks.length
        if ackCount ≥ positions.length then pure (b, ackCount) else destAckLoop positions fuel b ackCount rest

/-- `DestinationTask.Do` for a regular destination (`dlq = none`) or the DLQ destination. -/
def destDo (task : Nat) (b : Batch) (dlqInfo : Option (List (Rec × Option Err × Nat))) : M Batch := do
  let records := b.active
  let positions := records.map (·.pos)
  match dlqInfo with
  | none => emit (.write task records)
  | some info => emit (.dlqw task info)
  let (werr, resps) ← match (← popReply task) with
    | some (.dest w a) => pure (w, a)
    | _ => pure (some scriptExhausted, [])
  if let some e := werr then throw (.err (wrap e))
  let (b, ackCount) ← liftR (destAckLoop positions positions.length b 0 resps)
  -- the destination must account for every written record before Do returns
  if ackCount < positions.length then throw (.err plainErr)
  pure b

/-! ## DLQ and the worker as the root acker -/

def validateAckPositions (ps : List PosV) : Bool := ps.all fun p => !posEmpty p

/-- `DLQ.sendToDLQ` -/
def sendToDLQ (b : Batch) (taskID : Nat) : M (Nat × Option Err) := do
  let s ← get
  let info := (b.recs.zip b.st).map fun (r, st) => (r, st.err, taskID)
  -- `status.Error.Error()` on a nil error is a nil-pointer panic
  if (b.st.take b.recs.length).any (·.err.isNone) then throw (.panic "nil pointer dereference: status.Error.Error()")
  let dlqRecs := b.recs.map fun r => ({ tag := r.tag, pos := r.pos } : Rec)
  let dlqBatch := Batch.new dlqRecs
  let res ← (tryCatch (do let b' ← destDo s.dlqTask dlqBatch (some info); pure (Except.ok b'))
                (fun e => match e with
                  | .err er => pure (Except.error er)
                  | .panic m => throw (.panic m)))
  match res with
  | .error e => pure (0, some (wrap e))
  | .ok db =>
    let ackCount := (db.st.takeWhile (·.flag = .ack)).length
    if ackCount < dlqRecs.length then
      let e := ((db.st[ackCount]?).bind (·.err)).getD plainErr
      pure (ackCount, some (wrap e))
    else pure (ackCount, none)

/-- `DLQ.Nack` -/
def dlqNack (batch : Batch) (taskID : Nat) : M (Nat × Option Err) := do
  if batch.recs.length = 0 then return (0, none)
  let s ← get
  let (w, nacked) := s.win.nackN batch.recs.length
  set { s with win := w }
  if nacked > 0 then
    let b ← if nacked < batch.recs.length then liftR (batch.sub 0 nacked) else pure batch
    let (succ, err) ← sendToDLQ b taskID
    if let some e := err then return (succ, some (fatalE e))
  if nacked < batch.recs.length then
    let stE ← liftR (idx batch.st nacked "recordStatuses[nacked]")
    if s.thr > 0 then
      return (nacked, some (fatalE (wrap (stE.err.getD plainErr))))
    return (nacked, stE.err)
  return (nacked, none)

/-- `DLQ.Ack` -/
def dlqAck (batch : Batch) : M Unit := do
  if batch.recs.length = 0 then return
  modify fun s => { s with win := s.win.ackN batch.recs.length }

/-- `Worker.Ack` -/
def workerAck (batch : Batch) : M Unit := do
  let ob := batch.original
  if !validateAckPositions ob.pos then throw (.err (coded "pipeline.empty_source_position"))
  emit (.sack ob.pos)
  dlqAck batch

/-- `Worker.Nack` -/
def workerNack (batch : Batch) (taskID : Nat) : M Unit := do
  let ob := batch.original
  let (n, err) ← dlqNack ob taskID
  if n > 0 then
    if n > ob.pos.length then throw (.panic "slice bounds out of range: positions[:n]")
    if !validateAckPositions (ob.pos.take n) then
      match err with
      -- `cerrors.Join(posErr, cerrors.Errorf("while handling: %w", err))`, marked fatal
      | some e => throw (.err (fatalE (joinErr (coded "pipeline.empty_source_position") (wrap e))))
      | none => throw (.err (fatalE (coded "pipeline.empty_source_position")))
    emit (.sack (ob.pos.take n))
    if n > batch.recs.length then throw (.panic "slice bounds out of range: records[:n]")
  if let some e := err then throw (.err (wrap e))

/-! ## ackers (mutually recursive with fuel) -/

def firstRunError (sts : List Status) : Option Err := (sts.find? (·.err.isSome)).bind (·.err)

def maAckBatch (m : MA) (from_ to : Nat) : Batch :=
  { recs := (m.record.take to).drop from_, st := List.replicate (to - from_) {},
    pos := (m.positions.take to).drop from_ }

def maNackBatch (m : MA) (i : Nat) : Batch :=
  { recs := [m.record[i]?.getD default], st := [{ flag := .nack, err := (m.nackErr[i]?).join }],
    pos := [(m.positions[i]?).join], tainted := true }

def runAckBatch (r : SplitRun) : Batch :=
  { recs := [r.origRec], st := [{ flag := .ack }], pos := [r.origPos] }

def runNackBatch (r : SplitRun) : Batch :=
  { recs := [r.origRec], st := [{ flag := .nack, err := r.nackErr }], pos := [r.origPos], tainted := true }

def maIndexOf (m : MA) (p : PosV) : Option Nat :=
  (List.range m.positions.length).find? fun i => (m.positions[i]?.map keyOf) == some (keyOf p)

mutual
/-- `ackNacker.Ack` / `.Nack` dispatch -/
def ackerCall : Nat → Acker → Batch → Bool → Nat → M Unit
  | 0, _, _, _, _ => throw (.panic "out of fuel")
  | fuel+1, .worker, b, isAck, task => if isAck then workerAck b else workerNack b task
  | fuel+1, .run parent, b, isAck, task => voteLoop fuel parent b isAck task 0
  | fuel+1, .multi id parent, b, isAck, task => do
    let ob := b.original
    let s ← get
    let mut m := s.mas[id]!
    for i in List.range ob.pos.length do
      let p := (ob.pos[i]?).join
      match maIndexOf m p with
      | none =>
        -- "(bug) position is not part of the original fan-out batch": the votes recorded so far stay
        -- (Go mutates the tally in place), nothing is released by this call
        modify fun s => { s with mas := s.mas.set! id m }
        throw (.err plainErr)
      | some ix =>
        if m.terminal[ix]?.getD false then continue
        let r ← liftR (idx ob.recs i "ob.records[i]")
        if isAck then
          let v := m.ackVotes[ix]?.getD 0 + 1
          m := { m with record := m.record.set ix r, ackVotes := m.ackVotes.set ix v }
          if v == m.branches then
            m := { m with terminal := m.terminal.set ix true, acked := m.acked.set ix true }
        else
          let stE ← liftR (idx ob.st i "ob.recordStatuses[i]")
          m := { m with terminal := m.terminal.set ix true, acked := m.acked.set ix false,
                        record := m.record.set ix r, nackErr := m.nackErr.set ix stE.err,
                        nackTask := m.nackTask.set ix task }
    modify fun s => { s with mas := s.mas.set! id m }
    releaseLoop fuel id parent

/-- `multiAckNacker.releaseLocked` -/
def releaseLoop : Nat → Nat → Acker → M Unit
  | 0, _, _ => throw (.panic "out of fuel")
  | fuel+1, id, parent => do
    let m := (← get).mas[id]!
    if m.released < m.positions.length then
      if !(m.terminal[m.released]?.getD false) then return
      if m.acked[m.released]?.getD false then
        let from_ := m.released
        let run := ((List.range m.positions.length).drop from_).takeWhile fun t =>
          (m.terminal[t]?.getD false) && (m.acked[t]?.getD false)
        let to := from_ + run.length
        ackerCall fuel parent (maAckBatch m from_ to) true 0
        modify fun s => { s with mas := s.mas.set! id { (s.mas[id]!) with released := to } }
        releaseLoop fuel id parent
      else
        let ix := m.released
        ackerCall fuel parent (maNackBatch m ix) false (m.nackTask[ix]?.getD 0)
        modify fun s => { s with mas := s.mas.set! id { (s.mas[id]!) with released := ix + 1 } }
        releaseLoop fuel id parent

/-- `runAckNacker.vote` from index `i` -/
def voteLoop : Nat → Acker → Batch → Bool → Nat → Nat → M Unit
  | 0, _, _, _, _, _ => throw (.panic "out of fuel")
  | fuel+1, parent, batch, isAck, task, i => do
    if i < batch.recs.length then
      let runAt (k : Nat) : R (Option Nat) := match batch.runs with
        | none => pure none
        | some rs => idx rs k "runs[k]"
      let run ← liftR (runAt i)
      -- extent of the group sharing `run`
      let mut j := i + 1
      for k in List.range' (i+1) (batch.recs.length - (i+1)) do
        if j == k then
          let nxt ← liftR (runAt k)
          if nxt == run then j := k + 1
      match run with
      | none =>
        let sb ← liftR (batch.sub i j)
        ackerCall fuel parent sb isAck task
        voteLoop fuel parent batch isAck task j
      | some rid =>
        let r := (← get).heap[rid]!
        if r.released then throw (.err plainErr)
        let mut r := { r with terminal := r.terminal + (j - i) }
        if !isAck ∧ !r.nacked then
          r := { r with nacked := true, nackErr := firstRunError ((batch.st.take j).drop i), nackTask := task }
        if r.terminal > r.total then
          modify fun s => { s with heap := s.heap.set! rid r }
          throw (.err plainErr)
        if r.terminal == r.total then
          r := { r with released := true }
          modify fun s => { s with heap := s.heap.set! rid r }
          if r.nacked then ackerCall fuel parent (runNackBatch r) false r.nackTask
          else ackerCall fuel parent (runAckBatch r) true 0
        else
          modify fun s => { s with heap := s.heap.set! rid r }
        voteLoop fuel parent batch isAck task j
end

/-! ## the worker -/

def maxRetryAttempts : Nat := 10000
def maxRetryStall : Nat := 3

structure RetryAttempt where
  count : Nat
  size : Nat
  stall : Nat := 0
deriving Repr

/-- `subBatchByFlag`: end index of the group starting at `first`. -/
def groupEnd (st : List Status) (first : Nat) : Nat :=
  match st[first]? with
  | none => first
  | some s0 =>
    let same (f : Flag) : Bool := match s0.flag with
      | .filter | .ack => f == .ack || f == .filter
      | x => f == x
    first + ((st.drop first).takeWhile fun s => same s.flag).length

/-- `validateRunsWholeBeforeFanOut` -/
def runsWhole (h : Heap) (b : Batch) : Bool :=
  match b.runs with
  | none => true
  | some rs =>
    let ids := rs.filterMap id
    ids.all fun r => (ids.filter (· == r)).length ≥ (h[r]?.map (·.total)).getD 0

/-- `newMultiAckNacker` validation: empty / duplicate positions -/
def maNew (branches : Nat) (positions : List PosV) : Except Err MA :=
  let rec chk (seen : List Nat) : List PosV → Option Err
    | [] => none
    | p :: ps => if posEmpty p then some (coded "pipeline.empty_source_position")
                 else if seen.contains (keyOf p) then some (coded "pipeline.duplicate_source_position")
                 else chk (keyOf p :: seen) ps
  match chk [] positions with
  | some e => .error e
  | none =>
    let n := positions.length
    .ok { branches := branches, positions := positions, ackVotes := List.replicate n 0,
          terminal := List.replicate n false, acked := List.replicate n false,
          record := List.replicate n default, nackErr := List.replicate n none,
          nackTask := List.replicate n 0 }

def taskDo (node : TaskNode) (b : Batch) : M Batch :=
  match node.kind with
  | .proc => procDo node.id b
  | .dest => destDo node.id b none
  | .source => pure b

mutual
/-- `doTaskAttempt` after the source read (the first task's batch is given). -/
def doTaskAttempt : Nat → TaskNode → Batch → Acker → Option RetryAttempt → Bool → M Unit
  | 0, _, _, _, _, _ => throw (.panic "out of fuel")
  | fuel+1, node, b, acker, retry, skipDo => do
    let b ← if skipDo then pure b else
      tryCatch (taskDo node b) (fun e => match e with
        | .err er => throw (.err (wrap er))
        | p => throw p)
    if !b.tainted then
      if node.next.isEmpty || !b.hasActive then ackerCall fuel acker b true 0
      else doNextTask fuel node b acker
    else taintedLoop fuel node b acker retry 0

def taintedLoop : Nat → TaskNode → Batch → Acker → Option RetryAttempt → Nat → M Unit
  | 0, _, _, _, _, _ => throw (.panic "out of fuel")
  | fuel+1, node, b, acker, retry, i => do
    if i ≥ b.st.length then return
    let last := groupEnd b.st i
    let sb ← liftR (b.sub i last)
    let span := sb.pos.length
    let s0 ← liftR (idx sb.st 0 "subBatch.recordStatuses[0]")
    match s0.flag with
    | .ack | .filter =>
      if node.next.isEmpty || !sb.hasActive then ackerCall fuel acker sb true 0
      else doNextTask fuel node sb acker
    | .nack => ackerCall fuel acker sb false node.id
    | .retry =>
      let sb ← liftR (sb.setFlagRange .ack 0 sb.recs.length)
      let size := sb.recs.length
      let mut next : RetryAttempt := { count := 1, size := size }
      if let some r := retry then
        let stall := if size ≥ r.size then r.stall + 1 else 0
        if stall ≥ maxRetryStall then throw (.err (fatalE (coded "pipeline.retry_not_converging")))
        next := { count := r.count + 1, size := size, stall := stall }
      if next.count > maxRetryAttempts then throw (.err (fatalE (coded "pipeline.retry_not_converging")))
      doTaskAttempt fuel node { sb with tainted := false } acker (some next) false
    taintedLoop fuel node b acker retry (i + span)

/-- `doNextTask` -/
def doNextTask : Nat → TaskNode → Batch → Acker → M Unit
  | 0, _, _, _ => throw (.panic "out of fuel")
  | fuel+1, node, b, acker =>
    match node.next with
    | [] => pure ()
    | [n] => doTaskAttempt fuel n b acker none false
    | nexts => do
      let s ← get
      if !runsWhole s.heap b then throw (.err (coded "pipeline.split_run_straddles_fanout"))
      let orig := b.original
      match maNew nexts.length orig.pos with
      | .error e => throw (.err e)
      | .ok ma =>
        let id := s.mas.size
        let (order, rest) := match s.orders with
          | o :: r => (o, r)
          | [] => (List.range nexts.length, [])
        let order := if order.length == nexts.length ∧ (List.range nexts.length).all (order.contains ·)
                     then order else List.range nexts.length
        set { s with mas := s.mas.push ma, orders := rest }
        branches fuel nexts order b (.multi id acker) none none

/-- the fan-out branches, run one after the other in `order`; all run even if one fails
(`pool.WithErrors` neither cancels nor stops on a panic); errors are joined in completion
order, a panic is re-raised by `Wait` after every branch finished. -/
def branches : Nat → List TaskNode → List Nat → Batch → Acker → Option Err → Option String → M Unit
  | 0, _, _, _, _, _, _ => throw (.panic "out of fuel")
  | _+1, _, [], _, _, errs, pan => match pan, errs with
    | some m, _ => throw (.panic m)
    | none, some e => throw (.err e)
    | none, none => pure ()
  | fuel+1, nexts, k :: rest, b, macker, errs, pan => do
    match nexts[k]? with
    | none => branches fuel nexts rest b macker errs pan
    | some n =>
      let s ← get
      let (h, bb) := b.clone s.heap
      set { s with heap := h }
      let res ← tryCatch (do doTaskAttempt fuel n bb (.run macker) none false; pure (none : Option Stop))
        (fun e => pure (some e))
      match res with
      | none => branches fuel nexts rest b macker errs pan
      | some (.panic m) => branches fuel nexts rest b macker errs (pan <|> some m)
      | some (.err e) =>
        let errs' := match errs with | some a => some (joinErr a e) | none => some e
        branches fuel nexts rest b macker errs' pan
end

/-- one pass of `Worker.doTask(FirstTask, …, newRunAckNacker(w))` for a batch just read. -/
def runPass (fuel : Nat) (tree : TaskNode) (recs : List Rec) : M Unit :=
  doTaskAttempt fuel tree (Batch.new recs) (.run .worker) none true

end Conduit.Funnel
