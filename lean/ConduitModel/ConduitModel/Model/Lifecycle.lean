/-
M5 — lifecycle control plane of ONE pipeline, both engines, as an event system.

Mirrors (function by function, at the atomicity of DESIGN §6: one step = one critical
section / one map or status operation / one plugin call):

  * v1: /repo/pkg/lifecycle/service.go      Start, runPipeline (publish → UpdateStatus(Running) →
        cleanup registration; rollback by compare-and-delete), the cleanup goroutine
        (nodesWg.Wait → switch on tomb.Err → UpdateStatus → terminalErrors.Set →
        deleteRunningPipelineIfCurrent → notify), recoverPipeline, StartWithBackoff, Stop,
        stopGraceful, stopForceful, StopAll, WaitPipeline, StopAndWait.
  * v2: /repo/pkg/lifecycle-poc/service.go  same names; differences modelled:
        sink/worker Open is synchronous inside runPipeline (before publication), the cleanup
        goroutine is registered BEFORE publication and waits for `startupDone`, the arms
        `isGracefulShutdown` / `intentionalStop` of the cleanup switch, the graceful-shutdown
        check after the back-off, `stopRunnablePipeline` (intentionalStop set, and RESET to false
        when no worker was armed by this call), blind `runningPipelines.Delete`.

A *run* is one `runnablePipeline` value (one tomb).  `runs : Nat → Run` is total; ids `≥ next`
are unused.  The recovery attempt counter (`recoveryAttempts`, shared by pointer across the
restarts of one pipeline) is `cnt chain`; `Start` copies the pointer from the map entry.

Core-only (linked into the driver).
-/
namespace Conduit.Lifecycle

inductive Engine | v1 | v2
deriving DecidableEq, Repr, Inhabited

/-- `pipeline.Status` (a freshly created pipeline is `UserStopped`). -/
inductive Status | userStopped | systemStopped | running | degraded | recovering
deriving DecidableEq, Repr, Inhabited

/-- What a tomb can die of / a cleanup can report.  `isFatal` is `cerrors.IsFatalError`. -/
inductive Cause
  | nodeFatal       -- a node/worker returned an error wrapped in cerrors.FatalError
  | nodeTransient   -- a node/worker returned any other error
  | forceStop       -- cerrors.FatalError(pipeline.ErrForceStop) (Stop force=true)
  | cannotRecover   -- cerrors.FatalError(ErrPipelineCannotRecover) (MaxRetries exceeded)
  | startFailed     -- the nested Start of a recovery returned an error
  | storeErr        -- pipelines.UpdateStatus returned an error
deriving DecidableEq, Repr, Inhabited

def Cause.isFatal : Cause → Bool
  | .nodeFatal | .forceStop | .cannotRecover => true
  | _ => false

inductive Starter | user | recov (parent : Nat)
deriving DecidableEq, Repr, Inhabited

/-- program counter of the `Start` call that creates the run. -/
inductive Phase
  | building     -- status check passed; buildRunnablePipeline in progress
  | built        -- v1: node goroutines launched; v2: sink+workers opened, all goroutines registered
  | published    -- runningPipelines.Set done, UpdateStatus(Running) not yet
  | started      -- UpdateStatus(Running) returned nil
  | failed       -- build (or v2 open) failed: nothing is running
  | failedLive   -- UpdateStatus(Running) failed: Start returned an error, goroutines keep running
deriving DecidableEq, Repr, Inhabited

/-- the status write the cleanup goroutine has decided on. -/
inductive Action | stopUser | stopSystem | degrade (c : Cause) | recover
deriving DecidableEq, Repr, Inhabited

def Action.status : Action → Status
  | .stopUser => .userStopped
  | .stopSystem => .systemStopped
  | .degrade _ => .degraded
  | .recover => .recovering

/-- the `err` local of the cleanup goroutine after the switch (nil for the stopped arms). -/
def Action.err : Action → Option Cause
  | .degrade c => some c
  | _ => none

/-- program counter of the run's cleanup goroutine. -/
inductive CPc
  | unreg                       -- v1: not registered yet (registered after UpdateStatus(Running))
  | waiting                     -- nodesWg.Wait (v2: then sink.Close, <-startupDone)
  | decided (a : Action)        -- switch taken, the UpdateStatus of that arm is next
  | backoff (wakeAt : Nat) (tid : Nat) -- StartWithBackoff: sleeping until `wakeAt`
  | nested (child : Nat)        -- StartWithBackoff: inside s.Start (run `child`)
  | tail1 (e : Option Cause)    -- status written; terminalErrors.Set next
  | tail2 (e : Option Cause)    -- terminalErrors set; map delete + notify next
  | done                        -- returned after the tail
  | doneNoTail                  -- returned without the tail (recovery returned nil / UpdateStatus failed)
deriving DecidableEq, Repr, Inhabited

structure Run where
  starter      : Starter := .user
  phase        : Phase := .building
  nodesAlive   : Bool := false        -- node / worker goroutines not all returned
  holds        : Bool := false        -- connector `Instance.connector` guards held (plugins open)
  tomb         : Option Cause := none -- first Kill reason (none = ErrStillAlive)
  tombPending  : Option Cause := none -- v1: error returned by a node goroutine that tomb.v2 has not
                                      --   recorded yet (t.run bookkeeping runs after nodesWg.Done())
  forced       : Bool := false        -- v2 (fix): rp.forceStopped
  cerr         : Option Cause := none -- ghost: the `err` the cleanup switch classified
  recAt        : Nat := 0             -- ghost: time StatusRecovering was written
  intentional  : Bool := false        -- v2 rp.intentionalStop
  stopReq      : Bool := false        -- graceful stop armed (v1 n.stop.successful / v2 w.stop)
  sysReason    : Bool := false        -- v1: the stop reason is ErrGracefulShutdown
  gracefulNode : Bool := false        -- v1: runPipeline's local isGracefulShutdown
  chain        : Nat := 0             -- which recoveryAttempts counter this run points to
  cpc          : CPc := .unreg
deriving DecidableEq, Repr, Inhabited

structure Cfg where
  maxRetries : Option Nat   -- none = InfiniteRetriesErrRecovery
  minDelay   : Nat
  maxDelay   : Nat
  window     : Nat          -- MaxRetriesWindow
deriving DecidableEq, Repr, Inhabited

/-- Source facts that differ between the unchanged tree and the proposed fixes; regenerated from
the Go source on every run (the four booleans of `Generated.Lifecycle`, factgen/lifecycle.go). -/
structure Fixes where
  v1KillBeforeDone : Bool := false  -- v1 node goroutine calls rp.t.Kill(err) before nodesWg.Done()
  v2RecheckStop    : Bool := false  -- v2 StartWithBackoff consults forceStopped/intentionalStop after the back-off
  v2KeepIntent     : Bool := false  -- v2 stopRunnablePipeline keeps intentionalStop when every worker was already stopping
  v2CompareDelete  : Bool := false  -- v2 cleanup removes the map entry by compare-and-delete
deriving DecidableEq, Repr, Inhabited

def Fixes.allOn : Fixes := { v1KillBeforeDone := true, v2RecheckStop := true, v2KeepIntent := true, v2CompareDelete := true }

/-- a pending `time.AfterFunc(duration+MaxRetriesWindow, recoveryAttempts.Add(-1))`.
`restarted` is a ghost: the recovery that armed it did restart the pipeline. -/
structure Timer where
  id        : Nat
  chain     : Nat
  fireAt    : Nat
  restarted : Bool := false
deriving DecidableEq, Repr, Inhabited

inductive WaitTarget
  | run (m : Nat)               -- p.t.Wait() of the run found in the map
  | value (v : Option Cause)    -- terminalErrors fallback / nil
deriving DecidableEq, Repr, Inhabited

structure State where
  eng         : Engine
  cfg         : Cfg
  fx          : Fixes := {}
  status      : Status := .userStopped
  entry       : Option Nat := none              -- runningPipelines[id]
  terminalErr : Option (Option Cause) := none   -- terminalErrors[id]
  shutdown    : Bool := false                   -- v2 Service.isGracefulShutdown
  runs        : Nat → Run := fun _ => {}
  next        : Nat := 0
  cnt         : Nat → Nat := fun _ => 0         -- recoveryAttempts per chain
  timers      : List Timer := []
  nextTid     : Nat := 0
  now         : Nat := 0
  userBusy    : Option Nat := none              -- user Start call in flight
  waits       : Nat → Option WaitTarget := fun _ => none
  -- ghosts (never read by a guard)
  stopIntent  : Bool := false   -- a stop request was accepted since the last user Start
  restarts    : Nat := 0        -- recovery restarts performed (nested Start entered)
  badRestarts : Nat := 0        -- … of which while `stopIntent`
  lastWriter  : Option Nat := none -- run whose Start wrote StatusRunning last

def init (eng : Engine) (cfg : Cfg) (fx : Fixes := {}) : State := { eng := eng, cfg := cfg, fx := fx }

def State.setRun (s : State) (n : Nat) (r : Run) : State :=
  { s with runs := fun i => if i = n then r else s.runs i }

def anyHolds (s : State) : Bool := (List.range s.next).any fun i => (s.runs i).holds

/-- tomb dead: every goroutine of the run has returned. -/
def tombDead (r : Run) : Bool :=
  !r.nodesAlive && r.tombPending = none && (r.cpc = .done || r.cpc = .doneNoTail || (r.cpc = .unreg && r.phase = .failedLive))

inductive Event
  | startUser                               -- Start: Get + status check (rejects when Running)
  | buildOk (n : Nat)                       -- buildRunnablePipeline (+ v2 sink/worker Open) ok
  | buildFail (n : Nat) (late : Bool)       -- … failed (`late`: after terminalErrors.Delete; v2 open)
  | publish (n : Nat)                       -- runningPipelines.Set
  | writeRunning (n : Nat) (ok : Bool)      -- UpdateStatus(Running)
  | startReturn                             -- the user's Start call returns
  | openOk (n : Nat)                        -- v1: nodes opened their connectors
  | nodeExit (n : Nat) (c : Cause)          -- nodes/workers end with an error (tomb first-kill wins)
  | tombRecord (n : Nat)                    -- v1: tomb.v2 bookkeeping records the node's returned error
  | nodeExitClean (n : Nat)                 -- nodes/workers end without error (drain after stop)
  | sourceEof (n : Nat)                     -- v2: the source is exhausted (io.EOF), Do returns nil
  | stop (force : Bool)                     -- Service.Stop
  | stopAll (force : Bool)                  -- Service.StopAll
  | cleanupWake (n : Nat) (sink : Option Cause) -- nodesWg.Wait returns; classification
  | writeStatus (n : Nat) (ok : Bool)       -- UpdateStatus of a terminal arm
  | recoverBegin (n : Nat) (d : Nat) (ok : Bool) -- UpdateStatus(Recovering); attempt++; back-off d
  | backoffElapsed (n : Nat)                -- wake up; map guard; (v2 shutdown check); nested Start check
  | setTerminalErr (n : Nat)
  | deleteEntry (n : Nat)                   -- compare-and-delete (v1) / blind delete (v2) + notify
  | tick (d : Nat)
  | attemptDecay (i : Nat)                  -- the i-th pending AfterFunc fires
  | waitBegin (w : Nat)                     -- WaitPipeline: lookup
  | waitReturn (w : Nat) (r : Option Cause) -- WaitPipeline returns r
deriving DecidableEq, Repr, Inhabited

/-- how a finished nested/user Start is reported to whoever called it. -/
def notifyStarter (s : State) (n : Nat) (ok : Bool) : State :=
  match (s.runs n).starter with
  | .user => s
  | .recov p =>
    s.setRun p { s.runs p with cpc := if ok then .doneNoTail else .decided (.degrade .startFailed) }

def stepStartUser (s : State) : Option State :=
  if s.userBusy ≠ none then none
  else if s.status = .running then some s
  else
    let n := s.next
    some { (s.setRun n { starter := .user, phase := .building, chain := n }) with
           next := n + 1, userBusy := some n, stopIntent := false }

def stepBuildOk (s : State) (n : Nat) : Option State :=
  if (s.runs n).phase ≠ .building ∨ n ≥ s.next ∨ anyHolds s then none
  else
    let ch := match s.entry with
      | some m => (s.runs m).chain
      | none => (s.runs n).chain
    let r := s.runs n
    let r' : Run := match s.eng with
      | .v1 => { r with phase := .built, nodesAlive := true, chain := ch }
      | .v2 => { r with phase := .built, nodesAlive := true, holds := true, chain := ch, cpc := .waiting }
    some { (s.setRun n r') with terminalErr := none }

def stepBuildFail (s : State) (n : Nat) (late : Bool) : Option State :=
  if (s.runs n).phase ≠ .building ∨ n ≥ s.next ∨ (late ∧ s.eng = .v1) then none
  else
    let s1 := s.setRun n { s.runs n with phase := .failed }
    let s2 := notifyStarter s1 n false
    some (if late then { s2 with terminalErr := none } else s2)

def stepPublish (s : State) (n : Nat) : Option State :=
  if (s.runs n).phase ≠ .built then none
  else some { (s.setRun n { s.runs n with phase := .published }) with entry := some n }

def stepWriteRunning (s : State) (n : Nat) (ok : Bool) : Option State :=
  if (s.runs n).phase ≠ .published then none
  else
    let r := s.runs n
    let s0 := { s with status := .running, lastWriter := some n }
    if ok then
      let r' : Run := match s.eng with
        | .v1 => { r with phase := .started, cpc := .waiting }
        | .v2 => { r with phase := .started }
      some (notifyStarter (s0.setRun n r') n true)
    else
      let s1 := s0.setRun n { r with phase := .failedLive }
      let s2 := match s.eng with
        | .v1 => { s1 with entry := if s1.entry = some n then none else s1.entry }
        | .v2 => s1
      some (notifyStarter s2 n false)

def stepStartReturn (s : State) : Option State :=
  match s.userBusy with
  | none => none
  | some n =>
    let p := (s.runs n).phase
    if p = .started ∨ p = .failed ∨ p = .failedLive then some { s with userBusy := none } else none

def stepOpenOk (s : State) (n : Nat) : Option State :=
  let r := s.runs n
  if s.eng ≠ .v1 ∨ !r.nodesAlive ∨ r.holds ∨ anyHolds s then none
  else some (s.setRun n { r with holds := true })

def stepNodeExit (s : State) (n : Nat) (c : Cause) : Option State :=
  let r := s.runs n
  if !r.nodesAlive ∨ (c ≠ .nodeFatal ∧ c ≠ .nodeTransient) then none
  else if s.eng = .v1 ∧ !s.fx.v1KillBeforeDone then
    -- the error is only *returned*: nodesWg.Done() (deferred) fires before tomb.v2 records it
    some (s.setRun n { r with nodesAlive := false, holds := false,
                              tombPending := if r.tomb = none then r.tombPending <|> some c else r.tombPending })
  else some (s.setRun n { r with nodesAlive := false, holds := false, tomb := r.tomb <|> some c })

def stepTombRecord (s : State) (n : Nat) : Option State :=
  let r := s.runs n
  if r.tombPending = none then none
  else some (s.setRun n { r with tomb := r.tomb <|> r.tombPending, tombPending := none })

def stepNodeExitClean (s : State) (n : Nat) : Option State :=
  let r := s.runs n
  if !r.nodesAlive ∨ !r.stopReq then none
  else some (s.setRun n { r with nodesAlive := false, holds := false,
                                 gracefulNode := r.gracefulNode || (r.sysReason && s.eng = .v1) })

def stepSourceEof (s : State) (n : Nat) : Option State :=
  let r := s.runs n
  if s.eng ≠ .v2 ∨ !r.nodesAlive then none
  else some (s.setRun n { r with nodesAlive := false, holds := false })

/-- result classes of `Stop`. -/
inductive StopRes | ok | notRunning | err | blocks
deriving DecidableEq, Repr, Inhabited

/-- graceful stop of run `m` (stopGraceful / stopRunnablePipeline force=false): result class. -/
def gracefulRes (s : State) (m : Nat) : StopRes :=
  let r := s.runs m
  match s.eng with
  | .v1 =>
    if !r.nodesAlive then .err            -- "source node is not running"
    else if !r.holds then .blocks          -- state.Watch(Running|Stopped) blocks until Open returns
    else if r.stopReq then .err            -- "stop already triggered"
    else .ok
  | .v2 => .ok

/-- … and its effect. `sys`: the reason is ErrGracefulShutdown (v1 StopAll). -/
def gracefulState (s : State) (m : Nat) (sys : Bool) : State :=
  let r := s.runs m
  match s.eng with
  | .v1 =>
    if gracefulRes s m = .ok then s.setRun m { r with stopReq := true, sysReason := sys } else s
  | .v2 =>
    if r.stopReq then
      -- every worker was already stopping (preArmed): armedSources = [] ⇒ intentionalStop.Store(false)
      s.setRun m { r with intentional := if s.fx.v2KeepIntent then r.intentional else false }
    else
      s.setRun m { r with stopReq := true, intentional := true }

def gracefulOn (s : State) (m : Nat) (sys : Bool) : State × StopRes := (gracefulState s m sys, gracefulRes s m)

/-- stopForceful / the force arm of stopRunnablePipeline: Kill(FatalError(ErrForceStop)); always nil. -/
def forceState (s : State) (m : Nat) : State :=
  let r := s.runs m
  s.setRun m { r with tomb := r.tomb <|> some .forceStop, forced := true }

def forceOn (s : State) (m : Nat) : State × StopRes := (forceState s m, .ok)

/-- `Service.Stop`: result class. -/
def stopRes (s : State) (force : Bool) : StopRes :=
  match s.entry with
  | none => .notRunning
  | some m =>
    if s.status ≠ .running ∧ s.status ≠ .recovering then .notRunning
    else if force then .ok else gracefulRes s m

/-- `Service.Stop`: the state after the call. -/
def stopState (s : State) (force : Bool) : State :=
  match s.entry with
  | none => s
  | some m =>
    if s.status ≠ .running ∧ s.status ≠ .recovering then s
    else
      let s' := if force then forceState s m else gracefulState s m false
      { s' with stopIntent := s.stopIntent || stopRes s force = .ok }

def stopCall (s : State) (force : Bool) : State × StopRes := (stopState s force, stopRes s force)

def stepStop (s : State) (force : Bool) : Option State :=
  if s.userBusy ≠ none then none
  else match stopRes s force with
    | .blocks => none
    | _ => some (stopState s force)

/-- `Service.StopAll` restricted to this pipeline (v1 has no force flag: `force` must be false). -/
def stepStopAll (s : State) (force : Bool) : Option State :=
  if s.userBusy ≠ none ∨ (force ∧ s.eng = .v1) then none
  else
    let s0 := match s.eng with
      | .v1 => s
      | .v2 => { s with shutdown := true }
    match s0.entry with
    | none => some s0
    | some m =>
      if s0.status ≠ .running ∧ s0.status ≠ .recovering then some s0
      else if force then
        some { (forceState s0 m) with stopIntent := true }
      else match gracefulRes s0 m with
        | .blocks => none
        | res => some { (gracefulState s0 m true) with
                        stopIntent := s.stopIntent || res = .ok || s.eng = .v2 }

/-- the `switch` of the cleanup goroutine. `err` = tomb reason, or (v2) the sink close error
when the tomb is still alive. -/
def classify (s : State) (r : Run) (err : Option Cause) : Action :=
  match s.eng, err with
  | .v1, none => if r.gracefulNode then .stopSystem else .stopUser
  | .v1, some c => if c.isFatal then .degrade c else .recover
  | .v2, none => if s.shutdown then .stopSystem else .stopUser
  | .v2, some c =>
    if c.isFatal then .degrade c
    else if s.shutdown then .stopSystem
    else if r.intentional then .stopUser
    else .recover

def stepCleanupWake (s : State) (n : Nat) (sink : Option Cause) : Option State :=
  let r := s.runs n
  if r.cpc ≠ .waiting ∨ r.nodesAlive then none
  else if s.eng = .v2 ∧ r.phase ≠ .started ∧ r.phase ≠ .failedLive then none   -- <-startupDone
  else if sink ≠ none ∧ (s.eng = .v1 ∨ (sink ≠ some .nodeFatal ∧ sink ≠ some .nodeTransient)) then none
  else
    let err := r.tomb <|> sink
    some (s.setRun n { r with cpc := .decided (classify s r err), cerr := err })

def stepWriteStatus (s : State) (n : Nat) (ok : Bool) : Option State :=
  let r := s.runs n
  match r.cpc with
  | .decided a =>
    if a = .recover then none
    else
      let s0 := { s with status := a.status }
      if ok then some (s0.setRun n { r with cpc := .tail1 a.err })
      else some (s0.setRun n { r with cpc := .doneNoTail, tomb := r.tomb <|> some .storeErr })
  | _ => none

def exceeded (cfg : Cfg) (attempt : Nat) : Bool :=
  match cfg.maxRetries with
  | none => false
  | some m => decide (m < attempt)

def stepRecoverBegin (s : State) (n : Nat) (d : Nat) (ok : Bool) : Option State :=
  let r := s.runs n
  if r.cpc ≠ .decided .recover ∨ d < s.cfg.minDelay ∨ s.cfg.maxDelay < d then none
  else
    let s0 := { s with status := .recovering }
    if !ok then some (s0.setRun n { r with cpc := .decided (.degrade .storeErr) })
    else
      let attempt := s.cnt r.chain + 1
      let s1 := { s0 with cnt := fun c => if c = r.chain then attempt else s.cnt c }
      if exceeded s.cfg attempt then
        some (s1.setRun n { r with cpc := .decided (.degrade .cannotRecover) })
      else
        let t : Timer := { id := s.nextTid, chain := r.chain, fireAt := s.now + d + s.cfg.window }
        some { (s1.setRun n { r with cpc := .backoff (s.now + d) s.nextTid, recAt := s.now }) with
               timers := s.timers ++ [t], nextTid := s.nextTid + 1 }

def markRestarted (ts : List Timer) (tid : Nat) : List Timer :=
  ts.map fun t => if t.id = tid then { t with restarted := true } else t

def stepBackoffElapsed (s : State) (n : Nat) : Option State :=
  let r := s.runs n
  match r.cpc with
  | .backoff wakeAt tid =>
    if s.now < wakeAt then none
    else if s.entry ≠ some n then some (s.setRun n { r with cpc := .doneNoTail })
    else if s.eng = .v2 ∧ s.fx.v2RecheckStop ∧ r.forced then
      some (s.setRun n { r with cpc := .decided (.degrade .forceStop) })
    else if s.eng = .v2 ∧ s.shutdown then some (s.setRun n { r with cpc := .decided .stopSystem })
    else if s.eng = .v2 ∧ s.fx.v2RecheckStop ∧ r.intentional then
      some (s.setRun n { r with cpc := .decided .stopUser })
    else if s.status = .running then some (s.setRun n { r with cpc := .decided (.degrade .startFailed) })
    else
      let c := s.next
      let s1 := (s.setRun n { r with cpc := .nested c }).setRun c
                  { starter := .recov n, phase := .building, chain := c }
      some { s1 with next := c + 1, restarts := s.restarts + 1,
                     badRestarts := s.badRestarts + (if s.stopIntent then 1 else 0),
                     timers := markRestarted s.timers tid }
  | _ => none

def stepSetTerminalErr (s : State) (n : Nat) : Option State :=
  let r := s.runs n
  match r.cpc with
  | .tail1 e => some { (s.setRun n { r with cpc := .tail2 e }) with terminalErr := some e }
  | _ => none

def stepDeleteEntry (s : State) (n : Nat) : Option State :=
  let r := s.runs n
  match r.cpc with
  | .tail2 e =>
    let entry' := match s.eng with
      | .v1 => if s.entry = some n then none else s.entry
      | .v2 => if s.fx.v2CompareDelete then (if s.entry = some n then none else s.entry) else none
    some { (s.setRun n { r with cpc := .done, tomb := r.tomb <|> e }) with entry := entry' }
  | _ => none

def stepAttemptDecay (s : State) (i : Nat) : Option State :=
  match s.timers[i]? with
  | none => none
  | some t =>
    if s.now < t.fireAt then none
    else some { s with timers := s.timers.eraseIdx i,
                       cnt := fun c => if c = t.chain then s.cnt c - 1 else s.cnt c }

def stepWaitBegin (s : State) (w : Nat) : Option State :=
  if s.waits w ≠ none then none
  else
    let tgt := match s.entry with
      | some m => WaitTarget.run m
      | none => WaitTarget.value (s.terminalErr.getD none)
    some { s with waits := fun i => if i = w then some tgt else s.waits i }

def stepWaitReturn (s : State) (w : Nat) (res : Option Cause) : Option State :=
  match s.waits w with
  | none => none
  | some (.run m) =>
    if tombDead (s.runs m) ∧ res = (s.runs m).tomb
    then some { s with waits := fun i => if i = w then none else s.waits i } else none
  | some (.value v) =>
    if res = v then some { s with waits := fun i => if i = w then none else s.waits i } else none

def step (s : State) : Event → Option State
  | .startUser => stepStartUser s
  | .buildOk n => stepBuildOk s n
  | .buildFail n late => stepBuildFail s n late
  | .publish n => stepPublish s n
  | .writeRunning n ok => stepWriteRunning s n ok
  | .startReturn => stepStartReturn s
  | .openOk n => stepOpenOk s n
  | .nodeExit n c => stepNodeExit s n c
  | .tombRecord n => stepTombRecord s n
  | .nodeExitClean n => stepNodeExitClean s n
  | .sourceEof n => stepSourceEof s n
  | .stop f => stepStop s f
  | .stopAll f => stepStopAll s f
  | .cleanupWake n sink => stepCleanupWake s n sink
  | .writeStatus n ok => stepWriteStatus s n ok
  | .recoverBegin n d ok => stepRecoverBegin s n d ok
  | .backoffElapsed n => stepBackoffElapsed s n
  | .setTerminalErr n => stepSetTerminalErr s n
  | .deleteEntry n => stepDeleteEntry s n
  | .tick d => if d = 0 then none else some { s with now := s.now + d }
  | .attemptDecay i => stepAttemptDecay s i
  | .waitBegin w => stepWaitBegin s w
  | .waitReturn w r => stepWaitReturn s w r

/-- run an event list; `none` as soon as an event is not enabled. -/
def runFrom (s : State) : List Event → Option State
  | [] => some s
  | e :: es => (step s e).bind fun s' => runFrom s' es

def Reach (eng : Engine) (cfg : Cfg) (fx : Fixes) (s : State) : Prop := ∃ evs, runFrom (init eng cfg fx) evs = some s

end Conduit.Lifecycle
