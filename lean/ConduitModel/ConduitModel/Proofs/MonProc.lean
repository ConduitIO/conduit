import ConduitModel.Proofs.MonTaskDefs
import ConduitModel.Proofs.MonSProcEffect

/-!
# The `.pcall` event of the monitor: replies and padded outputs

Membership in the roots a reply filters / errors (`mem_filteredBy`, `mem_erroredBy`), what
`RootPreserving` says of one input / output pair (`pcallOK_get`), split-free scripts give split-free
replies (`noMulti_replyOfCall`), the padded output (`padOut_*`), and `PStep`: what the call does to the
monitor state (the task recursion goes through its task-attributed form `PStepT`, Proofs/MonFProc.lean).
-/
namespace Conduit.Funnel
open Conduit.Funnel.Mon

theorem noMulti_replyOfCall {scr : List (Nat × List Reply)} (hns : NS scr) (t c : Nat) :
    NoMulti (procOut (replyOfCall scr t c)) := by
  unfold replyOfCall
  cases hf : scr.find? (·.1 == t) with
  | none => intro pr hm; cases hm
  | some kv =>
    simp only [Option.map_some, Option.bind_some]
    cases hc : kv.2[c]? with
    | none => intro pr hm; cases hm
    | some rp =>
      have h1 := hns kv (List.mem_of_find?_eq_some hf) rp (List.mem_of_getElem? hc)
      cases rp with
      | proc out => exact h1
      | dest _ _ => intro pr hm; cases hm

theorem mem_erroredBy {recs : List Rec} {out : List PR} {x : Nat} (h : x ∈ erroredBy recs out) :
    ∃ (k : Nat) (r : Rec) (e : Option Err), recs[k]? = some r ∧ out[k]? = some (.error e) ∧ x = root r := by
  unfold erroredBy at h
  obtain ⟨⟨r, o⟩, hm, hx⟩ := List.mem_filterMap.mp h
  obtain ⟨k, hk⟩ := List.mem_iff_getElem?.mp hm
  obtain ⟨h1, h2⟩ := List.getElem?_zip_eq_some.mp hk
  cases o <;> simp only [] at hx <;> first | cases hx | skip
  rename_i e
  exact ⟨k, r, e, h1, h2, rfl⟩

theorem mem_filteredBy {recs : List Rec} {out : List PR} {x : Nat} (h : x ∈ filteredBy recs out) :
    ∃ (k : Nat) (r : Rec) (o : PR), recs[k]? = some r ∧ out[k]? = some o ∧ x = root r := by
  unfold filteredBy at h
  obtain ⟨⟨r, o⟩, hm, hx⟩ := List.mem_filterMap.mp h
  obtain ⟨k, hk⟩ := List.mem_iff_getElem?.mp hm
  obtain ⟨h1, h2⟩ := List.getElem?_zip_eq_some.mp hk
  refine ⟨k, r, o, h1, h2, ?_⟩
  cases o with
  | filter => cases hx; rfl
  | multi m =>
    cases m with
    | nil => cases hx; rfl
    | cons a m => cases hx
  | _ => cases hx

theorem filteredBy_mem {recs : List Rec} {out : List PR} {k : Nat} {r : Rec} {o : PR} (h1 : recs[k]? = some r)
    (h2 : out[k]? = some o) (ho : o = .filter ∨ o = .multi []) : root r ∈ filteredBy recs out := by
  unfold filteredBy
  refine List.mem_filterMap.mpr ⟨(r, o), List.mem_iff_getElem?.mpr ⟨k, List.getElem?_zip_eq_some.mpr ⟨h1, h2⟩⟩, ?_⟩
  rcases ho with rfl | rfl <;> rfl

theorem pcallOK_get {recs : List Rec} {out : List PR} (h : pcallOK recs out = true) {k : Nat} {r : Rec} {o : PR}
    (h1 : recs[k]? = some r) (h2 : out[k]? = some o) :
    (∀ r', o = .single r' → root r' = root r) ∧ (∀ m, o = .multi m → ∀ r' ∈ m, root r' = root r) := by
  unfold pcallOK at h
  rw [List.all_eq_true] at h
  have := h (r, o) (List.mem_iff_getElem?.mpr ⟨k, List.getElem?_zip_eq_some.mpr ⟨h1, h2⟩⟩)
  constructor
  · intro r' ho; subst ho
    simpa using this
  · intro m ho r' hr'; subst ho
    simp only [List.all_eq_true] at this
    simpa using this r' hr'

theorem padOut_lt {n : Nat} {out : List PR} {k : Nat} (hk : k < out.length) : (padOut n out)[k]? = out[k]? := by
  unfold padOut
  by_cases h : n > out.length
  · simp only [h, if_true]; rw [List.getElem?_append_left hk]
  · simp only [h, if_false]

theorem padOut_ge {n : Nat} {out : List PR} {k : Nat} {o : PR} (hk : out.length ≤ k) (h : (padOut n out)[k]? = some o) :
    o = .nil := by
  unfold padOut at h
  by_cases hn : n > out.length
  · simp only [hn, if_true] at h
    rw [List.getElem?_append_right hk] at h
    have := List.mem_of_getElem? h
    exact (List.mem_replicate.mp this).2
  · simp only [hn, if_false] at h
    have := (List.getElem?_eq_some_iff.mp h).1
    omega

theorem padOut_out {n : Nat} {out : List PR} {k : Nat} {o : PR} (h : (padOut n out)[k]? = some o) (ho : o ≠ .nil) :
    out[k]? = some o := by
  by_cases hk : k < out.length
  · rw [← padOut_lt hk]; exact h
  · exact absurd (padOut_ge (by omega) h) ho

structure PStep (μ μ' : TSt) (recs : List Rec) (out : List PR) : Prop where
  fil : μ'.filtered = μ.filtered ++ filteredBy recs out
  err : μ'.errored = μ.errored ++ erroredBy recs out
  wr : μ'.written = μ.written
  any : μ'.dlqAny = μ.dlqAny
  ok : μ'.dlqOk = μ.dlqOk

theorem PStep.clean {μ μ' : TSt} {recs : List Rec} {out : List PR} {ρ : Nat} (hp : PStep μ μ' recs out)
    (hc : Clean μ ρ) (hne : ρ ∉ erroredBy recs out) : Clean μ' ρ := by
  refine ⟨fun hx => ?_, fun e hm hroot => ?_⟩
  · rw [hp.err] at hx
    rcases List.mem_append.mp hx with h1 | h1
    · exact hc.1 h1
    · exact hne h1
  · rw [hp.wr] at hm
    exact hc.2 e hm hroot

theorem PStep.active {μ μ' : TSt} {recs : List Rec} {out : List PR} {pre : List Nat} {ρ : Nat} (hp : PStep μ μ' recs out)
    (ha : Active μ pre ρ) (hne : ρ ∉ erroredBy recs out) : Active μ' pre ρ := by
  refine ⟨hp.clean ha.1 hne, fun d hd => ?_⟩
  obtain ⟨e, hm, h1, h2⟩ := ha.2 d hd
  exact ⟨e, by rw [hp.wr]; exact hm, h1, h2⟩

theorem PStep.filtered {μ μ' : TSt} {recs : List Rec} {out : List PR} {ρ : Nat} (hp : PStep μ μ' recs out)
    (hf : Filtered μ ρ) (hne : ρ ∉ erroredBy recs out) : Filtered μ' ρ :=
  ⟨hp.clean hf.1 hne, by rw [hp.fil]; exact List.mem_append_left _ hf.2⟩

theorem FlagsAF.of_taint {b b1 : Batch} (haf : FlagsAF b) (ht : TaintC b → TaintC b1) (h1 : b1.tainted = false) :
    FlagsAF b1 := by
  have hb : TaintC b := by
    intro st hst hf
    obtain ⟨q, hq⟩ := List.getElem?_of_mem hst
    rcases haf q st hq with h | h <;> rcases hf with h' | h' <;> rw [h] at h' <;> cases h'
  intro q st hst
  have := ht hb st (List.mem_of_getElem? hst)
  rw [h1] at this
  cases hf : st.flag with
  | ack => exact Or.inl rfl
  | filter => exact Or.inr rfl
  | nack => exact absurd (this (Or.inl hf)) (by simp)
  | retry => exact absurd (this (Or.inr hf)) (by simp)

end Conduit.Funnel
