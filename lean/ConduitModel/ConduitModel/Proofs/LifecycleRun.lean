import ConduitModel.Proofs.Lifecycle
import ConduitModel.Model.LifecycleEnum
import ConduitModel.Proofs.EventSys

/-!
`Inv` is preserved by every step (by cases on `Step`), hence by every event list: `reach_inv`.
-/
namespace Conduit.Lifecycle

/-- the attempt counter of one chain goes up: the timer bounds against it only get looser. -/
theorem Inv.bumpCnt {s : State} (hi : Inv s) (ch : Nat) :
    Inv { s with cnt := fun c => if c = ch then s.cnt ch + 1 else s.cnt c } :=
  hi.setTimers (ts := s.timers)
    (fun c => by
      have := hi.timersLeCnt c
      show _ ≤ if c = ch then _ else _
      split
      · subst c; exact Nat.le_succ_of_le this
      · exact this)
    hi.timersLeMax

theorem step_inv {s s' : State} {e : Event} (hi : Inv s) (h : step s e = some s') : Inv s' := by
  cases Step.of_step h with
  | startRunning => exact hi
  | startUser => exact (hi.newRun (runOk_new (st := .user) fun _ h => nomatch h) rfl).congr rfl
  | buildOk1 n ch hp hn hany =>
    refine (hi.setRun hn ?_ fun _ => .inr hany).congr rfl
    exact { hi.runOk n with holdsAlive := fun _ => rfl }
  | buildOk2 n ch hp hn hany =>
    refine (hi.setRun hn ?_ fun _ => .inr hany).congr rfl
    exact { hi.runOk n with holdsAlive := fun _ => rfl, recovery := nofun }
  | buildFail n late te hn =>
    refine (inv_notifyStarter (hi.setRun hn ?_) n false).congr rfl
    exact { hi.runOk n with }
  | publish n hp =>
    have hn := hi.lt_of_phase hp
    refine ((hi.setRun hn ?_).setEntry fun m hm => by cases hm; exact hn).congr rfl
    exact { hi.runOk n with }
  | runningOk1 n hp =>
    apply inv_notifyStarter
    refine (hi.setRun (hi.lt_of_phase hp) ?_).congr rfl
    exact { hi.runOk n with recovery := nofun }
  | runningOk2 n hp =>
    apply inv_notifyStarter
    refine (hi.setRun (hi.lt_of_phase hp) ?_).congr rfl
    exact { hi.runOk n with }
  | runningFail n e hp he =>
    apply inv_notifyStarter
    refine ((hi.setRun (hi.lt_of_phase hp) ?_).setEntry fun m hm => hi.entryLt m (he m hm)).congr rfl
    exact { hi.runOk n with }
  | openOk n hal hany =>
    exact hi.setRun (hi.lt_of_alive hal) { hi.runOk n with holdsAlive := fun _ => hal } fun _ => .inr hany
  | nodeExitPending n c h1 hk hal =>
    exact hi.setRun (hi.lt_of_alive hal) { hi.runOk n with
      holdsAlive := nofun
      noPending := fun hfix => by rcases hfix with h | h <;> simp [h1, hk] at h } nofun
  | nodeExit n c _ hal | nodeExitClean n hal | sourceEof n hal =>
    exact hi.setRun (hi.lt_of_alive hal) { hi.runOk n with holdsAlive := nofun } nofun
  | tombRecord n hp =>
    exact hi.setRun (hi.lt_next fun h0 => hp (by rw [h0])) { hi.runOk n with noPending := fun _ => rfl }
  | stop f => exact inv_stopState hi f
  | stopAllForce m sd _ he =>
    have h0 : Inv { s with shutdown := sd } := hi.congr rfl
    exact (inv_forceState h0 (hi.entryLt m he)).congr rfl
  | stopAllGraceful m sd b _ he =>
    have h0 : Inv { s with shutdown := sd } := hi.congr rfl
    exact (inv_gracefulState h0 (hi.entryLt m he) true).congr rfl
  | cleanupWake n sink hc =>
    exact hi.setRun (hi.lt_of_cpc hc) { hi.runOk n with
      recovery := fun hrec => ⟨classify_recover (recoverish_decided hrec), nofun⟩ }
  | statusOk n a hc _ | statusFail n a hc _ | recoverFail n d hc | setTerminalErr n e hc =>
    refine (hi.setRun (hi.lt_of_cpc hc) ?_).congr rfl
    exact { hi.runOk n with recovery := nofun }
  | recoverExhausted n d hc _ =>
    refine ((hi.bumpCnt (s.runs n).chain).setRun (hi.lt_of_cpc hc) ?_).congr rfl
    exact { hi.runOk n with recovery := nofun }
  | recoverBackoff n d hc hmin hmax hex =>
    -- one more attempt, one more timer; `exceeded = false` keeps the timers within MaxRetries
    have hle := exceeded_false hex
    have hcerr := ((hi.runOk n).recovery (by rw [hc]; rfl)).1
    refine ((hi.setTimers (cnt := fun c => if c = _ then _ else _) ?_ ?_).setRun (hi.lt_of_cpc hc) ?_).congr rfl
    · intro ch
      have := hi.timersLeCnt ch
      simp only [timersOf, List.filter_append, List.length_append, List.filter_cons, List.filter_nil] at this ⊢
      by_cases hc : (s.runs n).chain = ch
      · subst hc; simp; omega
      · simp [hc, Ne.symm hc]; omega
    · intro ch m hm
      have a := hi.timersLeMax ch m hm
      have b := hi.timersLeCnt ch
      have c := hle m hm
      simp only [timersOf, List.filter_append, List.length_append, List.filter_cons, List.filter_nil] at a b ⊢
      by_cases hc : (s.runs n).chain = ch
      · subst hc; simp; omega
      · simp [hc]; omega
    · exact { hi.runOk n with recovery := fun _ => ⟨hcerr, fun w t hb => by
        cases hb; exact ⟨Nat.add_le_add_left hmin _, Nat.add_le_add_left hmax _, Nat.le_refl _⟩⟩ }
  | giveUp n w t c hb _ hc =>
    exact hi.setRun (hi.lt_of_cpc hb) { hi.runOk n with recovery := fun h => by rw [hc] at h; cases h }
  | restart n w t hb =>
    have hn := hi.lt_of_cpc hb
    have hrec := (hi.runOk n).recovery (by rw [hb]; rfl)
    have h1 : Inv (s.setRun n { s.runs n with cpc := .nested s.next }) :=
      hi.setRun hn { hi.runOk n with recovery := fun _ => ⟨hrec.1, nofun⟩ }
    have h2 := h1.newRun (runOk_new (st := .recov n) (c := s.next) fun p hp => by cases hp; exact hn) rfl
    refine (h2.setTimers (ts := markRestarted s.timers t) (cnt := s.cnt) ?_ ?_).congr rfl
    · intro ch; rw [markRestarted_timersOf]; exact hi.timersLeCnt ch
    · intro ch m hm; rw [markRestarted_timersOf]; exact hi.timersLeMax ch m hm
  | deleteEntry n e en hc hen =>
    refine ((hi.setRun (hi.lt_of_cpc hc) ?_).setEntry fun m hm => hi.entryLt m (hen m hm)).congr rfl
    exact { hi.runOk n with recovery := nofun }
  | tick d =>
    exact { hi with delayBounds := fun i w t hb => by have := hi.delayBounds i w t hb; simp only; omega }
  | attemptDecay i t ht =>
    have key := fun ch => filter_eraseIdx_length (fun t' : Timer => decide (t'.chain = ch)) s.timers i t ht
    refine (hi.setTimers ?_ ?_).congr rfl
    · intro ch
      have a := hi.timersLeCnt ch
      have k := key ch
      simp only [timersOf] at a
      by_cases hc : t.chain = ch
      · subst hc; simp at k ⊢; omega
      · simp [hc, Ne.symm hc] at k ⊢; omega
    · intro ch m hm
      have a := hi.timersLeMax ch m hm
      have k := key ch
      simp only [timersOf] at a
      split at k <;> omega
  | startReturn | stopAllIdle | waitBegin | waitReturn => exact hi.congr rfl

theorem runFrom_eq (evs : List Event) (s : State) : runFrom s evs = evs.foldlM step s :=
  EventSys.run_eq (fun _ => rfl) (fun _ _ _ => rfl) evs s

theorem runFromH_eq (hy : Hyps) (evs : List Event) (s : State) : runFromH hy s evs = evs.foldlM (stepH hy) s :=
  EventSys.run_eq (fun _ => rfl) (fun _ _ _ => rfl) evs s

theorem runFrom_inv (evs : List Event) {s s' : State} (hi : Inv s) (h : runFrom s evs = some s') : Inv s' :=
  EventSys.run_induct (fun _ _ _ hi => step_inv hi) evs hi (runFrom_eq .. ▸ h)

theorem reach_inv {eng cfg fx s} (h : Reach eng cfg fx s) : Inv s := by
  obtain ⟨evs, h⟩ := h
  exact runFrom_inv evs (inv_init eng cfg fx) h

theorem runFromH_runFrom (hy : Hyps) : ∀ (evs : List Event) {s s' : State},
    runFromH hy s evs = some s' → runFrom s evs = some s' := fun evs _ _ h =>
  runFrom_eq .. ▸ EventSys.run_sim (f := id) (P := fun _ => True) (fun _ _ _ _ _ => trivial)
    (fun _ _ _ _ hs => (Option.ite_none_right_eq_some.mp hs).2) evs trivial (runFromH_eq .. ▸ h)

end Conduit.Lifecycle
