import ConduitModel.Spec.Prov
import ConduitModel.Proofs.CtlStore

/-!
What C15 needs about the import: every program of the import writes only to the open
transaction; the diff of a configuration with itself is empty; actions other than create/delete
of a connector keep that connector's position and type.
-/
namespace Conduit.Ctl

/-! ## the programs of the import, followed along a relation on states

`TxOnly`, `Synced` (`importPipeline_synced`, `Proofs/ProvStore`) and "connector `x` keeps its position"
all say that a program takes every state to one related to it by a reflexive, transitive relation. For such a relation it is enough
to look at the single service calls (`Act.along`, `along_importPipeline`). -/

def Along (R : St → St → Prop) (prog : M Unit) : Prop := ∀ s, R s (prog s).2

def Act.touches (x : Id) : Act → Bool
  | .createCn c _ => c.id = x
  | .deleteCn c _ => c.id = x
  | _ => false

/-- The service calls the `Do` and `Rollback` of action `a` are put together from: any call on a
pipeline or processor and any update of a connector, but create and delete only of the connector
`a` itself creates or deletes. -/
inductive Act.Calls (v : Variant) (a : Act) : Svc → Prop
  | plCreate i n d p : Calls v a (svcPlCreate i n d p)
  | plUpdate i n d : Calls v a (svcPlUpdate v i n d)
  | plDLQ i d : Calls v a (svcPlUpdateDLQ v i d)
  | plAddConn i x : Calls v a (svcPlAddConn v i x)
  | plRemConn i x : Calls v a (svcPlRemConn v i x)
  | plAddProc i x : Calls v a (svcPlAddProc v i x)
  | plRemProc i x : Calls v a (svcPlRemProc v i x)
  | plDelete i : Calls v a (svcPlDelete i)
  | cnCreate i t p pid n st pv s : a.touches i = true → Calls v a (svcCnCreate i t p pid n st pv s)
  | cnDelete i : a.touches i = true → Calls v a (svcCnDelete i)
  | cnUpdate i p n st : Calls v a (svcCnUpdate v i p n st)
  | cnAddProc i x : Calls v a (svcCnAddProc v i x)
  | cnRemProc i x : Calls v a (svcCnRemProc v i x)
  | prCreate i p t par st w pv c : Calls v a (svcPrCreate i p t par st w pv c)
  | prUpdate i p st w c : Calls v a (svcPrUpdate v i p st w c)
  | prDelete i : Calls v a (svcPrDelete i)

theorem Act.Calls.footprint {v : Variant} {a : Act} {f : Svc} (h : a.Calls v f) : Footprint f := by
  cases h with
  | plCreate => exact fp_plCreate _ _ _ _
  | plUpdate => exact fp_plUpdate _ _ _ _
  | plDelete => exact fp_plDelete _
  | plDLQ | plAddConn | plRemConn | plAddProc | plRemProc => exact fp_updPl _ _ _ _ _
  | cnCreate => exact fp_cnCreate _ _ _ _ _ _ _ _
  | cnDelete => exact fp_cnDelete _
  | cnUpdate | cnAddProc | cnRemProc => exact fp_updCn _ _ _ _
  | prCreate => exact fp_prCreate _ _ _ _ _ _ _ _
  | prDelete => exact fp_prDelete _
  | prUpdate => exact fp_updPr _ _ _ _

theorem ignoreNf_snd (a : M Unit) (s : St) : (ignoreNf a s).2 = (a s).2 := by
  unfold ignoreNf; split <;> simp_all

/-- what `executeActions` hands to the rollback are actions of the plan. -/
theorem execActs_done (v : Variant) (l : List Act) (done : List Act) (s : St) :
    ∀ a ∈ (execActs v l done s).2.1, a ∈ l ∨ a ∈ done := by
  induction l generalizing done s with
  | nil => exact fun a ha => .inr ha
  | cons b rest ih =>
    intro a
    simp only [execActs]
    split
    · intro ha
      rcases ih _ _ a ha with h | h
      · exact .inl (List.mem_cons_of_mem _ h)
      · rcases List.mem_cons.1 h with rfl | h
        · exact .inl List.mem_cons_self
        · exact .inr h
    · intro ha
      rcases List.mem_cons.1 ha with rfl | h
      · exact .inl List.mem_cons_self
      · exact .inr h

section
variable {R : St → St → Prop} (refl : ∀ s, R s s) (trans : ∀ {a b c}, R a b → R b c → R a c)
include refl trans

theorem along_seqM (l : List (M Unit)) (h : ∀ a ∈ l, Along R a) : Along R (seqM l) := by
  induction l with
  | nil => exact refl
  | cons a rest ih =>
    intro s
    have h1 := h a List.mem_cons_self s
    have h2 := ih (fun b hb => h b (List.mem_cons_of_mem _ hb)) (a s).2
    simp only [seqM]
    split
    · rename_i s' heq; rw [heq] at h1 h2; exact trans h1 h2
    · rename_i e s' heq; rw [heq] at h1; exact h1

theorem along_aliased (v : Variant) (cid : Id) (h : ∀ rid, Along R (svcCnRemProc v cid rid).run) :
    ∀ fuel i backing, Along R (aliasedRemoveLoop v cid fuel i backing) := by
  intro fuel
  induction fuel with
  | zero => intro i b; exact refl
  | succ n ih =>
    intro i b s
    simp only [aliasedRemoveLoop]
    split
    · exact refl s
    · rename_i rid _
      have h1 := h rid s
      split
      · rename_i heq; rw [heq] at h1; exact h1
      · rename_i heq; rw [heq] at h1; exact trans h1 (ih _ _ _)

theorem Act.along (v : Variant) (a : Act) (h : ∀ f, a.Calls v f → Along R f.run) :
    Along R (a.run v) ∧ Along R (a.undo v) := by
  have seq := along_seqM refl trans
  have hcreatePl : ∀ c prov, Along R (createPlDo v c prov) := by
    intro c prov
    refine seq _ ?_
    simp only [List.forall_mem_append, List.forall_mem_cons, List.forall_mem_map]
    exact ⟨⟨⟨h _ (.plCreate ..), h _ (.plDLQ ..), nofun⟩, fun _ _ => h _ (.plAddConn ..)⟩, fun _ _ => h _ (.plAddProc ..)⟩
  have hupdPl : ∀ c, Along R (updatePlRun v c) := by
    intro c
    refine seq _ ?_
    simp only [List.forall_mem_cons]
    refine ⟨h _ (.plUpdate ..), h _ (.plDLQ ..), fun s => ?_, fun s => ?_, nofun⟩
    -- both steps do nothing unless the id lists differ, and then run a list of calls
    all_goals
      dsimp only
      split
      · exact refl s
      split
      · exact refl s
      refine seq _ ?_ s
      simp only [List.forall_mem_append, List.forall_mem_map]
    · exact ⟨fun _ _ => h _ (.plRemConn ..), fun _ _ => h _ (.plAddConn ..)⟩
    · exact ⟨fun _ _ => h _ (.plRemProc ..), fun _ _ => h _ (.plAddProc ..)⟩
  have hcreateCn : ∀ (c : ConnCfg) pid, a.touches c.id = true → Along R (createCnDo v c pid) := by
    intro c pid hc
    refine seq _ ?_
    simp only [List.forall_mem_cons, List.forall_mem_map]
    exact ⟨h _ (.cnCreate _ _ _ _ _ _ _ _ hc), fun _ _ => h _ (.cnAddProc ..)⟩
  have hupdCn : ∀ c, Along R (updateCnRun v c) := by
    intro c
    refine seq _ ?_
    simp only [List.forall_mem_cons]
    refine ⟨h _ (.cnUpdate ..), fun s => ?_, nofun⟩
    dsimp only
    split
    · exact refl s
    · split
      · exact refl s
      · refine seq _ ?_ s
        simp only [List.forall_mem_cons]
        refine ⟨?_, seq _ ?_, nofun⟩
        · split
          · refine seq _ ?_
            simp only [List.forall_mem_map]
            exact fun _ _ => h _ (.cnRemProc ..)
          · exact along_aliased refl trans v _ (fun _ => h _ (.cnRemProc ..)) _ _ _
        · simp only [List.forall_mem_map]
          exact fun _ _ => h _ (.cnAddProc ..)
  have hdel : ∀ f, a.Calls v f → Along R (ignoreNf f.run) := fun f hf s => by
    rw [ignoreNf_snd]; exact h f hf s
  cases a with
  | createPl c prov => exact ⟨hcreatePl _ _, hdel _ (.plDelete ..)⟩
  | deletePl c prov => exact ⟨hdel _ (.plDelete ..), hcreatePl _ _⟩
  | updatePl o n => exact ⟨hupdPl _, hupdPl _⟩
  | createCn c pid =>
    have hc : (Act.createCn c pid).touches c.id = true := by simp [Act.touches]
    exact ⟨hcreateCn c pid hc, hdel _ (.cnDelete _ hc)⟩
  | deleteCn c pid =>
    have hc : (Act.deleteCn c pid).touches c.id = true := by simp [Act.touches]
    exact ⟨hdel _ (.cnDelete _ hc), hcreateCn c pid hc⟩
  | updateCn o n => exact ⟨hupdCn _, hupdCn _⟩
  | createPr c pt par => exact ⟨h _ (.prCreate ..), hdel _ (.prDelete ..)⟩
  | deletePr c pt par => exact ⟨hdel _ (.prDelete ..), h _ (.prCreate ..)⟩
  | updatePr o n => exact ⟨h _ (.prUpdate ..), h _ (.prUpdate ..)⟩

theorem along_execActs (v : Variant) (l : List Act) (h : ∀ a ∈ l, Along R (a.run v)) (done : List Act) (s : St) :
    R s (execActs v l done s).2.2 := by
  induction l generalizing done s with
  | nil => exact refl s
  | cons a rest ih =>
    have h1 := h a List.mem_cons_self s
    simp only [execActs]
    split
    · rename_i s' heq; rw [heq] at h1
      exact trans h1 (ih (fun b hb => h b (List.mem_cons_of_mem _ hb)) _ s')
    · rename_i e s' heq; rw [heq] at h1; exact h1

theorem along_undoActs (v : Variant) (l : List Act) (h : ∀ a ∈ l, Along R (a.undo v)) (s : St) :
    R s (undoActs v l s) := by
  induction l generalizing s with
  | nil => exact refl s
  | cons a rest ih =>
    exact trans (h a List.mem_cons_self s) (ih (fun b hb => h b (List.mem_cons_of_mem _ hb)) _)

theorem along_importPipeline (v : Variant) (c : PipeCfg) (prov : Nat) (s : St)
    (h : ∀ old, exportPl v s.mem c.id = .ok old → ∀ a ∈ build v prov old c, Along R (a.run v) ∧ Along R (a.undo v)) :
    R s (importPipeline v c prov s).2 := by
  unfold importPipeline
  split
  · exact refl s
  · rename_i old hex
    have h1 := along_execActs refl trans v _ (fun a ha => (h old hex a ha).1) [] s
    have hd := execActs_done v (build v prov old c) [] s
    split
    · rename_i heq; rw [heq] at h1; exact h1
    · rename_i heq; rw [heq] at h1 hd
      exact trans h1 (along_undoActs refl trans v _ (fun a ha => (h old hex a ((hd a ha).resolve_right nofun)).2) _)
end

def TxOnly (prog : M Unit) : Prop :=
  ∀ s t, s.tx = some t → (prog s).2.kv = s.kv ∧ ∃ t', (prog s).2.tx = some t'

theorem txOnly_run (f : Svc) : TxOnly f.run := by
  intro s t h
  unfold Svc.run
  split
  · exact ⟨rfl, t, h⟩
  · split
    · exact ⟨rfl, t, h⟩
    · exact ⟨(St.write_tx_some _ _ t (by exact h)).2, _, (St.write_tx_some _ _ t (by exact h)).1⟩

theorem txOnly_map_run (l : List Svc) : ∀ a ∈ l.map Svc.run, TxOnly a := by
  intro a ha
  obtain ⟨f, _, rfl⟩ := List.mem_map.1 ha
  exact txOnly_run f

theorem importPipeline_txOnly (v : Variant) (c : PipeCfg) (prov : Nat) : TxOnly (importPipeline v c prov) := by
  let R (s s' : St) : Prop := ∀ t, s.tx = some t → s'.kv = s.kv ∧ ∃ t', s'.tx = some t'
  have refl : ∀ s, R s s := fun _ t ht => ⟨rfl, t, ht⟩
  have trans : ∀ {a b c}, R a b → R b c → R a c := fun h1 h2 t ht => by
    obtain ⟨e1, t1, ht1⟩ := h1 t ht
    obtain ⟨e2, h3⟩ := h2 t1 ht1
    exact ⟨e2.trans e1, h3⟩
  exact fun s => along_importPipeline refl trans v c prov s fun _ _ a _ =>
    Act.along refl trans v a fun f _ => txOnly_run f

theorem transactionalImport_store (v : Variant) (c : PipeCfg) (s : St)
    (hf : (transactionalImport v c s).1 ≠ .ok ()) : (transactionalImport v c s).2.kv = s.kv := by
  unfold transactionalImport at hf ⊢
  by_cases h0 : s.failsNow = true
  · simp [h0]
  · simp only [h0, Bool.false_eq_true, if_false] at hf ⊢
    obtain ⟨h1, _⟩ := importPipeline_txOnly v c 1 { s with ctr := s.ctr + 1, tx := some s.kv } s.kv rfl
    rcases hr : importPipeline v c 1 { s with ctr := s.ctr + 1, tx := some s.kv } with ⟨r, s'⟩
    rw [hr] at h1 hf
    cases r with
    | error e => exact h1
    | ok u =>
      cases u
      by_cases hc : s'.failsNow = true
      · simp only [hc, if_true]; exact h1
      · simp [hc] at hf

structure CfgNodup (c : PipeCfg) : Prop where
  conns : (c.conns.map (·.id)).Nodup
  procs : (c.procs.map (·.id)).Nodup
  cprocs : ∀ x ∈ c.conns, (x.procs.map (·.id)).Nodup

theorem find?_key_self {α} (key : α → Id) (l : List α) (h : (l.map key).Nodup) (x : α) (hx : x ∈ l) :
    l.find? (fun y => key y = key x) = some x := by
  induction l with
  | nil => cases hx
  | cons y ys ih =>
    simp only [List.map_cons, List.nodup_cons] at h
    rcases List.mem_cons.1 hx with rfl | hx'
    · simp
    · have hne : key y ≠ key x := fun e => h.1 (e ▸ List.mem_map_of_mem hx')
      simp [hne, ih h.2 hx']

theorem find?_key_some {α} (key : α → Id) {l : List α} {i : Id} {z : α}
    (h : l.find? (fun y => key y = i) = some z) : key z = i ∧ z ∈ l :=
  ⟨by simpa using List.find?_some h, List.mem_of_find?_eq_some h⟩

theorem find?_key_none {α} (key : α → Id) {l : List α} {i : Id} :
    l.find? (fun y => key y = i) = none ↔ ∀ z ∈ l, key z ≠ i := by
  simp [List.find?_eq_none]

theorem find_self_conn (l : List ConnCfg) (h : (l.map (·.id)).Nodup) (x : ConnCfg) (hx : x ∈ l) :
    findConn l x.id = some x := find?_key_self ConnCfg.id l h x hx

theorem find_self_proc (l : List ProcCfg) (h : (l.map (·.id)).Nodup) (x : ProcCfg) (hx : x ∈ l) :
    findProc l x.id = some x := find?_key_self ProcCfg.id l h x hx

theorem build_self (v : Variant) (prov : Nat) (c : PipeCfg) (h : CfgNodup c) : build v prov (some c) c = [] := by
  unfold build
  have hold : buildOldFwd v c (some c) = [] := by
    unfold buildOldFwd
    simp only [Option.map_some, Option.getD_some, List.append_eq_nil_iff, List.flatMap_eq_nil_iff]
    refine ⟨fun co hco => ?_, fun po hpo => ?_⟩
    · simp only [find_self_conn _ h.conns co hco, Option.isNone_some, Bool.false_eq_true, if_false,
        Option.map_some, Option.getD_some]
      refine ⟨trivial, ?_⟩
      intro po hpo
      simp [find_self_proc _ (h.cprocs co hco) po hpo]
    · simp [find_self_proc _ h.procs po hpo]
  have hnew : buildNew v prov (some c) c = [] := by
    unfold buildNew
    simp only [Option.map_some, Option.getD_some, List.append_eq_nil_iff, List.flatMap_eq_nil_iff]
    refine ⟨⟨by simp [preparePl], fun cn hcn => ?_⟩, fun pn hpn => ?_⟩
    · simp only [find_self_conn _ h.conns cn hcn, Option.map_some, Option.getD_some]
      refine ⟨by simp [prepareCn], ?_⟩
      intro pn hpn
      simp [find_self_proc _ (h.cprocs cn hcn) pn hpn, preparePr]
    · simp [find_self_proc _ h.procs pn hpn, preparePr]
  simp [hold, hnew]

/-- connector `x`, if `m` has it, is in `m'` with the same position and type. -/
def ConnKept (x : Id) (m m' : Mem) : Prop :=
  ∀ c, m.cns x = some c → ∃ c', m'.cns x = some c' ∧ c'.state = c.state ∧ c'.typ = c.typ

theorem ConnKept.refl (x : Id) (m : Mem) : ConnKept x m m := fun c hc => ⟨c, hc, rfl, rfl⟩

theorem ConnKept.trans {x : Id} {m m' m'' : Mem} (h1 : ConnKept x m m') (h2 : ConnKept x m' m'') : ConnKept x m m'' := by
  intro c hc
  obtain ⟨c1, e1, e2, e3⟩ := h1 c hc
  obtain ⟨c2, g1, g2, g3⟩ := h2 c1 e1
  exact ⟨c2, g1, g2.trans e2, g3.trans e3⟩

theorem connKept_run (x : Id) (f : Svc) (h : ∀ m, ConnKept x m (f.upd m)) :
    Along (fun s s' => ConnKept x s.mem s'.mem) f.run := by
  intro s
  unfold Svc.run
  split
  · exact .refl x _
  · split
    · dsimp only; split
      · exact .refl x _
      · exact h _
    · simp only [St.write_mem]; exact h _

theorem connKept_updCn (x id : Id) (g : Cn → Cn) (hg : ∀ c, (g c).state = c.state ∧ (g c).typ = c.typ) (m : Mem) :
    ConnKept x m (m.updCn id g) := by
  intro c hc
  simp only [Mem.updCn]
  split
  · rename_i c0 h0
    by_cases hx : x = id
    · subst hx; rw [hc] at h0; cases h0
      exact ⟨g c, by simp, (hg c).1, (hg c).2⟩
    · exact ⟨c, by simp [Map.set, hx, hc], rfl, rfl⟩
  · exact ⟨c, hc, rfl, rfl⟩

/-- a call of an action that neither creates nor deletes connector `x` keeps it: it writes
another entry, or is one of the connector updates, none of which changes position or type. -/
theorem connKept_calls (x : Id) (v : Variant) (a : Act) (ht : a.touches x = false) (f : Svc) (h : a.Calls v f)
    (m : Mem) : ConnKept x m (f.upd m) := by
  by_cases hk : f.kind ≠ .cn ∨ x ≠ f.id
  · exact fun c hc => ⟨c, by rw [(h.footprint m).2.1 x hk]; exact hc, rfl, rfl⟩
  · obtain ⟨hkind, rfl⟩ : f.kind = .cn ∧ x = f.id := by simpa [not_or] using hk
    cases h with
    | cnUpdate | cnAddProc | cnRemProc => apply connKept_updCn; exact fun _ => ⟨rfl, rfl⟩
    | cnCreate _ _ _ _ _ _ _ _ hx | cnDelete _ hx => cases hx.symm.trans ht
    | _ => cases hkind

theorem keeps_act (x : Id) (v : Variant) (a : Act) (ht : a.touches x = false) :
    Along (fun s s' => ConnKept x s.mem s'.mem) (a.run v) ∧ Along (fun s s' => ConnKept x s.mem s'.mem) (a.undo v) :=
  Act.along (fun _ => .refl x _) .trans v a fun f hf => connKept_run x f (connKept_calls x v a ht f hf)

/-- connector `x` is neither deleted nor created when, if one side has it, so has the other, with
the same type. -/
theorem prepareCn_no_touch (x : Id) (o n : Option ConnCfg) (pid : Id)
    (h : ∀ c, o = some c ∨ n = some c → c.id = x →
      ∃ co cn, o = some co ∧ n = some cn ∧ co.id = cn.id ∧ co.typ = cn.typ) :
    ∀ a ∈ prepareCn o n pid, a.touches x = false := by
  intro a ha
  unfold prepareCn at ha
  split at ha
  · cases List.mem_singleton.1 ha
    exact decide_eq_false fun hid => let ⟨_, _, e, _⟩ := h _ (.inr rfl) hid; nomatch e
  · cases List.mem_singleton.1 ha
    exact decide_eq_false fun hid => let ⟨_, _, _, e, _⟩ := h _ (.inl rfl) hid; nomatch e
  · split at ha
    · cases ha
    · split at ha
      · cases List.mem_singleton.1 ha; rfl
      · rename_i co cn _ hne
        have hne' : ∀ c, some co = some c ∨ some cn = some c → c.id ≠ x := fun c e hid => by
          obtain ⟨_, _, eo, en, h'⟩ := h c e hid
          cases eo; cases en; exact hne h'
        rcases List.mem_cons.1 ha with rfl | ha
        · exact decide_eq_false (hne' _ (.inl rfl))
        · cases List.mem_singleton.1 ha
          exact decide_eq_false (hne' _ (.inr rfl))
  · cases ha

end Conduit.Ctl
