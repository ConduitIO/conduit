import ConduitModel.Model.StreamFlow
import ConduitModel.Proofs.EventSys

/-
M4 / Flow — order, origin and flag facts about the write logs, for every topology and every
interleaving: induction over the event list with the inductive invariant `Inv`.
-/
namespace Conduit.Stream

theorem flatR_pushFirst (st : Stages) (m : Msg) (st' : Stages)
    (h : pushFirst st m = some st') : flatR st' = flatR st ++ [m] := by
  cases st with
  | nil => simp [pushFirst] at h
  | cons q rest =>
    simp [pushFirst] at h
    subst h
    simp [flatR]

/-- the predicate `Stages.remove` keeps. -/
def keepP (s i : Nat) (m : Msg) : Bool := !(m.s == s && m.i == i)

/-- the function `Stages.mark` applies. -/
def markF (s i : Nat) (m : Msg) : Msg := if m.s == s && m.i == i then { m with filt := true } else m

theorem flatR_remove (st : Stages) (s i : Nat) :
    flatR (st.remove s i) = (flatR st).filter (keepP s i) := by
  induction st with
  | nil => simp [Stages.remove, flatR]
  | cons q rest ih =>
    have : flatR (Stages.remove rest s i) = (flatR rest).filter (keepP s i) := ih
    simp only [Stages.remove, List.map_cons, flatR, List.filter_append] at this ⊢
    rw [this]
    rfl

theorem flatR_mark (st : Stages) (s i : Nat) :
    flatR (st.mark s i) = (flatR st).map (markF s i) := by
  induction st with
  | nil => simp [Stages.mark, flatR]
  | cons q rest ih =>
    have : flatR (Stages.mark rest s i) = (flatR rest).map (markF s i) := ih
    simp only [Stages.mark, List.map_cons, flatR, List.map_append] at this ⊢
    rw [this]
    rfl

theorem has_iff (st : Stages) (s i : Nat) :
    st.has s i = true ↔ ∃ m ∈ flatR st, m.s = s ∧ m.i = i := by
  induction st with
  | nil => simp [Stages.has, flatR]
  | cons q rest ih =>
    have ih' : (rest.any fun q => q.any fun m => m.s == s && m.i == i) = true ↔
        ∃ m ∈ flatR rest, m.s = s ∧ m.i = i := ih
    simp only [Stages.has, List.any_cons, Bool.or_eq_true, flatR, List.mem_append]
    rw [ih']
    constructor
    · rintro (h | ⟨m, hm, h⟩)
      · simp only [List.any_eq_true, Bool.and_eq_true, beq_iff_eq] at h
        obtain ⟨m, hm, h⟩ := h
        exact ⟨m, Or.inr hm, h⟩
      · exact ⟨m, Or.inl hm, h⟩
    · rintro ⟨m, hm | hm, h⟩
      · exact Or.inr ⟨m, hm, h⟩
      · left
        simp only [List.any_eq_true, Bool.and_eq_true, beq_iff_eq]
        exact ⟨m, hm, h⟩

@[simp] theorem markF_s (s i : Nat) (m : Msg) : (markF s i m).s = m.s := by
  unfold markF; split <;> rfl

@[simp] theorem markF_i (s i : Nat) (m : Msg) : (markF s i m).i = m.i := by
  unfold markF; split <;> rfl

theorem markF_filt (s i : Nat) (m : Msg) (h : m.filt = true) : (markF s i m).filt = true := by
  unfold markF; split <;> simp [h]

theorem markF_hit (s i : Nat) (m : Msg) (h1 : m.s = s) (h2 : m.i = i) : (markF s i m).filt = true := by
  simp [markF, h1, h2]

@[simp] theorem idxOf_nil (s : Nat) : idxOf s [] = [] := rfl

theorem idxOf_append (s : Nat) (a b : List Msg) : idxOf s (a ++ b) = idxOf s a ++ idxOf s b := by
  simp [idxOf]

theorem idxOf_cons (s : Nat) (m : Msg) (l : List Msg) : idxOf s (m :: l) = idxOf s [m] ++ idxOf s l :=
  idxOf_append s [m] l

theorem idxOf_single_ne (s : Nat) (m : Msg) (h : m.s ≠ s) : idxOf s [m] = [] := by
  simp [idxOf, h]

theorem idxOf_cons_ne (s : Nat) (m : Msg) (l : List Msg) (h : m.s ≠ s) : idxOf s (m :: l) = idxOf s l := by
  rw [idxOf_cons, idxOf_single_ne s m h]; rfl

theorem idxOf_single_eq (s : Nat) (m : Msg) (h : m.s = s) : idxOf s [m] = [m.i] := by
  simp [idxOf, h]

theorem idxOf_sublist (s : Nat) {a b : List Msg} (h : a.Sublist b) : (idxOf s a).Sublist (idxOf s b) :=
  (h.filter _).map _

theorem idxOf_filter_sublist (s : Nat) (p : Msg → Bool) (l : List Msg) :
    (idxOf s (l.filter p)).Sublist (idxOf s l) :=
  idxOf_sublist s List.filter_sublist

theorem idxOf_map_markF (s s' i' : Nat) (l : List Msg) : idxOf s (l.map (markF s' i')) = idxOf s l := by
  induction l with
  | nil => rfl
  | cons m l ih =>
    rw [List.map_cons, idxOf_cons, idxOf_cons s m, ih]
    congr 1
    by_cases h : m.s = s <;> simp [idxOf, h]

theorem mem_idxOf {s x : Nat} {l : List Msg} : x ∈ idxOf s l ↔ ∃ m ∈ l, m.s = s ∧ m.i = x := by
  simp [idxOf, and_assoc]

theorem flatR_replicate_nil (n : Nat) : flatR (List.replicate n []) = [] := by
  induction n with
  | zero => rfl
  | succ n ih => simp [List.replicate_succ, flatR, ih]

/-! ### the order `Le` on message lists: fewer messages, same order, flags only set -/

def Le (l' l : List Msg) : Prop :=
  (∀ s, (idxOf s l').Sublist (idxOf s l)) ∧
  ∀ m ∈ l', ∃ m1 ∈ l, m1.s = m.s ∧ m1.i = m.i ∧ (m1.filt = true → m.filt = true)

theorem Le.refl (l : List Msg) : Le l l :=
  ⟨fun _ => List.Sublist.refl _, fun m hm => ⟨m, hm, rfl, rfl, id⟩⟩

theorem Le.of_eq {l' l : List Msg} (h : l' = l) : Le l' l := h ▸ Le.refl _

theorem Le.of_sublist {l' l : List Msg} (h : l'.Sublist l) : Le l' l :=
  ⟨fun s => idxOf_sublist s h, fun m hm => ⟨m, h.subset hm, rfl, rfl, id⟩⟩

theorem Le.nil (l : List Msg) : Le [] l := Le.of_sublist (List.nil_sublist l)

theorem Le.filter (p : Msg → Bool) (l : List Msg) : Le (l.filter p) l := Le.of_sublist List.filter_sublist

theorem Le.mark (s i : Nat) (l : List Msg) : Le (l.map (markF s i)) l :=
  ⟨fun s' => by rw [idxOf_map_markF]; exact List.Sublist.refl _, fun m hm => by
    obtain ⟨m1, h1, rfl⟩ := List.mem_map.1 hm
    exact ⟨m1, h1, by simp, by simp, markF_filt _ _ _⟩⟩

theorem Le.append {a' a b' b : List Msg} (ha : Le a' a) (hb : Le b' b) : Le (a' ++ b') (a ++ b) :=
  ⟨fun s => by rw [idxOf_append, idxOf_append]; exact (ha.1 s).append (hb.1 s), fun m hm => by
    rcases List.mem_append.1 hm with h | h
    · obtain ⟨m1, h1, h2⟩ := ha.2 m h; exact ⟨m1, List.mem_append_left _ h1, h2⟩
    · obtain ⟨m1, h1, h2⟩ := hb.2 m h; exact ⟨m1, List.mem_append_right _ h1, h2⟩⟩

theorem Le.trans {a b c : List Msg} (h1 : Le a b) (h2 : Le b c) : Le a c :=
  ⟨fun s => (h1.1 s).trans (h2.1 s), fun m hm => by
    obtain ⟨m1, hm1, e1, e2, e3⟩ := h1.2 m hm
    obtain ⟨m2, hm2, g1, g2, g3⟩ := h2.2 m1 hm1
    exact ⟨m2, hm2, g1.trans e1, g2.trans e2, fun h => e3 (g3 h)⟩⟩

/-! ### `Eqv`: the same messages, in the same order per source -/

def Eqv (a b : List Msg) : Prop := (∀ s, idxOf s a = idxOf s b) ∧ ∀ x, x ∈ a ↔ x ∈ b

theorem Eqv.refl (a : List Msg) : Eqv a a := ⟨fun _ => rfl, fun _ => Iff.rfl⟩

theorem Eqv.symm {a b : List Msg} (h : Eqv a b) : Eqv b a := ⟨fun s => (h.1 s).symm, fun x => (h.2 x).symm⟩

theorem Eqv.of_eq {a b : List Msg} (h : a = b) : Eqv a b := h ▸ Eqv.refl _

theorem Eqv.trans {a b c : List Msg} (h1 : Eqv a b) (h2 : Eqv b c) : Eqv a c :=
  ⟨fun s => (h1.1 s).trans (h2.1 s), fun x => (h1.2 x).trans (h2.2 x)⟩

theorem Eqv.append {a a' b b' : List Msg} (ha : Eqv a a') (hb : Eqv b b') : Eqv (a ++ b) (a' ++ b') :=
  ⟨fun s => by rw [idxOf_append, idxOf_append, ha.1 s, hb.1 s], fun x => by
    rw [List.mem_append, List.mem_append, ha.2 x, hb.2 x]⟩

theorem Eqv.le {a b : List Msg} (h : Eqv a b) : Le a b :=
  ⟨fun s => by rw [h.1 s]; exact List.Sublist.refl _, fun m hm => ⟨m, (h.2 m).1 hm, rfl, rfl, id⟩⟩

theorem takeFirst_spec (s : Nat) (q : List Msg) (m : Msg) (r : List Msg)
    (h : takeFirst s q = some (m, r)) : m.s = s ∧ Eqv q (m :: r) := by
  fun_induction takeFirst s q generalizing m r with
  | case1 => cases h
  | case2 a q ha => cases h; exact ⟨ha, Eqv.refl _⟩
  | case3 a q ha ih =>
    obtain ⟨⟨_, r0⟩, ht, h⟩ := Option.map_eq_some_iff.mp h
    cases h
    obtain ⟨hs, he⟩ := ih m r0 ht
    refine ⟨hs, fun s' => ?_, fun x => ?_⟩
    · rw [idxOf_cons s' a q, he.1 s', idxOf_cons s' m r0, idxOf_cons s' m (a :: r0), idxOf_cons s' a r0]
      by_cases h' : a.s = s'
      · rw [idxOf_single_ne s' m (by rw [hs, ← h']; exact Ne.symm ha)]; rfl
      · rw [idxOf_single_ne s' a h']; rfl
    · rw [List.mem_cons, he.2 x]
      simp only [List.mem_cons]
      exact or_left_comm

theorem flatR_moveAt (st : Stages) (k s : Nat) (m : Msg) (st' : Stages)
    (h : moveAt st k s = some (m, st')) : Eqv (flatR st') (flatR st) := by
  fun_induction moveAt st k s generalizing m st' with
  | case1 q q' rest s =>
    obtain ⟨⟨_, r⟩, ht, h⟩ := Option.map_eq_some_iff.mp h
    cases h
    have e : flatR (r :: (q' ++ [m]) :: rest) = (flatR rest ++ q') ++ (m :: r) := by simp [flatR]
    rw [e]
    exact Eqv.append (Eqv.refl _) (takeFirst_spec s q m r ht).2.symm
  | case2 q rest k s ih =>
    obtain ⟨⟨_, r⟩, hm, h⟩ := Option.map_eq_some_iff.mp h
    cases h
    exact Eqv.append (ih m r hm) (Eqv.refl _)
  | case3 => cases h

theorem flatR_popLast (st : Stages) (s : Nat) (m : Msg) (st' : Stages)
    (h : popLast st s = some (m, st')) : m.s = s ∧ Eqv (flatR st) (m :: flatR st') := by
  fun_induction popLast st s generalizing m st' with
  | case1 => cases h
  | case2 q s =>
    obtain ⟨⟨_, r⟩, ht, h⟩ := Option.map_eq_some_iff.mp h
    cases h
    obtain ⟨hs, he⟩ := takeFirst_spec s q m r ht
    exact ⟨hs, by simpa [flatR] using he⟩
  | case3 q q2 rest s ih =>
    obtain ⟨⟨_, r⟩, hm, h⟩ := Option.map_eq_some_iff.mp h
    cases h
    obtain ⟨hs, he⟩ := ih m r hm
    exact ⟨hs, Eqv.append he (Eqv.refl _)⟩
/-- what the FanoutNode still holds for branch `d`. -/
def curFor (f : Flow) (d : Nat) : List Msg := if d ∈ f.pend then f.cur.toList else []

/-- everything on its way from source `s` to destination `d`, the write log first, then by
distance to the DestinationNode. -/
def full (f : Flow) (s d : Nat) : List Msg :=
  f.wlog d ++ (flatR (f.dst d) ++ (curFor f d ++ (flatR f.pl ++ flatR (f.src s))))

theorem mem_full {f : Flow} {s d : Nat} {m : Msg} :
    m ∈ full f s d ↔ m ∈ f.wlog d ∨ m ∈ flatR (f.dst d) ∨ m ∈ curFor f d ∨ m ∈ flatR f.pl ∨ m ∈ flatR (f.src s) := by
  simp [full]

structure Inv (f : Flow) : Prop where
  sorted : ∀ s d, (idxOf s (full f s d)).Pairwise (· < ·)
  bound : ∀ s d, ∀ m ∈ full f s d, m.i < f.reads m.s
  srcOwn : ∀ s, ∀ m ∈ flatR (f.src s), m.s = s
  nodup : f.pend.Nodup
  unflag : ∀ d, ∀ m ∈ f.wlog d, m.filt = false
  flagged : ∀ s d, ∀ m ∈ full f s d, ∀ br, (br = none ∨ br = some d) → (br, m.s, m.i) ∈ f.flt → m.filt = true
  fltBound : ∀ br s i, (br, s, i) ∈ f.flt → i < f.reads s

theorem inv_of_sub {f f' : Flow} (hi : Inv f)
    (hreads : f'.reads = f.reads) (hflt : f'.flt = f.flt)
    (hsub : ∀ s d, (idxOf s (full f' s d)).Sublist (idxOf s (full f s d)))
    (hmem : ∀ s d, ∀ m ∈ full f' s d, ∃ s1, ∃ m1 ∈ full f s1 d,
      m1.s = m.s ∧ m1.i = m.i ∧ (m1.filt = true → m.filt = true))
    (hsrc : ∀ s, ∀ m ∈ flatR (f'.src s), m.s = s)
    (hnd : f'.pend.Nodup)
    (hunf : ∀ d, ∀ m ∈ f'.wlog d, m.filt = false) : Inv f' where
  sorted s d := (hi.sorted s d).sublist (hsub s d)
  bound s d m hm := by
    obtain ⟨s1, m1, h1, hs, hi', _⟩ := hmem s d m hm
    have := hi.bound s1 d m1 h1
    rw [hreads, ← hs, ← hi']; exact this
  srcOwn := hsrc
  nodup := hnd
  unflag := hunf
  flagged s d m hm br hbr hin := by
    obtain ⟨s1, m1, h1, hs, hi', hf⟩ := hmem s d m hm
    apply hf
    apply hi.flagged s1 d m1 h1 br hbr
    rw [hs, hi', ← hflt]; exact hin
  fltBound br s i h := by rw [hreads]; rw [hflt] at h; exact hi.fltBound br s i h

theorem inv_of_le {f f' : Flow} (hi : Inv f)
    (hreads : f'.reads = f.reads) (hflt : f'.flt = f.flt)
    (hle : ∀ s d, Le (full f' s d) (full f s d))
    (hsrc : ∀ s, ∀ m ∈ flatR (f'.src s), m.s = s)
    (hnd : f'.pend.Nodup)
    (hunf : ∀ d, ∀ m ∈ f'.wlog d, m.filt = false) : Inv f' :=
  inv_of_sub hi hreads hflt (fun s d => (hle s d).1 s)
    (fun s d m hm => ⟨s, (hle s d).2 m hm⟩) hsrc hnd hunf

theorem full_le {f f' : Flow} {s d : Nat}
    (hw : f'.wlog d = f.wlog d)
    (hd : Le (flatR (f'.dst d)) (flatR (f.dst d)))
    (hc : Le (curFor f' d) (curFor f d))
    (hp : Le (flatR f'.pl) (flatR f.pl))
    (hs : Le (flatR (f'.src s)) (flatR (f.src s))) : Le (full f' s d) (full f s d) := by
  unfold full
  exact Le.append (Le.of_eq hw) (Le.append hd (Le.append hc (Le.append hp hs)))

theorem inv_of_parts {f f' : Flow} (hi : Inv f)
    (hreads : f'.reads = f.reads) (hflt : f'.flt = f.flt)
    (hw : ∀ d, f'.wlog d = f.wlog d)
    (hd : ∀ d, Le (flatR (f'.dst d)) (flatR (f.dst d)))
    (hc : ∀ d, Le (curFor f' d) (curFor f d))
    (hp : Le (flatR f'.pl) (flatR f.pl))
    (hs : ∀ s, Le (flatR (f'.src s)) (flatR (f.src s)))
    (hnd : f'.pend.Nodup) : Inv f' :=
  inv_of_le hi hreads hflt (fun s d => full_le (hw d) (hd d) (hc d) hp (hs s))
    (fun s m hm => by
      obtain ⟨m1, h1, h2, _⟩ := (hs s).2 m hm
      rw [← h2]; exact hi.srcOwn s m1 h1)
    hnd (fun d m hm => by rw [hw d] at hm; exact hi.unflag d m hm)

theorem le_full_of {f : Flow} {s d : Nat} {L D P S : List Msg}
    (hD : Eqv D (flatR (f.dst d))) (hP : Eqv P (flatR f.pl)) (hS : Eqv S (flatR (f.src s)))
    (h : L.Sublist (f.wlog d ++ (D ++ (curFor f d ++ (P ++ S))))) : Le L (full f s d) :=
  Le.trans (Le.of_sublist h)
    (Eqv.append (Eqv.refl _) (Eqv.append hD (Eqv.append (Eqv.refl _) (Eqv.append hP hS)))).le

theorem inv_init (τ : Topo) : Inv (Flow.init τ) := by
  have hfull : ∀ s d, full (Flow.init τ) s d = [] := by
    intro s d; simp [full, curFor, Flow.init, flatR_replicate_nil]
  refine ⟨?_, ?_, ?_, ?_, ?_, ?_, ?_⟩
  · intro s d; rw [hfull]; simp
  · intro s d m hm; rw [hfull] at hm; simp at hm
  · intro s m hm; simp [Flow.init, flatR_replicate_nil] at hm
  · simp [Flow.init]
  · intro d m hm; simp [Flow.init] at hm
  · intro s d m hm; rw [hfull] at hm; simp at hm
  · intro br s i h; simp [Flow.init] at h

theorem flatR_upd_le {g : Nat → Stages} {k : Nat} {st : Stages} (h : Le (flatR st) (flatR (g k))) (x : Nat) :
    Le (flatR (upd g k st x)) (flatR (g x)) := by
  by_cases hx : x = k
  · subst hx; simpa using h
  · simpa [upd, hx] using Le.refl _

section inversion
variable {τ : Topo} {f f' : Flow}

theorem flow_read {s : Nat} (h : Flow.step τ f (.read s) = some f') :
    ∃ st, pushFirst (f.src s) ⟨s, f.reads s, false⟩ = some st ∧
      f' = { f with src := upd f.src s st, reads := upd f.reads s (f.reads s + 1) } := by
  simp only [Flow.step, Option.map_eq_some_iff] at h
  obtain ⟨st, hp, rfl⟩ := h
  exact ⟨st, hp, rfl⟩

theorem flow_mvSrc {s k i : Nat} (h : Flow.step.mvSrc f s k i = some f') :
    (∃ m st, moveAt (f.src s) k s = some (m, st) ∧ f' = { f with src := upd f.src s st }) ∨
    (∃ m st p, popLast (f.src s) s = some (m, st) ∧ (m.s = s ∧ m.i = i) ∧ pushFirst f.pl m = some p ∧
      f' = { f with src := upd f.src s st, pl := p }) := by
  unfold Flow.step.mvSrc at h
  split at h
  · split at h
    · split at h
      · cases h; exact Or.inl ⟨_, _, by assumption, rfl⟩
      · cases h
    · cases h
  · split at h
    · split at h
      · split at h
        · simp only [Option.map_eq_some_iff] at h
          obtain ⟨p, hp, rfl⟩ := h
          exact Or.inr ⟨_, _, p, by assumption, by assumption, hp, rfl⟩
        · cases h
      · cases h
    · cases h

theorem flow_mv_src {s k s' i : Nat} (h : Flow.step τ f (.mv (.src s) k s' i) = some f') :
    Flow.step.mvSrc f s k i = some f' := by
  dsimp only [Flow.step] at h
  split at h
  · cases h
  · split at h
    · cases h
    · exact h

/-- The hand-off statements of `Flow.step` have one shape: unless the hop is a job still to be done, take a
message off a stage and go on if it is the one the event names. -/
theorem handOff_some {β : Type} {c : Prop} [Decidable c] {x : Option (Msg × Stages)} {g : Msg → Prop}
    [DecidablePred g] {k : Msg → Stages → β} {b : β}
    (h : (if c then none else
      match x with
      | some (m, st) => if g m then some (k m st) else none
      | none => none) = some b) : ∃ m st, x = some (m, st) ∧ g m ∧ b = k m st := by
  split at h
  · cases h
  · split at h
    · split at h
      · cases h; exact ⟨_, _, rfl, ‹_›, rfl⟩
      · cases h
    · cases h

theorem flow_mv_pl {k s i : Nat} (h : Flow.step τ f (.mv .pl k s i) = some f') :
    ∃ m st, moveAt f.pl k s = some (m, st) ∧ f' = { f with pl := st } := by
  obtain ⟨m, st, hm, -, rfl⟩ := handOff_some h
  exact ⟨m, st, hm, rfl⟩

theorem flow_mv_dst {d k s i : Nat} (h : Flow.step τ f (.mv (.dst d) k s i) = some f') :
    ∃ m st, moveAt (f.dst d) k s = some (m, st) ∧ f' = { f with dst := upd f.dst d st } := by
  obtain ⟨m, st, hm, -, rfl⟩ := handOff_some h
  exact ⟨m, st, hm, rfl⟩

theorem flow_fan {s i : Nat} (h : Flow.step τ f (.fan s i) = some f') :
    f.pend = [] ∧ ∃ m st, popLast f.pl s = some (m, st) ∧
      f' = { f with pl := st, cur := some m, pend := List.range τ.nDst } := by
  dsimp only [Flow.step] at h
  split at h
  · cases h
  · obtain ⟨m, st, hm, -, rfl⟩ := handOff_some h
    exact ⟨Classical.not_not.1 ‹_›, m, st, hm, rfl⟩

theorem flow_fdeliver {d : Nat} (h : Flow.step τ f (.fdeliver d) = some f') :
    ∃ m st, f.cur = some m ∧ d ∈ f.pend ∧ pushFirst (f.dst d) m = some st ∧
      f' = { f with dst := upd f.dst d st, pend := f.pend.erase d } := by
  dsimp only [Flow.step] at h
  split at h
  · split at h
    · simp only [Option.map_eq_some_iff] at h
      obtain ⟨st, hp, rfl⟩ := h
      exact ⟨_, st, by assumption, by assumption, hp, rfl⟩
    · cases h
  · cases h

theorem flow_write {d s i : Nat} {ok : Bool} (h : Flow.step τ f (.write d s i ok) = some f') :
    ∃ m st, popLast (f.dst d) s = some (m, st) ∧ (m.s = s ∧ m.i = i ∧ m.filt = false) ∧
      f' = { f with dst := upd f.dst d st, wlog := upd f.wlog d (f.wlog d ++ [m]) } :=
  handOff_some h

theorem flow_fpass {d s i : Nat} (h : Flow.step τ f (.fpass d s i) = some f') :
    ∃ m st, popLast (f.dst d) s = some (m, st) ∧ f' = { f with dst := upd f.dst d st } := by
  obtain ⟨m, st, hm, -, rfl⟩ := handOff_some h
  exact ⟨m, st, hm, rfl⟩

theorem flow_procO {s i : Nat} {k : PKind} (h : Flow.step τ f (.proc none s i k) = some f') :
    ((f.src s).has s i || f.pl.has s i) = true ∧ f' = match (generalizing := false) k with
      | .pass => f
      | .filter => { f with src := upd f.src s ((f.src s).mark s i), pl := f.pl.mark s i, flt := (none, s, i) :: f.flt }
      | .fail => { f with src := upd f.src s ((f.src s).remove s i), pl := f.pl.remove s i } := by
  dsimp only [Flow.step] at h
  split at h
  · refine ⟨by assumption, ?_⟩
    cases k <;> cases h <;> rfl
  · cases h

theorem flow_procB {d s i : Nat} {k : PKind} (h : Flow.step τ f (.proc (some d) s i k) = some f') :
    (f.dst d).has s i = true ∧ f' = match (generalizing := false) k with
      | .pass => f
      | .filter => { f with dst := upd f.dst d ((f.dst d).mark s i), flt := (some d, s, i) :: f.flt }
      | .fail => { f with dst := upd f.dst d ((f.dst d).remove s i) } := by
  dsimp only [Flow.step] at h
  split at h
  · refine ⟨by assumption, ?_⟩
    cases k <;> cases h <;> rfl
  · cases h
end inversion

theorem inv_read {τ : Topo} {f f' : Flow} {s0 : Nat} (hi : Inv f)
    (h : Flow.step τ f (.read s0) = some f') : Inv f' := by
  obtain ⟨st, hp, h⟩ := flow_read h
  have hst := flatR_pushFirst _ _ _ hp
  have hfull : ∀ s d, full f' s d =
      if s = s0 then full f s d ++ [⟨s0, f.reads s0, false⟩] else full f s d := by
    intro s d
    subst h
    by_cases hs : s = s0
    · subst hs; simp [full, curFor, hst]
    · simp [full, curFor, hs]
  have hreads : ∀ x, f.reads x ≤ f'.reads x ∧ f'.reads s0 = f.reads s0 + 1 := by
    intro x; subst h; simp only [upd_apply]; constructor
    · split
      · next hx => subst hx; omega
      · omega
    · simp
  have hflt : f'.flt = f.flt := by subst h; rfl
  have hwlog : f'.wlog = f.wlog := by subst h; rfl
  have hpend : f'.pend = f.pend := by subst h; rfl
  have hmemF : ∀ s d m, m ∈ full f' s d → m ∈ full f s d ∨ m = ⟨s0, f.reads s0, false⟩ := by
    intro s d m hm
    rw [hfull] at hm
    split at hm
    · simpa using hm
    · exact Or.inl hm
  refine ⟨?_, ?_, ?_, ?_, ?_, ?_, ?_⟩
  · intro s d
    rw [hfull]
    split
    · next hs =>
      subst hs
      rw [idxOf_append, idxOf_single_eq s ⟨s, f.reads s, false⟩ rfl]
      refine List.pairwise_append.2 ⟨hi.sorted s d, List.pairwise_singleton _ _, ?_⟩
      intro a ha b hb
      simp only [List.mem_singleton] at hb
      subst hb
      obtain ⟨m, hm, hs, rfl⟩ := mem_idxOf.1 ha
      have := hi.bound s d m hm
      rw [hs] at this
      exact this
    · exact hi.sorted s d
  · intro s d m hm
    rcases hmemF s d m hm with h1 | h1
    · exact Nat.lt_of_lt_of_le (hi.bound s d m h1) (hreads m.s).1
    · subst h1
      simp only
      rw [(hreads s0).2]; omega
  · intro s m hm
    subst h
    simp only at hm
    by_cases hs : s = s0
    · subst hs
      rw [upd_same, hst] at hm
      rcases List.mem_append.1 hm with h1 | h1
      · exact hi.srcOwn s m h1
      · simp at h1; subst h1; rfl
    · rw [upd_other _ _ _ _ hs] at hm
      exact hi.srcOwn s m hm
  · rw [hpend]; exact hi.nodup
  · rw [hwlog]; exact hi.unflag
  · intro s d m hm br hbr hin
    rw [hflt] at hin
    rcases hmemF s d m hm with h1 | h1
    · exact hi.flagged s d m h1 br hbr hin
    · subst h1
      have := hi.fltBound _ _ _ hin
      simp at this
  · intro br s i hin
    rw [hflt] at hin
    exact Nat.lt_of_lt_of_le (hi.fltBound br s i hin) (hreads s).1

theorem inv_mvSrc {f f' : Flow} {s0 k i : Nat} (hi : Inv f)
    (h : Flow.step.mvSrc f s0 k i = some f') : Inv f' := by
  rcases flow_mvSrc h with ⟨m, st, hm, rfl⟩ | ⟨m, st, p', hm, hc, hq, rfl⟩
  · exact inv_of_parts hi rfl rfl (fun _ => rfl) (fun _ => Le.refl _) (fun _ => Le.refl _) (Le.refl _)
      (flatR_upd_le ((flatR_moveAt _ _ _ _ _ hm).le)) hi.nodup
  -- the fan-in takes `m` out of the chain of `s0` into the pipeline chain
  have e1 := (flatR_popLast _ _ _ _ hm).2
  have e2 := flatR_pushFirst _ _ _ hq
  have hsame : ∀ d, Le (full { f with src := upd f.src s0 st, pl := p' } s0 d) (full f s0 d) := by
    intro d
    apply le_full_of (Eqv.refl _) (Eqv.refl _) e1.symm
    simp [full, curFor, e2]
  have hidx : ∀ s d, s ≠ s0 →
      idxOf s (full { f with src := upd f.src s0 st, pl := p' } s d) = idxOf s (full f s d) := by
    intro s d hs
    have : m.s ≠ s := by rw [hc.1]; exact Ne.symm hs
    simp [full, curFor, idxOf_append, upd, hs, e2, idxOf_cons_ne s m _ this]
  have hmm : ∀ s d, s ≠ s0 → ∀ m' ∈ full { f with src := upd f.src s0 st, pl := p' } s d,
      m' ∈ full f s d ∨ m' = m := by
    intro s d hs m' hm'
    simp only [mem_full, upd_other _ _ _ _ hs, e2, List.mem_append, List.mem_singleton] at hm' ⊢
    rcases hm' with h | h | h | (h | h) | h
    · exact Or.inl (Or.inl h)
    · exact Or.inl (Or.inr (Or.inl h))
    · exact Or.inl (Or.inr (Or.inr (Or.inl h)))
    · exact Or.inl (Or.inr (Or.inr (Or.inr (Or.inl h))))
    · exact Or.inr h
    · exact Or.inl (Or.inr (Or.inr (Or.inr (Or.inr h))))
  have hm0 : ∀ d, m ∈ full f s0 d := by
    intro d; rw [mem_full, e1.2 m]; simp
  refine inv_of_sub hi rfl rfl ?_ ?_ ?_ hi.nodup hi.unflag
  · intro s d
    by_cases hs : s = s0
    · subst hs; exact (hsame d).1 s
    · rw [hidx s d hs]; exact List.Sublist.refl _
  · intro s d m' hm'
    by_cases hs : s = s0
    · subst hs; exact ⟨s, (hsame d).2 m' hm'⟩
    · rcases hmm s d hs m' hm' with h | h
      · exact ⟨s, m', h, rfl, rfl, id⟩
      · subst h; exact ⟨s0, m', hm0 d, rfl, rfl, id⟩
  · intro s m' hm'
    simp only at hm'
    by_cases hs : s = s0
    · subst hs
      rw [upd_same] at hm'
      exact hi.srcOwn s m' ((e1.2 m').2 (List.mem_cons_of_mem _ hm'))
    · rw [upd_other _ _ _ _ hs] at hm'
      exact hi.srcOwn s m' hm'

theorem inv_fan {τ : Topo} {f f' : Flow} {s0 i : Nat} (hi : Inv f)
    (h : Flow.step τ f (.fan s0 i) = some f') : Inv f' := by
  obtain ⟨hp', m, st, hm, rfl⟩ := flow_fan h
  have e1 := (flatR_popLast _ _ _ _ hm).2
  refine inv_of_le hi rfl rfl ?_ hi.srcOwn List.nodup_range hi.unflag
  intro s d
  apply le_full_of (Eqv.refl _) e1.symm (Eqv.refl _)
  by_cases hd : d < τ.nDst <;> simp [full, curFor, hp', hd]

theorem inv_fdeliver {τ : Topo} {f f' : Flow} {d0 : Nat} (hi : Inv f)
    (h : Flow.step τ f (.fdeliver d0) = some f') : Inv f' := by
  obtain ⟨m, st, hc, hd, hq, rfl⟩ := flow_fdeliver h
  have e := flatR_pushFirst _ _ _ hq
  refine inv_of_le hi rfl rfl ?_ hi.srcOwn (hi.nodup.erase _) hi.unflag
  intro s d
  apply Le.of_eq
  by_cases hdd : d = d0
  · subst hdd
    have : d ∉ f.pend.erase d := hi.nodup.not_mem_erase
    simp [full, curFor, this, hd, hc, e]
  · have : d ∈ f.pend.erase d0 ↔ d ∈ f.pend := List.mem_erase_of_ne hdd
    simp [full, curFor, this, hdd, hc]

theorem inv_write {τ : Topo} {f f' : Flow} {d0 s0 i : Nat} {ok : Bool} (hi : Inv f)
    (h : Flow.step τ f (.write d0 s0 i ok) = some f') : Inv f' := by
  obtain ⟨m, st, hm, hc, rfl⟩ := flow_write h
  have e1 := (flatR_popLast _ _ _ _ hm).2
  refine inv_of_le hi rfl rfl ?_ hi.srcOwn hi.nodup ?_
  · intro s d
    by_cases hdd : d = d0
    · subst hdd
      apply le_full_of e1.symm (Eqv.refl _) (Eqv.refl _)
      simp [full, curFor]
    · apply Le.of_eq
      simp [full, curFor, hdd]
  · intro d m' hm'
    simp only at hm'
    by_cases hdd : d = d0
    · subst hdd
      rw [upd_same] at hm'
      rcases List.mem_append.1 hm' with h1 | h1
      · exact hi.unflag d m' h1
      · simp only [List.mem_singleton] at h1; subst h1; exact hc.2.2
    · rw [upd_other _ _ _ _ hdd] at hm'
      exact hi.unflag d m' hm'

theorem remove_le (st : Stages) (s i : Nat) : Le (flatR (st.remove s i)) (flatR st) := by
  rw [flatR_remove]; exact Le.filter _ _

theorem mark_le (st : Stages) (s i : Nat) : Le (flatR (st.mark s i)) (flatR st) := by
  rw [flatR_mark]; exact Le.mark _ _ _

theorem sorted_lt {s : Nat} {A B : List Msg} (h : (idxOf s (A ++ B)).Pairwise (· < ·)) {m m0 : Msg}
    (hm : m ∈ A) (hm0 : m0 ∈ B) (hs : m.s = s) (hs0 : m0.s = s) : m.i < m0.i := by
  rw [idxOf_append] at h
  exact (List.pairwise_append.1 h).2.2 m.i (mem_idxOf.2 ⟨m, hm, hs, rfl⟩) m0.i (mem_idxOf.2 ⟨m0, hm0, hs0, rfl⟩)

theorem mem_mark_hit {st : Stages} {s i : Nat} {m : Msg} (hm : m ∈ flatR (st.mark s i))
    (h1 : m.s = s) (h2 : m.i = i) : m.filt = true := by
  rw [flatR_mark] at hm
  obtain ⟨m1, _, rfl⟩ := List.mem_map.1 hm
  exact markF_hit s i m1 (by simpa using h1) (by simpa using h2)

/-- a processor flags `(s0,i0)`: the invariant survives if, in `f'`, every copy on the way to a
destination that the history entry `(br0, s0, i0)` speaks about is flagged (`hnew`). -/
theorem inv_of_filter {f f' : Flow} (hi : Inv f) (br0 : Option Nat) (s0 i0 : Nat)
    (hreads : f'.reads = f.reads) (hflt : f'.flt = (br0, s0, i0) :: f.flt)
    (hw : ∀ d, f'.wlog d = f.wlog d)
    (hd : ∀ d, Le (flatR (f'.dst d)) (flatR (f.dst d)))
    (hc : ∀ d, Le (curFor f' d) (curFor f d))
    (hp : Le (flatR f'.pl) (flatR f.pl))
    (hs : ∀ s, Le (flatR (f'.src s)) (flatR (f.src s)))
    (hnd : f'.pend.Nodup)
    (hb : i0 < f.reads s0)
    (hnew : ∀ s d, ∀ m ∈ full f' s d, (br0 = none ∨ br0 = some d) → m.s = s0 → m.i = i0 → m.filt = true) :
    Inv f' := by
  -- up to the new history entry this is `inv_of_parts`
  have hg : Inv { f' with flt := f.flt } := inv_of_parts hi hreads rfl hw hd hc hp hs hnd
  refine { hg with flagged := fun s d m hm br hbr hin => ?_, fltBound := fun br s i h => ?_ }
  · rw [hflt] at hin
    rcases List.mem_cons.1 hin with h | h
    · simp only [Prod.mk.injEq] at h
      obtain ⟨h1, h2, h3⟩ := h
      subst h1
      exact hnew s d m hm hbr h2 h3
    · exact hg.flagged s d m hm br hbr h
  · rw [hflt] at h
    rcases List.mem_cons.1 h with h | h
    · simp only [Prod.mk.injEq] at h
      obtain ⟨_, h2, h3⟩ := h
      subst h2; subst h3; rw [hreads]; exact hb
    · exact hg.fltBound br s i h

theorem inv_proc_none {τ : Topo} {f f' : Flow} {s0 i0 : Nat} {k : PKind} (hi : Inv f)
    (h : Flow.step τ f (.proc none s0 i0 k) = some f') : Inv f' := by
  obtain ⟨hh, rfl⟩ := flow_procO h
  clear h
  cases k with
  | pass => exact hi
  | fail =>
    exact inv_of_parts hi rfl rfl (fun _ => rfl) (fun _ => Le.refl _) (fun _ => Le.refl _)
      (remove_le _ _ _) (flatR_upd_le (remove_le _ _ _)) hi.nodup
  | filter =>
    have hm0 : ∃ m0, (m0 ∈ flatR f.pl ∨ m0 ∈ flatR (f.src s0)) ∧ m0.s = s0 ∧ m0.i = i0 := by
      rcases Bool.or_eq_true_iff.1 hh with h1 | h1
      · obtain ⟨m0, h2, h3⟩ := (has_iff _ _ _).1 h1
        exact ⟨m0, Or.inr h2, h3⟩
      · obtain ⟨m0, h2, h3⟩ := (has_iff _ _ _).1 h1
        exact ⟨m0, Or.inl h2, h3⟩
    obtain ⟨m0, hm0, hs0, hi0⟩ := hm0
    have hm0f : ∀ d, m0 ∈ full f s0 d := by
      intro d; rw [mem_full]
      rcases hm0 with h1 | h1
      · exact Or.inr (Or.inr (Or.inr (Or.inl h1)))
      · exact Or.inr (Or.inr (Or.inr (Or.inr h1)))
    refine inv_of_filter hi none s0 i0 rfl rfl (fun _ => rfl) (fun _ => Le.refl _) (fun _ => Le.refl _)
      (mark_le _ _ _) (flatR_upd_le (mark_le _ _ _)) hi.nodup ?_ ?_
    · have := hi.bound s0 0 m0 (hm0f 0)
      rw [hs0, hi0] at this; exact this
    · intro s d m hm _ h1 h2
      rw [mem_full] at hm
      simp only at hm
      -- a copy further on would be older than the one the processor holds
      have hfront : m ∈ f.wlog d ++ (flatR (f.dst d) ++ curFor f d) → m.filt = true := by
        intro hA
        have hsplit : full f s0 d = (f.wlog d ++ (flatR (f.dst d) ++ curFor f d)) ++
            (flatR f.pl ++ flatR (f.src s0)) := by simp [full]
        have hsort := hi.sorted s0 d
        rw [hsplit] at hsort
        have hB : m0 ∈ flatR f.pl ++ flatR (f.src s0) := List.mem_append.2 hm0
        have := sorted_lt hsort hA hB h1 hs0
        omega
      rcases hm with h | h | h | h | h
      · exact hfront (List.mem_append_left _ h)
      · exact hfront (List.mem_append_right _ (List.mem_append_left _ h))
      · exact hfront (List.mem_append_right _ (List.mem_append_right _ h))
      · exact mem_mark_hit h h1 h2
      · by_cases hs : s = s0
        · subst hs
          rw [upd_same] at h
          exact mem_mark_hit h h1 h2
        · rw [upd_other _ _ _ _ hs] at h
          exact absurd ((hi.srcOwn s m h).symm.trans h1) hs

theorem inv_proc_some {τ : Topo} {f f' : Flow} {d0 s0 i0 : Nat} {k : PKind} (hi : Inv f)
    (h : Flow.step τ f (.proc (some d0) s0 i0 k) = some f') : Inv f' := by
  obtain ⟨hh, rfl⟩ := flow_procB h
  clear h
  cases k with
  | pass => exact hi
  | fail =>
    exact inv_of_parts hi rfl rfl (fun _ => rfl) (flatR_upd_le (remove_le _ _ _)) (fun _ => Le.refl _)
      (Le.refl _) (fun _ => Le.refl _) hi.nodup
  | filter =>
    obtain ⟨m0, hm0, hs0, hi0⟩ := (has_iff _ _ _).1 hh
    refine inv_of_filter hi (some d0) s0 i0 rfl rfl (fun _ => rfl) (flatR_upd_le (mark_le _ _ _))
      (fun _ => Le.refl _) (Le.refl _) (fun _ => Le.refl _) hi.nodup ?_ ?_
    · have := hi.bound s0 d0 m0 (mem_full.2 (Or.inr (Or.inl hm0)))
      rw [hs0, hi0] at this; exact this
    · intro s d m hm hbr h1 h2
      have hd : d = d0 := by
        rcases hbr with h | h
        · cases h
        · exact (Option.some.inj h).symm
      subst hd
      rw [mem_full] at hm
      simp only [upd_same] at hm
      have hsort := hi.sorted s0 d
      have hback : m ∈ curFor f d ++ (flatR f.pl ++ flatR (f.src s0)) → m.filt = true := by
        intro hB
        have hsplit : full f s0 d = (f.wlog d ++ flatR (f.dst d)) ++
            (curFor f d ++ (flatR f.pl ++ flatR (f.src s0))) := by simp [full]
        rw [hsplit] at hsort
        have := sorted_lt hsort (List.mem_append_right _ hm0) hB hs0 h1
        omega
      rcases hm with h | h | h | h | h
      · have hsplit : full f s0 d = f.wlog d ++ (flatR (f.dst d) ++
            (curFor f d ++ (flatR f.pl ++ flatR (f.src s0)))) := rfl
        rw [hsplit] at hsort
        have := sorted_lt hsort h (List.mem_append_left _ hm0) h1 hs0
        omega
      · exact mem_mark_hit h h1 h2
      · exact hback (List.mem_append_left _ h)
      · exact hback (List.mem_append_right _ (List.mem_append_left _ h))
      · have hs : s = s0 := (hi.srcOwn s m h).symm.trans h1
        subst hs
        exact hback (List.mem_append_right _ (List.mem_append_right _ h))

theorem inv_nackB {τ : Topo} {f f' : Flow} {d0 s0 i0 : Nat} (hi : Inv f)
    (h : Flow.step τ f (.nackB d0 s0 i0) = some f') : Inv f' := by
  cases h
  refine inv_of_parts hi rfl rfl (fun _ => rfl) (flatR_upd_le (remove_le _ _ _)) ?_
    (Le.refl _) (fun _ => Le.refl _) ?_
  · intro d
    apply Le.of_sublist
    simp only [curFor]
    split
    · by_cases hd : d ∈ f.pend.erase d0
      · rw [if_pos hd, if_pos (List.mem_of_mem_erase hd)]; exact List.Sublist.refl _
      · rw [if_neg hd]; exact List.nil_sublist _
    · exact List.Sublist.refl _
  · simp only
    split
    · exact hi.nodup.erase _
    · exact hi.nodup

theorem inv_step {τ : Topo} {f f' : Flow} {e : Ev} (hi : Inv f)
    (h : Flow.step τ f e = some f') : Inv f' := by
  cases e with
  | read s => exact inv_read hi h
  | proc br s i k =>
    cases br with
    | none => exact inv_proc_none hi h
    | some d => exact inv_proc_some hi h
  | write d s i ok => exact inv_write hi h
  | enq s i => exact inv_mvSrc hi h
  | fan s i => exact inv_fan hi h
  | fdeliver d => exact inv_fdeliver hi h
  | mv g k s i =>
    cases g with
    | src s0 => exact inv_mvSrc hi (flow_mv_src h)
    | pl =>
      obtain ⟨m, st, hm, rfl⟩ := flow_mv_pl h
      exact inv_of_parts hi rfl rfl (fun _ => rfl) (fun _ => Le.refl _) (fun _ => Le.refl _)
        ((flatR_moveAt _ _ _ _ _ hm).le) (fun _ => Le.refl _) hi.nodup
    | dst d =>
      obtain ⟨m, st, hm, rfl⟩ := flow_mv_dst h
      exact inv_of_parts hi rfl rfl (fun _ => rfl) (flatR_upd_le ((flatR_moveAt _ _ _ _ _ hm).le))
        (fun _ => Le.refl _) (Le.refl _) (fun _ => Le.refl _) hi.nodup
  | fpass d s i =>
    obtain ⟨m, st, hm, rfl⟩ := flow_fpass h
    exact inv_of_parts hi rfl rfl (fun _ => rfl)
      (flatR_upd_le (Le.trans (Le.of_sublist (List.sublist_cons_self m _)) (flatR_popLast _ _ _ _ hm).2.symm.le))
      (fun _ => Le.refl _) (Le.refl _) (fun _ => Le.refl _) hi.nodup
  | nackO s i =>
    cases h
    exact inv_of_parts hi rfl rfl (fun _ => rfl) (fun _ => Le.refl _) (fun _ => Le.refl _)
      (remove_le _ _ _) (flatR_upd_le (remove_le _ _ _)) hi.nodup
  | nackB d s i => exact inv_nackB hi h
  | pdone g k s i => cases h; exact ⟨hi.sorted, hi.bound, hi.srcOwn, hi.nodup, hi.unflag, hi.flagged, hi.fltBound⟩
  | dreply _ _ | dreplyErr _ | dlqw _ _ _ | dlqa _ _ _ | sack _ _ _ | dbuf _ | winAck _ | hfail _ _ | dlqStop | wkill _ | fack _ _ _ =>
    cases h; exact hi

theorem Flow.run_eq (τ : Topo) (evs : List Ev) (f : Flow) : Flow.run τ f evs = evs.foldlM (Flow.step τ) f :=
  EventSys.run_eq (fun _ => rfl) (fun f e _ => by cases h : Flow.step τ f e <;> simp [Flow.run, h]) evs f

theorem inv_run {τ : Topo} (evs : List Ev) {f f' : Flow} (hi : Inv f)
    (h : Flow.run τ f evs = some f') : Inv f' :=
  EventSys.run_induct (fun _ _ _ hi => inv_step hi) evs hi (Flow.run_eq .. ▸ h)

theorem inv_reach {τ : Topo} {evs : List Ev} {f : Flow} (h : Flow.run τ (Flow.init τ) evs = some f) : Inv f :=
  inv_run evs (inv_init τ) h

theorem Inv.writes_sorted {f : Flow} (hi : Inv f) (d s : Nat) : List.Pairwise (· < ·) (idxOf s (f.wlog d)) := by
  have := hi.sorted s d
  unfold full at this
  rw [idxOf_append] at this
  exact (List.pairwise_append.1 this).1

theorem Inv.writes_read {f : Flow} (hi : Inv f) (d : Nat) : ∀ m ∈ f.wlog d, m.i < f.reads m.s :=
  fun m hm => hi.bound 0 d m (mem_full.2 (Or.inl hm))

theorem Inv.filtered_absent {f : Flow} (hi : Inv f) (d : Nat) :
    ∀ m ∈ f.wlog d, (none, m.s, m.i) ∉ f.flt ∧ (some d, m.s, m.i) ∉ f.flt := by
  intro m hm
  have hf := hi.unflag d m hm
  have hfl := hi.flagged 0 d m (mem_full.2 (Or.inl hm))
  exact ⟨fun hin => Bool.false_ne_true (hf ▸ hfl none (Or.inl rfl) hin),
    fun hin => Bool.false_ne_true (hf ▸ hfl (some d) (Or.inr rfl) hin)⟩

/-- per destination and per source, the write log is strictly increasing in the emit index:
records arrive in read order and none is written twice. -/
theorem flow_writes_sorted (τ : Topo) (evs : List Ev) (f : Flow)
    (h : Flow.run τ (Flow.init τ) evs = some f) (d s : Nat) :
    List.Pairwise (· < ·) (idxOf s (f.wlog d)) :=
  (inv_reach h).writes_sorted d s

theorem flow_writes_read (τ : Topo) (evs : List Ev) (f : Flow)
    (h : Flow.run τ (Flow.init τ) evs = some f) (d : Nat) :
    ∀ m ∈ f.wlog d, m.i < f.reads m.s :=
  (inv_reach h).writes_read d

theorem flow_written_unflagged (τ : Topo) (evs : List Ev) (f : Flow)
    (h : Flow.run τ (Flow.init τ) evs = some f) (d : Nat) :
    ∀ m ∈ f.wlog d, m.filt = false :=
  (inv_run evs (inv_init τ) h).unflag d

/-- a record for which a processor on its way to destination d returned FilterRecord is never
written to d. -/
theorem flow_filtered_absent (τ : Topo) (evs : List Ev) (f : Flow)
    (h : Flow.run τ (Flow.init τ) evs = some f) (d : Nat) :
    ∀ m ∈ f.wlog d, (none, m.s, m.i) ∉ f.flt ∧ (some d, m.s, m.i) ∉ f.flt :=
  (inv_reach h).filtered_absent d

end Conduit.Stream
