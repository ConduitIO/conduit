import ConduitModel.Proofs.MonSBase
import ConduitModel.Proofs.MonProc

/-!
# The key discipline of a run

The C05 "duplicate write" clause of the monitor compares tags. The soundness proof reads every tag
through a KEY `κ : Nat → Nat`: the keys of the rows of a batch in flight are distinct, a processor reply
gives a kid its parent's key or a key that is new in the run, and no key of a row still to be written
was written to a destination ahead. Equal tags have equal keys, so a key that was not written ahead
gives a tag that was not written ahead (`UnwK.tag`), for any `κ`. What a run has to obey is `Disc κ`; the
two instances are

* `κ = id` under the tag discipline `FreshTags` of the harness generators (`Disc.of_FT`);
* `κ` = the root (`· % 1000`) for scripts that never split a record, under `RootPreserving`
  (`Disc.of_NS`): a kid then always has its parent's key, so no key is ever new.
-/
namespace Conduit.Funnel
open Conduit.Funnel.Mon

theorem SProc.ok_outRecs {recs : List Rec} {out : List PR} (hok : pcallOK recs out = true) {a : Nat} {r : Rec} {o : PR}
    (h1 : recs[a]? = some r) (h2 : out[a]? = some o) : ∀ r' ∈ outRecs o, root r' = root r := by
  intro r' hm
  obtain ⟨g1, g2⟩ := pcallOK_get hok h1 h2
  cases o with
  | single x =>
    simp only [outRecs, List.mem_singleton] at hm
    subst hm; exact g1 _ rfl
  | multi m => exact g2 m rfl r' hm
  | filter => simp [outRecs] at hm
  | error e => simp [outRecs] at hm
  | nil => simp [outRecs] at hm

def segK (κ : Nat → Nat) (x : Rec × PR) : List Nat := ((outRecs x.2).map (κ ·.tag)).filter (· != κ x.1.tag)

/-- The key discipline for one processor call, `seen` being the tags seen before it. For `κ = id` this is
`pcallFresh` (`fresh_unpack`). -/
structure KeyCall (κ : Nat → Nat) (seen : List Nat) (recs : List Rec) (out : List PR) : Prop where
  kids : ∀ x ∈ recs.zip out, ((outRecs x.2).map (κ ·.tag)).Nodup
  nodup : ((recs.zip out).flatMap (segK κ)).Nodup
  new : ∀ k ∈ (recs.zip out).flatMap (segK κ), k ∉ seen.map κ

/-- All the soundness proof asks of the tags of a run: which `κ` a run obeys it for is the only thing that
differs between scripts that split records (`Disc.of_FT`) and scripts that do not (`Disc.of_NS`). -/
def Disc (κ : Nat → Nat) (G : Ctx) (s : PS) : Prop :=
  ∀ (s0 s1 : PS) (t : Nat) (recs : List Rec), s1.log = s0.log.push (.pcall t recs) → s1.log.toList <+: s.log.toList →
    KeyCall κ (Seen G s0) recs (procOut (replyOfCall G.scripts t (callNoL (G.mu s0).calls t)))

theorem Disc.prefix {κ : Nat → Nat} {G : Ctx} {s s' : PS} (h : Disc κ G s') (hp : s.log.toList <+: s'.log.toList) :
    Disc κ G s :=
  fun s0 s1 t recs hl hp1 => h s0 s1 t recs hl (hp1.trans hp)

theorem Disc.pcall {κ : Nat → Nat} {G : Ctx} {s s' : PS} (h : Disc κ G s') (t : Nat) (recs : List Rec)
    (hlog : s'.log = s.log.push (.pcall t recs)) :
    KeyCall κ (Seen G s) recs (procOut (replyOfCall G.scripts t (callNoL (G.mu s).calls t))) :=
  h s s' t recs hlog (List.prefix_refl _)

theorem fresh_unpack {seen : List Nat} {recs : List Rec} {out : List PR} (h : pcallFresh seen recs out = true) :
    KeyCall id seen recs out := by
  unfold pcallFresh at h
  simp only [Bool.and_eq_true, List.all_eq_true, decide_eq_true_eq, Bool.not_eq_true', List.contains_eq_mem,
    decide_eq_false_iff_not] at h
  exact ⟨h.1.1, h.1.2, by rw [List.map_id]; exact h.2⟩

theorem Disc.of_FT {G : Ctx} {s : PS} (h : FT G s) : Disc id G s :=
  fun _ _ t recs hl hp => fresh_unpack ((h.prefix hp).pcall t recs hl)

abbrev rootK (t : Nat) : Nat := t % 1000

/-- No condition on the tags: a record has at most one output, and the output has the root of its input,
so no call ever introduces a new key. -/
theorem Disc.of_NS {G : Ctx} {s : PS} (hns : NS G.scripts) (h : RP G s) : Disc rootK G s := by
  intro s0 s1 t recs hl hp
  have hok := (h.prefix hp).pcall t recs hl
  have hnm := noMulti_replyOfCall hns t (callNoL (G.mu s0).calls t)
  generalize procOut (replyOfCall G.scripts t (callNoL (G.mu s0).calls t)) = out at hok hnm
  have hseg : ∀ x ∈ recs.zip out, segK rootK x = [] := by
    intro x hx
    obtain ⟨a, ha⟩ := List.getElem?_of_mem hx
    obtain ⟨h1, h2⟩ := List.getElem?_zip_eq_some.mp ha
    unfold segK
    rw [List.filter_eq_nil_iff]
    intro k hk
    obtain ⟨r', hr', rfl⟩ := List.mem_map.mp hk
    have := SProc.ok_outRecs hok h1 h2 r' hr'
    unfold root at this
    simpa using this
  have hnil : (recs.zip out).flatMap (segK rootK) = [] := by
    rw [List.flatMap_eq_nil_iff]; exact hseg
  refine ⟨?_, by rw [hnil]; exact List.nodup_nil, by rw [hnil]; intro k hk; cases hk⟩
  intro x hx
  have hm := hnm x.2 (List.of_mem_zip hx).2
  cases ho : x.2 with
  | multi m =>
    have := hm m ho
    simp only [outRecs]
    match m, this with
    | [], _ => exact List.nodup_nil
    | [_], _ => simp
  | single r => simp [outRecs]
  | filter => simp [outRecs]
  | error e => simp [outRecs]
  | nil => simp [outRecs]

def UnwK (κ : Nat → Nat) (μ : TSt) (sub : List Nat) (k : Nat) : Prop := ∀ e ∈ μ.written, e.1 ∈ sub → κ e.2.2.1 ≠ k

/-- `TagsF` read through `κ` (`sub` = the destinations still ahead). Distinct keys are what makes `unw`
survive the writes of the other rows. -/
structure TagsK (κ : Nat → Nat) (G : Ctx) (s : PS) (sub : List Nat) (b : Batch) (i : Nat) : Prop where
  nodup : (b.rows.map (κ ·.r.tag)).Nodup
  seen : ∀ (k : Nat) (row : Row), i ≤ k → b.rows[k]? = some row → row.r.tag ∈ Seen G s
  unw : ∀ (k : Nat) (row : Row), i ≤ k → b.rows[k]? = some row → row.st.flag = .ack ∨ row.st.flag = .retry →
    UnwK κ (G.mu s) sub (κ row.r.tag)

theorem TagsK.written {κ : Nat → Nat} {G : Ctx} {s s' : PS} {sub sub' : List Nat} {b : Batch} {i : Nat}
    (ht : TagsK κ G s sub b i) (hseen : ∀ x ∈ Seen G s, x ∈ Seen G s')
    (hwr : ∀ e ∈ (G.mu s').written, e.1 ∈ sub' → e ∈ (G.mu s).written ∧ e.1 ∈ sub) : TagsK κ G s' sub' b i :=
  ⟨ht.nodup, fun k row hk hr => hseen _ (ht.seen k row hk hr),
    fun k row hk hr hf e he hs => ht.unw k row hk hr hf e (hwr e he hs).1 (hwr e he hs).2⟩

/-- `TagsK.written` for `WBelowG`, stated unfolded -/
theorem below_written {G : Ctx} {μ μ' : TSt} {sub sub' : List Nat} {p : Nat}
    (h : ∀ e ∈ μ.written, e.1 ∈ sub → NonPend G (p + 1) e.2.1)
    (hwr : ∀ e ∈ μ'.written, e.1 ∈ sub' → e ∈ μ.written ∧ e.1 ∈ sub) : ∀ e ∈ μ'.written, e.1 ∈ sub' → NonPend G (p + 1) e.2.1 :=
  fun e he hs => h e (hwr e he hs).1 (hwr e he hs).2

/-- `Unw` of the tag is what the C05 "duplicate write" clause asks of a `.write` event (`write_silentS`). -/
theorem UnwK.tag {κ : Nat → Nat} {μ : TSt} {sub : List Nat} {t : Nat} (h : UnwK κ μ sub (κ t)) : Unw μ sub t :=
  fun e he hs heq => h e he hs (congrArg κ heq)

theorem mem_keys {κ : Nat → Nat} {l : List Nat} {t : Nat} (h : t ∈ l) : κ t ∈ l.map κ := List.mem_map_of_mem h

theorem keys_mono {κ : Nat → Nat} {l l' : List Nat} (h : ∀ x ∈ l, x ∈ l') : ∀ k ∈ l.map κ, k ∈ l'.map κ := by
  intro k hk
  obtain ⟨t, ht, rfl⟩ := List.mem_map.mp hk
  exact mem_keys (h t ht)

end Conduit.Funnel
