import ConduitModel.Proofs.MonWorkerAck

/-!
# The events of `Worker.Nack` against the monitor

The DLQ write of records at the read frontier is neither a second write of a record nor out of source order
(`dlqw_quiet`, `mu_stWrite`: the weak facts about the DLQ suffice — the record at the frontier may already have an
unconfirmed DLQ write, as after a failed nack inside a fan-out); the source ack that follows concerns the leading
confirmed records of that write (`mu_stAck`). The engine's count of confirmed records and the monitor's
(`dlqConfirmed`, `oksQ`) are compared in the two directions the proof needs: what the engine counts the monitor
counts (`oksQ_len`), and for a single record also the converse (`dlqConfirmed_pos_single`).
-/
namespace Conduit.Funnel
open Conduit.Funnel.Mon

theorem takeWhile_id_len : ∀ (l : List Bool) (n : Nat), (∀ j : Nat, j < n → l[j]? = some true) →
    n ≤ (l.takeWhile id).length := by
  intro l
  induction l with
  | nil =>
    intro n h
    cases n with
    | zero => exact Nat.zero_le _
    | succ m => have := h 0 (by omega); simp at this
  | cons a l ih =>
    intro n h
    cases n with
    | zero => exact Nat.zero_le _
    | succ m =>
      have h0 := h 0 (by omega)
      have ha : a = true := by simpa using h0
      subst ha
      have := ih m (fun j hj => by have := h (j+1) (by omega); simpa using this)
      simp only [List.takeWhile_cons, id, if_true, List.length_cons]
      omega

theorem oksQ_len (scripts : List (Nat × List Reply)) (task call : Nat) (rs : List Rec) (n : Nat) (hn : n ≤ rs.length)
    (h : ∀ j : Nat, j < n → confirmed scripts task call j (rs.map (·.pos)) = true) :
    n ≤ (oksQ scripts task call rs).length := by
  unfold oksQ
  apply takeWhile_id_len
  intro j hj
  have hjl : j < rs.length := by omega
  rw [List.getElem?_map, List.getElem?_range hjl]
  simp only [Option.map_some, List.getElem?_eq_getElem hjl, h j hj]

theorem confirmed_congr {sc1 sc2 : List (Nat × List Reply)} {t c1 c2 : Nat}
    (h : replyOfCall sc1 t c1 = replyOfCall sc2 t c2) (j : Nat) (ps : List PosV) :
    confirmed sc1 t c1 j ps = confirmed sc2 t c2 j ps := by
  unfold confirmed; rw [h]

theorem infoOf_map_fst (ob : Batch) (k task : Nat) (h : ob.st.length = ob.recs.length) :
    (infoOf ob k task).map (·.1) = ob.recs.take k := by
  unfold infoOf
  rw [List.map_map]
  have e : ((fun x : Rec × Option Err × Nat => x.1) ∘ fun (x : Rec × Status) => match x with | (r, st) => (r, st.err, task)) = Prod.fst := by
    funext ⟨r, st⟩; rfl
  rw [e, List.map_take, List.map_fst_zip]
  omega

theorem Align.take_src {G : Ctx} {n0 : Nat} {sb : Batch} (hal : Align G n0 sb) (hb : BOK sb) {k q : Nat} {r : Rec}
    (hq : (sb.recs.take k)[q]? = some r) :
    q < k ∧ q < sb.pos.length ∧ sb.recs[q]? = some r ∧ ∃ src, G.all[n0 + q]? = some src ∧ root r = root src := by
  rw [List.getElem?_take] at hq
  by_cases hqk : q < k
  · simp only [hqk, if_true] at hq
    have hql : q < sb.recs.length := (List.getElem?_eq_some_iff.mp hq).1
    have hqp : q < sb.pos.length := by rw [hb.pos_len]; exact hql
    obtain ⟨src, hsrc⟩ := hal.src hqp
    exact ⟨hqk, hqp, hq, src, hsrc, hal.lin q r src hq hsrc⟩
  · simp only [hqk, if_false] at hq; cases hq

theorem Align.take_inR {G : Ctx} {n0 : Nat} {sb : Batch} (hal : Align G n0 sb) (hb : BOK sb) (k : Nat) :
    ∀ r ∈ sb.recs.take k, InR G n0 sb.pos.length (root r) := by
  intro r hr
  obtain ⟨q, hq⟩ := List.mem_iff_getElem?.1 hr
  obtain ⟨_, hqp, _, src, hsrc, hroot⟩ := hal.take_src hb hq
  exact ⟨q, src, hqp, hsrc, hroot.symm⟩

theorem dlqw_quiet {G : Ctx} (hs : Src G) {μ : TSt} {n0 len : Nat} {rs : List Rec}
    (hany : ∀ x ∈ μ.dlqAny, NonPend G n0 x ∨ ∃ src, G.all[n0]? = some src ∧ root src = x)
    (hok : ∀ x ∈ μ.dlqOk, NonPend G n0 x)
    (hrs : ∀ r ∈ rs, InR G n0 len (root r)) : dlqDup μ rs = false ∧ dlqOrd μ rs = true := by
  constructor
  · unfold dlqDup
    rw [List.any_eq_false]
    intro r hr hc
    have : root r ∈ μ.dlqOk := by simpa using hc
    exact (hrs r hr).not_nonPend hs (hok _ this)
  · unfold dlqOrd
    rw [List.all_eq_true]
    intro x hx
    obtain ⟨r, hr, rfl⟩ := List.mem_map.mp hx
    apply decide_eq_true
    unfold dlqLast
    cases hl : (μ.dlqAny.filter (· / 100 == (rs.head?.map fun r => root r / 100).getD 0)).getLast? with
    | none => exact Nat.zero_le _
    | some y =>
      have hy := List.mem_of_getLast? hl
      have hy' := (List.mem_filter.mp hy).1
      obtain ⟨q, src, hq, h1, h2⟩ := hrs r hr
      show y ≤ root r
      rcases hany y hy' with hnp | ⟨src0, h0, hr0⟩
      · have := hnp.lt hs h1 (by omega)
        omega
      · by_cases hq0 : q = 0
        · subst hq0
          rw [Nat.add_zero] at h1
          rw [h0] at h1
          cases h1
          omega
        · have := hs.root_lt h0 h1 (by omega)
          omega

theorem mu_stWrite {G : Ctx} (hs : Src G) {s : PS} {sb : Batch} {n0 : Nat} (task : Nat)
    (hany : ∀ x ∈ (G.mu s).dlqAny, NonPend G n0 x ∨ ∃ src, G.all[n0]? = some src ∧ root src = x)
    (hok : ∀ x ∈ (G.mu s).dlqOk, NonPend G n0 x)
    (hb : BOK sb) (hob : sb.original = sb) (hal : Align G n0 sb) :
    G.mu (stWrite s sb task) =
      { G.mu s with
        calls := bumpL (G.mu s).calls s.dlqTask
        dlqAny := (G.mu s).dlqAny ++ (sb.recs.take (accepted s sb)).map root
        dlqOk := (G.mu s).dlqOk ++
          ((sb.recs.take (accepted s sb)).take
            (oksQ G.scripts s.dlqTask (callNoL (G.mu s).calls s.dlqTask) (sb.recs.take (accepted s sb))).length).map root } := by
  have hlog : (stWrite s sb task).log = s.log.push (.dlqw s.dlqTask (dlqWritten s sb task)) := rfl
  rw [mu_push G s _ _ hlog]
  show dlqwT G.scripts (G.mu s) s.dlqTask (dlqWritten s sb task) = _
  have hrs : (dlqWritten s sb task).map (·.1) = sb.recs.take (accepted s sb) := by
    show (infoOf sb.original (accepted s sb) task).map (·.1) = _
    rw [infoOf_map_fst _ _ _ (by rw [hob]; exact hb.st_len), hob]
  obtain ⟨hd, ho⟩ := dlqw_quiet hs (μ := G.mu s) (n0 := n0) (len := sb.pos.length) (rs := sb.recs.take (accepted s sb))
    hany hok (hal.take_inR hb _)
  unfold dlqwT
  simp only [hrs, hd, ho, Bool.false_eq_true, if_true, if_false, List.append_nil]

/-- the monitor state after the `.sack` event of `Worker.Nack`: only `pending` is popped (the
acknowledged records are the leading confirmed ones of the write, `hW`) -/
theorem mu_stAck {G : Ctx} {s : PS} {sb : Batch} {n0 : Nat} (task : Nat) {n : Nat}
    (hsc : SC G s) (hob : sb.original = sb) (hal : Align G n0 sb) (hf : nAcked s = n0)
    (hW : (G.mu (stWrite s sb task)).dlqOk = (G.mu s).dlqOk ++
          ((sb.recs.take (accepted s sb)).take
            (oksQ G.scripts s.dlqTask (callNoL (G.mu s).calls s.dlqTask) (sb.recs.take (accepted s sb))).length).map root)
    (hnk : n ≤ accepted s sb) (hnc : n ≤ dlqConfirmed s sb) :
    G.mu (stAck s sb task n) =
      { G.mu (stWrite s sb task) with
        pending := (G.mu (stWrite s sb task)).pending.drop (sb.pos.take n).length } := by
  have hlog : (stAck s sb task n).log = (stWrite s sb task).log.push (.sack (sb.pos.take n)) := by
    have : (stAck s sb task n).log = (stWrite s sb task).log.push (.sack (sb.original.pos.take n)) := rfl
    rw [hob] at this; exact this
  have hf' : nAcked (stWrite s sb task) = n0 := by
    rw [nAcked_push_other s (stWrite s sb task) _ rfl rfl, hf]
  have hkl : accepted s sb ≤ sb.recs.length := by
    have := accepted_le s sb
    rw [hob] at this; exact this
  have hoks : n ≤ (oksQ G.scripts s.dlqTask (callNoL (G.mu s).calls s.dlqTask) (sb.recs.take (accepted s sb))).length := by
    apply oksQ_len
    · rw [List.length_take]; omega
    · intro j hj
      have hc := (C01_dlq_confirmed_is_monitor_confirmed s sb (n - 1) (by omega)).2 j (by omega)
      rw [hob] at hc
      rw [← hc]
      exact (confirmed_congr ((nextReply_eq_replyOfCall _ _).symm.trans (hsc.nextReply _)) _ _).symm
  apply mu_sack_just hlog hf'
  intro q p hq
  rw [List.getElem?_take] at hq
  by_cases hqn : q < n
  · simp only [hqn, if_true] at hq
    obtain ⟨src, hsrc, hk⟩ := hal.pos q p hq
    refine ⟨src, hsrc, hk.symm, Or.inl ?_⟩
    rw [hW]
    apply List.mem_append_right
    have hql : q < sb.recs.length := by omega
    have hr : sb.recs[q]? = some sb.recs[q] := List.getElem?_eq_getElem hql
    refine List.mem_map.mpr ⟨sb.recs[q], ?_, hal.lin q _ src hr hsrc⟩
    apply List.mem_of_getElem? (i := q)
    rw [List.getElem?_take, List.getElem?_take]
    have h1 : q < (oksQ G.scripts s.dlqTask (callNoL (G.mu s).calls s.dlqTask) (sb.recs.take (accepted s sb))).length := by omega
    have h2 : q < accepted s sb := by omega
    simp only [h1, h2, if_true, hr]
  · simp only [hqn, if_false] at hq; cases hq

theorem Align.validate {G : Ctx} (hs : Src G) {n0 : Nat} {sb : Batch} (hal : Align G n0 sb) (n : Nat) :
    validateAckPositions (sb.pos.take n) = true := by
  unfold validateAckPositions
  rw [List.all_eq_true]
  intro p hp
  obtain ⟨q, hq⟩ := List.mem_iff_getElem?.1 (List.mem_of_mem_take hp)
  obtain ⟨src, hsrc, hk⟩ := hal.pos q p hq
  have := hs.key_ne_zero (List.mem_of_getElem? hsrc)
  unfold posEmpty
  rw [hk]
  simpa using this

theorem oksQ_single (scripts : List (Nat × List Reply)) (task call : Nat) (rs : List Rec) (h1 : rs.length = 1)
    (hc : confirmed scripts task call 0 (rs.map (·.pos)) = false) : oksQ scripts task call rs = [] := by
  match rs, h1 with
  | [r], _ =>
    unfold oksQ
    simp only [List.length_cons, List.length_nil, List.range_succ, List.range_zero, List.nil_append, List.map_cons,
      List.map_nil, List.getElem?_cons_zero] at hc ⊢
    rw [hc]
    rfl

theorem destDoP_single (recs : List Rec) (h1 : recs.length = 1) (resps : List AckResp)
    (hc : ((confirmedLoop (recs.map (·.pos)) (recs.map (·.pos)).length 0 resps [])[0]?).getD false = true) :
    ∃ db, destDoP (Batch.new recs) none resps = .ok db := by
  have hwf := new_WF #[] recs
  have hN : (Batch.new recs).nAct = recs.length := by
    unfold Batch.nAct; rw [actList_of_countFilter_zero hwf.2.symm]; simp [Batch.new]
  rw [confirmedLoop_eq_scan, List.length_map, List.nil_append, List.getElem?_map] at hc
  have hpos : 0 < (ackScan (recs.map (·.pos)) recs.length 0 resps).1.flatten.length := by
    rcases hx : (ackScan (recs.map (·.pos)) recs.length 0 resps).1.flatten[0]? with _ | a
    · rw [hx] at hc; cases hc
    · exact (List.getElem?_eq_some_iff.mp hx).1
  refine destDoP_of_scan hwf resps ?_ (by rw [new_active, hN]; omega)
  rw [new_active, hN]
  rcases ho : (ackScan (recs.map (·.pos)) recs.length 0 resps).2 with _ | e
  · exact ho
  · rcases ackScan_err _ _ _ _ e ho with h | h
    · rw [List.length_map] at h; omega
    · rw [h] at hpos; cases hpos

theorem leadTrue_pos (l : List Bool) (h : (l[0]?).getD false = true) : 0 < leadTrue l := by
  cases l with
  | nil => simp at h
  | cons a l =>
    have ha : a = true := by simpa using h
    subst ha
    simp [leadTrue]

theorem dlqConfirmed_pos_single (s : PS) (batch : Batch)
    (h1 : (batch.original.recs.take (accepted s batch)).length = 1)
    (hc : confirmed s.scripts s.dlqTask 0 0 ((batch.original.recs.take (accepted s batch)).map (·.pos)) = true) :
    0 < dlqConfirmed s batch := by
  unfold confirmed at hc
  cases hr : replyOfCall s.scripts s.dlqTask 0 with
  | none => rw [hr] at hc; cases hc
  | some rp =>
    rw [hr] at hc
    cases rp with
    | proc o => cases hc
    | dest w acks =>
      cases w with
      | some e => cases hc
      | none =>
        simp only at hc
        have hro : replyOf s = (none, acks) := by
          unfold replyOf; rw [nextReply_eq_replyOfCall, hr]; rfl
        obtain ⟨db, hdb⟩ := destDoP_single _ h1 acks hc
        have hd : dlqBatchAfter s batch = .ok db := by
          unfold dlqBatchAfter; rw [hro]; exact hdb
        obtain ⟨_, _, hconf⟩ := destDoP_new_confirmed _ _ _ db hdb
        unfold dlqConfirmed
        rw [hd]
        simp only
        rw [leadAcks_eq_leadTrue, hconf]
        exact leadTrue_pos _ hc

end Conduit.Funnel
