import ConduitModel.Proofs.MonGDefs

/-!
# A batch in flight under a handler contract, the tags read through a key

The handler chain of a batch in flight is `runAckNacker(X)`, `X` the Worker (root chain) or a fan-out
tally (chain of a branch), `C0 : MC G X` the contract of `X` on batches without split runs
(Proofs/MonFInv.lean); `κ` is the key of Proofs/MonKey.lean. These are the statements the task recursion
(Proofs/MonGPipe.lean) is about; `FlightG`, `OutG`, `StepRelG` of Proofs/MonGDefs.lean are how they read
for `κ = id` (`TagsK.toF`, `TagsK.ofF`).
-/
namespace Conduit.Funnel
open Conduit.Funnel.Mon

/-- A batch in flight (rows `k ≥ i` still to be handled), as far as no handler chain enters: to `FlightB`
(the run ledger, the sources of the rows, their keys against the destinations `sub` still ahead) it adds
what the ledger guarantees about the runs alive (`hlin`, `htouch`, `ci`, `nackt`) and what the view knows
of the rows (`facts`), relative to the tasks `T` and destinations `D` an acknowledgement must be justified
for. A child of a fan-out that has not run yet holds the fan-out batch in this sense (`FlightV.frame`), and
so does it hold its clone (`FlightV.clone`, Proofs/MonGFanDefs.lean). -/
structure FlightV (κ : Nat → Nat) (G : Ctx) (T D : List Nat) (s : PS) (pre pre' : List Nat) (nd : Prop)
    (sub : List Nat) (rest : Nat → Nat) (doom : Nat → Prop) (nx : Nat) (b : Batch) (sm : List Nat) (i : Nat) : Prop
    extends FlightB κ G s sub rest doom nx b sm i where
  wseen : WSeen G s
  hlin : HLinG G s.heap rest b i
  htouch : HTouchG (G.view s) D s.heap rest b i
  ci : CIG (G.view s) T D s.heap doom b i
  facts : FactsG G (G.view s) T D pre pre' nd b sm i
  below : WBelowG G (nxJ sm nx i) (G.mu s) sub
  nackt : NackT s.heap rest b i

/-- A batch in flight under the chain `runAckNacker(X)`: `FlightV` for the contract's tasks `C0.T` and
destinations `C0.D`, and the contract's invariant at the read frontier `nxJ sm nx i` (= source of row `i`,
or `nx` when no row is left). -/
structure FlightGK (κ : Nat → Nat) {G : Ctx} {X : Acker} (C0 : MC G X) (s : PS) (pre pre' : List Nat) (nd : Prop)
    (sub : List Nat) (rest : Nat → Nat) (doom : Nat → Prop) (nx : Nat) (b : Batch) (sm : List Nat) (i : Nat) : Prop
    extends FlightV κ G C0.T C0.D s pre pre' nd sub rest doom nx b sm i where
  inv : C0.Inv (nxJ sm nx i) s

/-- Outcome of a computation responsible for the rows `k ≥ i` of batch `b` under the chain
`runAckNacker(X)`; `Ts` / `Ds` = the tasks / destinations that may have added facts: the attributed
frame (always), the contract's invariant at the new frontier `nx`, the ledger part `OutB` and the growth of the tags seen (success),
or the contract's error invariant (failure). -/
structure OutGK (κ : Nat → Nat) {G : Ctx} {X : Acker} (C0 : MC G X) (Ts Ds : List Nat) (rest : Nat → Nat) (doom : Nat → Prop)
    (b : Batch) (sm : List Nat) (i nx : Nat) (s s' : PS) (r : Except Stop Unit) : Prop where
  ext : ExtT Ts Ds (RootsOf G sm i) (G.view s) (G.view s')
  wseen : WSeen G s'
  err : r ≠ .ok () → C0.Err s'
  inv : r = .ok () → C0.Inv nx s'
  ledger : r = .ok () → OutB κ G rest b i s s'
  htouch : r = .ok () → ∀ rid : Nat, 0 < cnt rid (b.view.drop i) → 0 < rest rid →
    (s'.heap[rid]!).nacked = false → Cover (G.view s') C0.D (root (s'.heap[rid]!).origRec)
  ci : r = .ok () → ∀ rid : Nat, 0 < cnt rid (b.view.drop i) → 0 < rest rid →
    ¬ CleanT (G.view s') C0.T C0.D (root (s'.heap[rid]!).origRec) → (s'.heap[rid]!).nacked = true ∨ doom rid
  seen : r = .ok () → ∀ x ∈ Seen G s, x ∈ Seen G s'

/-- What a task (`ProcessorTask.Do` / `DestinationTask.Do`) does on success, as far as the caller's frame
is concerned: `(s, b, sm)` before, `(s', b', sm')` after. -/
structure StepRelGK (κ : Nat → Nat) (G : Ctx) (s : PS) (b : Batch) (sm : List Nat) (s' : PS) (b' : Batch) (sm' : List Nat) :
    Prop where
  roots : ∀ ρ, RootsOf G sm' 0 ρ → RootsOf G sm 0 ρ
  batch : StepB κ G s b s' b'

theorem FactsG.ext {G : Ctx} {v v' : MV} {T D pre pre' : List Nat} {nd : Prop} {b : Batch} {sm : List Nat} {i j : Nat}
    {Ts Ds : List Nat} {R : Nat → Prop} (hf : FactsG G v T D pre pre' nd b sm i) (hij : i ≤ j) (hext : ExtT Ts Ds R v v')
    (hcl : ∀ (k : Nat) (row : Row) (q : Nat) (src : Rec), j ≤ k → b.rows[k]? = some row → sm[k]? = some q →
      G.all[q]? = some src → row.run = none → ¬ R (root src) ∨ ((∀ t ∈ Ts, t ∉ T) ∧ ∀ d ∈ Ds, d ∉ D)) :
    FactsG G v' T D pre pre' nd b sm j where
  ack k row q src hk hr hq hsrc hf' d hd := (hf.ack k row q src (Nat.le_trans hij hk) hr hq hsrc hf' d hd).extT hext
  fil k row q src hk hr hq hsrc hf' := hext.filt_mono _ (hf.fil k row q src (Nat.le_trans hij hk) hr hq hsrc hf')
  retry k row q src hk hr hq hsrc hf' :=
    ⟨fun d hd => ((hf.retry k row q src (Nat.le_trans hij hk) hr hq hsrc hf').1 d hd).extT hext,
      (hf.retry k row q src (Nat.le_trans hij hk) hr hq hsrc hf').2⟩
  clean k row q src hk hr hq hsrc hrun hf' :=
    (hf.clean k row q src (Nat.le_trans hij hk) hr hq hsrc hrun hf').ext hext (hcl k row q src hk hr hq hsrc hrun)

theorem TagsK.toF {G : Ctx} {s : PS} {sub : List Nat} {b : Batch} {i : Nat} (h : TagsK id G s sub b i) : TagsF G s sub b i :=
  ⟨h.nodup, h.seen, h.unw⟩

theorem TagsK.ofF {G : Ctx} {s : PS} {sub : List Nat} {b : Batch} {i : Nat} (h : TagsF G s sub b i) : TagsK id G s sub b i :=
  ⟨h.nodup, h.seen, h.unw⟩

/-- a task below the contract adds facts only about roots of the batch, and those lie at or beyond the read
frontier `nxJ sm nx 0`: the contract's invariant survives its call -/
theorem FlightGK.quiet {κ : Nat → Nat} {G : Ctx} (hs : Src G) {X : Acker} {C0 : MC G X} {s s' : PS} {pre pre' sub : List Nat}
    {nd : Prop} {rest : Nat → Nat} {doom : Nat → Prop} {nx : Nat} {b : Batch} {sm : List Nat}
    (hF : FlightGK κ C0 s pre pre' nd sub rest doom nx b sm 0) {t : Nat} {isDest : Bool}
    (hq : QStep G t isDest (RootsOf G sm 0) s s') (ht : t ∈ C0.Below) (hB : Base G s') : C0.Inv (nxJ sm nx 0) s' :=
  C0.quiet hF.inv hq ht (fun _ hx _ _ hj hsrc hroot => (roots_not_below hs hF.srcmap hx hj hsrc hroot).elim) hB

end Conduit.Funnel
