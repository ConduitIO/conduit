import ConduitModel.Proofs.MonFMultiDefs

/-!
# The vote loop of `multiAckNacker.Ack` / `.Nack` against the monitor view

The tally is a family of independent slots (`Slot.vote`, `maVote1_slot`, Proofs/Tally.lean), and so is its
invariant `TI` against the view: `SlotI` is what `TI` says of one slot (`TI.slot`), and `TI` is carried to
another tally, view, frontier or branch context by a map of `SlotI` (`TI.map`); what a vote, a growing view or a
moving frontier do is said once, for one slot (`SlotI.vote`, `.ext`, `.forward`, `.back`, `.release`).
-/
namespace Conduit.Funnel
open Conduit.Funnel.Mon

theorem VF.of_just {v : MV} {T D : List Nat} {ρ : Nat} (h : ActiveT v T D ρ ∨ FilteredT v T D ρ) : VF v T D ρ := by
  rcases h with h | h
  · exact ⟨h.1, fun d hd => Or.inl (h.2 d hd)⟩
  · exact ⟨h.1, fun _ _ => Or.inr h.2⟩

theorem VF.just {v : MV} {T D : List Nat} {ρ : Nat} (h : VF v T D ρ) : ActiveT v T D ρ ∨ FilteredT v T D ρ := by
  by_cases hf : ρ ∈ v.μ.filtered
  · exact Or.inr ⟨h.1, hf⟩
  · exact Or.inl ⟨h.1, fun d hd => (h.2 d hd).resolve_right hf⟩

theorem VF.mono {v : MV} {T D T' D' : List Nat} {ρ : Nat} (h : VF v T D ρ) (ht : ∀ x ∈ T', x ∈ T) (hd : ∀ x ∈ D', x ∈ D) :
    VF v T' D' ρ :=
  ⟨h.1.mono ht hd, fun d hd' => h.2 d (hd d hd')⟩

theorem VF.union {v : MV} {T1 D1 T2 D2 : List Nat} {ρ : Nat} (h1 : VF v T1 D1 ρ) (h2 : VF v T2 D2 ρ) :
    VF v (T1 ++ T2) (D1 ++ D2) ρ := by
  refine ⟨⟨fun t ht => ?_, fun e hm hd hr => ?_⟩, fun d hd => ?_⟩
  · rcases List.mem_append.mp ht with g | g
    · exact h1.1.1 t g
    · exact h2.1.1 t g
  · rcases List.mem_append.mp hd with g | g
    · exact h1.1.2 e hm g hr
    · exact h2.1.2 e hm g hr
  · rcases List.mem_append.mp hd with g | g
    · exact h1.2 d g
    · exact h2.2 d g

theorem Cover.extT {v v' : MV} {D Ts Ds : List Nat} {R : Nat → Prop} {ρ : Nat} (h : Cover v D ρ) (he : ExtT Ts Ds R v v') :
    Cover v' D ρ := fun d hd => (h d hd).imp (fun hw => hw.extT he) (he.filt_mono ρ)

theorem VF.ext {v v' : MV} {T D Ts Ds : List Nat} {R : Nat → Prop} {ρ : Nat} (h : VF v T D ρ)
    (he : ExtT Ts Ds R v v') (hr : ¬ R ρ ∨ ((∀ t ∈ Ts, t ∉ T) ∧ ∀ d ∈ Ds, d ∉ D)) : VF v' T D ρ :=
  ⟨h.1.ext he hr, Cover.extT h.2 he⟩

theorem FanCtx.vf_full {F : FanCtx} {v : MV} {ρ : Nat} (h1 : VF v F.TTp F.DDp ρ)
    (h2 : VF v (F.Tp ++ F.Tcur) (F.Dp ++ F.Dcur) ρ) : VF v F.TT F.DD ρ := by
  refine (h1.union h2).mono ?_ ?_
  · intro x hx
    rcases List.mem_append.mp hx with g | g
    · exact List.mem_append_left _ g
    · exact List.mem_append_right _ (List.mem_append_right _ g)
  · intro x hx
    rcases List.mem_append.mp hx with g | g
    · exact List.mem_append_left _ g
    · exact List.mem_append_right _ (List.mem_append_right _ g)

def MA.rootAt (m : MA) (ix : Nat) : Nat := root (m.record[ix]?.getD default)

/-- What the view `v` knows about ONE slot of the tally of the fan-out `F`: `σ` is its deciding part, `rr` the root
of the record stored in it, `ρ` the root of the source record it stands for; `past`: the running branch has handed
the record over; `unrel`: the slot has not been released to the parent. -/
structure SlotI (F : FanCtx) (v : MV) (past unrel : Prop) (σ : Slot) (rr ρ : Nat) : Prop where
  lo : σ.term = false → past → σ.votes ≤ F.t ∧ (σ.votes = F.t → VF v F.TT F.DD ρ)
  hi : σ.term = false → ¬ past → σ.votes + 1 ≤ F.t ∧ (σ.votes + 1 = F.t → VF v F.TTp F.DDp ρ)
  acked : σ.term = true → σ.ack = true → past ∧ F.t = F.M ∧ (unrel → VF v F.TT F.DD ρ)
  lin : (σ.term = true ∨ 0 < σ.votes) → rr = ρ

theorem TI.slot {G : Ctx} {F : FanCtx} {v : MV} {p : Nat} {m : MA} (h : TI G F v p m) {ix : Nat} {src : Rec}
    (hl : ix < F.L) (hs : G.all[F.m0 + ix]? = some src) :
    SlotI F v (F.m0 + ix < p) (m.released ≤ ix) (m.slot ix) (m.rootAt ix) (root src) :=
  ⟨h.lo ix src hl hs, fun a b => h.hi ix src hl hs a (Nat.le_of_not_lt b), h.acked ix src hl hs, h.lin ix src hl hs⟩

theorem TI.map {G : Ctx} {F F' : FanCtx} {v v' : MV} {p p' : Nat} {m m' : MA} (h : TI G F v p m)
    (hm0 : F'.m0 = F.m0) (hL : F'.L = F.L) (hM : F'.M = F.M)
    (hmok : MOK m') (hbr : m'.branches = m.branches) (hpos : m'.positions = m.positions)
    (hrel : ∀ ix : Nat, ix < m'.released → m'.term ix = true)
    (hslot : ∀ (ix : Nat) (src : Rec), ix < F.L → G.all[F.m0 + ix]? = some src →
      SlotI F v (F.m0 + ix < p) (m.released ≤ ix) (m.slot ix) (m.rootAt ix) (root src) →
      SlotI F' v' (F.m0 + ix < p') (m'.released ≤ ix) (m'.slot ix) (m'.rootAt ix) (root src)) :
    TI G F' v' p' m' := by
  have key : ∀ (ix : Nat) (src : Rec), ix < F'.L → G.all[F'.m0 + ix]? = some src →
      SlotI F' v' (F'.m0 + ix < p') (m'.released ≤ ix) (m'.slot ix) (m'.rootAt ix) (root src) := by
    rw [hm0, hL]
    exact fun ix src hl hs => hslot ix src hl hs (h.slot hl hs)
  refine ⟨hmok, by rw [hbr, hM]; exact h.br, by rw [hpos, hL]; exact h.len, ?_, ?_, ?_, ?_, ?_, hrel⟩
  · rw [hm0, hL]
    intro ix src hl hs
    have : kAt m' ix = kAt m ix := by unfold kAt; rw [hpos]
    rw [this]; exact h.keys ix src hl hs
  · exact fun ix src hl hs => (key ix src hl hs).lo
  · exact fun ix src hl hs a b => (key ix src hl hs).hi a (Nat.not_lt.mpr b)
  · exact fun ix src hl hs => (key ix src hl hs).acked
  · exact fun ix src hl hs => (key ix src hl hs).lin

namespace SlotI
variable {F : FanCtx} {v v' : MV} {past past' unrel unrel' : Prop} {σ : Slot} {rr ρ : Nat}

theorem ext {Ts Ds : List Nat} {R : Nat → Prop} (h : SlotI F v past unrel σ rr ρ) (he : ExtT Ts Ds R v v')
    (hR : past → R ρ → σ.term = true ∧ σ.ack = false)
    (hfor : ¬ past → (∀ t ∈ Ts, t ∉ F.TTp) ∧ ∀ d ∈ Ds, d ∉ F.DDp) : SlotI F v' past unrel σ rr ρ where
  lo := fun a b => ⟨(h.lo a b).1, fun e => ((h.lo a b).2 e).ext he (Or.inl fun r => nomatch (hR b r).1.symm.trans a)⟩
  hi := fun a b => ⟨(h.hi a b).1, fun e => ((h.hi a b).2 e).ext he (Or.inr (hfor b))⟩
  acked := fun a b => ⟨(h.acked a b).1, (h.acked a b).2.1, fun u => ((h.acked a b).2.2 u).ext he
    (Or.inl fun r => nomatch (hR (h.acked a b).1 r).2.symm.trans b)⟩
  lin := h.lin

theorem forward (h : SlotI F v past unrel σ rr ρ) (hp : past → past') : SlotI F v past' unrel σ rr ρ where
  lo := fun a _ => Classical.byCases (fun b : past => h.lo a b)
    (fun b => ⟨Nat.le_of_succ_le (h.hi a b).1, fun e => absurd (h.hi a b).1 (by omega)⟩)
  hi := fun a b => h.hi a (fun c => b (hp c))
  acked := fun a b => ⟨hp (h.acked a b).1, (h.acked a b).2⟩
  lin := h.lin

theorem back (h : SlotI F v past unrel σ rr ρ) (ht : σ.term = true) (ha : σ.ack = false) :
    SlotI F v past' unrel σ rr ρ where
  lo := fun a => nomatch ht.symm.trans a
  hi := fun a => nomatch ht.symm.trans a
  acked := fun _ b => nomatch ha.symm.trans b
  lin := h.lin

theorem release (h : SlotI F v past unrel σ rr ρ) (hu : unrel' → unrel) : SlotI F v past unrel' σ rr ρ :=
  ⟨h.lo, h.hi, fun a b => ⟨(h.acked a b).1, (h.acked a b).2.1, fun u => (h.acked a b).2.2 (hu u)⟩, h.lin⟩

theorem vote {rr' : Nat} (h : SlotI F v past unrel σ rr ρ) (hp : ¬ past) (hp' : past') (ht : F.t ≤ F.M) (a : Bool)
    (hj : a = true → VF v (F.Tp ++ F.Tcur) (F.Dp ++ F.Dcur) ρ)
    (hrr : rr' = if σ.term = true then rr else ρ) :
    SlotI F v past' unrel (σ.vote F.M a) rr' ρ := by
  -- the votes of the earlier branches and this one's justification together
  have hvf : σ.term = false → a = true → σ.votes + 1 = F.t → VF v F.TT F.DD ρ :=
    fun c d e => FanCtx.vf_full ((h.hi c hp).2 e) (hj d)
  subst hrr
  cases hσ : σ.term with
  | true =>
    have e : σ.vote F.M a = σ := by simp [Slot.vote, hσ]
    rw [e, if_pos rfl]
    exact ⟨fun c => Bool.noConfusion (hσ.symm.trans c), fun c => Bool.noConfusion (hσ.symm.trans c), fun c d => absurd (h.acked c d).1 hp,
      fun _ => h.lin (Or.inl hσ)⟩
  | false =>
    rw [if_neg (fun c => Bool.noConfusion c)]
    cases a with
    | false =>
      have e : σ.vote F.M false = ⟨σ.votes, true, false⟩ := by simp [Slot.vote, hσ]
      rw [e]
      exact ⟨fun c => Bool.noConfusion c, fun c => Bool.noConfusion c, fun _ d => Bool.noConfusion d, fun _ => rfl⟩
    | true =>
      have hle := (h.hi hσ hp).1
      by_cases hM : σ.votes + 1 = F.M
      · have e : σ.vote F.M true = ⟨σ.votes + 1, true, true⟩ := by simp [Slot.vote, hσ, hM]
        rw [e]
        exact ⟨fun c => Bool.noConfusion c, fun c => Bool.noConfusion c,
          fun _ _ => ⟨hp', by omega, fun _ => hvf hσ rfl (by omega)⟩, fun _ => rfl⟩
      · have e : σ.vote F.M true = ⟨σ.votes + 1, false, σ.ack⟩ := by simp [Slot.vote, hσ, hM]
        rw [e]
        exact ⟨fun _ _ => ⟨hle, hvf hσ rfl⟩, fun _ c => absurd hp' c, fun c => Bool.noConfusion c, fun _ => rfl⟩

theorem vote_nack (h : SlotI F v past unrel σ rr ρ) (hp : ¬ past) (M : Nat) :
    (σ.vote M false).term = true ∧ (σ.vote M false).ack = false := by
  cases ht : σ.term with
  | false => simp [Slot.vote, ht]
  | true =>
    have e : σ.vote M false = σ := by simp [Slot.vote, ht]
    rw [e]
    exact ⟨ht, Bool.eq_false_iff.mpr fun ha => hp (h.acked ht ha).1⟩

end SlotI

theorem maVote1_rootAt (m : MA) (a : Bool) (t : Nat) (it : VItem) (i : Nat) (hi : i < m.record.length) :
    (maVote1 m a t it).rootAt i = if it.ix = i ∧ m.term i = false then root it.r else m.rootAt i := by
  unfold MA.rootAt
  rw [maVote1_record m a t it i hi]
  split <;> rfl

theorem TI.vote1 {G : Ctx} {F : FanCtx} {v : MV} {p : Nat} {m : MA} (h : TI G F v p m) (ht : F.t ≤ F.M)
    (it : VItem) (isAck : Bool) (task : Nat) (src : Rec)
    (hix : F.m0 + it.ix = p) (hlt : it.ix < F.L) (hsrc : G.all[p]? = some src) (hroot : root it.r = root src)
    (hjust : isAck = true → VF v (F.Tp ++ F.Tcur) (F.Dp ++ F.Dcur) (root src))
    (herr : isAck = false → it.err.isSome = true) :
    TI G F v (p + 1) (maVote1 m isAck task it) ∧
    (isAck = false → (maVote1 m isAck task it).term it.ix = true ∧ (maVote1 m isAck task it).ack it.ix = false) := by
  have hsrc0 : G.all[F.m0 + it.ix]? = some src := by rw [hix]; exact hsrc
  obtain ⟨f1, f2, f3⟩ := maVote1_frame m isAck task it
  have hsl : ∀ ix : Nat, ix < F.L → _ := fun ix hl => maVote1_slot m isAck task it h.mok.wf ix (by rw [h.len]; exact hl)
  have s0 := h.slot hlt hsrc0
  refine ⟨h.map rfl rfl rfl (maVote1_MOK m isAck task it h.mok herr) f3 f2
    (fun ix hx => (maVote1_frozen m isAck task it ix (h.rel ix (f1 ▸ hx))).1) fun ix src' hl hs s => ?_, fun ha => ?_⟩
  · rw [hsl ix hl, f1, maVote1_rootAt m isAck task it ix (by rw [h.mok.rec_len, h.len]; exact hl)]
    by_cases he : it.ix = ix
    · subst he
      cases hsrc0.symm.trans hs
      rw [if_pos rfl, h.br]
      refine s.vote (by omega) (by omega) ht isAck hjust ?_
      by_cases hterm : m.term it.ix = true
      · rw [if_neg (fun hc => by rw [hterm] at hc; cases hc.2)]; exact (if_pos hterm).symm
      · rw [if_pos ⟨rfl, by simpa using hterm⟩, hroot]; exact (if_neg hterm).symm
    · rw [if_neg he, if_neg (fun hc => he hc.1)]
      exact s.forward (fun hlt => Nat.lt_succ_of_lt hlt)
  · subst ha
    have e := hsl it.ix hlt
    rw [if_pos rfl] at e
    show ((maVote1 m false task it).slot it.ix).term = true ∧ ((maVote1 m false task it).slot it.ix).ack = false
    rw [e]
    exact s0.vote_nack (by omega) m.branches

/-- the running branch is done with the batch, or has failed: every slot counts as handed over -/
theorem TI.finish {G : Ctx} {F : FanCtx} {v : MV} {p : Nat} {m : MA} (h : TI G F v p m) : TI G F v (F.m0 + F.L) m :=
  h.map rfl rfl rfl h.mok rfl rfl h.rel fun _ _ hl _ σ => σ.forward fun _ => Nat.add_lt_add_left hl _

/-- the loop invariant of `TI.scan` once the first `j` records of the call have voted (`m` = the tally at entry) -/
def PVote (G : Ctx) (F : FanCtx) (v : MV) (p : Nat) (isAck : Bool) (m : MA) (j : Nat) (m' : MA) : Prop :=
  TI G F v (p + j) m' ∧ m'.released = m.released ∧ p + j ≤ F.m0 + F.L ∧
  (∀ ix : Nat, m.term ix = true → m'.term ix = true ∧ m'.ack ix = m.ack ix) ∧
  (isAck = false → ∀ q : Nat, q < j → m'.term (p - F.m0 + q) = true ∧ m'.ack (p - F.m0 + q) = false)

/-- One `Ack` / `Nack` call of the running branch on a batch `ob` aligned at its frontier `p`: entry `k` is the
record at `p + k` and goes to the slot of that record, so `TI` holds at the frontier behind the entries resolved. -/
theorem TI.scan {G : Ctx} (hs : Src G) {F : FanCtx} {v : MV} (ht : F.t ≤ F.M)
    (hsrcs : ∀ ix : Nat, ix < F.L → ∃ src, G.all[F.m0 + ix]? = some src)
    (ob : Batch) (isAck : Bool) (task : Nat) (hb : BOK ob) (p : Nat) (hfront : F.m0 ≤ p) (hal : Align G p ob)
    (hjust : isAck = true → ∀ (q : Nat) (src : Rec), q < ob.pos.length → G.all[p + q]? = some src →
      VF v (F.Tp ++ F.Tcur) (F.Dp ++ F.Dcur) (root src))
    (hne : isAck = false → NackOK ob) (m0 : MA) :
    ∀ (cnt k : Nat) (m : MA), k + cnt ≤ ob.pos.length → PVote G F v p isAck m0 k m →
      PVote G F v p isAck m0 (k + (scanItems m ob (List.range' k cnt)).length)
        (maVote m isAck task (scanItems m ob (List.range' k cnt))) := by
  intro cnt
  induction cnt with
  | zero => intro k m _ h; exact h
  | succ cnt ih =>
    intro k m hk ⟨h, hrel, hle, hfro, hnk⟩
    rw [List.range'_succ]
    unfold scanItems
    cases hit : itemAt m ob k with
    | none => exact ⟨h, hrel, hle, hfro, hnk⟩
    | some it =>
      have hi : k < ob.pos.length := by omega
      have hir : k < ob.recs.length := by have := hb.pos_len; omega
      have hist : k < ob.st.length := by have := hb.st_len; omega
      obtain ⟨hix, e3, e2⟩ := itemAt_some hit
      obtain ⟨hltm, hkey⟩ := maIndexOf_some hix
      have hposk : ob.pos[k]? = some ob.pos[k] := List.getElem?_eq_getElem hi
      rw [hposk] at hkey
      simp only [Option.join_some] at hkey
      obtain ⟨src, hsrc, hksrc⟩ := hal.pos k _ hposk
      rw [hksrc] at hkey
      have hltL : it.ix < F.L := by rw [← h.len]; exact hltm
      -- the slot found is the frontier's: it holds the key of its own source record and of the one at `p + k`
      obtain ⟨src', hs'⟩ := hsrcs it.ix hltL
      have hidx : F.m0 + it.ix = p + k := hs.idx_of_key hs' hsrc ((h.keys it.ix src' hltL hs').symm.trans hkey)
      have herr : isAck = false → it.err.isSome = true := by
        intro ha
        rw [e2, List.getElem?_eq_getElem hist]
        exact hne ha _ (List.getElem_mem _)
      have hroot : root it.r = root src := by
        rw [e3, List.getElem?_eq_getElem hir]
        exact hal.lin k _ src (List.getElem?_eq_getElem hir) hsrc
      obtain ⟨t1, t2⟩ := h.vote1 ht it isAck task src hidx hltL hsrc hroot (fun ha => hjust ha k src hi hsrc) herr
      obtain ⟨f1, f2, _⟩ := maVote1_frame m isAck task it
      have hfz := maVote1_frozen m isAck task it
      have := ih (k + 1) (maVote1 m isAck task it) (by omega) ⟨t1, f1.trans hrel, by omega,
        fun ix hx => ⟨(hfz ix (hfro ix hx).1).1, (hfz ix (hfro ix hx).1).2.1.trans (hfro ix hx).2⟩,
        fun ha q hq => by
          by_cases hqk : q = k
          · rw [hqk, show p - F.m0 + k = it.ix by omega]; exact t2 ha
          · obtain ⟨z1, z2⟩ := hnk ha q (by omega)
            exact ⟨(hfz _ z1).1, (hfz _ z1).2.1.trans z2⟩⟩
      rw [scanItems_positions m _ f2] at this
      rw [List.length_cons, maVote_cons, ← Nat.add_assoc, Nat.add_right_comm]
      exact this

end Conduit.Funnel
