import ConduitModel.Model.Funnel

/-!
# The pass monad: running a computation, and a small Hoare logic

`exec x s` runs `x : M α` from the state `s`; `Spec I x P` says that `x` keeps the state predicate
`I`, whether it returns or throws, and that a returned value satisfies `P`; `Steps Rl J Pre x` is the relational
form: from `Pre`, `x` moves the state along `Rl`, and a returned value satisfies `J` in the final state.
-/
namespace Conduit.Funnel

def exec {α} (x : M α) (s : PS) : Except Stop α × PS := x.run.run s

theorem exec_pure {α} (a : α) (s : PS) : exec (pure a : M α) s = (.ok a, s) := rfl
theorem exec_bind {α β} (x : M α) (f : α → M β) (s : PS) :
    exec (x >>= f) s = match exec x s with
      | (.ok a, s') => exec (f a) s'
      | (.error e, s') => (.error e, s') := by
  simp only [exec, ExceptT.run_bind, StateT.run_bind]
  show (match (x.run.run s) with | (a, s') => _) = _
  rcases h : x.run.run s with ⟨r, s'⟩
  cases r <;> rfl
theorem exec_get (s : PS) : exec (get : M PS) s = (.ok s, s) := rfl
theorem exec_set (s1 s : PS) : exec (set s1 : M PUnit) s = (.ok ⟨⟩, s1) := rfl
theorem exec_modify (f : PS → PS) (s : PS) : exec (modify f : M Unit) s = (.ok (), f s) := rfl
theorem exec_throw {α} (e : Stop) (s : PS) : exec (throw e : M α) s = (.error e, s) := rfl
theorem exec_liftR_ok {α} (a : α) (s : PS) : exec (liftR (.ok a) : M α) s = (.ok a, s) := rfl
theorem exec_liftR_err {α} (e : Stop) (s : PS) : exec (liftR (.error e) : M α) s = (.error e, s) := rfl

theorem exec_throw_bind {α β} (e : Stop) (f : α → M β) (s : PS) :
    exec ((throw e : M α) >>= f) s = (.error e, s) := by
  rw [exec_bind, exec_throw]

theorem exec_tryCatch {α} (x : M α) (h : Stop → M α) (s : PS) :
    exec (tryCatch x h) s = match exec x s with
      | (.ok a, s') => (.ok a, s')
      | (.error e, s') => exec (h e) s' := by
  show exec (ExceptT.tryCatch x h) s = _
  unfold ExceptT.tryCatch
  simp only [exec, ExceptT.run_mk, StateT.run_bind]
  have e : StateT.run (ExceptT.run x) s = StateT.run x s := rfl
  rw [e]
  generalize StateT.run x s = p
  rcases p with ⟨r, s'⟩
  cases r <;> rfl

def Spec (I : PS → Prop) {α} (x : M α) (P : α → Prop) : Prop :=
  ∀ t, I t → I (exec x t).2 ∧ ∀ a, (exec x t).1 = .ok a → P a

namespace Spec
variable {I : PS → Prop}

theorem pure {α} {P : α → Prop} (a : α) (h : P a) : Spec I (Pure.pure a : M α) P :=
  fun _ ht => ⟨ht, fun a' e => by cases e; exact h⟩

theorem throw {α} {P : α → Prop} (e : Stop) : Spec I (MonadExcept.throw e : M α) P :=
  fun _ ht => ⟨ht, fun a' e => by cases e⟩

theorem liftR {α} {P : α → Prop} (r : R α) (h : ∀ a, r = .ok a → P a) : Spec I (Conduit.Funnel.liftR r : M α) P := by
  intro t ht
  cases r with
  | ok a => exact ⟨ht, fun a' e => by cases e; exact h a rfl⟩
  | error e => exact ⟨ht, fun a' e => by cases e⟩

theorem bind {α β} {x : M α} {f : α → M β} {P : α → Prop} {P' : β → Prop}
    (hx : Spec I x P) (hf : ∀ a, P a → Spec I (f a) P') : Spec I (x >>= f) P' := by
  intro t ht
  rw [exec_bind]
  obtain ⟨h1, h2⟩ := hx t ht
  rcases hc : exec x t with ⟨r, t'⟩
  rw [hc] at h1 h2
  cases r with
  | error e => exact ⟨h1, fun a e => by cases e⟩
  | ok a => exact hf a (h2 a rfl) t' h1

theorem get_bind {β} {f : PS → M β} {P' : β → Prop} (hf : ∀ s0 : PS, I s0 → Spec I (f s0) P') :
    Spec I (get >>= f) P' := by
  intro t ht
  rw [exec_bind, exec_get]
  exact hf t ht t ht

theorem set {P : PUnit → Prop} (s' : PS) (h : I s') (hp : P ⟨⟩) : Spec I (MonadStateOf.set s' : M PUnit) P :=
  fun _ _ => ⟨h, fun _ _ => hp⟩

theorem modify {P : PUnit → Prop} (f : PS → PS) (hf : ∀ t, I t → I (f t)) (hp : P ⟨⟩) :
    Spec I (_root_.modify f : M PUnit) P := by
  intro t ht; exact ⟨hf t ht, fun _ _ => hp⟩

theorem emit (e : Ev) (hf : ∀ t, I t → I { t with log := t.log.push e }) {P : PUnit → Prop} (hp : P ⟨⟩) :
    Spec I (Conduit.Funnel.emit e) P := by
  intro t ht; exact ⟨hf t ht, fun _ _ => hp⟩

theorem tryCatch {α} {x : M α} {hd : Stop → M α} {P : α → Prop}
    (hx : Spec I x P) (hh : ∀ e, Spec I (hd e) P) : Spec I (tryCatch x hd) P := by
  intro t ht
  rw [exec_tryCatch]
  obtain ⟨h1, h2⟩ := hx t ht
  rcases hc : exec x t with ⟨r, t'⟩
  rw [hc] at h1 h2
  cases r with
  | ok a => exact ⟨h1, fun a' e => by cases e; exact h2 a rfl⟩
  | error e => exact hh e t' h1

theorem weaken {α} {x : M α} {P P' : α → Prop} (hx : Spec I x P) (h : ∀ a, P a → P' a) : Spec I x P' :=
  fun t ht => ⟨(hx t ht).1, fun a e => h a ((hx t ht).2 a e)⟩

theorem split_ite {α} {x y : M α} {P : α → Prop} (c : Prop) [Decidable c] (hx : c → Spec I x P) (hy : ¬ c → Spec I y P) :
    Spec I (if c then x else y) P := by
  by_cases h : c
  · rw [if_pos h]; exact hx h
  · rw [if_neg h]; exact hy h

theorem ite {α} {c : Prop} [Decidable c] {x y : M α} {P : α → Prop} (hx : Spec I x P) (hy : Spec I y P) :
    Spec I (if c then x else y) P :=
  split_ite c (fun _ => hx) (fun _ => hy)

theorem top {α} {x : M α} {P : α → Prop} (h : Spec I x P) : Spec I x (fun _ => True) := h.weaken (fun _ _ => trivial)

theorem throw_bind {α β} {P : β → Prop} (e : Stop) (f : α → M β) : Spec I (MonadExcept.throw e >>= f) P :=
  Spec.bind (P := fun _ => False) (Spec.throw e) (fun _ h => h.elim)

theorem liftR_top {α} (r : R α) : Spec I (Conduit.Funnel.liftR r : M α) (fun _ => True) :=
  Spec.liftR r (fun _ _ => trivial)

theorem bind_top {α β} {x : M α} {f : α → M β} {P' : β → Prop} (hx : Spec I x fun _ => True)
    (hf : ∀ a, Spec I (f a) P') : Spec I (x >>= f) P' :=
  hx.bind fun a _ => hf a

theorem forIn {α β} (body : α → β → M (ForInStep β))
    (hb : ∀ a b, Spec I (body a b) (fun _ => True)) :
    ∀ (l : List α) (init : β), Spec I (forIn l init body) (fun _ => True) := by
  intro l
  induction l with
  | nil => intro init; exact Spec.pure _ trivial
  | cons a l ih =>
    intro init
    rw [List.forIn_cons]
    apply Spec.bind (hb a init)
    intro r _
    cases r with
    | done b => exact Spec.pure _ trivial
    | yield b => exact ih b

end Spec

def Steps {α} (Rl : PS → PS → Prop) (J : α → PS → Prop) (Pre : PS → Prop) (x : M α) : Prop :=
  ∀ s, Pre s → Rl s (exec x s).2 ∧ ∀ a, (exec x s).1 = .ok a → J a (exec x s).2

namespace Steps
variable {Rl : PS → PS → Prop}

theorem weaken {α} {J J' : α → PS → Prop} {Pre Pre' : PS → Prop} {x : M α} (hx : Steps Rl J Pre x)
    (hp : ∀ s, Pre' s → Pre s) (hj : ∀ a s, J a s → J' a s) : Steps Rl J' Pre' x :=
  fun s hs => ⟨(hx s (hp s hs)).1, fun a e => hj a _ ((hx s (hp s hs)).2 a e)⟩

end Steps

end Conduit.Funnel
