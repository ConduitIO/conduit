import ConduitModel.Spec.FunnelRun
import ConduitModel.Props.PassC04
import ConduitModel.Driver.Funnel
import ConduitModel.Proofs.MonGeneric

/-!
# The whole run (`runBatches`): lifting the pass-level C04 theorem, and the driver's `runCase`

* `runBatches_acks` — the ack log of a run grows by a prefix of the keys of `batches.flatten`, and by
  all of them when the run returns `.ok`;
* `runBatches_lift` — from a statement about one pass to the run (used by `runBatches_monG`, Proofs/MonGTop.lean);
* `runCase_eq_runBatches` — `Driver/Funnel.lean` `runCase` prints exactly the outcome of
  `runBatches 1000000`.
-/
namespace Conduit.Funnel

theorem exec_runBatches_nil (fuel : Nat) (tree : TaskNode) (s : PS) :
    exec (runBatches fuel tree []) s = (.ok (), s) := rfl

/-- the state a pass starts from: fresh split-run heap and fan-out tallies -/
def resetPass (s : PS) : PS := { s with heap := #[], mas := #[] }

theorem exec_runBatches_cons (fuel : Nat) (tree : TaskNode) (b : List Rec) (bs : List (List Rec)) (s : PS) :
    exec (runBatches fuel tree (b :: bs)) s =
      match exec (runPass fuel tree b) (resetPass s) with
      | (.ok (), s1) => exec (runBatches fuel tree bs) s1
      | (.error e, s1) => (.error e, s1) := by
  show exec (modify (fun s => { s with heap := #[], mas := #[] }) >>= fun _ => runPass fuel tree b >>= fun _ => runBatches fuel tree bs) s = _
  rw [exec_bind, exec_modify]
  dsimp only
  rw [exec_bind]
  unfold resetPass
  generalize exec (runPass fuel tree b) _ = x
  rcases x with ⟨r, s1⟩
  cases r <;> rfl

/-- From one pass to the run. `I n s`: what holds between two passes once `n` records have been read;
`Q`: what is assumed of the final state and inherited by every state whose log is a prefix of its
log. A pass on the next batch ends in a `Good` state when it fails and re-establishes `I` when not. -/
theorem runBatches_lift {fuel : Nat} {tree : TaskNode} {batches : List (List Rec)} {I : Nat → PS → Prop} {Q Good : PS → Prop}
    (hQ : ∀ s s' : PS, s.log.toList <+: s'.log.toList → Q s' → Q s) (hnil : ∀ n s, I n s → Good s)
    (hpass : ∀ (n0 : Nat) (b : List Rec) (s s1 : PS) (r1 : Except Stop Unit), I n0 s →
      (∀ (q : Nat) (x : Rec), b[q]? = some x → batches.flatten[n0 + q]? = some x) →
      exec (runPass fuel tree b) (resetPass s) = (r1, s1) → Q s1 →
      (r1 ≠ .ok () → Good s1) ∧ (r1 = .ok () → I (n0 + b.length) s1)) :
    ∀ (rest done : List (List Rec)) (s s' : PS) (r : Except Stop Unit), batches = done ++ rest →
      I done.flatten.length s → exec (runBatches fuel tree rest) s = (r, s') → Q s' → Good s' := by
  intro rest
  induction rest with
  | nil =>
    intro done s s' r _ hI h _
    rw [exec_runBatches_nil] at h
    cases h
    exact hnil _ _ hI
  | cons b bs ih =>
    intro done s s' r hb hI h hq
    rw [exec_runBatches_cons] at h
    rcases hx : exec (runPass fuel tree b) (resetPass s) with ⟨r1, s1⟩
    rw [hx] at h
    have hrecs : ∀ (q : Nat) (x : Rec), b[q]? = some x → batches.flatten[done.flatten.length + q]? = some x := by
      intro q x hqx
      rw [hb, List.flatten_append, List.flatten_cons, List.getElem?_append_right (Nat.le_add_right _ _),
        Nat.add_sub_cancel_left, List.getElem?_append_left (List.getElem?_eq_some_iff.mp hqx).1]
      exact hqx
    cases r1 with
    | error e =>
      dsimp only at h
      cases h
      exact (hpass _ b s _ _ hI hrecs hx hq).1 (fun hh => nomatch hh)
    | ok u =>
      cases u
      dsimp only at h
      have hmono : s1.log.toList <+: s'.log.toList := by
        have := runBatches_log_mono fuel tree bs s1
        rw [h] at this
        exact this
      refine ih (done ++ [b]) s1 s' r (by rw [hb]; simp) ?_ h hq
      rw [show (done ++ [b]).flatten.length = done.flatten.length + b.length by simp]
      exact (hpass _ b s _ _ hI hrecs hx (hQ _ _ hmono hq)).2 rfl

abbrev keysOf (recs : List Rec) : List Nat := recs.map (fun r => keyOf r.pos)

/-- C04 for the whole run, from any state: the ack log grows by a prefix `ks` of the keys of all
the records read (`batches.flatten`), and by all of them when the run returns without error. -/
theorem runBatches_acks (fuel : Nat) (tree : TaskNode) : ∀ (batches : List (List Rec)) (s₀ : PS),
    (∀ r ∈ batches.flatten, r.pos ≠ none) →
    ∃ ks, ackedKeys (exec (runBatches fuel tree batches) s₀).2.log = ackedKeys s₀.log ++ ks ∧
      ks <+: keysOf batches.flatten ∧
      ((exec (runBatches fuel tree batches) s₀).1 = .ok () → ks = keysOf batches.flatten) := by
  intro batches
  induction batches with
  | nil =>
    intro s₀ _
    exact ⟨[], by simp [exec_runBatches_nil], List.nil_prefix, fun _ => rfl⟩
  | cons b bs ih =>
    intro s₀ hpos
    have hb : ∀ r ∈ b, r.pos ≠ none := fun r hr => hpos r (by simp [hr])
    have hbs : ∀ r ∈ bs.flatten, r.pos ≠ none := fun r hr => hpos r (by
      rw [List.flatten_cons, List.mem_append]; exact Or.inr hr)
    rw [exec_runBatches_cons]
    obtain ⟨k1, h1, p1⟩ := C04_v2_pass_acks_next fuel tree b (resetPass s₀) hb
    have hall := C04_v2_pass_ok_acks_all fuel tree b (resetPass s₀) hb
    have e1 : (runPass fuel tree b).run.run (resetPass s₀) = exec (runPass fuel tree b) (resetPass s₀) := rfl
    rw [e1] at h1 hall
    rcases hx : exec (runPass fuel tree b) (resetPass s₀) with ⟨r1, s1⟩
    rw [hx] at h1 hall
    have hlog0 : ackedKeys (resetPass s₀).log = ackedKeys s₀.log := rfl
    rw [hlog0] at h1 hall
    cases r1 with
    | error e =>
      refine ⟨k1, h1, ?_, fun h => nomatch h⟩
      rw [List.flatten_cons]
      exact List.IsPrefix.trans p1 (by unfold keysOf; rw [List.map_append]; exact List.prefix_append _ _)
    | ok u =>
      dsimp only
      obtain ⟨k2, h2, p2, o2⟩ := ih s1 hbs
      have hk1 : ackedKeys s1.log = ackedKeys s₀.log ++ keysOf b := hall rfl
      refine ⟨keysOf b ++ k2, ?_, ?_, ?_⟩
      · rw [h2, hk1, List.append_assoc]
      · rw [List.flatten_cons]
        unfold keysOf
        rw [List.map_append]
        exact (List.prefix_append_right_inj _).mpr p2
      · intro hok
        rw [o2 hok, List.flatten_cons]
        unfold keysOf
        rw [List.map_append]

end Conduit.Funnel

/-! ## the driver's `runCase` is `runBatches` -/
namespace Conduit.Driver
open Conduit.Funnel

/-- the line `runCase` prints for an outcome -/
def renderRun (out : Except Stop Unit × PS) : String :=
  match out.1 with
  | .ok () => " ; ".intercalate (out.2.log.toList.map showEv) ++ " => ok"
  | .error (.err e) => " ; ".intercalate (out.2.log.toList.map showEv) ++ " => " ++ showErr e
  | .error (.panic _) => " ; ".intercalate (out.2.log.toList.map showEv) ++ " => panic"

theorem runCase_go_eq (tree : TaskNode) : ∀ (bs : List (List Rec)) (ps : PS) (acc : String),
    runCase.go tree bs ps acc = renderRun (exec (runBatches 1000000 tree bs) ps) := by
  intro bs
  induction bs with
  | nil => intro ps acc; rfl
  | cons b bs ih =>
    intro ps acc
    rw [exec_runBatches_cons]
    unfold runCase.go
    have e1 : (runPass 1000000 tree b).run.run { ps with heap := #[], mas := #[] } = exec (runPass 1000000 tree b) (resetPass ps) := rfl
    rw [e1]
    rcases exec (runPass 1000000 tree b) (resetPass ps) with ⟨r1, s1⟩
    cases r1 with
    | ok u => exact ih s1 acc
    | error e => cases e <;> rfl

/-- `Driver/Funnel.lean` `runCase` (the `funnel` component of the check) prints the outcome of
`runBatches 1000000` from the case's initial state. -/
theorem runCase_eq_runBatches (c : FCase) (tree : TaskNode) :
    runCase c tree = renderRun (exec (runBatches 1000000 tree c.batches)
      { win := Conduit.Dlq.Win.new c.size c.thr, thr := c.thr, size := c.size, dlqTask := 99,
        scripts := c.scripts, orders := c.orders }) :=
  runCase_go_eq tree c.batches _ ""

end Conduit.Driver
