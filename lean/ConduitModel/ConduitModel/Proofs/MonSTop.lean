import ConduitModel.Proofs.MonSPipe
import ConduitModel.Proofs.MonRun

/-!
# A batch just read, with the ledger of split runs empty

`new_flightB`: the chain-independent part of "in flight" for `Batch.new recs`, from which
Proofs/MonGTop.lean starts a pass; `WSeen.reset` and `RootsOf.range_nonPend` are what it needs between two passes.
-/
namespace Conduit.Funnel
open Conduit.Funnel.Mon

theorem new_rows (recs : List Rec) {k : Nat} {row : Row} (h : (Batch.new recs).rows[k]? = some row) :
    ∃ x, recs[k]? = some x ∧ row = { r := x, st := {}, pos := x.pos, run := none } := by
  have hk : k < (Batch.new recs).recs.length := by
    have := (List.getElem?_eq_some_iff.mp h).1
    rwa [rows_length] at this
  rw [rows_get _ hk] at h
  have hk' : k < recs.length := hk
  refine ⟨recs[k], List.getElem?_eq_getElem hk', ?_⟩
  rw [← Option.some.inj h]
  simp [Batch.new, Batch.runAt, hk']

theorem new_rows_length (recs : List Rec) : (Batch.new recs).rows.length = recs.length := by rw [rows_length]; rfl

theorem range'_get (n0 len k : Nat) : (List.range' n0 len)[k]? = if k < len then some (n0 + k) else none := by
  by_cases hk : k < len
  · simp [hk]
  · simp only [hk, if_false]
    rw [List.getElem?_eq_none_iff]; simp; omega

theorem new_row_ack (recs : List Rec) {k : Nat} {row : Row} (h : (Batch.new recs).rows[k]? = some row) :
    row.st.flag = .ack := by
  obtain ⟨x, _, rfl⟩ := new_rows recs h; rfl

theorem new_cnt0 (recs : List Rec) (rid : Nat) : cnt rid (Batch.new recs).view = 0 := by
  rw [new_view]
  unfold cnt
  rw [List.countP_eq_zero]
  intro x hx
  rw [List.mem_map] at hx
  obtain ⟨_, _, rfl⟩ := hx
  simp

theorem range'_some {n0 len k q : Nat} (h : (List.range' n0 len)[k]? = some q) : q = n0 + k ∧ k < len := by
  rw [range'_get] at h
  split at h
  · exact ⟨(Option.some.inj h).symm, by assumption⟩
  · cases h

theorem new_flightB {G : Ctx} (hs : Src G) {κ : Nat → Nat} (hκ : ∀ a b : Nat, κ a = κ b → a % 1000 = b % 1000)
    {s : PS} {n0 : Nat} {recs : List Rec} {ahead : List Nat}
    (hrecs : ∀ (q : Nat) (x : Rec), recs[q]? = some x → G.all[n0 + q]? = some x)
    (hwr : ∀ e ∈ (G.mu s).written, e.2.1 = e.2.2.1 % 1000 ∧ NonPend G n0 e.2.1) :
    FlightB κ G s ahead (fun _ => 0) (fun _ => False) (n0 + recs.length) (Batch.new recs) (List.range' n0 recs.length) 0 := by
  have hpos : ∀ x ∈ recs, x.pos ≠ none := by
    intro x hx hn
    obtain ⟨q, hq'⟩ := List.getElem?_of_mem hx
    apply hs.key_ne_zero (List.mem_of_getElem? (hrecs q x hq'))
    show keyOf x.pos = 0
    rw [hn]; rfl
  refine ⟨(new_SInv s.heap recs hpos).tinv, ?_, ?_, fun rid hr => absurd hr (Nat.lt_irrefl 0), fun _ hd => hd.elim,
    (fun e he => nomatch he), fun k row _ _ => rfl, ?_, ?_, ?_⟩
  · refine ⟨by rw [new_rows_length]; simp, ?_, ?_, ?_⟩
    · intro k q q' h1 h2
      have := (range'_some h1).1; have := (range'_some h2).1
      right; omega
    · intro k row q hr hq'
      obtain ⟨x, hx, rfl⟩ := new_rows recs hr
      obtain ⟨rfl, _⟩ := range'_some hq'
      exact ⟨x, hrecs k x hx, rfl, rfl⟩
    · intro k row row' q _ _ h1 h2
      have := (range'_some h1).1; have := (range'_some h2).1
      omega
  · intro row q hl hlq
    rw [List.getLast?_eq_getElem?] at hl hlq
    obtain ⟨x, _, rfl⟩ := new_rows recs hl
    obtain ⟨e1, e2⟩ := range'_some hlq
    simp only [List.length_range'] at e1 e2
    exact Or.inr ⟨by omega, fun rid hh => nomatch hh⟩
  · rw [List.nodup_iff_pairwise_ne, List.pairwise_iff_getElem]
    intro a c ha hc hac heq
    simp only [List.getElem_map] at heq
    simp only [List.length_map] at ha hc
    obtain ⟨x, hx, e1⟩ := new_rows recs (List.getElem?_eq_getElem ha)
    obtain ⟨y, hy, e2⟩ := new_rows recs (List.getElem?_eq_getElem hc)
    rw [e1, e2] at heq
    have := hs.idx_of_root (hrecs a x hx) (hrecs c y hy) (hκ _ _ heq)
    omega
  · intro k row _ hr
    obtain ⟨x, hx, rfl⟩ := new_rows recs hr
    unfold Seen
    apply seenRun_sub
    exact List.mem_map.mpr ⟨x, List.mem_of_getElem? (hrecs k x hx), rfl⟩
  · intro k row _ hr _ e he _ heq
    obtain ⟨x, hx, rfl⟩ := new_rows recs hr
    obtain ⟨h1, h2⟩ := hwr e he
    apply not_nonPend_of_read hs (hrecs k x hx)
    rw [show root x = e.2.1 by rw [h1]; exact (hκ _ _ heq).symm]; exact h2

theorem WSeen.reset {G : Ctx} {s : PS} (hw : WSeen G s) : WSeen G (resetPass s) := by
  intro e he
  rw [show G.mu (resetPass s) = G.mu s from mu_same G s _ rfl] at he
  rw [show Seen G (resetPass s) = Seen G s from Seen.same rfl]
  exact hw e he

theorem RootsOf.range_nonPend {G : Ctx} {n0 len ρ : Nat} (h : RootsOf G (List.range' n0 len) 0 ρ) :
    NonPend G (n0 + len) ρ := by
  obtain ⟨k, q, src, _, hq', hsrc, hroot⟩ := h
  obtain ⟨rfl, hk⟩ := range'_some hq'
  exact ⟨n0 + k, src, by omega, hsrc, hroot⟩

end Conduit.Funnel
