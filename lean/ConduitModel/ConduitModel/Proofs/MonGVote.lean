import ConduitModel.Proofs.MonSVote
import ConduitModel.Proofs.MonGBare
import ConduitModel.Proofs.MonGWalk

/-!
# `runAckNacker(X).vote` against a handler contract

`X` is a bare handler (the Worker, or a fan-out tally) with contract `C0 : MC G X`. The vote loop walks the batch
group by group (`voteLoop_group`, Proofs/Arbiter.lean; what a group does: `GroupRun`, Proofs/PassSVote.lean), and a
group is a batch in flight of its own (`FlightGK.sub`), so the loop is the group walk `FlightGK.walk` that the tainted
loop takes too (Proofs/MonGWalk.lean): `voteG`, from the outcome `OutGK` of one such group (`groupG`). Rows
without run are handed to `X` at once (they must be justified for the contract's tasks / destinations: `JustG`); the
pieces of a run are booked in its entry, and when none is left elsewhere the original record is handed to `X` — as
an ack only if no piece was ever nacked, and then the invariants of the flight (cover, `ci`) justify it. Neither `X`
nor the ledger adds a fact to the monitor's view (`Kept`), so what the view says of a root is the same before and
after.
-/
namespace Conduit.Funnel
open Conduit.Funnel.Mon

variable {κ : Nat → Nat}

/-- an ack vote is justified for the rows `≥ i`: no row is flagged nack, every row is covered as far as the
destinations of the chain go, and a record without run is clean for the tasks / destinations of the chain -/
def JustG {G : Ctx} {X : Acker} (C0 : MC G X) (isAck : Bool) (b : Batch) (sm : List Nat) (i : Nat) (s : PS) : Prop :=
  isAck = true → ∀ (k : Nat) (row : Row) (q : Nat) (src : Rec), i ≤ k → b.rows[k]? = some row →
    sm[k]? = some q → G.all[q]? = some src →
    row.st.flag ≠ .nack ∧ Cover (G.view s) C0.D (root src) ∧ (row.run = none → CleanT (G.view s) C0.T C0.D (root src))

theorem CleanT.iff_ext {v v' : MV} {T D : List Nat} {R : Nat → Prop} {ρ : Nat} (he : ExtT [] [] R v v') :
    CleanT v' T D ρ ↔ CleanT v T D ρ := by
  constructor
  · intro h
    exact ⟨fun t ht hx => h.1 t ht (he.err_mono _ hx), fun e hm hd hr => h.2 e (he.wr_mono e hm) hd hr⟩
  · intro h
    exact h.ext he (Or.inr ⟨fun t ht => absurd ht List.not_mem_nil, fun d hd => absurd hd List.not_mem_nil⟩)

theorem Kept.wseen {G : Ctx} {s s' : PS} (h : Kept G s s') (hw : WSeen G s) : WSeen G s' := by
  intro e hm
  rcases h.view.wr_new e hm with g | ⟨g, _⟩
  · exact h.seen _ (hw e g)
  · exact absurd g List.not_mem_nil

theorem Kept.wt {G : Ctx} {s s' : PS} (h : Kept G s s') (b : Batch) (i : Nat) : WT κ G b i s s' := by
  intro e he
  rcases h.view.wr_new e he with h | ⟨h, _⟩
  · exact Or.inl h
  · exact absurd h List.not_mem_nil

theorem SameBut.setRun (top rid : Nat) (x : SplitRun) (s : PS) : SameBut top s (setRun rid x s) :=
  SameBut.heap top s _

structure RunFacts {G : Ctx} {X : Acker} (C0 : MC G X) (sb : Batch) (R : Nat → Nat) (isAck : Bool) (nx : Nat) (s : PS)
    (rid q : Nat) (src : Rec) : Prop where
  hsrc : G.all[q]? = some src
  inv : C0.Inv q s
  lt : rid < s.heap.size
  pos : 0 < cnt rid (sb.view.drop 0)
  only : ∀ rid', 0 < cnt rid' (sb.view.drop 0) → rid' = rid
  key : keyOf (s.heap[rid]!).origPos = keyR src
  hroot : root (s.heap[rid]!).origRec = root src
  cover : isAck = true → Cover (G.view s) C0.D (root src)
  held : 0 < R rid → nx = q
  done : R rid = 0 → nx = q + 1

section
variable {G : Ctx} {X : Acker} {C0 : MC G X} {pre pre' : List Nat} {nd : Prop} {sub : List Nat} {sb : Batch}
  {rss : List (Option Nat)} {sm : List Nat} {R : Nat → Nat} {D : Nat → Prop} {isAck : Bool} {nx : Nat} {s : PS}

/-- a group of rows without run is handed to `X` as it is; the ledger is not touched -/
theorem none_sub {b : Batch} {rs : List (Option Nat)} (hb : VB b rs) (hn : isAck = false → NackOK b) {i j : Nat}
    (hst : Stretch rs i j none) (hsub : b.sub i j = .ok sb) (hnk : NoSplitKey b) (hvb : VB sb rss)
    (hF : FlightGK κ C0 s pre pre' nd sub R D nx sb sm 0) (hj : JustG C0 isAck sb sm 0 s)
    (hx : ∀ x ∈ sb.view, x.1 = none) (hne : 0 < sb.recs.length) {fuel task : Nat} {r1 : Except Stop Unit} {s1 : PS}
    (hc : exec (ackerCall fuel X sb isAck task) s = (r1, s1)) :
    OutGK κ C0 [] [] R D sb sm 0 nx s s1 r1 := by
  obtain ⟨q0, hq⟩ := hF.srcmap.get hne
  obtain ⟨hal, hfr, hrows⟩ := none_group hvb hF.srcmap hF.nextok hx hne hq
  obtain ⟨hbok, _, hsst⟩ := hb.sub_norun hsub hst.all
  have hinv : C0.Inv q0 s := by have := hF.inv; rw [nxJ_of hq] at this; exact this
  have hcall := handlerCallG C0 hinv hbok (sub_split_none hb hst hnk hsub) (fun ha x hx => hn ha x (hsst x hx)) hal
    (by rw [hbok.pos_len]; exact hne) (by
    intro ha k src hk hsrc
    obtain ⟨row, hrow⟩ := rows_some sb (k := k) (by rw [← hbok.pos_len]; exact hk)
    obtain ⟨hrun, hsm⟩ := hrows k row hrow
    obtain ⟨_, c2, c3⟩ := hj ha k row (q0 + k) src (Nat.zero_le _) hrow hsm hsrc
    exact VF.just ⟨c3 hrun, c2⟩) hc
  have hheap := hcall.heap
  have h0 : ∀ rid, ¬ 0 < cnt rid (sb.view.drop 0) := fun rid hc => by rw [List.drop_zero, cnt_norun rid _ hx] at hc; omega
  exact ⟨hcall.toKept.ext _, hcall.toKept.wseen hF.wseen, hcall.err,
    fun hr => by rw [hfr, ← hbok.pos_len]; exact hcall.ok hr,
    fun _ => .of_frame (hcall.toKept.wt _ _) (by rw [hheap]; exact Nat.le_refl _) (fun _ _ => by rw [hheap])
      (fun rid hc => absurd hc (h0 rid)),
    fun _ rid hc => absurd hc (h0 rid), fun _ rid hc => absurd hc (h0 rid), fun _ => hcall.toKept.seen⟩

variable (hs : Src G) (hvb : VB sb rss) (hF : FlightGK κ C0 s pre pre' nd sub R D nx sb sm 0) (hj : JustG C0 isAck sb sm 0 s)
  {rid : Nat} (hx : ∀ x ∈ sb.view, x.1 = some rid) (hne : 0 < sb.recs.length)
include hs hvb hF hj hx hne

/-- a batch in flight all of whose rows belong to run `rid`: they stem from one source `q`, which is the read frontier;
the frontier after the batch is `q` again if the run has pieces elsewhere, `q + 1` if not -/
theorem run_facts : ∃ (q : Nat) (src : Rec), RunFacts C0 sb R isAck nx s rid q src := by
  have hm := hF.srcmap
  have hrun : ∀ (k : Nat) (row : Row), sb.rows[k]? = some row → row.run = some rid :=
    fun k row hr => hx _ (List.mem_of_getElem? (rows_view hvb hr))
  obtain ⟨row0, hrow0⟩ := rows_some sb hne
  obtain ⟨q, hq⟩ := hm.get hne
  obtain ⟨src, hsrc, hkey, _⟩ := hm.key 0 row0 q hrow0 hq
  have hcpos : 0 < cnt rid (sb.view.drop 0) := by rw [List.drop_zero, cnt_group rid _ hx, hvb.view_len]; exact hne
  obtain ⟨rowl, hrowl⟩ := rows_some sb (k := sb.recs.length - 1) (by omega)
  obtain ⟨ql, hql⟩ := hm.get (k := sb.recs.length - 1) (by omega)
  have := SM.run_src hs hm hq hql hrow0 hrowl (hrun _ _ hrow0) (hrun _ _ hrowl)
  subst this
  have hlen : sm.length = sb.recs.length := by rw [hm.len, rows_length]
  have hnext := hF.nextok rowl q (by rw [List.getLast?_eq_getElem?, rows_length]; exact hrowl)
    (by rw [List.getLast?_eq_getElem?, hlen]; exact hql)
  refine ⟨q, src, hsrc, by have := hF.inv; rw [nxJ_of hq] at this; exact this, (hF.tinv.acc rid hcpos).1, hcpos, ?_,
    by rw [← hkey, rowKey_run (hrun _ _ hrow0)], SM.run_root hs hm (hF.hlin rid (Or.inl hcpos)) hrow0 (hrun _ _ hrow0) hq hsrc,
    fun ha => (hj ha 0 row0 q src (Nat.le_refl _) hrow0 hq hsrc).2.1, fun hR => ?_, fun hR => ?_⟩
  · intro rid' hc
    apply Classical.byContradiction
    intro hne'
    rw [List.drop_zero, cnt_group_other rid rid' hne' _ hx] at hc
    omega
  · rcases hnext with ⟨a, _⟩ | ⟨_, a⟩
    · exact a
    · have := a rid (hrun _ _ hrowl); omega
  · rcases hnext with ⟨_, rid', a1, a2⟩ | ⟨a, _⟩
    · rw [hrun _ _ hrowl] at a1; cases a1; omega
    · exact a

/-- the entry of run `rid` replaced by `y`, in which the vote of the group is booked; nothing else of the ledger changes -/
theorem OutGK.of_set {y : SplitRun} {s1 : PS} {r1 : Except Stop Unit} (hheap : s1.heap = s.heap.set! rid y)
    (ho : y.origPos = (s.heap[rid]!).origPos) (hr : y.origRec = (s.heap[rid]!).origRec)
    (hn : y.nacked = ((s.heap[rid]!).nacked || !isAck)) (hk : Kept G s s1) (herr : r1 ≠ .ok () → C0.Err s1)
    (hinv : r1 = .ok () → C0.Inv nx s1) (hlp : 0 < R rid → RunOK y (R rid) ∧ 0 < y.terminal) :
    OutGK κ C0 [] [] R D sb sm 0 nx s s1 r1 := by
  obtain ⟨q, src, f⟩ := run_facts hs hvb hF hj hx hne
  obtain ⟨t1, t2, t3, t4, t5⟩ := set_facts s.heap rid y f.lt ho hr (fun h => by rw [hn, h]; rfl)
  rw [← hheap] at t1 t2 t3 t4 t5
  refine ⟨hk.ext _, hk.wseen hF.wseen, herr, hinv, fun _ => ⟨hk.wt _ _, by rw [t1]; exact Nat.le_refl _,
    fun rid' _ hc => t2 rid' (fun he => by cases he; have := f.pos; omega), fun rid' _ => t3 rid', fun rid' hc hrest => ?_⟩,
    fun _ rid' hc _ hna => ?_, fun _ rid' hc _ hncl => ?_, fun _ => hk.seen⟩
  · cases f.only rid' hc
    rw [t5]; exact hlp hrest
  · cases f.only rid' hc
    rw [t5, hn] at hna
    have ha : isAck = true := by cases isAck <;> simp at hna ⊢
    rw [(t3 rid).2, f.hroot]; exact (f.cover ha).extT hk.view
  · cases f.only rid' hc
    rw [t5]
    rcases hF.ci rid hc (fun hcl => hncl (by rw [(t3 rid).2]; exact (CleanT.iff_ext hk.view).mpr hcl)) with h | h | ⟨k, row, hik, hrow, _, hfl⟩
    · left; rw [hn, h]; rfl
    · exact Or.inr h
    · cases isAck with
      | true =>
        obtain ⟨q', src', h1, h2, _⟩ := SM.srcOf hF.srcmap hrow
        exact ((hj rfl k row q' src' hik hrow h1 h2).1 hfl).elim
      | false => left; rw [hn]; simp

/-- a run with pieces elsewhere: the ledger entry is advanced, nothing is released -/
theorem hold_sub {n task : Nat} {e : Option Err} (hR : 0 < R rid) (hn : 0 < n)
    (hok : RunOK (voted (s.heap[rid]!) n isAck task e) (R rid)) :
    OutGK κ C0 [] [] R D sb sm 0 nx s (setRun rid (voted (s.heap[rid]!) n isAck task e) s) (.ok ()) := by
  obtain ⟨q, src, f⟩ := run_facts hs hvb hF hj hx hne
  obtain ⟨vf1, _, vf3, _⟩ := voted_fields (s.heap[rid]!) n isAck task e
  exact .of_set hs hvb hF hj hx hne rfl vf3 (voted_origRec _ _ _ _ _) (voted_nacked _ _ _ _ _) (Kept.setRun G _ _ s)
    (fun h => absurd rfl h) (fun _ => by rw [f.held hR]; exact C0.frame f.inv (SameBut.setRun _ _ _ _))
    (fun _ => ⟨hok, by rw [vf1]; omega⟩)

/-- the last pieces of a run: the entry is marked released and the original record handed to `X`, as an ack only
if this vote is an ack and no piece was ever nacked — and then no piece failed (`ci`) -/
theorem close_sub (hdoom : ∀ rid, D rid → 0 < R rid) {n task : Nat} {e : Option Err} (hR : R rid = 0) {x : SplitRun}
    (hxv : x = { voted (s.heap[rid]!) n isAck task e with released := true }) {bb : Batch} {ia : Bool} {tk : Nat}
    (hia : ia = !x.nacked) (hrecs : bb.recs = [x.origRec]) (hpos : bb.pos = [x.origPos]) (hbsp : bb.split = [])
    (hbok : BOK bb) (hsn : ia = false → NackOK bb) {fuel : Nat} {r1 : Except Stop Unit} {s1 : PS}
    (hc : exec (ackerCall fuel X bb ia tk) (setRun rid x s) = (r1, s1)) :
    OutGK κ C0 [] [] R D sb sm 0 nx s s1 r1 := by
  obtain ⟨q, src, f⟩ := run_facts hs hvb hF hj hx hne
  have hxo : x.origPos = (s.heap[rid]!).origPos := by rw [hxv]; exact (voted_fields _ _ _ _ _).2.2.1
  have hxr : x.origRec = (s.heap[rid]!).origRec := by rw [hxv]; exact voted_origRec _ _ _ _ _
  have hxn : x.nacked = ((s.heap[rid]!).nacked || !isAck) := by rw [hxv]; exact voted_nacked _ _ _ _ _
  have hI0 := C0.frame f.inv (SameBut.setRun C0.top rid x s)
  have hF0 := Kept.setRun G rid x s
  have hal : Align G q bb := .single hpos hrecs f.hsrc (by rw [hxo]; exact f.key) (by rw [hxr]; exact f.hroot)
  have hpl : bb.pos.length = 1 := by rw [hpos]; rfl
  have hcall := handlerCallG C0 hI0 hbok hbsp hsn hal (by omega) (by
    intro hia' k src' hk hsrc'
    have hk0 : k = 0 := by omega
    subst hk0
    rw [Nat.add_zero, f.hsrc] at hsrc'; cases hsrc'
    -- released as an ack: this vote is an ack and no piece was ever nacked, so no piece failed
    obtain ⟨hnk0, ha⟩ : (s.heap[rid]!).nacked = false ∧ isAck = true := by
      rw [hia', hxn] at hia; simpa using hia.symm
    subst ha
    have hclean : CleanT (G.view s) C0.T C0.D (root src) := by
      apply Classical.byContradiction
      intro hncl
      rcases hF.ci rid f.pos (by rw [f.hroot]; exact hncl) with h | h | ⟨k, row, hik, hrow, _, hfl⟩
      · rw [hnk0] at h; cases h
      · have := hdoom rid h; omega
      · obtain ⟨q', src', h1, h2, _⟩ := SM.srcOf hF.srcmap hrow
        exact (hj rfl k row q' src' hik hrow h1 h2).1 hfl
    exact VF.just ⟨(CleanT.iff_ext hF0.view).mpr hclean, (f.cover rfl).extT hF0.view⟩) hc
  exact .of_set hs hvb hF hj hx hne hcall.heap hxo hxr hxn (hF0.trans hcall.toKept) hcall.err
    (fun hr => by rw [f.done hR, ← hpl]; exact hcall.ok hr) (fun h => by omega)

end

/-- a group step of `vote` as the outcome of the group as a batch of its own -/
theorem groupG {G : Ctx} (hs : Src G) {X : Acker} {C0 : MC G X} {pre pre' : List Nat} {nd : Prop} {sub : List Nat}
    {b sb : Batch} {rs : List (Option Nat)} (hb : VB b rs) {sm : List Nat} {isAck : Bool} {task : Nat}
    (hn : isAck = false → NackOK b) {rest : Nat → Nat} {doom : Nat → Prop} {nx i j : Nat} {ro : Option Nat} {s s1 : PS}
    {r1 : Except Stop Unit} {fuel : Nat} (hF : FlightGK κ C0 s pre pre' nd sub rest doom nx b sm i)
    (hj : JustG C0 isAck b sm i s) (hst : Stretch rs i j ro) (hsub : b.sub i j = .ok sb)
    (h : exec (groupStep fuel X b isAck task i j ro) s = (r1, s1)) :
    OutGK κ C0 [] [] (restJ rest b j) (doomJ doom b j) sb ((sm.drop i).take (j - i)) 0 (nxJ sm nx j) s s1 r1 := by
  obtain ⟨_, rss, g⟩ := hF.toFlightB.grp hsub hst.lt
  have hFs := hF.sub hs hsub hst.lt
  have hjs : JustG C0 isAck sb ((sm.drop i).take (j - i)) 0 s := fun ha k row q src _ hr hq hsrc =>
    hj ha (i + k) row q src (Nat.le_add_right _ _) (g.row hr).1 (slice_some hq).1 hsrc
  obtain ⟨hglen, hx⟩ := hb.group (hb.rlen ▸ hst.le) hst.all
  rw [← g.view] at hglen hx
  have hne : 0 < sb.recs.length := by rw [← g.vbs.view_len, hglen]; have := hst.lt; omega
  cases groupStep_cases hb hn (R := restJ rest b j) hst (fun rid he => by
    subst he
    have hc : cnt rid (sb.view.drop 0) = j - i := by rw [List.drop_zero, cnt_group rid _ hx, hglen]
    have := (hFs.tinv.acc rid (by have := hst.lt; omega)).2
    rwa [hc] at this) h with
  | nosub => exact hF.fail
  | norun hsub' hc =>
    rw [hsub] at hsub'; cases hsub'
    exact none_sub hb hn hst hsub hF.nosplit g.vbs hFs hjs hx hne hc
  | hold hR hok => exact hold_sub hs g.vbs hFs hjs hx hne hR (by have := hst.lt; omega) hok
  | close hR hxv hia hrecs hpos hsp hbok hnb hc =>
    exact close_sub hs g.vbs hFs hjs hx hne hFs.hdoom hR hxv hia hrecs hpos hsp hbok hnb hc

theorem voteG {G : Ctx} (hs : Src G) {X : Acker} {C0 : MC G X} {pre pre' : List Nat} {nd : Prop} {sub : List Nat}
    {b : Batch} {sm : List Nat} {isAck : Bool} {task : Nat} (hn : isAck = false → NackOK b) {rest : Nat → Nat}
    {doom : Nat → Prop} {nx : Nat} :
    ∀ (fuel i : Nat) (s s' : PS) (r : Except Stop Unit), FlightGK κ C0 s pre pre' nd sub rest doom nx b sm i →
      JustG C0 isAck b sm i s → exec (voteLoop fuel X b isAck task i) s = (r, s') →
      OutGK κ C0 [] [] rest doom b sm i nx s s' r := by
  intro fuel
  induction fuel with
  | zero => intro i s s' r hF _ h; rw [voteLoop_zero] at h; cases h; exact hF.fail
  | succ fuel ih =>
    intro i s s' r hF hj h
    obtain ⟨rs, hb⟩ := hF.tinv.vb
    by_cases hi : i < b.recs.length
    · obtain ⟨j, ro, hst, heq⟩ := voteLoop_group fuel X b isAck task i s hb.runs hb.rlen hi
      rw [heq] at h
      obtain ⟨sb, hsub, _⟩ := sub_ok hF.tinv.wf (Nat.le_of_lt hst.lt) (hb.rlen ▸ hst.le)
      refine hF.walk hs hsub hst.lt (Q := fun _ => True) (fun _ _ => trivial)
        (fun r1 s1 hgs _ => groupG hs hb hn hF hj hst hsub hgs)
        (fun s1 h1 hF1 hx => ih j s1 s' r hF1 ?_ hx) h
      intro ha k row q src hjk hr hq hsrc
      obtain ⟨c1, c2, c3⟩ := hj ha k row q src (by have := hst.lt; omega) hr hq hsrc
      exact ⟨c1, c2.extT h1.ext, fun hrun => (CleanT.iff_ext h1.ext).mpr (c3 hrun)⟩
    · rw [voteLoop_end fuel X b isAck task i hi] at h
      cases h
      have hlen : sm.length = b.recs.length := by rw [hF.srcmap.len, rows_length]
      exact OutGK.nil hF.inv hF.wseen (by omega) (by rw [hb.view_len]; omega)

theorem ackCallG {G : Ctx} (hs : Src G) {X : Acker} {C0 : MC G X} {fuel : Nat} {sb : Batch} {s s' : PS} {r : Except Stop Unit}
    {pre pre' : List Nat} {nd : Prop} {sub : List Nat} {rest : Nat → Nat} {doom : Nat → Prop} {nx : Nat} {sm : List Nat}
    {isAck : Bool} {task : Nat}
    (hF : FlightGK κ C0 s pre pre' nd sub rest doom nx sb sm 0) (hn : isAck = false → NackOK sb)
    (hj : JustG C0 isAck sb sm 0 s)
    (h : exec (ackerCall fuel (.run X) sb isAck task) s = (r, s')) : OutGK κ C0 [] [] rest doom sb sm 0 nx s s' r := by
  cases fuel with
  | zero => rw [ackerCall_zero] at h; cases h; exact hF.fail
  | succ f =>
    rw [ackerCall_run] at h
    exact voteG hs hn f 0 s s' r hF hj h

end Conduit.Funnel
