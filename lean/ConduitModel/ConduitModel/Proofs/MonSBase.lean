import ConduitModel.Proofs.MonSDefs
import ConduitModel.Proofs.MonSProcEffect
import ConduitModel.Proofs.MonWorkerNack

/-!
# Basic lemmas for the split-run monitor proof: rows, the tag discipline, sub-batches

The rows of a batch against its fields (`rows_fields`, `rows_view`, `rows_sub`), `FT` / `Seen` along the log
(`FT.prefix`, `FT.pcall`, `Seen.mono`, `Seen.push_pcall`), and that the root handler changes neither `written` nor the tags seen
(`workerAck_written`, `workerNack_written`).
-/
namespace Conduit.Funnel
open Conduit.Funnel.Mon

theorem rows_get (b : Batch) {k : Nat} (hk : k < b.recs.length) :
    b.rows[k]? = some { r := b.recs[k]?.getD default, st := b.st[k]?.getD default, pos := (b.pos[k]?).getD none, run := b.runAt k } := by
  rw [getElem?_rows, if_pos hk]; rfl

theorem runAt_of_runs {b : Batch} {rs : List (Option Nat)} (hr : b.runs = some rs) (k : Nat) : b.runAt k = (rs[k]?).join := by
  unfold Batch.runAt; rw [hr]

theorem rows_fields {b : Batch} {rs : List (Option Nat)} (hb : VB b rs) {k : Nat} {row : Row} (h : b.rows[k]? = some row) :
    b.recs[k]? = some row.r ∧ b.st[k]? = some row.st ∧ b.pos[k]? = some row.pos ∧ rs[k]? = some row.run := by
  have hk : k < b.recs.length := by
    have := (List.getElem?_eq_some_iff.mp h).1
    rwa [rows_length] at this
  rw [rows_get b hk] at h
  have h := (Option.some.inj h).symm
  subst h
  have h1 : k < b.st.length := by rw [hb.slen]; exact hk
  have h2 : k < b.pos.length := by rw [hb.plen]; exact hk
  have h3 : k < rs.length := by rw [hb.rlen]; exact hk
  refine ⟨by simp [hk], by simp [h1], by simp [h2], ?_⟩
  rw [runAt_of_runs hb.runs]
  simp [h3]

theorem rows_of_fields {b : Batch} {rs : List (Option Nat)} (hb : VB b rs) {k : Nat} {r : Rec} {st : Status} {p : PosV}
    {ro : Option Nat} (h1 : b.recs[k]? = some r) (h2 : b.st[k]? = some st) (h3 : b.pos[k]? = some p) (h4 : rs[k]? = some ro) :
    b.rows[k]? = some { r := r, st := st, pos := p, run := ro } := by
  have hk : k < b.recs.length := (List.getElem?_eq_some_iff.mp h1).1
  rw [rows_get b hk, h1, h2, h3, runAt_of_runs hb.runs, h4]
  rfl

theorem rows_view {b : Batch} {rs : List (Option Nat)} (hb : VB b rs) {k : Nat} {row : Row} (h : b.rows[k]? = some row) :
    b.view[k]? = some (row.run, row.pos) := by
  obtain ⟨_, _, h3, h4⟩ := rows_fields hb h
  rw [hb.view]
  exact List.getElem?_zip_eq_some.mpr ⟨h4, h3⟩

theorem view_rows {b : Batch} {rs : List (Option Nat)} (hb : VB b rs) {k : Nat} {x : Piece} (h : b.view[k]? = some x) :
    ∃ row, b.rows[k]? = some row ∧ row.run = x.1 ∧ row.pos = x.2 := by
  have hk : k < b.recs.length := by
    have := (List.getElem?_eq_some_iff.mp h).1
    rwa [hb.view_len] at this
  obtain ⟨h4, h3⟩ := hb.view_get h
  have h1 : k < b.st.length := by rw [hb.slen]; exact hk
  exact ⟨_, rows_of_fields hb (List.getElem?_eq_getElem hk) (List.getElem?_eq_getElem h1) h3 h4, rfl, rfl⟩

theorem rows_sub {b sb : Batch} {rs : List (Option Nat)} (hb : VB b rs) {i j : Nat} (hs : b.sub i j = .ok sb) :
    sb.rows = (b.rows.drop i).take (j - i) ∧ VB sb ((rs.take j).drop i) := by
  have hso := sub_ok_fields hs
  have hlen : sb.recs.length = j - i := by rw [hso.recs, length_take_drop _ _ hso.recs_le]
  have hvb : VB sb ((rs.take j).drop i) := by
    refine ⟨by rw [hso.runs, hb.runs]; rfl, ?_, ?_, ?_, ?_⟩
    · rw [hlen, length_take_drop _ _ (hso.runs_le rs hb.runs)]
    · rw [hlen, hso.st, length_take_drop _ _ hso.st_le]
    · rw [hlen, hso.pos, length_take_drop _ _ hso.pos_le]
    · intro k hk
      by_cases hlt : i + k < j
      · rw [getElem?_take_drop _ hlt] at hk
        rw [hso.pos, getElem?_take_drop _ hlt]
        exact hb.nopos _ hk
      · rw [List.getElem?_drop, List.getElem?_take, if_neg hlt] at hk
        cases hk
  refine ⟨?_, hvb⟩
  apply List.ext_getElem?
  intro k
  rw [List.getElem?_take, List.getElem?_drop]
  by_cases hk : k < j - i
  · have hlt : i + k < j := by omega
    rw [if_pos hk, rows_get sb (hlen ▸ hk), rows_get b (show i + k < b.recs.length by have := hso.recs_le; omega),
      runAt_of_runs hvb.runs, runAt_of_runs hb.runs, hso.recs, hso.st, hso.pos]
    simp only [getElem?_take_drop _ hlt]
  · rw [if_neg hk, List.getElem?_eq_none_iff, rows_length, hlen]
    omega

theorem ftRun_append (scripts : List (Nat × List Reply)) : ∀ (l1 l2 : List Ev) (seen : List Nat) (calls : List (Nat × Nat)),
    ftRun scripts seen calls (l1 ++ l2) =
      (ftRun scripts seen calls l1 && ftRun scripts (seenRun scripts seen calls l1) (callsAfter calls l1) l2) := by
  intro l1
  induction l1 with
  | nil => intro l2 seen calls; simp [ftRun, seenRun, callsAfter]
  | cons e l1 ih =>
    intro l2 seen calls
    cases e with
    | pcall t r => simp only [List.cons_append, ftRun, seenRun, ih, callsAfter, List.foldl_cons, evTask, Bool.and_assoc]
    | write t r => simp only [List.cons_append, ftRun, seenRun, ih, callsAfter, List.foldl_cons, evTask]
    | dlqw t r => simp only [List.cons_append, ftRun, seenRun, ih, callsAfter, List.foldl_cons, evTask]
    | sack ps => simp only [List.cons_append, ftRun, seenRun, ih, callsAfter, List.foldl_cons, evTask]

theorem seenRun_append (scripts : List (Nat × List Reply)) : ∀ (l1 l2 : List Ev) (seen : List Nat) (calls : List (Nat × Nat)),
    seenRun scripts seen calls (l1 ++ l2) = seenRun scripts (seenRun scripts seen calls l1) (callsAfter calls l1) l2 := by
  intro l1
  induction l1 with
  | nil => intro l2 seen calls; simp [seenRun, callsAfter]
  | cons e l1 ih =>
    intro l2 seen calls
    cases e with
    | pcall t r => simp only [List.cons_append, seenRun, ih, callsAfter, List.foldl_cons, evTask]
    | write t r => simp only [List.cons_append, seenRun, ih, callsAfter, List.foldl_cons, evTask]
    | dlqw t r => simp only [List.cons_append, seenRun, ih, callsAfter, List.foldl_cons, evTask]
    | sack ps => simp only [List.cons_append, seenRun, ih, callsAfter, List.foldl_cons, evTask]

theorem seenRun_sub (scripts : List (Nat × List Reply)) : ∀ (l : List Ev) (seen : List Nat) (calls : List (Nat × Nat)),
    ∀ x ∈ seen, x ∈ seenRun scripts seen calls l := by
  intro l
  induction l with
  | nil => intro seen calls x hx; exact hx
  | cons e l ih =>
    intro seen calls x hx
    cases e with
    | pcall t r => exact ih _ _ x (List.mem_append_left _ hx)
    | write t r => exact ih _ _ x hx
    | dlqw t r => exact ih _ _ x hx
    | sack ps => exact ih _ _ x hx

theorem FT.prefix {G : Ctx} {s s' : PS} (h : FT G s') (hp : s.log.toList <+: s'.log.toList) : FT G s := by
  obtain ⟨t, ht⟩ := hp
  unfold FT at h ⊢
  rw [← ht, ftRun_append] at h
  simp only [Bool.and_eq_true] at h
  exact h.1

theorem Seen.mono {G : Ctx} {s s' : PS} (hp : s.log.toList <+: s'.log.toList) : ∀ x ∈ Seen G s, x ∈ Seen G s' := by
  obtain ⟨t, ht⟩ := hp
  intro x hx
  unfold Seen at hx ⊢
  rw [← ht, seenRun_append]
  exact seenRun_sub _ _ _ _ x hx

theorem Seen.same {G : Ctx} {s s' : PS} (h : s'.log = s.log) : Seen G s' = Seen G s := by unfold Seen; rw [h]

theorem Seen.push_other {G : Ctx} {s s' : PS} (e : Ev) (h : s'.log = s.log.push e) (he : ∀ t r, e ≠ .pcall t r) :
    Seen G s' = Seen G s := by
  unfold Seen
  rw [h, Array.toList_push, seenRun_append]
  cases e with
  | pcall t r => exact absurd rfl (he t r)
  | write t r => rfl
  | dlqw t r => rfl
  | sack ps => rfl

theorem Seen.push_pcall {G : Ctx} {s s' : PS} (t : Nat) (recs : List Rec) (h : s'.log = s.log.push (.pcall t recs)) :
    Seen G s' = Seen G s ++ outTags recs (procOut (replyOfCall G.scripts t (callNoL (G.mu s).calls t))) := by
  unfold Seen
  rw [h, Array.toList_push, seenRun_append, calls_mu]
  rfl

theorem FT.pcall {G : Ctx} {s s' : PS} (h : FT G s') (t : Nat) (recs : List Rec) (hlog : s'.log = s.log.push (.pcall t recs)) :
    pcallFresh (Seen G s) recs (procOut (replyOfCall G.scripts t (callNoL (G.mu s).calls t))) = true := by
  unfold FT at h
  rw [hlog, Array.toList_push, ftRun_append] at h
  simp only [Bool.and_eq_true] at h
  have h2 := h.2
  rw [← calls_mu] at h2
  simp only [ftRun, Bool.and_eq_true] at h2
  exact h2.1

theorem written_push_dlqw (G : Ctx) (s s' : PS) (t : Nat) (recs : List (Rec × Option Err × Nat))
    (h : s'.log = s.log.push (.dlqw t recs)) : (G.mu s').written = (G.mu s).written := by
  rw [mu_push G s s' _ h]; rfl

theorem written_push_sack (G : Ctx) (s s' : PS) (ps : List PosV)
    (h : s'.log = s.log.push (.sack ps)) : (G.mu s').written = (G.mu s).written := by
  rw [mu_push G s s' _ h]
  obtain ⟨l, e⟩ := foldl_ackT_eq G.tree ps (G.mu s)
  have := congrArg TSt.written e
  exact this

/-- neither `written` nor the tags seen change under the writes of the root handler (`worker_keeps`) -/
theorem worker_written (G : Ctx) (s : PS) :
    (∀ b, Spec (fun t => (G.mu t).written = (G.mu s).written ∧ Seen G t = Seen G s) (workerAck b) fun _ => True) ∧
    ∀ b t, Spec (fun t => (G.mu t).written = (G.mu s).written ∧ Seen G t = Seen G s) (workerNack b t) fun _ => True :=
  worker_keeps (fun u _ h => ⟨(congrArg TSt.written (mu_same G u _ rfl)).trans h.1, (Seen.same rfl).trans h.2⟩)
    (fun u _ h => ⟨(written_push_dlqw G u _ _ _ rfl).trans h.1,
      (Seen.push_other _ rfl fun _ _ hh => Ev.noConfusion hh).trans h.2⟩)
    (fun u _ h => ⟨(written_push_sack G u _ _ rfl).trans h.1,
      (Seen.push_other _ rfl fun _ _ hh => Ev.noConfusion hh).trans h.2⟩)

theorem workerAck_written (G : Ctx) (b : Batch) (s s' : PS) (r : Except Stop Unit) (h : exec (workerAck b) s = (r, s')) :
    (G.mu s').written = (G.mu s).written ∧ Seen G s' = Seen G s := by
  have := ((worker_written G s).1 b s ⟨rfl, rfl⟩).1
  rwa [h] at this

theorem workerNack_written (G : Ctx) (b : Batch) (task : Nat) (s s' : PS) (r : Except Stop Unit)
    (h : exec (workerNack b task) s = (r, s')) :
    (G.mu s').written = (G.mu s).written ∧ Seen G s' = Seen G s := by
  have := ((worker_written G s).2 b task s ⟨rfl, rfl⟩).1
  rwa [h] at this

end Conduit.Funnel
