import ConduitModel.Model.Extract
import ConduitModel.Proofs.PathClean

/-!
Lemmas for `ExtractBinary`: what an accepted entry name looks like, where `filepath.Join(dest, ·)`
puts it, and the file-system invariant of the extraction loop.
-/
namespace Conduit.Registry

/-- A name that passes the refusal test of `ExtractBinary` is relative and cleans to normal
elements only: no `..` survives, nothing is rooted. -/
theorem not_escapes {name : Path} (h : escapes (clean name) = false) :
    isAbs name = false ∧ ∀ s ∈ cleanSegs name, Normal s := by
  simp only [escapes, Bool.or_eq_false_iff] at h
  obtain ⟨⟨h1, h2⟩, h3⟩ := h
  cases ha : isAbs name with
  | true => rw [clean_abs ha] at h1; simp [isAbs] at h1
  | false =>
    refine ⟨rfl, ?_⟩
    obtain ⟨k, ns, hk, hn, -⟩ := cleanSegs_form name
    cases k with
    | zero => rw [hk]; simpa using hn
    | succ k =>
      exfalso
      rw [clean_rel ha, hk] at h2 h3
      simp only [List.replicate_succ, List.cons_append] at h2 h3
      cases hr : List.replicate k dotdotSeg ++ ns with
      | nil => rw [hr] at h2; simp [joinSlash] at h2
      | cons t ts =>
        rw [hr] at h3
        simp [joinSlash, hasPrefix, dotdotSeg, List.isPrefixOf] at h3

theorem filter_normal_self {Q : List Seg} (h : ∀ s ∈ Q, Normal s) :
    Q.filter (fun s => decide (Normal s)) = Q :=
  List.filter_eq_self.mpr (fun s hs => by simpa using h s hs)

theorem split_join_benign {Q : List Seg} (h : ∀ s ∈ Q, Normal s) :
    (∀ s ∈ splitSlash (joinSlash Q), Benign s) ∧
    (splitSlash (joinSlash Q)).filter (fun s => decide (Normal s)) = Q := by
  cases Q with
  | nil => simp [joinSlash, splitSlash, Benign, not_normal_nil]
  | cons q qs =>
    rw [splitSlash_joinSlash _ (fun s hs => normal_noslash (h s hs)) (List.cons_ne_nil _ _)]
    exact ⟨fun s hs => Or.inl (h s hs), filter_normal_self h⟩

/-- the cleaned name as a string, for an accepted entry. -/
def relStr (ns : List Seg) : Path := if ns = [] then dotSeg else joinSlash ns

theorem relStr_benign {ns : List Seg} (h : ∀ s ∈ ns, Normal s) :
    (∀ s ∈ splitSlash (relStr ns), Benign s) ∧
    (splitSlash (relStr ns)).filter (fun s => decide (Normal s)) = ns := by
  unfold relStr
  by_cases hn : ns = []
  · subst hn
    simp [splitSlash_noslash dotSeg (by decide), Benign, not_normal_dot]
  · rw [if_neg hn]; exact split_join_benign h

theorem cleanSegs_join {D ns : List Seg} (hD : ∀ s ∈ D, Normal s) (hn : ∀ s ∈ ns, Normal s) :
    cleanSegs (slash :: joinSlash D ++ slash :: relStr ns) = D ++ ns := by
  have e : splitSlash (slash :: joinSlash D ++ slash :: relStr ns)
      = [] :: (splitSlash (joinSlash D) ++ splitSlash (relStr ns)) := by
    rw [List.cons_append, splitSlash_cons_slash, splitSlash_append]
  rw [cleanSegs_benign, e]
  · rw [List.filter_cons, List.filter_append, (split_join_benign hD).2, (relStr_benign hn).2]
    simp [not_normal_nil]
  · rw [e]
    intro s hs
    simp only [List.mem_cons, List.mem_append] at hs
    rcases hs with h | h | h
    · exact Or.inr (Or.inl h)
    · exact (split_join_benign hD).1 s h
    · exact (relStr_benign hn).1 s h

/-- `filepath.Join(dest, cleanName)` for a clean absolute `dest` and an accepted name is literally
`dest/<elements of the name>`. -/
theorem join2_clean {D ns : List Seg} (hD : ∀ s ∈ D, Normal s) (hn : ∀ s ∈ ns, Normal s) :
    join2 (slash :: joinSlash D) (relStr ns) = slash :: joinSlash (D ++ ns) := by
  unfold join2
  rw [if_pos (List.cons_ne_nil _ _)]
  have ha : isAbs (slash :: joinSlash D ++ slash :: relStr ns) = true := by simp [isAbs]
  rw [clean_abs ha, cleanSegs_join hD hn]

theorem pathSegs_abs {Q : List Seg} (h : ∀ s ∈ Q, Normal s) : pathSegs (slash :: joinSlash Q) = Q := by
  unfold pathSegs
  rw [splitSlash_cons_slash]
  cases Q with
  | nil => simp [joinSlash, splitSlash]
  | cons q qs =>
    rw [splitSlash_joinSlash _ (fun s hs => normal_noslash (h s hs)) (List.cons_ne_nil _ _)]
    rw [List.filter_cons]
    simp only [ne_eq, not_true_eq_false, decide_false, Bool.false_eq_true, if_false]
    exact List.filter_eq_self.mpr (fun s hs => by simpa using (h s hs).1)

theorem dirCut_append {a s : Path} (h : slash ∉ s) : dirCut (a ++ slash :: s) = a ++ [slash] := by
  unfold dirCut
  have : (a ++ slash :: s).reverse = s.reverse ++ slash :: a.reverse := by simp
  rw [this, List.dropWhile_append_of_pos (fun x hx => by
    have : x ≠ slash := fun e => h (by rw [← e]; simpa using hx)
    simpa using this)]
  simp [List.dropWhile]

/-- `filepath.Dir` of `/q1/…/qn` (normal elements) is `/q1/…/q(n-1)`. -/
theorem pathSegs_dir {Q : List Seg} (h : ∀ s ∈ Q, Normal s) :
    pathSegs (dir (slash :: joinSlash Q)) = Q.dropLast := by
  rcases List.eq_nil_or_concat Q with rfl | ⟨Q', s, rfl⟩
  · simp [joinSlash, dir, dirCut, clean, cleanSegs, splitSlash, isAbs, cleanStep, pathSegs]
  · have hs : Normal s := h s (by simp)
    have hQ' : ∀ t ∈ Q', Normal t := fun t ht => h t (by simp [ht])
    rw [List.concat_eq_append] at h ⊢
    rw [List.dropLast_concat, joinSlash_concat]
    unfold dir
    by_cases hq : Q' = []
    · subst hq
      rw [if_pos rfl]
      have : dirCut (slash :: s) = [] ++ [slash] := dirCut_append (a := []) (normal_noslash hs)
      rw [this]
      simp [clean, cleanSegs, splitSlash, isAbs, cleanStep, pathSegs, joinSlash]
    · rw [if_neg hq]
      have : dirCut (slash :: (joinSlash Q' ++ slash :: s)) = (slash :: joinSlash Q') ++ [slash] := by
        rw [← List.cons_append]; exact dirCut_append (normal_noslash hs)
      rw [this]
      have ha : isAbs ((slash :: joinSlash Q') ++ [slash]) = true := by simp [isAbs]
      have e : splitSlash ((slash :: joinSlash Q') ++ [slash]) = [] :: (splitSlash (joinSlash Q') ++ [[]]) := by
        rw [List.cons_append, splitSlash_cons_slash, splitSlash_append]; simp [splitSlash]
      rw [clean_abs ha, cleanSegs_benign, e]
      · rw [List.filter_cons, List.filter_append, (split_join_benign hQ').2]
        simp only [not_normal_nil, decide_false, Bool.false_eq_true, if_false, List.filter_cons, List.filter_nil, List.append_nil]
        exact pathSegs_abs hQ'
      · rw [e]
        intro t ht
        simp only [List.mem_cons, List.mem_append, List.not_mem_nil, or_false] at ht
        rcases ht with h | h | h
        · exact Or.inr (Or.inl h)
        · exact (split_join_benign hQ').1 t h
        · exact Or.inr (Or.inl h)

/-- The extraction loop writes nothing outside `dest = /D₁/…/Dₙ`: `dest` and its ancestors are
directories, every other directory and every file lies inside `dest`. -/
structure FSInv (D : List Seg) (fs : FS) : Prop where
  base  : ∀ d ∈ prefixes D, d ∈ fs.dirs
  dirs  : ∀ d ∈ fs.dirs, d ∈ prefixes D ∨ Inside D d
  files : ∀ f ∈ fs.files, Inside D f.1

theorem prefixes_append (D m : List Seg) :
    ∀ q ∈ prefixes (D ++ m), q ∈ prefixes D ∨ ∃ r ∈ prefixes m, q = D ++ r := by
  induction D with
  | nil => intro q hq; exact Or.inr ⟨q, hq, rfl⟩
  | cons d ds ih =>
    intro q hq
    simp only [List.cons_append, prefixes, List.mem_cons, List.mem_map] at hq
    rcases hq with rfl | ⟨q', hq', rfl⟩
    · exact Or.inl (by simp [prefixes])
    · rcases ih q' hq' with h | ⟨r, hr, rfl⟩
      · exact Or.inl (by simp only [prefixes, List.mem_cons, List.mem_map]; exact Or.inr ⟨q', h, rfl⟩)
      · exact Or.inr ⟨r, hr, rfl⟩

theorem prefixes_mem (m : List Seg) : ∀ r ∈ prefixes m, r ≠ [] ∧ ∀ s ∈ r, s ∈ m := by
  induction m with
  | nil => intro r hr; simp [prefixes] at hr
  | cons a as ih =>
    intro r hr
    simp only [prefixes, List.mem_cons, List.mem_map] at hr
    rcases hr with rfl | ⟨r', hr', rfl⟩
    · simp
    · refine ⟨by simp, ?_⟩
      intro s hs
      simp only [List.mem_cons] at hs ⊢
      rcases hs with h | h
      · exact Or.inl h
      · exact Or.inr ((ih r' hr').2 s h)

theorem prefixes_dropLast (D : List Seg) : ∀ q ∈ prefixes D.dropLast, q ∈ prefixes D := by
  induction D with
  | nil => intro q hq; simp [prefixes] at hq
  | cons d ds ih =>
    cases ds with
    | nil => intro q hq; simp [prefixes] at hq
    | cons e es =>
      intro q hq
      simp only [List.dropLast_cons_cons, prefixes, List.mem_cons, List.mem_map] at hq ⊢
      rcases hq with h | ⟨q', hq', rfl⟩
      · exact Or.inl h
      · have := ih q' hq'
        simp only [prefixes, List.mem_cons, List.mem_map] at this
        exact Or.inr ⟨q', by simpa [prefixes] using this, rfl⟩

/-- every ancestor `MkdirAll(filepath.Dir(destPath))` may create is `dest`, above it, or inside it. -/
theorem prefixes_dir_target {D ns : List Seg} (hn : ∀ s ∈ ns, Normal s) :
    ∀ q ∈ prefixes (D ++ ns).dropLast, q ∈ prefixes D ∨ Inside D q := by
  intro q hq
  by_cases he : ns = []
  · subst he; rw [List.append_nil] at hq; exact Or.inl (prefixes_dropLast D q hq)
  · rw [List.dropLast_append_of_ne_nil he] at hq
    rcases prefixes_append D ns.dropLast q hq with h | ⟨r, hr, rfl⟩
    · exact Or.inl h
    · obtain ⟨h1, h2⟩ := prefixes_mem _ r hr
      exact Or.inr ⟨r, rfl, h1, fun s hs => hn s (List.dropLast_subset _ (h2 s hs))⟩

theorem mkdirAllAux_inv {D : List Seg} (nm : Nat) (qs : List (List Seg)) :
    ∀ fs, FSInv D fs → (∀ q ∈ qs, q ∈ prefixes D ∨ Inside D q) → FSInv D (FS.mkdirAllAux nm fs qs).1 := by
  induction qs with
  | nil => intro fs h _; exact h
  | cons q qs ih =>
    intro fs h hq
    have hq' : ∀ x ∈ qs, x ∈ prefixes D ∨ Inside D x := fun x hx => hq x (by simp [hx])
    unfold FS.mkdirAllAux
    by_cases h1 : fs.isDir q = true
    · rw [if_pos h1]; exact ih fs h hq'
    · rw [if_neg h1]
      by_cases h2 : fs.isFile q = true
      · rw [if_pos h2]; exact h
      · rw [if_neg h2]
        by_cases h3 : nm < (q.getLast?.getD []).length
        · rw [if_pos h3]; exact h
        · rw [if_neg h3]
          refine ih _ ⟨?_, ?_, h.files⟩ hq'
          · intro d hd; simp [h.base d hd]
          · intro d hd
            simp only [List.mem_append, List.mem_singleton] at hd
            rcases hd with hd | rfl
            · exact h.dirs d hd
            · exact hq d (by simp)

theorem withFile_inv {D : List Seg} {fs : FS} {q : List Seg} (n : Nat) (h : FSInv D fs) (hq : Inside D q) :
    FSInv D (fs.withFile q n) := by
  refine ⟨h.base, h.dirs, ?_⟩
  intro f hf
  simp only [FS.withFile, List.mem_append, List.mem_singleton] at hf
  rcases hf with hf | rfl
  · exact h.files f hf
  · exact hq

theorem initial_inv {D : List Seg} (hD : ∀ s ∈ D, Normal s) : FSInv D (FS.initial (slash :: joinSlash D)) := by
  unfold FS.initial
  rw [pathSegs_abs hD]
  exact ⟨fun d hd => hd, fun d hd => Or.inl hd, fun f hf => by simp at hf⟩

theorem sumSizes_append (l : List (List Seg × Nat)) (q : List Seg) (n : Nat) :
    sumSizes (l ++ [(q, n)]) = sumSizes l + n := by simp [sumSizes]

/-- Invariant of the extraction loop between entries: the tree stays inside `dest`, `total` is the
number of bytes written and within the cap, and the candidate, if any, is a root-level file that was
written. -/
structure ExInv (cap : Nat) (D : List Seg) (st : ExState) : Prop where
  fs    : FSInv D st.fs
  total : sumSizes st.fs.files = st.total
  le    : st.total ≤ cap
  cand  : st.candidate = [] ∨ (Normal st.candidate ∧ (D ++ [st.candidate]) ∈ st.fs.files.map Prod.fst)

/-- what holds after one loop iteration, whether it continues (`none`) or refuses. -/
structure Post (cap : Nat) (D : List Seg) (r : ExState × Option ExErr) : Prop where
  fs : FSInv D r.1.fs
  size : sumSizes r.1.fs.files ≤ cap + 1
  inv : r.2 = none → ExInv cap D r.1

theorem mkdirAllAux_files (nm : Nat) (qs : List (List Seg)) :
    ∀ fs, (FS.mkdirAllAux nm fs qs).1.files = fs.files := by
  induction qs with
  | nil => intro fs; rfl
  | cons q qs ih =>
    intro fs
    unfold FS.mkdirAllAux
    split
    · exact ih fs
    · split
      · rfl
      · split
        · rfl
        · rw [ih]

theorem mkdirAllAux_dirs_mono (nm : Nat) (qs : List (List Seg)) :
    ∀ fs d, d ∈ fs.dirs → d ∈ (FS.mkdirAllAux nm fs qs).1.dirs := by
  induction qs with
  | nil => intro fs d h; exact h
  | cons q qs ih =>
    intro fs d h
    unfold FS.mkdirAllAux
    split
    · exact ih fs d h
    · split
      · exact h
      · split
        · exact h
        · exact ih _ d (by simp [h])

theorem createExcl_some {nm : Nat} {fs : FS} {p : Path} {q : List Seg} (h : fs.createExcl nm p = some q) :
    q = pathSegs p ∧ q ≠ [] ∧ fs.isDir q = false := by
  unfold FS.createExcl at h
  simp only at h
  split at h
  · exact absurd h (by simp)
  · rename_i h1
    split at h
    · exact absurd h (by simp)
    · split at h
      · exact absurd h (by simp)
      · simp only [Option.some.injEq] at h
        subst h
        simp only [not_or] at h1
        exact ⟨rfl, h1.1, by simpa using h1.2.1⟩

theorem mem_prefixes_self {D : List Seg} (h : D ≠ []) : D ∈ prefixes D := by
  induction D with
  | nil => exact absurd rfl h
  | cons d ds ih =>
    cases ds with
    | nil => simp [prefixes]
    | cons e es =>
      simp only [prefixes, List.mem_cons, List.mem_map]
      exact Or.inr ⟨e :: es, by simpa [prefixes] using ih (List.cons_ne_nil _ _), rfl⟩

/-- path facts for an entry name that passed the refusal test, `dest = /D₁/…/Dₙ` clean. -/
theorem accepted_paths {D : List Seg} (hD : ∀ s ∈ D, Normal s) {name : Path}
    (h : escapes (clean name) = false) :
    ∃ ns, (∀ s ∈ ns, Normal s) ∧ clean name = relStr ns ∧
      join2 (slash :: joinSlash D) (clean name) = slash :: joinSlash (D ++ ns) ∧
      pathSegs (join2 (slash :: joinSlash D) (clean name)) = D ++ ns ∧
      pathSegs (dir (join2 (slash :: joinSlash D) (clean name))) = (D ++ ns).dropLast := by
  obtain ⟨ha, hn⟩ := not_escapes h
  have hc : clean name = relStr (cleanSegs name) := by rw [clean_rel ha]; rfl
  have hall : ∀ s ∈ D ++ cleanSegs name, Normal s := by
    intro s hs; rcases List.mem_append.mp hs with h | h
    · exact hD s h
    · exact hn s h
  refine ⟨cleanSegs name, hn, hc, ?_, ?_, ?_⟩
  · rw [hc, join2_clean hD hn]
  · rw [hc, join2_clean hD hn, pathSegs_abs hall]
  · rw [hc, join2_clean hD hn, pathSegs_dir hall]

theorem relStr_root {ns : List Seg} (hn : ∀ s ∈ ns, Normal s) (hne : ns ≠ [])
    (h : containsSlash (relStr ns) = false) : ∃ c, ns = [c] ∧ relStr ns = c := by
  cases ns with
  | nil => exact absurd rfl hne
  | cons c cs =>
    cases cs with
    | nil => exact ⟨c, rfl, by simp [relStr, joinSlash]⟩
    | cons d ds =>
      exfalso
      simp [relStr, joinSlash, containsSlash] at h

/-- What the regular-file arm does, whatever its outcome: it fails before anything is written and
leaves the directories `MkdirAll` made, or it writes one file under the key `createExcl` returned. -/
theorem extractReg_cases (cap nm : Nat) (dest : Path) (st : ExState) (e : Entry) (cn : Path) :
    let r := st.fs.mkdirAll nm (dir (join2 dest cn))
    let o := extractReg cap nm dest st e cn
    (o.1.fs = r.1 ∧ o.2 ≠ none) ∨
    ∃ q n, r.1.createExcl nm (join2 dest cn) = some q ∧ n ≤ cap - st.total + 1 ∧ o.1.fs = r.1.withFile q n ∧
      (o.2 = none → o.1.total = st.total + n ∧ o.1.total ≤ cap ∧
        ((containsSlash cn = true ∧ o.1.candidate = st.candidate) ∨
         (containsSlash cn = false ∧ st.candidate = [] ∧ o.1.candidate = cn))) := by
  intro r
  unfold extractReg
  simp only []
  by_cases h1 : r.2 = false
  · exact .inl (by simp [r, h1])
  cases hce : r.1.createExcl nm (join2 dest cn) with
  | none => exact .inl (by simp [r, h1])
  | some q =>
    right
    by_cases h2 : e.avail < min e.size (cap - st.total + 1)
    · exact ⟨q, e.avail, rfl, by omega, by simp [r, h1, h2], by simp [r, h1, h2]⟩
    refine ⟨q, min e.size (cap - st.total + 1), rfl, Nat.min_le_right _ _, ?_⟩
    by_cases h3 : cap < st.total + min e.size (cap - st.total + 1)
    · simp [r, h1, h2, h3]
    cases h4 : containsSlash cn with
    | true => simp [r, h1, h2, h3]; omega
    | false =>
      by_cases h5 : st.candidate = []
      · simp [r, h1, h2, h3, h5]; omega
      · simp [r, h1, h2, h3, h5]

theorem extractReg_post {cap nm : Nat} {D : List Seg} (hD : ∀ s ∈ D, Normal s) {st : ExState}
    (hst : ExInv cap D st) (e : Entry) (hesc : escapes (clean e.name) = false) :
    Post cap D (extractReg cap nm (slash :: joinSlash D) st e (clean e.name)) := by
  obtain ⟨ns, hn, hc, -, hp, hd⟩ := accepted_paths hD hesc
  have hr : FSInv D (st.fs.mkdirAll nm (dir (join2 (slash :: joinSlash D) (clean e.name)))).1 := by
    unfold FS.mkdirAll
    rw [hd]
    exact mkdirAllAux_inv nm _ _ hst.fs (prefixes_dir_target hn)
  have hf : (st.fs.mkdirAll nm (dir (join2 (slash :: joinSlash D) (clean e.name)))).1.files = st.fs.files := by
    unfold FS.mkdirAll; exact mkdirAllAux_files _ _ _
  have hle := hst.le
  have hcases := extractReg_cases cap nm (slash :: joinSlash D) st e (clean e.name)
  simp only [] at hcases
  generalize extractReg cap nm (slash :: joinSlash D) st e (clean e.name) = o at hcases ⊢
  generalize st.fs.mkdirAll nm (dir (join2 (slash :: joinSlash D) (clean e.name))) = r at hcases hr hf
  rcases hcases with ⟨h1, h2⟩ | ⟨q, n, hce, hnle, h1, h2⟩
  · exact ⟨h1 ▸ hr, by rw [h1, hf, hst.total]; omega, fun h => absurd h h2⟩
  · obtain ⟨hq, hqne, hqd⟩ := createExcl_some hce
    rw [hp] at hq
    -- the name is not `.`: `dest` itself exists, so its exclusive creation would have failed
    have hnsne : ns ≠ [] := by
      intro h0; subst h0
      rw [List.append_nil] at hq; subst hq
      have := hr.base q (mem_prefixes_self hqne)
      simp [FS.isDir, this] at hqd
    have hfs : FSInv D o.1.fs := h1 ▸ withFile_inv n hr ⟨ns, hq, hnsne, hn⟩
    have hsum : sumSizes o.1.fs.files = st.total + n := by
      rw [h1]; simp only [FS.withFile, sumSizes_append, hf, hst.total]
    refine ⟨hfs, by rw [hsum]; omega, fun hnone => ?_⟩
    obtain ⟨ht, htle, hcand⟩ := h2 hnone
    refine ⟨hfs, hsum.trans ht.symm, htle, ?_⟩
    rcases hcand with ⟨-, hk⟩ | ⟨hroot, -, hk⟩ <;> rw [hk]
    · refine hst.cand.imp_right fun ⟨h, h'⟩ => ⟨h, ?_⟩
      rw [h1]; simp only [FS.withFile, List.map_append, List.mem_append, hf]; exact Or.inl h'
    · obtain ⟨c, hc1, hc2⟩ := relStr_root hn hnsne (hc ▸ hroot)
      refine Or.inr ⟨by rw [hc, hc2]; exact hn c (by simp [hc1]), ?_⟩
      rw [h1]; simp only [FS.withFile, List.map_append, List.mem_append]
      exact Or.inr (by rw [hc, hc2, hq, hc1]; simp)

theorem post_of_inv {cap : Nat} {D : List Seg} {st : ExState} (h : ExInv cap D st) (r : Option ExErr) :
    Post cap D (st, r) :=
  ⟨h.fs, by rw [h.total]; have := h.le; omega, fun _ => h⟩

theorem extractEntry_post {cap nm : Nat} {D : List Seg} (hD : ∀ s ∈ D, Normal s) {st : ExState}
    (hst : ExInv cap D st) (e : Entry) : Post cap D (extractEntry cap nm (slash :: joinSlash D) st e) := by
  unfold extractEntry
  simp only []
  by_cases hesc : escapes (clean e.name) = true
  · rw [if_pos hesc]; exact post_of_inv hst _
  · rw [if_neg hesc]
    cases e.typ with
    | reg => exact extractReg_post hD hst e (by simpa using hesc)
    | _ => exact post_of_inv hst _

theorem extractLoop_post {cap nm : Nat} {D : List Seg} (hD : ∀ s ∈ D, Normal s) (es : List Entry) :
    ∀ st, ExInv cap D st → Post cap D (extractLoop cap nm (slash :: joinSlash D) st es) := by
  induction es with
  | nil => intro st h; exact post_of_inv h _
  | cons e es ih =>
    intro st h
    have hp := extractEntry_post (nm := nm) hD h e
    unfold extractLoop
    generalize extractEntry cap nm (slash :: joinSlash D) st e = r at hp
    obtain ⟨st', err⟩ := r
    cases err with
    | some err => exact hp
    | none => exact ih st' (hp.inv rfl)

theorem initial_exinv {cap : Nat} {D : List Seg} (hD : ∀ s ∈ D, Normal s) :
    ExInv cap D { fs := FS.initial (slash :: joinSlash D), candidate := [], total := 0 } :=
  ⟨initial_inv hD, by simp [FS.initial, sumSizes], Nat.zero_le _, Or.inl rfl⟩

theorem joinSlash_ne_nil {s : Seg} {ss : List Seg} (h : s ≠ []) : joinSlash (s :: ss) ≠ [] := by
  cases ss with
  | nil => simpa [joinSlash] using h
  | cons t ts => simp [joinSlash, h]

/-- `filepath.Clean` never returns the empty string. -/
theorem clean_ne_nil (p : Path) : clean p ≠ [] := by
  unfold clean
  simp only []
  split
  · simp
  · split
    · simp [dotSeg]
    · rename_i hne
      obtain ⟨k, ns, hk, hn, -⟩ := cleanSegs_form p
      cases hs : cleanSegs p with
      | nil => exact absurd hs hne
      | cons s ss =>
        apply joinSlash_ne_nil
        have hm : s ∈ List.replicate k dotdotSeg ++ ns := by rw [← hk, hs]; simp
        rcases List.mem_append.mp hm with h | h
        · rw [List.eq_of_mem_replicate h]; simp [dotdotSeg]
        · exact (hn s h).1

theorem extractReg_candidate {cap nm : Nat} {dest : Path} {st st' : ExState} {e : Entry} {cn : Path}
    (h : extractReg cap nm dest st e cn = (st', none)) :
    (containsSlash cn = true → st'.candidate = st.candidate) ∧
    (containsSlash cn = false → st.candidate = [] ∧ st'.candidate = cn) := by
  rcases extractReg_cases cap nm dest st e cn with ⟨-, h2⟩ | ⟨q, n, -, -, -, h2⟩
  · simp [h] at h2
  · obtain ⟨-, -, hc⟩ := h2 (by rw [h])
    rw [h] at hc
    rcases hc with ⟨h1, h2⟩ | ⟨h1, h2⟩ <;> simp_all

/-- the candidate as a list: the root-level regular files met so far (Go's `""` = none yet). -/
def seen (st : ExState) : List Path := if st.candidate = [] then [] else [st.candidate]

/-- an entry after which the loop goes on: no link, no escaping name, and a root-level regular file
only if there was no candidate yet — it is the candidate then. -/
theorem extractEntry_ok {cap nm : Nat} {dest : Path} {st st' : ExState} {e : Entry}
    (h : extractEntry cap nm dest st e = (st', none)) :
    (e.typ ≠ .symlink ∧ e.typ ≠ .link ∧ escapes (clean e.name) = false) ∧
    seen st' = seen st ++ if isRootReg e then [clean e.name] else [] := by
  unfold extractEntry at h
  simp only [] at h
  by_cases hesc : escapes (clean e.name) = true
  · rw [if_pos hesc] at h; simp at h
  rw [if_neg hesc] at h
  refine ⟨⟨?_, ?_, by simpa using hesc⟩, ?_⟩
  · intro ht; rw [ht] at h; simp at h
  · intro ht; rw [ht] at h; simp at h
  cases ht : e.typ with
  | dir | other => rw [ht] at h; simp only [Prod.mk.injEq, and_true] at h; subst h; simp [isRootReg, ht]
  | symlink | link => rw [ht] at h; simp at h
  | reg =>
    rw [ht] at h
    obtain ⟨hs, hr⟩ := extractReg_candidate h
    cases hcs : containsSlash (clean e.name) with
    | true => simp [isRootReg, ht, hcs, seen, hs hcs]
    | false => simp [isRootReg, ht, hcs, seen, hr hcs, clean_ne_nil]

theorem extractLoop_ok {cap nm : Nat} {dest : Path} (es : List Entry) :
    ∀ (st st' : ExState), extractLoop cap nm dest st es = (st', none) →
      (∀ e ∈ es, e.typ ≠ .symlink ∧ e.typ ≠ .link ∧ escapes (clean e.name) = false) ∧
      seen st' = seen st ++ (es.filter isRootReg).map (clean ·.name) := by
  induction es with
  | nil => intro st st' h; cases h; simp
  | cons e es ih =>
    intro st st' h
    unfold extractLoop at h
    cases hr : extractEntry cap nm dest st e with
    | mk st1 err =>
      rw [hr] at h
      cases err with
      | some err => simp at h
      | none =>
        obtain ⟨h1, h2⟩ := extractEntry_ok hr
        obtain ⟨i1, i2⟩ := ih st1 st' h
        refine ⟨fun x hx => ?_, ?_⟩
        · rcases List.mem_cons.mp hx with rfl | hx
          · exact h1
          · exact i1 x hx
        · rw [i2, h2, List.filter_cons]; cases isRootReg e <;> simp

theorem extractBinary_fs (cap nm : Nat) (dest : Path) (es : List Entry) (ct : Bool) :
    (extractBinary cap nm dest es ct).fs = (extractLoop cap nm dest { fs := FS.initial dest, candidate := [], total := 0 } es).1.fs := by
  unfold extractBinary
  cases extractLoop cap nm dest { fs := FS.initial dest, candidate := [], total := 0 } es with
  | mk st err =>
    cases err with
    | some _ => rfl
    | none =>
      simp only []
      split
      · rfl
      · split <;> rfl

theorem extractBinary_ok {cap nm : Nat} {dest : Path} {es : List Entry} {ct : Bool} {p : Path}
    (h : (extractBinary cap nm dest es ct).result = .ok p) :
    ∃ st, extractLoop cap nm dest { fs := FS.initial dest, candidate := [], total := 0 } es = (st, none) ∧ st.candidate ≠ [] ∧ p = join2 dest st.candidate := by
  unfold extractBinary at h
  split at h
  · simp at h
  · next st hl =>
    refine ⟨st, hl, ?_⟩
    split at h
    · simp at h
    · split at h
      · simp at h
      · next hc => exact ⟨hc, by simpa using h.symm⟩

end Conduit.Registry
