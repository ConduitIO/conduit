import ConduitModel.Proofs.MonFWorkerDefs

/-!
# `Worker.Nack` against the monitor, from the weak invariant

`workerNack_monW`; `WInvW.same` (a state with the same log and scripts) and `WInv.sack` (the invariant after a
`.sack` of the next records read, which `Worker.Ack` takes too).
-/
namespace Conduit.Funnel
open Conduit.Funnel.Mon

theorem WInvW.same {G : Ctx} {p : Nat} {s s' : PS} (h : WInvW G p s) (hlog : s'.log = s.log)
    (hscr : s'.scripts = s.scripts) : WInvW G p s' := by
  have hm := mu_same G s s' hlog
  refine ⟨h.base.same hlog hscr, by rw [hlog]; exact h.acked, ?_, by rw [hm]; exact h.dlqAny, by rw [hm]; exact h.dlqOk⟩
  unfold nAcked
  rw [hlog]
  exact h.front

theorem ExtT.of_mu {G : Ctx} {s t : PS} (h1 : (G.mu t).filtered = (G.mu s).filtered) (h2 : G.errT t = G.errT s)
    (h3 : (G.mu t).written = (G.mu s).written) : ExtT [] [] (fun _ => False) (G.view s) (G.view t) :=
  ExtT.of_eq _ _ _ h1 h2 h3

/-- A source ack of the batch at the read frontier that only pops the monitor's pending list (every record
justified, `mu_sack_just`): the strong invariant holds at `p + len`, provided every root the DLQ has seen belongs to
a record read before that. Both successes of the root handler end so: for `Worker.Ack` the DLQ has seen none of
the batch, for `Worker.Nack` it has just been handed all of it. -/
theorem WInv.sack {G : Ctx} {s s' : PS} {sb : Batch} {p : Nat} (hB : Base G s)
    (hacked : ackedKeys s.log = (G.all.take p).map keyR) (hf : nAcked s = p) (hal : Align G p sb)
    (hlog : s'.log = s.log.push (.sack sb.pos)) (hscr : s'.scripts = s.scripts)
    (hmu : G.mu s' = { G.mu s with pending := (G.mu s).pending.drop sb.pos.length })
    (hany : ∀ x ∈ (G.mu s).dlqAny, NonPend G (p + sb.pos.length) x)
    (hok : ∀ x ∈ (G.mu s).dlqOk, NonPend G (p + sb.pos.length) x) :
    WInv G (p + sb.pos.length) s' ∧ ExtT [] [] (fun _ => False) (G.view s) (G.view s') := by
  have hE : G.errT s' = G.errT s := by
    rw [errT_push G s s' _ hlog]
    exact List.append_nil _
  refine ⟨⟨⟨⟨by rw [hmu]; exact hB.safe, hB.sc.sack _ hlog hscr, by rw [hmu]; exact hB.wr, by rw [hE]; exact hB.errIn,
    by rw [hmu]; exact hB.wrIn, by rw [hscr]; exact hB.ns⟩, ?_, by rw [nAcked_push_sack s s' _ hlog, hf],
    fun x hx => Or.inl (hany x (by rw [hmu] at hx; exact hx)), fun x hx => hok x (by rw [hmu] at hx; exact hx)⟩,
    fun x hx => hany x (by rw [hmu] at hx; exact hx)⟩,
    ExtT.of_mu (by rw [hmu]) hE (by rw [hmu])⟩
  rw [hlog, ackedKeys_push_sack, hacked, hal.keys, take_add_map]

/-- `Worker.Nack` of a non-empty batch at the read frontier `p`, from the WEAK invariant (the record at `p` may
already have an unconfirmed DLQ write — a retried nack), read off `workerNack_wf` by what the call leaves behind:
the monitor stays silent; when the call succeeds the strong invariant holds at `p + len`; when a call for at most
one record fails the weak invariant still holds at `p` (nothing was acknowledged, the DLQ confirmed nothing, at
most the record at `p` was written to it); no `filtered` / attributed-error / `written` fact changes; the tallies
are untouched. (`hpos` is needed: for an empty batch the call succeeds without doing anything, and the weak
invariant at `p` does not give the strong one at `p + 0`.) -/
theorem workerNack_monW {G : Ctx} (hs : Src G) {s s' : PS} {r : Except Stop Unit} {sb : Batch} {p task : Nat}
    (hI : WInvW G p s) (hb : BOK sb) (hsp : sb.split = []) (hn : NackOK sb) (hal : Align G p sb)
    (hpos : 0 < sb.pos.length)
    (h : exec (workerNack sb task) s = (r, s')) :
    (r = .ok () → WInv G (p + sb.pos.length) s') ∧
    (sb.pos.length ≤ 1 → r ≠ .ok () → WInvW G p s') ∧
    (G.mu s').tv = [] ∧
    ExtT [] [] (fun _ => False) (G.view s) (G.view s') ∧
    s'.mas = s.mas := by
  have hB := hI.base
  have hob : sb.original = sb := original_of_split_nil hsp
  have hpl := hb.pos_len
  have hkl : accepted s sb ≤ sb.recs.length := by
    have := accepted_le s sb
    rw [hob] at this; exact this
  -- the state after the DLQ write
  have hW := mu_stWrite hs task hI.dlqAny hI.dlqOk hb hob hal
  have hlog1 : (stWrite s sb task).log = s.log.push (.dlqw s.dlqTask (dlqWritten s sb task)) := rfl
  have hE1 : G.errT (stWrite s sb task) = G.errT s := by
    rw [errT_push G s _ _ hlog1]
    exact List.append_nil _
  have hB1 : Base G (stWrite s sb task) :=
    ⟨by rw [hW]; exact hB.safe, hB.sc.event (.dlqw s.dlqTask _) s.dlqTask rfl rfl rfl, by rw [hW]; exact hB.wr,
      by rw [hE1]; exact hB.errIn, by rw [hW]; exact hB.wrIn, fun hg => (hB.ns hg).pop _⟩
  have hn1 : nAcked (stWrite s sb task) = p := by rw [nAcked_push_other s _ _ hlog1 rfl, hI.front]
  have hak1 : ackedKeys (stWrite s sb task).log = ackedKeys s.log := by
    rw [hlog1, ackedKeys_push]
    exact List.append_nil _
  have hin : ∀ (L : Nat), ∀ x ∈ (sb.recs.take L).map root, InR G p sb.pos.length x := by
    intro L x hx
    obtain ⟨r0, hr0, rfl⟩ := List.mem_map.mp hx
    exact hal.take_inR hb L r0 hr0
  rcases workerNack_wf hb hn s task with ⟨r', h', hr⟩ | ⟨r', h', hne, hk, hr⟩ | ⟨n, r', h', hn1', hnk, hnc, _, hr⟩ <;>
    rw [h] at h' <;> obtain ⟨rfl, rfl⟩ := Prod.mk.inj h'
  · -- nothing logged
    have hmu : G.mu (stNack s sb) = G.mu s := mu_same G s _ rfl
    exact ⟨fun hok => by have := hr hok; omega, fun _ _ => hI.same rfl rfl, by rw [hmu]; exact hB.safe,
      ExtT.of_mu (by rw [hmu]) (errT_same G s _ rfl) (by rw [hmu]), rfl⟩
  · -- the DLQ write only
    refine ⟨fun hok => absurd hok hne, fun hle _ => ?_, hB1.safe, ExtT.of_mu (by rw [hW]) hE1 (by rw [hW]), rfl⟩
    -- a single record, and the positions are those of records read: the DLQ confirmed nothing, nor does the monitor think so
    have hrs1 : (sb.recs.take (accepted s sb)).length = 1 := by rw [List.length_take]; omega
    have hc0 : dlqConfirmed s sb = 0 :=
      (hr (by omega)).resolve_right fun ⟨m, hv⟩ => by rw [hal.validate hs m] at hv; cases hv
    have hq : oksQ G.scripts s.dlqTask (callNoL (G.mu s).calls s.dlqTask) (sb.recs.take (accepted s sb)) = [] := by
      apply oksQ_single _ _ _ _ hrs1
      cases hcf : confirmed G.scripts s.dlqTask (callNoL (G.mu s).calls s.dlqTask) 0
          ((sb.recs.take (accepted s sb)).map (·.pos)) with
      | false => rfl
      | true =>
        exfalso
        have hc' : confirmed s.scripts s.dlqTask 0 0 ((sb.original.recs.take (accepted s sb)).map (·.pos)) = true := by
          rw [hob, confirmed_congr ((nextReply_eq_replyOfCall _ _).symm.trans (hB.sc.nextReply _)) _ _]
          exact hcf
        have := dlqConfirmed_pos_single s sb (by rw [hob]; exact hrs1) hc'
        omega
    refine ⟨hB1, by rw [hak1]; exact hI.acked, hn1, fun x hx => ?_, fun x hx => ?_⟩
    · rw [hW] at hx
      rcases List.mem_append.mp hx with h1 | h1
      · exact hI.dlqAny x h1
      · right
        obtain ⟨q, src, hq, hsrc, hroot⟩ := hin _ x h1
        obtain rfl : q = 0 := by omega
        exact ⟨src, hsrc, hroot⟩
    · rw [hW, hq] at hx
      exact hI.dlqOk x (by simpa using hx)
  · -- the DLQ write, then the ack of the leading `n` positions
    have hA := mu_stAck task hB.sc hob hal hI.front (by rw [hW]) hnk hnc
    have hlog2 : (stAck s sb task n).log = (stWrite s sb task).log.push (.sack (sb.pos.take n)) := by
      have : (stAck s sb task n).log = (stWrite s sb task).log.push (.sack (sb.original.pos.take n)) := rfl
      rw [hob] at this; exact this
    have hE2 : G.errT (stAck s sb task n) = G.errT s := by
      rw [errT_push G _ _ _ hlog2, hE1]
      exact List.append_nil _
    -- a call for at most one record that acknowledged it has succeeded
    refine ⟨fun hok => ?_, fun hle hne => absurd (hr.mpr (by omega)) hne, by rw [hA, hW]; exact hB.safe,
      ExtT.of_mu (by rw [hA, hW]) hE2 (by rw [hA, hW]), rfl⟩
    have hnl : n = sb.recs.length := hr.mp hok
    rw [show sb.pos.take n = sb.pos by rw [hnl, ← hpl]; exact List.take_length] at hlog2 hA
    rw [show accepted s sb = sb.recs.length by omega, List.take_length] at hW
    -- the record at `p`, if it had an unconfirmed write, is now acknowledged
    refine (WInv.sack hB1 (hak1.trans hI.acked) hn1 hal hlog2 rfl hA (fun x hx => ?_) fun x hx => ?_).1 <;>
      rw [hW] at hx <;> rcases List.mem_append.mp hx with h1 | h1
    · rcases hI.dlqAny x h1 with h2 | ⟨src, h2, h3⟩
      · exact h2.mono (by omega)
      · exact ⟨p, src, by omega, h2, h3⟩
    · exact (hin sb.recs.length x (by rw [List.take_length]; exact h1)).nonPend
    · exact (hI.dlqOk x h1).mono (by omega)
    · exact (hin _ x h1).nonPend

end Conduit.Funnel
