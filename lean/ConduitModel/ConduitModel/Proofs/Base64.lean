import ConduitModel.Model.Base64
import ConduitModel.Proofs.NatDigits

/-! Helper lemmas: base64 quantum arithmetic and the encode/decode round trip. -/
namespace Conduit.Codec

/-- The alphabet, entry by entry: `b64Val` inverts it, and no sextet is written as padding or as a
line break.  A sweep over the 64 entries, left to the kernel's evaluator (`+kernel`); plain `decide`
in this file closes single numeric facts. -/
theorem b64Char_table : ∀ j, j < 64 →
    b64Val (b64Char j) = some j ∧ b64Char j ≠ '=' ∧ b64Char j ≠ '\n' ∧ b64Char j ≠ '\r' := by
  decide +kernel

theorem b64Char_mod (i : Nat) : b64Char (i % 64) = b64Char i := by
  simp only [b64Char, Nat.mod_mod]

theorem b64Val_b64Char {i : Nat} (h : i < 64) : b64Val (b64Char i) = some i :=
  (b64Char_table i h).1

theorem b64Char_ne (i : Nat) : b64Char i ≠ '=' ∧ b64Char i ≠ '\n' ∧ b64Char i ≠ '\r' :=
  b64Char_mod i ▸ (b64Char_table (i % 64) (Nat.mod_lt _ (by decide))).2

/-- The four sextets of three bytes, and the bytes back from them. With `c = 0` (and `b = 0`) these
are also the sextets of a padded final quantum. -/
theorem sextets (a b c : Nat) (ha : a < 256) (hb : b < 256) (hc : c < 256) :
    (a / 4 < 64 ∧ a % 4 * 16 + b / 16 < 64 ∧ b % 16 * 4 + c / 64 < 64 ∧ c % 64 < 64) ∧
    a / 4 * 4 + (a % 4 * 16 + b / 16) / 16 = a ∧
    (a % 4 * 16 + b / 16) % 16 * 16 + (b % 16 * 4 + c / 64) / 4 = b ∧
    (b % 16 * 4 + c / 64) % 4 * 64 + c % 64 = c := by
  have hb' : b / 16 < 16 := by omega
  have hc' : c / 64 < 4 := by omega
  rw [(mul_add_div_mod hb').1, (mul_add_div_mod hb').2, (mul_add_div_mod hc').1,
    (mul_add_div_mod hc').2]
  exact ⟨by omega, Nat.div_add_mod' a 4, Nat.div_add_mod' b 16, Nat.div_add_mod' c 64⟩

theorem b64DecodeQ_encode : ∀ bs : Bytes, b64DecodeQ (b64Encode bs) = some bs
  | [] => rfl
  | [a] => by
    have h := sextets a.toNat 0 0 a.toNat_lt (by decide) (by decide)
    simp only [Nat.zero_div, Nat.add_zero] at h
    obtain ⟨⟨h0, h1, -⟩, e0, -⟩ := h
    simp only [b64Encode, b64DecodeQ, b64Val_b64Char h0, b64Val_b64Char h1, and_self, if_true, e0,
      UInt8.ofNat_toNat]
  | [a, b] => by
    have h := sextets a.toNat b.toNat 0 a.toNat_lt b.toNat_lt (by decide)
    simp only [Nat.zero_div, Nat.add_zero] at h
    obtain ⟨⟨h0, h1, h2, -⟩, e0, e1, -⟩ := h
    simp only [b64Encode, b64DecodeQ, b64Val_b64Char h0, b64Val_b64Char h1, b64Val_b64Char h2,
      and_self, if_true, (b64Char_ne _).1, if_false, e0, e1, UInt8.ofNat_toNat]
  | a :: b :: c :: t => by
    obtain ⟨⟨h0, h1, h2, h3⟩, e0, e1, e2⟩ :=
      sextets a.toNat b.toNat c.toNat a.toNat_lt b.toNat_lt c.toNat_lt
    simp only [b64Encode, b64DecodeQ, b64Val_b64Char h0, b64Val_b64Char h1, b64Val_b64Char h2,
      b64Val_b64Char h3, (b64Char_ne _).1, false_and, if_false, b64DecodeQ_encode t, e0, e1, e2,
      UInt8.ofNat_toNat]

def notNl (c : Char) : Bool := !(c = '\n' || c = '\r')

theorem notNl_b64Char (i : Nat) : notNl (b64Char i) = true := by
  have := b64Char_ne i
  simp [notNl, this]

theorem b64Encode_all_notNl : ∀ bs : Bytes, (b64Encode bs).all notNl = true
  | [] => rfl
  | [a] => by simp [b64Encode, notNl_b64Char]; decide
  | [a, b] => by simp [b64Encode, notNl_b64Char]; decide
  | a :: b :: c :: t => by
    have ih := b64Encode_all_notNl t
    simp only [b64Encode, List.all_cons, notNl_b64Char, ih, Bool.and_self]

theorem b64Encode_no_newline (bs : Bytes) : ∀ c ∈ b64Encode bs, (!(c = '\n' || c = '\r')) = true := by
  have h := b64Encode_all_notNl bs
  rw [List.all_eq_true] at h
  exact h

theorem b64Decode_encode (bs : Bytes) : b64Decode (b64Encode bs) = some bs := by
  unfold b64Decode
  rw [List.filter_eq_self.mpr (b64Encode_no_newline bs)]
  exact b64DecodeQ_encode bs

end Conduit.Codec
