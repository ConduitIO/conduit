import ConduitModel.Proofs.PassMulti

/-!
# Fan-out: `doNextTask` with several next tasks, `branches`

Every branch runs the task recursion on a clone of the batch and votes through
`.run (.multi id acker)`; by `mContract` the parent `acker` is handed the batch's positions in
order whatever the branches do, and all of them once every branch returned without error.
-/
namespace Conduit.Funnel

theorem maNew_chk_nodup : ∀ (ps : List PosV) (seen : List Nat), maNew.chk seen ps = none →
    (keys ps).Nodup ∧ ∀ k ∈ keys ps, k ∉ seen := by
  intro ps
  induction ps with
  | nil => intro seen _; exact ⟨List.nodup_nil, fun k hk => by cases hk⟩
  | cons p ps ih =>
    intro seen h
    unfold maNew.chk at h
    split at h
    · cases h
    · split at h
      · cases h
      · rename_i hc
        obtain ⟨h1, h2⟩ := ih _ h
        have hc' : keyOf p ∉ seen := by simpa using hc
        constructor
        · show (keyOf p :: keys ps).Nodup
          rw [List.nodup_cons]
          exact ⟨fun hm => h2 _ hm List.mem_cons_self, h1⟩
        · intro k hk
          have hk' : k = keyOf p ∨ k ∈ keys ps := by simpa [keys] using hk
          rcases hk' with rfl | hk'
          · exact hc'
          · exact fun hm => h2 k hk' (List.mem_cons_of_mem _ hm)

theorem maNew_MOK (M : Nat) (ps : List PosV) (m : MA) (hM : 0 < M) (h : maNew M ps = .ok m) :
    MOK m ∧ MStable m ∧ ∀ i : Nat, m.votes i = 0 := by
  obtain ⟨hf, hb, hp⟩ := maNew_fresh M ps m h
  have hnd : (keys ps).Nodup := by
    unfold maNew at h
    split at h
    · cases h
    · rename_i hc; exact (maNew_chk_nodup ps [] hc).1
  unfold maNew at h
  split at h
  · cases h
  · injection h with h
    subst h
    refine ⟨⟨hf.inv.toWF, by simp, by simp, Nat.zero_le _, ?_, ?_, hnd⟩, ?_, ?_⟩
    · intro i hi _
      simp only [MA.votes]
      rw [List.getElem?_replicate]
      split <;> simpa using hM
    · intro i hi ht
      simp only [MA.term] at ht
      rw [List.getElem?_replicate] at ht
      split at ht <;> simp at ht
    · intro hlt
      simp only [MA.term]
      rw [List.getElem?_replicate]
      split <;> rfl
    · intro i
      simp only [MA.votes]
      rw [List.getElem?_replicate]
      split <;> rfl

theorem clone_split (h : Heap) (b : Batch) : (b.clone h).2.split = b.split := by
  unfold Batch.clone
  split <;> rfl

theorem clone_BInv (h : Heap) (b : Batch) (hb : BInv b) : BInv (b.clone h).2 ∧ (b.clone h).2.pos = b.pos := by
  have hwf : b.WF h := WF_of_runs_none hb.wf hb.runs
  obtain ⟨g1, _, _, g4, g5, g6⟩ := C08_aligned_clone hwf
  have hnone : ∀ p : Nat, b.runAt p = none := by
    intro p
    unfold Batch.runAt
    cases hr : b.runs with
    | none => rfl
    | some rs =>
      dsimp only
      cases hp : rs[p]? with
      | none => rfl
      | some r => rw [hb.runs rs hr r (List.mem_of_getElem? hp)]; rfl
  have hruns : ∀ rs, (b.clone h).2.runs = some rs → ∀ r ∈ rs, r = none := by
    intro rs hrs r hr
    obtain ⟨p, hp, rfl⟩ := List.getElem_of_mem hr
    have := g6 p
    rw [hnone p] at this
    unfold Batch.runAt at this
    rw [hrs] at this
    dsimp only at this
    rw [List.getElem?_eq_getElem hp] at this
    cases hrp : rs[p] with
    | none => rfl
    | some x => rw [hrp] at this; cases this
  refine ⟨⟨WF_of_runs_none g1 hruns, by rw [clone_split]; exact hb.split, hruns, by rw [g4]; exact hb.ne⟩, g5⟩

theorem count_flatten_replicate (n : Nat) (ks : List Nat) (k : Nat) :
    ((List.replicate n ks).flatten).count k = n * ks.count k := by
  induction n with
  | zero => simp
  | succ n ih =>
    rw [List.replicate_succ, List.flatten_cons, List.count_append, ih]
    rw [Nat.succ_mul]; omega

theorem count_one_of_nodup (a : Nat) : ∀ l : List Nat, l.Nodup → a ∈ l → l.count a = 1 := by
  intro l
  induction l with
  | nil => intro _ h; cases h
  | cons x t ih =>
    intro hnd hm
    rw [List.nodup_cons] at hnd
    by_cases hx : a = x
    · subst hx
      rw [List.count_cons_self, List.count_eq_zero.mpr hnd.1]
    · have hm' : a ∈ t := by
        rcases List.mem_cons.mp hm with h | h
        · exact absurd h hx
        · exact h
      rw [List.count_cons_of_ne (Ne.symm hx)]
      exact ih hnd.2 hm'

section
variable {a : Acker} (C : Contract a) (id : Nat)

/-- The branches of one fan-out, run one after the other in any order, each on a clone of `b` and
voting through `.run (.multi id a)`; `J` holds between two branches. What `hbranch` asks of one branch
holds of all of them together, with one vote per key of `K` for every branch that `order` names. -/
theorem branches_loop (hle : C.top ≤ id) (nexts : List TaskNode) (b : Batch) (K : List Nat) (J : PS → Prop) (F : Nat)
    (hbranch : ∀ (f : Nat) (n : TaskNode) (s s2 : PS) (rb : Except Stop Unit), f ≤ F → n ∈ nexts → MValid C id s → J s →
      exec (doTaskAttempt f n (b.clone s.heap).2 (.run (.multi id a)) none false)
        { s with heap := (b.clone s.heap).1 } = (rb, s2) →
      MSafe C id s s2 ∧ J s2 ∧ (rb = .ok () → MDone C id K s s2)) :
    ∀ (fuel : Nat), fuel ≤ F + 1 → ∀ (order : List Nat) (errs : Option Err) (pan : Option String) (s s' : PS)
      (r : Except Stop Unit), MValid C id s → J s →
      exec (branches fuel nexts order b (.multi id a) errs pan) s = (r, s') →
      MSafe C id s s' ∧ J s' ∧ (r = .ok () → errs = none ∧ pan = none ∧
        MDone C id ((List.replicate (cntValid nexts.length order) K).flatten) s s') := by
  intro fuel
  induction fuel with
  | zero =>
    intro _ order errs pan s s' r _ hj h
    rw [branches_zero] at h; cases h
    exact ⟨MSafe.refl _, hj, fun h => nomatch h⟩
  | succ fuel ih =>
    intro hF order errs pan s s' r hv hj h
    have ih' := ih (by omega)
    cases order with
    | nil =>
      obtain ⟨rfl, hr⟩ := branches_done h
      exact ⟨MSafe.refl _, hj, fun hok => ⟨(hr hok).1, (hr hok).2, MDone.of_quiet hv hle (Quiet.refl _ _)⟩⟩
    | cons k rest =>
      rcases branches_step h with ⟨hk, h⟩ | ⟨n, rb, s2, errs', pan', hk, hd, h, hnone, _⟩
      · have hnk : ¬ k < nexts.length := by
          intro hlt; rw [List.getElem?_eq_getElem hlt] at hk; cases hk
        have hc : cntValid nexts.length (k :: rest) = cntValid nexts.length rest := by
          simp [cntValid, hnk]
        rw [hc]
        exact ih' rest errs pan s s' r hv hj h
      · have hkl : k < nexts.length := (List.getElem?_eq_some_iff.mp hk).1
        have hc : cntValid nexts.length (k :: rest) = cntValid nexts.length rest + 1 := by
          simp [cntValid, hkl]
        obtain ⟨hs12, hj2, hdb⟩ := hbranch fuel n s s2 rb (by omega) (List.mem_of_getElem? hk) hv hj hd
        obtain ⟨q1, qj, q2⟩ := ih' rest errs' pan' s2 s' r (hs12.ok hv) hj2 h
        refine ⟨hs12.trans q1, qj, fun hr => ?_⟩
        obtain ⟨e1, e2, e3⟩ := q2 hr
        obtain ⟨hrb, he, hp⟩ := hnone e1 e2
        refine ⟨he, hp, ?_⟩
        rw [hc, List.replicate_succ, List.flatten_cons]
        exact (hdb hrb).trans e3

theorem branches_spec (hle : C.top ≤ id) (F : Nat) (hP : ∀ f, f ≤ F → PipeSpec (fun _ => True) f) (nexts : List TaskNode)
    (b : Batch) (hb : BInv b) :
    ∀ (fuel : Nat), fuel ≤ F + 1 → ∀ (order : List Nat) (errs : Option Err) (pan : Option String) (s s' : PS)
      (r : Except Stop Unit), MValid C id s → NS s.scripts →
      exec (branches fuel nexts order b (.multi id a) errs pan) s = (r, s') →
      MSafe C id s s' ∧ NS s'.scripts ∧ (r = .ok () → errs = none ∧ pan = none ∧
        MDone C id ((List.replicate (cntValid nexts.length order) (keys b.pos)).flatten) s s') := by
  refine branches_loop C id hle nexts b (keys b.pos) (fun s => NS s.scripts) F ?_
  intro f n s s2 rb hf _ hv hn hd
  obtain ⟨hbb, hbpos⟩ := clone_BInv s.heap b hb
  generalize hs1 : ({ s with heap := (b.clone s.heap).1 } : PS) = s1 at hd
  have hq1 : Q s s1 := by rw [← hs1]; exact ⟨rfl, rfl, fun h => h⟩
  have hd1 : MDone C id [] s s1 := MDone.of_quiet hv hle (hq1.quiet _)
  have hv1 : MValid C id s1 := hd1.safe.ok hv
  have hres := hP f hf (.run (.multi id a)) (runContract (mContract C id hle)) n _ none false s1 s2 rb
    trivial hv1 (hq1.ns hn) hbb hd
  have hs12 : MSafe C id s1 s2 := hres.1
  refine ⟨hd1.safe.trans hs12, hs12.ns (hq1.ns hn), fun hrb => ?_⟩
  have hdb : MDone C id (keys b.pos) s1 s2 := by rw [← hbpos]; exact hres.2 hrb
  simpa using hd1.trans hdb

end

theorem runsWhole_of_BInv (h : Heap) (b : Batch) (hb : BInv b) : runsWhole h b = true := by
  unfold runsWhole
  cases hr : b.runs with
  | none => rfl
  | some rs =>
    dsimp only
    have : rs.filterMap id = [] := by
      rw [List.filterMap_eq_nil_iff]
      intro r hm
      rw [hb.runs rs hr r hm]; rfl
    rw [this]; rfl

theorem mas_push_get_lt (ms : Array MA) (x : MA) {i : Nat} (hi : i < ms.size) : (ms.push x)[i]! = ms[i]! := by
  simp [getElem!_pos, hi, Nat.lt_succ_of_lt hi, Array.getElem_push_lt]

theorem mas_push_get_size (ms : Array MA) (x : MA) : (ms.push x)[ms.size]! = x := by
  simp

section
variable {a : Acker} {C : Contract a} {id n : Nat} {ps : List PosV} {ma : MA} {s1 s' : PS}
  (hma : maNew n ps = .ok ma) (hm1 : s1.mas[id]! = ma)
include hma hm1

theorem fan_partial (hv1 : C.Valid s1) (hs : MSafe C id s1 s') : C.Partial (keys ps) s1 s' := by
  obtain ⟨hf, _, hmpos⟩ := maNew_fresh _ _ _ hma
  have hrun := hs.run
  rw [hm1, hmpos, hf.1, List.drop_zero] at hrun
  have hp := C.partial_mono (keys (ps.drop (s'.mas[id]!).released)) (hrun.partial hv1).1
  rw [keys, keys, ← List.map_append, List.take_append_drop] at hp
  exact hp

theorem fan_done (hn : 0 < n) (hv1 : MValid C id s1)
    (hdone : MDone C id ((List.replicate n (keys ps)).flatten) s1 s') : C.Done (keys ps) s1 s' := by
  obtain ⟨hmok, hmst, hmv⟩ := maNew_MOK n ps ma hn hma
  obtain ⟨hf, hmbr, hmpos⟩ := maNew_fresh _ _ _ hma
  have hmok' := (hdone.safe.ok hv1).2.2
  have hpos' : (s'.mas[id]!).positions = ps := by rw [hdone.safe.pos, hm1, hmpos]
  -- every slot is terminal: a live one would have `n` votes, which is not below `branches = n`
  have hterm : ∀ i : Nat, i < ps.length → (s'.mas[id]!).term i = true := by
    intro i hi
    rcases (hdone.va i (by rw [hm1, hmpos]; exact hi)).2 with ht | hvt
    · exact ht
    · rw [hm1, hmv i, count_flatten_replicate] at hvt
      have hk : (keys ps).count (kAt ma i) = 1 := by
        refine count_one_of_nodup _ _ (by rw [← hmpos]; exact hmok.nodup) ?_
        rw [kAt_eq ma i (by rw [hmpos]; exact hi)]
        have e : keys ps = keys ma.positions := by rw [hmpos]
        rw [e]; exact List.getElem_mem _
      rw [hk] at hvt
      cases htt : (s'.mas[id]!).term i with
      | true => rfl
      | false =>
        have := hmok'.votes_lt i (by rw [hpos']; exact hi) htt
        rw [hdone.safe.br, hm1, hmbr] at this
        omega
  have hrel : (s'.mas[id]!).released = ps.length := by
    have hst := hdone.stable (by rw [hm1]; exact hmst)
    have hle' := hmok'.rel_le
    rw [hpos'] at hle'
    apply Classical.byContradiction
    intro hne
    have hlt : (s'.mas[id]!).released < ps.length := by omega
    have := hst (by rw [hpos']; exact hlt)
    rw [hterm _ hlt] at this
    cases this
  have hd := hdone.done
  rw [hm1, hmpos, hf.1, hrel, List.drop_zero, List.take_length] at hd
  exact hd

end

/-- a fan-out seen from its parent: the tally `ma` is created and the branches run; if they keep the
tally safe, and give it one vote per branch and position when they return without error, the parent
was handed the tally's positions — part of them, all of them in the second case. `X` is whatever
else the branches establish. -/
theorem fan_res {a : Acker} {C : Contract a} {n : Nat} {ps : List PosV} {ma : MA} {s s' : PS} {r : Except Stop Unit}
    {X : Prop} (rest : List (List Nat)) (hn : 0 < n) (hv : C.Valid s) (hma : maNew n ps = .ok ma)
    (hbr : MValid C s.mas.size { s with mas := s.mas.push ma, orders := rest } →
      X ∧ MSafe C s.mas.size { s with mas := s.mas.push ma, orders := rest } s' ∧
      (r = .ok () → MDone C s.mas.size ((List.replicate n (keys ps)).flatten)
        { s with mas := s.mas.push ma, orders := rest } s')) :
    X ∧ Res C (keys ps) s s' r := by
  generalize hs1 : ({ s with mas := s.mas.push ma, orders := rest } : PS) = s1 at hbr
  have hle : C.top ≤ s.mas.size := C.valid_top hv
  have hm1 : s1.mas[s.mas.size]! = ma := by rw [← hs1]; exact mas_push_get_size _ _
  have hq : Quiet C.top s s1 := by
    refine ⟨by rw [← hs1], by rw [← hs1]; simp, fun i hi => ?_, by rw [← hs1]; exact fun h => h⟩
    rw [← hs1]; exact mas_push_get_lt _ _ (by omega)
  have hd01 : C.Done [] s s1 := C.quiet_done hv hq
  have hv1c : C.Valid s1 := C.partial_valid hv (C.done_partial hd01)
  have hv1 : MValid C s.mas.size s1 :=
    ⟨hv1c, by rw [← hs1]; simp, by rw [hm1]; exact (maNew_MOK _ _ ma hn hma).1⟩
  obtain ⟨hx, q1, q2⟩ := hbr hv1
  refine ⟨hx, ?_, fun hr => ?_⟩
  · have := C.done_partial_trans hd01 (fan_partial hma hm1 hv1c q1)
    simpa using this
  · have := C.done_done hd01 (fan_done hma hm1 hn hv1 (q2 hr))
    simpa using this

theorem fan_spec (fuel : Nat) (hP : ∀ f, f ≤ fuel → PipeSpec (fun _ => True) f) : FanSpec fuel := by
  intro a C node b s s' r ma order rest h2 hv hn hb hcv hma h
  rw [original_of_split_nil hb.split] at hma
  refine (fan_res (X := True) rest (by omega) hv hma fun hv1 => ?_).2
  obtain ⟨q1, _, q2⟩ := branches_spec C s.mas.size (C.valid_top hv) fuel hP node.next b hb fuel (by omega) order none none _ s' r
    hv1 hn h
  exact ⟨trivial, q1, fun hr => by have := (q2 hr).2.2; rwa [hcv] at this⟩

/-- Under split-free scripts (`NS`), on a batch without split runs (`BInv`), the task recursion meets the handler
contract on every task tree, fan-out included, for every fuel. -/
theorem pipe_nosplit (fuel : Nat) : PipeSpec (fun _ => True) fuel :=
  (pipe_all fan_spec fuel fuel (Nat.le_refl _)).1

theorem pipe_linear (fuel : Nat) : PipeSpec Linear fuel :=
  fun a C node b retry skipDo s s' r _ => pipe_nosplit fuel a C node b retry skipDo s s' r trivial

end Conduit.Funnel
