import ConduitModel.Proofs.MonFInv
import ConduitModel.Proofs.MonWorkerNack

/-!
# The invariants of the root handler (`Worker` + DLQ)

`WInv G p s` (strong): exactly the first `p` records read are acknowledged, every root the DLQ has
seen belongs to one of them. `WInvW G p s` (weak): as `WInv`, except that the record at the
frontier `p` may have an unconfirmed DLQ write — the state after a failed `Worker.Nack` of that
record (inside a fan-out the run goes on and the nack is retried).
-/
namespace Conduit.Funnel
open Conduit.Funnel.Mon

structure WInvW (G : Ctx) (p : Nat) (s : PS) : Prop where
  base : Base G s
  acked : ackedKeys s.log = (G.all.take p).map keyR
  front : nAcked s = p
  dlqAny : ∀ x ∈ (G.mu s).dlqAny, NonPend G p x ∨ ∃ src, G.all[p]? = some src ∧ root src = x
  dlqOk : ∀ x ∈ (G.mu s).dlqOk, NonPend G p x

structure WInv (G : Ctx) (p : Nat) (s : PS) : Prop extends WInvW G p s where
  dlqAnyS : ∀ x ∈ (G.mu s).dlqAny, NonPend G p x

theorem WInv.ginv {G : Ctx} {p : Nat} {s : PS} (h : WInv G p s) : GInv G s :=
  ⟨h.base.safe, h.base.sc, by rw [h.front]; exact h.acked, by rw [h.front]; exact h.dlqAnyS,
   by rw [h.front]; exact h.dlqOk, h.base.wr⟩

end Conduit.Funnel
