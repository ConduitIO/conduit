import ConduitModel.Proofs.MonBase
import ConduitModel.Proofs.PassBase

/-!
# The C04 clause of the trace monitor follows from the order of the acknowledged keys

`ackViol` — the violations one acknowledged position adds; `ackT_eq` — `ackT` only pops the head of
`pending` and appends `ackViol`. The pending list and the `C04` violations depend on the `.sack`
events only: when the keys acknowledged by a log (`ackedKeys`) are a prefix of the keys of the
records read, no `C04` violation is added and `pending` loses exactly that prefix (`c04_fold`).
-/
namespace Conduit.Funnel.Mon
open Conduit.Funnel

/-- the violations of property `c` among tagged violations -/
def filt (c : Clause) (tv : List (Clause × String)) : List (Clause × String) := tv.filter (·.1 == c)

theorem filt_append (c : Clause) (a b : List (Clause × String)) : filt c (a ++ b) = filt c a ++ filt c b := by
  unfold filt; rw [List.filter_append]

theorem filt_nil (c : Clause) : filt c [] = [] := rfl

/-- the violations added by acknowledging position `p` in monitor state `s` -/
def ackViol (tree : TaskNode) (s : TSt) (p : PosV) : List (Clause × String) :=
  match s.pending with
  | [] => [(.c04, "C04 ack beyond the records read")]
  | r :: _ =>
    (if keyOf r.pos == keyOf p then [] else [(.c04, s!"C04 ack out of order (expected {keyOf r.pos}, got {keyOf p})")]) ++
    (if (s.errored.contains (root r) || failedPieceT s (root r)) && !s.dlqOk.contains (root r) then
      [(.c08, s!"C08 record {root r} failed (processor error / rejected piece) but was acked without being dead-lettered")] else []) ++
    (if s.dlqAny.contains (root r) && !s.dlqOk.contains (root r) then
      [(.c07, s!"C07 record {root r} acked after an unconfirmed DLQ write")] else []) ++
    (if s.dlqOk.contains (root r) || viaDestsT tree s (root r) then [] else [(.c01, s!"C01 unjustified ack of record {root r}")])

theorem violT_if (t : TSt) (c : Bool) (cl : Clause) (m : String) :
    (if c = true then violT t cl m else t) = { t with tv := t.tv ++ if c = true then [(cl, m)] else [] } := by
  cases c <;> simp [violT]

theorem violT_unless (t : TSt) (c : Bool) (cl : Clause) (m : String) :
    (if c = true then t else violT t cl m) = { t with tv := t.tv ++ if c = true then [] else [(cl, m)] } := by
  cases c <;> simp [violT]

theorem ackT_eq (tree : TaskNode) (s : TSt) (p : PosV) :
    ackT tree s p = { s with pending := s.pending.tail, tv := s.tv ++ ackViol tree s p } := by
  unfold ackViol
  cases hp : s.pending with
  | nil => exact (ackT_nil tree s p hp).trans (congrArg (fun l => ({ s with pending := l, tv := _ } : TSt)) hp)
  | cons r rest =>
    rw [ackT_cons tree s p r rest hp]
    simp only [violT_if, violT_unless, List.append_assoc, List.tail_cons]

/-- A sequence of acks pops `pending` and appends what `ackViol` finds position by position; the
fact lists `ackViol` reads do not change on the way. `P` is any property of violation lists that
holds of `[]` and is kept by `++`. -/
theorem foldl_ackT (tree : TaskNode) (P : List (Clause × String) → Prop) (h0 : P [])
    (happ : ∀ a b, P a → P b → P (a ++ b)) : ∀ (ps : List PosV) (s : TSt),
    (∀ (q : Nat) (p : PosV), ps[q]? = some p → P (ackViol tree { s with pending := s.pending.drop q } p)) →
    ∃ l, P l ∧ ps.foldl (ackT tree) s = { s with pending := s.pending.drop ps.length, tv := s.tv ++ l } := by
  intro ps
  induction ps with
  | nil => intro s _; exact ⟨[], h0, by simp⟩
  | cons p ps ih =>
    intro s h
    obtain ⟨l, hl, e⟩ := ih (ackT tree s p) (fun q p' hq => by
      have := h (q + 1) p' hq
      rw [ackT_eq]
      rwa [← List.drop_tail] at this)
    refine ⟨ackViol tree s p ++ l, happ _ _ (h 0 p rfl) hl, ?_⟩
    rw [List.foldl_cons, e, ackT_eq]
    simp [List.drop_tail]

theorem foldl_ackT_eq (tree : TaskNode) (ps : List PosV) (s : TSt) :
    ∃ l, ps.foldl (ackT tree) s = { s with pending := s.pending.drop ps.length, tv := s.tv ++ l } :=
  let ⟨l, _, e⟩ := foldl_ackT tree (fun _ => True) trivial (fun _ _ _ _ => trivial) ps s (fun _ _ _ => trivial)
  ⟨l, e⟩

theorem filt_other {c cl : Clause} (h : (cl == c) = false) (m : String) : filt c [(cl, m)] = [] := by
  unfold filt; rw [List.filter_cons, h]; rfl

/-- an ack of the head of `pending` with the right key adds no `C04` violation -/
theorem ackViol_c04 (tree : TaskNode) (s : TSt) (p : PosV) (r : Rec) (rest : List Rec) (hp : s.pending = r :: rest)
    (hk : keyOf r.pos = keyOf p) : filt .c04 (ackViol tree s p) = [] := by
  unfold ackViol
  rw [hp]
  simp only [hk, beq_self_eq_true, if_true, filt_append, apply_ite (filt .c04), filt_nil,
    filt_other (c := .c04) (cl := .c08) rfl, filt_other (c := .c04) (cl := .c07) rfl,
    filt_other (c := .c04) (cl := .c01) rfl, ite_self, List.append_nil]

/-- acks in read order add no `C04` violation -/
theorem foldl_ackT_c04 (tree : TaskNode) (ps : List PosV) (s : TSt)
    (h : ps.map keyOf <+: s.pending.map (fun r => keyOf r.pos)) :
    filt .c04 (ps.foldl (ackT tree) s).tv = filt .c04 s.tv := by
  obtain ⟨l, hl, e⟩ := foldl_ackT tree (fun l => filt .c04 l = []) rfl
    (fun a b ha hb => by rw [filt_append, ha, hb]; rfl) ps s (fun q p hq => by
      obtain ⟨hq1, rfl⟩ := List.getElem?_eq_some_iff.mp hq
      have hq2 : q < s.pending.length := by have := h.length_le; simp only [List.length_map] at this; omega
      have hk := h.getElem (by rw [List.length_map]; exact hq1)
      rw [List.getElem_map, List.getElem_map] at hk
      exact ackViol_c04 tree _ _ _ _ (List.drop_eq_getElem_cons hq2) hk.symm)
  rw [e]
  show filt .c04 (s.tv ++ l) = _
  rw [filt_append, hl, List.append_nil]

theorem stepT_pending (tree : TaskNode) (scripts : List (Nat × List Reply)) (s : TSt) (e : Ev) :
    (stepT tree scripts s e).pending = s.pending.drop (evKeys e).length := by
  cases e with
  | pcall t r =>
    show (pcallT scripts s t r).pending = _
    unfold pcallT
    simp only [evKeys, List.length_nil, List.drop_zero]
    split <;> rfl
  | write t r => rfl
  | dlqw t r => rfl
  | sack ps =>
    show (ps.foldl (ackT tree) s).pending = _
    obtain ⟨l, e⟩ := foldl_ackT_eq tree ps s
    rw [e]
    simp [evKeys]

theorem stepT_c04 (tree : TaskNode) (scripts : List (Nat × List Reply)) (s : TSt) (e : Ev)
    (h : evKeys e <+: s.pending.map (fun r => keyOf r.pos)) :
    filt .c04 (stepT tree scripts s e).tv = filt .c04 s.tv := by
  cases e with
  | pcall t r =>
    show filt .c04 (pcallT scripts s t r).tv = _
    unfold pcallT
    dsimp only
    split <;> rfl
  | write t r =>
    show filt .c04 (writeT scripts s t r).tv = _
    unfold writeT
    simp only [filt_append, apply_ite (filt .c04), filt_nil, filt_other (c := .c04) (cl := .c05) rfl, ite_self,
      List.append_nil]
  | dlqw t r =>
    show filt .c04 (dlqwT scripts s t r).tv = _
    unfold dlqwT
    simp only [filt_append, apply_ite (filt .c04), filt_nil, filt_other (c := .c04) (cl := .c07) rfl, ite_self,
      List.append_nil]
  | sack ps => exact foldl_ackT_c04 tree ps s h

theorem pending_foldl (tree : TaskNode) (scripts : List (Nat × List Reply)) : ∀ (log : List Ev) (s : TSt),
    (log.foldl (stepT tree scripts) s).pending = s.pending.drop (log.flatMap evKeys).length := by
  intro log
  induction log with
  | nil => intro s; simp
  | cons e log ih =>
    intro s
    rw [List.foldl_cons, ih, stepT_pending, List.drop_drop, List.flatMap_cons, List.length_append]

/-- the whole log: when the acknowledged keys are a prefix of the keys of the pending records, no
`C04` violation is added and `pending` loses exactly the acknowledged prefix. -/
theorem c04_fold (tree : TaskNode) (scripts : List (Nat × List Reply)) : ∀ (log : List Ev) (s : TSt),
    log.flatMap evKeys <+: s.pending.map (fun r => keyOf r.pos) →
    filt .c04 (log.foldl (stepT tree scripts) s).tv = filt .c04 s.tv ∧
    (log.foldl (stepT tree scripts) s).pending = s.pending.drop (log.flatMap evKeys).length := by
  intro log
  induction log with
  | nil => intro s _; simp
  | cons e log ih =>
    intro s h
    rw [List.flatMap_cons] at h
    have h1 : evKeys e <+: s.pending.map (fun r => keyOf r.pos) := List.IsPrefix.trans (List.prefix_append _ _) h
    have hp := stepT_pending tree scripts s e
    have h2 : log.flatMap evKeys <+: (stepT tree scripts s e).pending.map (fun r => keyOf r.pos) := by
      rw [hp, List.map_drop]
      obtain ⟨t, ht⟩ := h
      rw [← ht, List.append_assoc, List.drop_left]
      exact List.prefix_append _ _
    refine ⟨?_, pending_foldl tree scripts (e :: log) s⟩
    rw [List.foldl_cons, (ih (stepT tree scripts s e) h2).1, stepT_c04 tree scripts s e h1]

end Conduit.Funnel.Mon
