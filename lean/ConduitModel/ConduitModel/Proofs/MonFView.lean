import ConduitModel.Proofs.MonTaskDefs

/-!
# Task-attributed views

With fan-out the same record travels through several branches; what one branch knows about a record
must not be disturbed by what the other branches do with it. So the facts are attributed to tasks:

* `G.errT s` — ghost refinement of the monitor's `errored`: the pairs (task, root) of every processor
  error reply so far (`mem_errored_iff`: its second components are exactly `errored`);
* `MV` — the monitor state together with this ghost list; `G.view s`;
* `ExtT Ts Ds R v v'` — frame: `v'` extends `v`, every new error fact is by a task in `Ts`, every new
  `written` entry is to a destination in `Ds`, all about roots satisfying `R`;
* `CleanT`, `ActiveT`, `FilteredT` — the per-record facts relative to the tasks `T` / destinations `D`
  the record has passed.
-/
namespace Conduit.Funnel
open Conduit.Funnel.Mon

/-- one event: the call counters and the attributed errors -/
def errStep (scripts : List (Nat × List Reply)) (st : List (Nat × Nat) × List (Nat × Nat)) (e : Ev) :
    List (Nat × Nat) × List (Nat × Nat) :=
  match e with
  | .pcall t recs =>
    (bumpL st.1 t, st.2 ++ (erroredBy recs (procOut (replyOfCall scripts t (callNoL st.1 t)))).map (fun x => (t, x)))
  | .write t _ => (bumpL st.1 t, st.2)
  | .dlqw t _ => (bumpL st.1 t, st.2)
  | .sack _ => st

def Ctx.errT (G : Ctx) (s : PS) : List (Nat × Nat) := (s.log.toList.foldl (errStep G.scripts) ([], [])).2

theorem errStep_foldl (tree : TaskNode) (scripts : List (Nat × List Reply)) : ∀ (log : List Ev) (μ : TSt) (acc : List (Nat × Nat)),
    acc.map (·.2) = μ.errored →
    (log.foldl (errStep scripts) (μ.calls, acc)).1 = (log.foldl (stepT tree scripts) μ).calls ∧
    ((log.foldl (errStep scripts) (μ.calls, acc)).2).map (·.2) = (log.foldl (stepT tree scripts) μ).errored := by
  intro log
  induction log with
  | nil => intro μ acc h; exact ⟨rfl, h⟩
  | cons e log ih =>
    intro μ acc h
    rw [List.foldl_cons, List.foldl_cons]
    cases e with
    | pcall t r =>
      have hs : stepT tree scripts μ (.pcall t r) = pcallT scripts μ t r := rfl
      have hc : (pcallT scripts μ t r).calls = bumpL μ.calls t := by rw [pcallT_eq]
      have he : (pcallT scripts μ t r).errored =
          μ.errored ++ erroredBy r (procOut (replyOfCall scripts t (callNoL μ.calls t))) := by rw [pcallT_eq]
      have := ih (pcallT scripts μ t r)
        (acc ++ (erroredBy r (procOut (replyOfCall scripts t (callNoL μ.calls t)))).map (fun x => (t, x)))
        (by rw [he]; simp [h, List.map_map, Function.comp_def])
      rw [hc] at this
      rw [hs]
      exact this
    | write t r => exact ih (writeT scripts μ t r) acc h
    | dlqw t r => exact ih (dlqwT scripts μ t r) acc h
    | sack ps =>
      obtain ⟨l, e⟩ := foldl_ackT_eq tree ps μ
      have he : (ps.foldl (ackT tree) μ).errored = μ.errored := by rw [e]
      have hc : (ps.foldl (ackT tree) μ).calls = μ.calls := by rw [e]
      have hs : stepT tree scripts μ (.sack ps) = ps.foldl (ackT tree) μ := rfl
      have := ih (stepT tree scripts μ (.sack ps)) acc (by rw [hs, he]; exact h)
      rw [hs, hc] at this
      rw [hs]
      exact this

theorem errT_errored (G : Ctx) (s : PS) : (G.errT s).map (·.2) = (G.mu s).errored :=
  (errStep_foldl G.tree G.scripts s.log.toList { pending := G.batches.flatten } [] rfl).2

theorem mem_errored_iff (G : Ctx) (s : PS) (x : Nat) : x ∈ (G.mu s).errored ↔ ∃ t, (t, x) ∈ G.errT s := by
  rw [← errT_errored, List.mem_map]
  constructor
  · rintro ⟨⟨t, y⟩, hm, rfl⟩; exact ⟨t, hm⟩
  · rintro ⟨t, hm⟩; exact ⟨(t, x), hm, rfl⟩

theorem errT_calls (G : Ctx) (s : PS) : (s.log.toList.foldl (errStep G.scripts) ([], [])).1 = (G.mu s).calls :=
  (errStep_foldl G.tree G.scripts s.log.toList { pending := G.batches.flatten } [] rfl).1

/-- the attributed errors one event adds -/
def errNew (G : Ctx) (s : PS) : Ev → List (Nat × Nat)
  | .pcall t recs => (erroredBy recs (procOut (replyOfCall G.scripts t (callNoL (G.mu s).calls t)))).map (fun x => (t, x))
  | _ => []

theorem errT_push (G : Ctx) (s s' : PS) (e : Ev) (h : s'.log = s.log.push e) :
    G.errT s' = G.errT s ++ errNew G s e := by
  unfold Ctx.errT
  rw [h, Array.toList_push, List.foldl_append]
  simp only [List.foldl_cons, List.foldl_nil]
  cases e with
  | pcall t r => simp only [errStep, errNew]; rw [errT_calls]
  | write t r => simp [errStep, errNew]
  | dlqw t r => simp [errStep, errNew]
  | sack ps => simp [errStep, errNew]

theorem errT_same (G : Ctx) (s s' : PS) (h : s'.log = s.log) : G.errT s' = G.errT s := by
  unfold Ctx.errT; rw [h]

/-- the monitor state with the attributed errors -/
structure MV where
  μ : TSt
  E : List (Nat × Nat)

def Ctx.view (G : Ctx) (s : PS) : MV := ⟨G.mu s, G.errT s⟩

structure ExtT (Ts Ds : List Nat) (R : Nat → Prop) (v v' : MV) : Prop where
  filt_mono : ∀ x ∈ v.μ.filtered, x ∈ v'.μ.filtered
  filt_new : ∀ x ∈ v'.μ.filtered, x ∈ v.μ.filtered ∨ R x
  err_mono : ∀ x ∈ v.E, x ∈ v'.E
  err_new : ∀ x ∈ v'.E, x ∈ v.E ∨ (x.1 ∈ Ts ∧ R x.2)
  wr_mono : ∀ e ∈ v.μ.written, e ∈ v'.μ.written
  wr_new : ∀ e ∈ v'.μ.written, e ∈ v.μ.written ∨ (e.1 ∈ Ds ∧ R e.2.1)

theorem ExtT.refl (Ts Ds : List Nat) (R : Nat → Prop) (v : MV) : ExtT Ts Ds R v v :=
  ⟨fun _ h => h, fun _ h => Or.inl h, fun _ h => h, fun _ h => Or.inl h, fun _ h => h, fun _ h => Or.inl h⟩

theorem ExtT.trans {Ts Ds : List Nat} {R : Nat → Prop} {a b c : MV} (h1 : ExtT Ts Ds R a b) (h2 : ExtT Ts Ds R b c) :
    ExtT Ts Ds R a c where
  filt_mono := fun x h => h2.filt_mono x (h1.filt_mono x h)
  filt_new := fun x h => (h2.filt_new x h).elim (fun h => h1.filt_new x h) Or.inr
  err_mono := fun x h => h2.err_mono x (h1.err_mono x h)
  err_new := fun x h => (h2.err_new x h).elim (fun h => h1.err_new x h) Or.inr
  wr_mono := fun x h => h2.wr_mono x (h1.wr_mono x h)
  wr_new := fun x h => (h2.wr_new x h).elim (fun h => h1.wr_new x h) Or.inr

theorem ExtT.mono {Ts Ds Ts' Ds' : List Nat} {R R' : Nat → Prop} {a b : MV} (h : ExtT Ts Ds R a b)
    (ht : ∀ x ∈ Ts, x ∈ Ts') (hd : ∀ x ∈ Ds, x ∈ Ds') (hr : ∀ x, R x → R' x) : ExtT Ts' Ds' R' a b where
  filt_mono := h.filt_mono
  filt_new := fun x hx => (h.filt_new x hx).imp id (hr x)
  err_mono := h.err_mono
  err_new := fun x hx => (h.err_new x hx).imp id (fun h => ⟨ht _ h.1, hr _ h.2⟩)
  wr_mono := h.wr_mono
  wr_new := fun x hx => (h.wr_new x hx).imp id (fun h => ⟨hd _ h.1, hr _ h.2⟩)

theorem ExtT.of_fields {Ts Ds : List Nat} {R : Nat → Prop} {v v' : MV} (hf : Grows R v.μ.filtered v'.μ.filtered)
    (he : Grows (fun x => x.1 ∈ Ts ∧ R x.2) v.E v'.E) (hw : Grows (fun e => e.1 ∈ Ds ∧ R e.2.1) v.μ.written v'.μ.written) :
    ExtT Ts Ds R v v' :=
  ⟨hf.1, hf.2, he.1, he.2, hw.1, hw.2⟩

theorem ExtT.of_eq (Ts Ds : List Nat) (R : Nat → Prop) {v v' : MV} (h1 : v'.μ.filtered = v.μ.filtered) (h2 : v'.E = v.E)
    (h3 : v'.μ.written = v.μ.written) : ExtT Ts Ds R v v' :=
  .of_fields (.of_eq h1) (.of_eq h2) (.of_eq h3)

/-- no task of `T` returned an error for root `ρ`, no destination of `D` rejected a piece of it -/
def CleanT (v : MV) (T D : List Nat) (ρ : Nat) : Prop :=
  (∀ t ∈ T, (t, ρ) ∉ v.E) ∧ ∀ e ∈ v.μ.written, e.1 ∈ D → e.2.1 = ρ → e.2.2.2 = true

def ActiveT (v : MV) (T D : List Nat) (ρ : Nat) : Prop := CleanT v T D ρ ∧ ∀ d ∈ D, WrittenTo v.μ d ρ

def FilteredT (v : MV) (T D : List Nat) (ρ : Nat) : Prop := CleanT v T D ρ ∧ ρ ∈ v.μ.filtered

theorem CleanT.ext {v v' : MV} {T D Ts Ds : List Nat} {R : Nat → Prop} {ρ : Nat} (h : CleanT v T D ρ)
    (he : ExtT Ts Ds R v v') (hr : ¬ R ρ ∨ ((∀ t ∈ Ts, t ∉ T) ∧ ∀ d ∈ Ds, d ∉ D)) : CleanT v' T D ρ := by
  refine ⟨fun t ht hx => ?_, fun e hm hd hroot => ?_⟩
  · rcases he.err_new _ hx with h1 | ⟨h1, h2⟩
    · exact h.1 t ht h1
    · rcases hr with hr | hr
      · exact hr h2
      · exact hr.1 t h1 ht
  · rcases he.wr_new e hm with h1 | ⟨h1, h2⟩
    · exact h.2 e h1 hd hroot
    · rcases hr with hr | hr
      · rw [hroot] at h2; exact absurd h2 hr
      · exact absurd hd (hr.2 _ h1)

theorem WrittenTo.extT {v v' : MV} {Ts Ds : List Nat} {R : Nat → Prop} {d ρ : Nat} (h : WrittenTo v.μ d ρ)
    (he : ExtT Ts Ds R v v') : WrittenTo v'.μ d ρ := by
  obtain ⟨e, hm, h1, h2⟩ := h
  exact ⟨e, he.wr_mono e hm, h1, h2⟩

theorem CleanT.mono {v : MV} {T D T' D' : List Nat} {ρ : Nat} (h : CleanT v T D ρ) (ht : ∀ x ∈ T', x ∈ T)
    (hd : ∀ x ∈ D', x ∈ D) : CleanT v T' D' ρ :=
  ⟨fun t h1 => h.1 t (ht t h1), fun e hm h1 hr => h.2 e hm (hd _ h1) hr⟩

end Conduit.Funnel
