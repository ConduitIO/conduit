import ConduitModel.Proofs.CtlOps

/-!
Reference consistency as an inductive invariant (C14 "memory = store = references").

`MInv n m` bundles what every successful effect of every operation preserves: `NamesOk`, name
uniqueness, `Links` (= `Refs`, `refs_iff_links`), `WF` and `Keys n` (ids at or above `n` unused).
`Links` is three parent–child links (`Link`: pipeline–connector, pipeline–processor,
connector–processor), each a pair of projections of memory. Every effect is stated on the service
calls the operation is made of, one lemma each (`MInv.updPl` … `MInv.prDelete`): per link it either
leaves both projections as they are or is one of `Link.add`, `Link.remove`, `Link.addParent`,
`Link.delParent`.
-/
namespace Conduit.Ctl

def Map.mapOpt {α β} (m : Map α) (g : α → Option β) : Map β := fun j => (m j).bind g

theorem Map.mapOpt_eq_some {α β} {m : Map α} {g : α → Option β} {j : Id} {b : β} :
    m.mapOpt g j = some b ↔ ∃ a, m j = some a ∧ g a = some b := by
  simp [Map.mapOpt, Option.bind_eq_some_iff]

theorem Map.mapOpt_eq_none {α β} {m : Map α} (g : α → Option β) {j : Id} (h : m j = none) : m.mapOpt g j = none := by
  simp [Map.mapOpt, h]

theorem Map.mapOpt_some {α β} {m : Map α} (f : α → β) {j : Id} {a : α} (h : m j = some a) :
    m.mapOpt (fun x => some (f x)) j = some (f a) := by
  simp [Map.mapOpt, h]

theorem Map.mapOpt_set_some {α β} (m : Map α) (g : α → Option β) (k : Id) (v : α) {y : β} (hg : g v = some y) :
    (m.set k v).mapOpt g = (m.mapOpt g).set k y := by
  funext j; by_cases e : j = k <;> simp [Map.mapOpt, Map.set, e, hg]

theorem Map.mapOpt_set_map {α β} (m : Map α) (f : α → β) (k : Id) (v : α) :
    (m.set k v).mapOpt (fun x => some (f x)) = (m.mapOpt fun x => some (f x)).set k (f v) :=
  Map.mapOpt_set_some m _ k v rfl

theorem Map.mapOpt_set_none {α β} (m : Map α) (g : α → Option β) (k : Id) (v : α) (hg : g v = none) :
    (m.set k v).mapOpt g = (m.mapOpt g).del k := by
  funext j; by_cases e : j = k <;> simp [Map.mapOpt, Map.set, Map.del, e, hg]

theorem Map.mapOpt_del {α β} (m : Map α) (g : α → Option β) (k : Id) :
    (m.del k).mapOpt g = (m.mapOpt g).del k := by
  funext j; by_cases e : j = k <;> simp [Map.mapOpt, Map.del, e]

/-- One parent–child relation kept on both sides: `par p` is the list of children parent `p`
holds, `chi c` the parent child `c` names. Parents list exactly the children naming them, once. -/
structure Link (par : Map (List Id)) (chi : Map Id) : Prop where
  down : ∀ p l c, par p = some l → c ∈ l → chi c = some p
  up : ∀ c p, chi c = some p → ∃ l, par p = some l ∧ c ∈ l
  nodup : ∀ p l, par p = some l → l.Nodup

section
variable {par : Map (List Id)} {chi : Map Id}

theorem Link.add (h : Link par chi) {p c : Id} {l : List Id} (hp : par p = some l) (hc : chi c = none) :
    Link (par.set p (l ++ [c])) (chi.set c p) := by
  have hnew : ∀ q l' d, par q = some l' → d ∈ l' → d ≠ c := fun q l' d hq hin e => by
    rw [← e, h.down q l' d hq hin] at hc; cases hc
  refine ⟨fun q l' d hq hin => ?_, fun d q hd => ?_, fun q l' hq => ?_⟩
  · by_cases e : q = p
    · subst e; rw [Map.set_same] at hq; cases hq
      rcases List.mem_append.1 hin with hin | hin
      · rw [Map.set_other _ _ _ _ (hnew q l d hp hin)]; exact h.down q l d hp hin
      · obtain rfl : d = c := by simpa using hin
        exact Map.set_same _ _ _
    · rw [Map.set_other _ _ _ _ e] at hq
      rw [Map.set_other _ _ _ _ (hnew q l' d hq hin)]; exact h.down q l' d hq hin
  · by_cases e : d = c
    · subst e; rw [Map.set_same] at hd; cases hd
      exact ⟨_, Map.set_same _ _ _, by simp⟩
    · rw [Map.set_other _ _ _ _ e] at hd
      obtain ⟨l', hq, hin⟩ := h.up d q hd
      by_cases e2 : q = p
      · subst e2; rw [hp] at hq; cases hq
        exact ⟨_, Map.set_same _ _ _, by simp [hin]⟩
      · exact ⟨l', by rw [Map.set_other _ _ _ _ e2]; exact hq, hin⟩
  · by_cases e : q = p
    · subst e; rw [Map.set_same] at hq; cases hq
      refine List.nodup_append.2 ⟨h.nodup q l hp, by simp, fun a ha b hb => ?_⟩
      obtain rfl : b = c := by simpa using hb
      exact hnew q l a hp ha
    · rw [Map.set_other _ _ _ _ e] at hq; exact h.nodup q l' hq

theorem Link.remove (h : Link par chi) {p c : Id} {l : List Id} (hp : par p = some l) (hc : chi c = some p) :
    Link (par.set p (l.erase c)) (chi.del c) := by
  have hnd := h.nodup p l hp
  refine ⟨fun q l' d hq hin => ?_, fun d q hd => ?_, fun q l' hq => ?_⟩
  · by_cases e : q = p
    · subst e; rw [Map.set_same] at hq; cases hq
      obtain ⟨hne, hin⟩ := (List.Nodup.mem_erase_iff hnd).1 hin
      rw [Map.del_other _ _ _ hne]; exact h.down q l d hp hin
    · rw [Map.set_other _ _ _ _ e] at hq
      have hd := h.down q l' d hq hin
      have hne : d ≠ c := fun e2 => by subst e2; rw [hc] at hd; cases hd; exact e rfl
      rw [Map.del_other _ _ _ hne]; exact hd
  · by_cases e : d = c
    · subst e; rw [Map.del_same] at hd; cases hd
    · rw [Map.del_other _ _ _ e] at hd
      obtain ⟨l', hq, hin⟩ := h.up d q hd
      by_cases e2 : q = p
      · subst e2; rw [hp] at hq; cases hq
        exact ⟨_, Map.set_same _ _ _, (List.mem_erase_of_ne e).2 hin⟩
      · exact ⟨l', by rw [Map.set_other _ _ _ _ e2]; exact hq, hin⟩
  · by_cases e : q = p
    · subst e; rw [Map.set_same] at hq; cases hq; exact hnd.erase c
    · rw [Map.set_other _ _ _ _ e] at hq; exact h.nodup q l' hq

theorem Link.addParent (h : Link par chi) {q : Id} (hq : par q = none) : Link (par.set q []) chi := by
  have old : ∀ p l, (par.set q []) p = some l → l = [] ∨ par p = some l := fun p l hp => by
    by_cases e : p = q
    · subst e; rw [Map.set_same] at hp; cases hp; exact .inl rfl
    · rw [Map.set_other _ _ _ _ e] at hp; exact .inr hp
  refine ⟨fun p l c hp hin => ?_, fun c p hc => ?_, fun p l hp => ?_⟩
  · rcases old p l hp with rfl | hp
    · cases hin
    · exact h.down p l c hp hin
  · obtain ⟨l, hp, hin⟩ := h.up c p hc
    have e : p ≠ q := fun e => by subst e; rw [hq] at hp; cases hp
    exact ⟨l, by rw [Map.set_other _ _ _ _ e]; exact hp, hin⟩
  · rcases old p l hp with rfl | hp
    · exact List.nodup_nil
    · exact h.nodup p l hp

theorem Link.delParent (h : Link par chi) {q : Id} (hq : par q = some []) : Link (par.del q) chi := by
  have old : ∀ p l, (par.del q) p = some l → par p = some l := fun p l hp => by
    by_cases e : p = q
    · subst e; rw [Map.del_same] at hp; cases hp
    · rw [Map.del_other _ _ _ e] at hp; exact hp
  refine ⟨fun p l c hp => h.down p l c (old p l hp), fun c p hc => ?_, fun p l hp => h.nodup p l (old p l hp)⟩
  obtain ⟨l, hp, hin⟩ := h.up c p hc
  have e : p ≠ q := fun e => by subst e; rw [hq] at hp; cases hp; cases hin
  exact ⟨l, by rw [Map.del_other _ _ _ e]; exact hp, hin⟩

end

def parentOf (t : Nat) (r : Pr) : Option Id := if r.ptype = t then some r.parent else none

theorem parentOf_eq_some {t : Nat} {r : Pr} {p : Id} : parentOf t r = some p ↔ r.ptype = t ∧ r.parent = p := by
  unfold parentOf; split <;> simp [*]

/-- `Refs` as three links: pipeline–connector, pipeline–processor, connector–processor. -/
structure Links (m : Mem) : Prop where
  plCn : Link (m.pls.mapOpt fun p => some p.conns) (m.cns.mapOpt fun c => some c.pipeline)
  plPr : Link (m.pls.mapOpt fun p => some p.procs) (m.prs.mapOpt (parentOf 2))
  cnPr : Link (m.cns.mapOpt fun c => some c.procs) (m.prs.mapOpt (parentOf 1))
  typ : ∀ rid r, m.prs rid = some r → r.ptype = 2 ∨ r.ptype = 1

/-- a link between a list field of one map's records and a parent field of another's, read on the records. -/
theorem Link.mapOpt_iff {α β} {ps : Map α} {cs : Map β} {f : α → List Id} {g : β → Option Id} :
    Link (ps.mapOpt fun x => some (f x)) (cs.mapOpt g) ↔
      (∀ i x c, ps i = some x → c ∈ f x → ∃ y, cs c = some y ∧ g y = some i) ∧
      (∀ c y i, cs c = some y → g y = some i → ∃ x, ps i = some x ∧ c ∈ f x) ∧
      ∀ i x, ps i = some x → (f x).Nodup := by
  constructor
  · intro h
    refine ⟨fun i x c hx hin => Map.mapOpt_eq_some.1 (h.down i _ c (Map.mapOpt_some _ hx) hin), fun c y i hy e => ?_,
      fun i x hx => h.nodup i _ (Map.mapOpt_some _ hx)⟩
    obtain ⟨l, hl, hin⟩ := h.up c i (Map.mapOpt_eq_some.2 ⟨y, hy, e⟩)
    obtain ⟨x, hx, e⟩ := Map.mapOpt_eq_some.1 hl; cases e
    exact ⟨x, hx, hin⟩
  · rintro ⟨hd, hu, hn⟩
    refine ⟨fun i l c hl hin => ?_, fun c i hc => ?_, fun i l hl => ?_⟩
    · obtain ⟨x, hx, e⟩ := Map.mapOpt_eq_some.1 hl; cases e
      exact Map.mapOpt_eq_some.2 (hd i x c hx hin)
    · obtain ⟨y, hy, e⟩ := Map.mapOpt_eq_some.1 hc
      obtain ⟨x, hx, hin⟩ := hu c y i hy e
      exact ⟨_, Map.mapOpt_some _ hx, hin⟩
    · obtain ⟨x, hx, e⟩ := Map.mapOpt_eq_some.1 hl; cases e
      exact hn i x hx

theorem refs_iff_links (m : Mem) : Refs m ↔ Links m := by
  constructor
  · intro h
    refine ⟨Link.mapOpt_iff.2 ⟨fun i x c hx hin => ?_, fun c y i hy e => ?_, h.plNodupC⟩,
      Link.mapOpt_iff.2 ⟨fun i x c hx hin => ?_, fun c y i hy e => ?_, h.plNodupR⟩,
      Link.mapOpt_iff.2 ⟨fun i x c hx hin => ?_, fun c y i hy e => ?_, h.cnNodupR⟩,
      fun rid r hr => (h.procPar rid r hr).imp (·.1) (·.1)⟩
    · obtain ⟨y, hy, e⟩ := h.plConn i x c hx hin
      exact ⟨y, hy, congrArg some e⟩
    · cases e; exact h.connPl c y hy
    · obtain ⟨y, hy, e⟩ := h.plProc i x c hx hin
      exact ⟨y, hy, parentOf_eq_some.2 e⟩
    · obtain ⟨ht, rfl⟩ := parentOf_eq_some.1 e
      rcases h.procPar c y hy with ⟨_, hx⟩ | ⟨ht1, _⟩
      · exact hx
      · omega
    · obtain ⟨y, hy, e⟩ := h.cnProc i x c hx hin
      exact ⟨y, hy, parentOf_eq_some.2 e⟩
    · obtain ⟨ht, rfl⟩ := parentOf_eq_some.1 e
      rcases h.procPar c y hy with ⟨ht2, _⟩ | ⟨_, hx⟩
      · omega
      · exact hx
  · intro h
    obtain ⟨d1, u1, n1⟩ := Link.mapOpt_iff.1 h.plCn
    obtain ⟨d2, u2, n2⟩ := Link.mapOpt_iff.1 h.plPr
    obtain ⟨d3, u3, n3⟩ := Link.mapOpt_iff.1 h.cnPr
    refine ⟨fun pid p cid hp hin => ?_, fun cid c hc => u1 cid c _ hc rfl, fun pid p rid hp hin => ?_,
      fun cid c rid hc hin => ?_, fun rid r hr => ?_, n1, n2, n3⟩
    · obtain ⟨c, hc, e⟩ := d1 pid p cid hp hin
      exact ⟨c, hc, Option.some.inj e⟩
    · obtain ⟨r, hr, e⟩ := d2 pid p rid hp hin
      exact ⟨r, hr, parentOf_eq_some.1 e⟩
    · obtain ⟨r, hr, e⟩ := d3 cid c rid hc hin
      exact ⟨r, hr, parentOf_eq_some.1 e⟩
    · exact (h.typ rid r hr).imp (fun ht => ⟨ht, u2 rid r _ hr (parentOf_eq_some.2 ⟨ht, rfl⟩)⟩)
        fun ht => ⟨ht, u3 rid r _ hr (parentOf_eq_some.2 ⟨ht, rfl⟩)⟩

theorem map_set_all {α} (P : α → Prop) (m : Map α) (k : Id) (v : α) (h : ∀ id a, m id = some a → P a) (hv : P v) :
    ∀ id a, m.set k v id = some a → P a := by
  intro id a ha
  by_cases e : id = k
  · subst e; rw [Map.set_same] at ha; cases ha; exact hv
  · rw [Map.set_other _ _ _ _ e] at ha; exact h id a ha

theorem map_del_all {α} (P : α → Prop) (m : Map α) (k : Id) (h : ∀ id a, m id = some a → P a) :
    ∀ id a, m.del k id = some a → P a := by
  intro id a ha
  by_cases e : id = k
  · subst e; rw [Map.del_same] at ha; cases ha
  · rw [Map.del_other _ _ _ e] at ha; exact h id a ha

theorem map_set_none {α} (m : Map α) (k : Id) (v : α) (n : Nat) (hk : k < n) (h : ∀ id, n ≤ id → m id = none) :
    ∀ id, n ≤ id → m.set k v id = none := by
  intro id hi
  have e : id ≠ k := fun e => by subst e; exact absurd hk (Nat.not_lt.2 hi)
  rw [Map.set_other _ _ _ _ e]; exact h id hi

theorem map_del_none {α} (m : Map α) (k : Id) (n : Nat) (h : ∀ id, n ≤ id → m id = none) :
    ∀ id, n ≤ id → m.del k id = none := by
  intro id hi
  by_cases e : id = k
  · subst e; exact Map.del_same _ _
  · rw [Map.del_other _ _ _ e]; exact h id hi

theorem key_lt {α} {m : Map α} {n : Nat} (h : ∀ id, n ≤ id → m id = none) {k : Id} {a : α} (hk : m k = some a) : k < n := by
  refine Nat.lt_of_not_le fun hn => ?_
  rw [h k hn] at hk; cases hk

theorem Map.mapOpt_set_same {α β} (m : Map α) (g : α → Option β) (k : Id) {a : α} (v : α) (h : m k = some a)
    (hg : g v = g a) : (m.set k v).mapOpt g = m.mapOpt g := by
  funext j; by_cases e : j = k <;> simp [Map.mapOpt, Map.set, e, h, hg]

structure Keys (n : Nat) (m : Mem) : Prop where
  pls : ∀ id, n ≤ id → m.pls id = none
  cns : ∀ id, n ≤ id → m.cns id = none
  prs : ∀ id, n ≤ id → m.prs id = none

/-- with the references intact, no list mentions an id the maps do not have. -/
theorem fresh_of_keys {s : St} (h : Refs s.mem) (k : Keys s.next s.mem) : Fresh s := by
  refine ⟨k.pls, k.cns, k.prs, ?_, ?_, ?_⟩
  · intro pid p cid hp hin
    obtain ⟨c, hc, _⟩ := h.plConn pid p cid hp hin
    exact key_lt k.cns hc
  · intro pid p rid hp hin
    obtain ⟨r, hr, _⟩ := h.plProc pid p rid hp hin
    exact key_lt k.prs hr
  · intro cid c rid hc hin
    obtain ⟨r, hr, _⟩ := h.cnProc cid c rid hc hin
    exact key_lt k.prs hr

structure MInv (n : Nat) (m : Mem) : Prop where
  names : NamesOk m
  uniq  : NameUniq m
  links : Links m
  wf    : WF m
  keys  : Keys n m

theorem MInv.mono {n k : Nat} {m : Mem} (h : MInv n m) (hk : n ≤ k) : MInv k m :=
  ⟨h.names, h.uniq, h.links, h.wf, fun id hi => h.keys.pls id (Nat.le_trans hk hi),
   fun id hi => h.keys.cns id (Nat.le_trans hk hi), fun id hi => h.keys.prs id (Nat.le_trans hk hi)⟩

theorem names_insPl (m m' : Mem) (hn : NamesOk m) (hu : NameUniq m) (id : Id) (p0 : Pl) (hp : m.pls id = none)
    (hfree : m.names p0.name = false) (hpls : m'.pls = m.pls.set id p0)
    (hnames : m'.names = setName m.names p0.name true) : NamesOk m' ∧ NameUniq m' := by
  have pne : ∀ q pq, m.pls q = some pq → q ≠ id := fun q pq h0 e => by rw [e, hp] at h0; cases h0
  have nofree : ∀ q pq, m.pls q = some pq → pq.name ≠ p0.name := fun q pq h0 e => by
    have := (hn p0.name).2 ⟨q, pq, h0, e⟩; rw [hfree] at this; cases this
  constructor
  · intro n
    rw [hnames]
    by_cases e : n = p0.name
    · subst e; simp only [setName, if_true, true_iff]
      exact ⟨id, p0, by rw [hpls, Map.set_same], rfl⟩
    · simp only [setName, e, if_false]
      rw [hn n]
      constructor
      · rintro ⟨q, pq, hq, hnm⟩
        exact ⟨q, pq, by rw [hpls, Map.set_other _ _ _ _ (pne q pq hq)]; exact hq, hnm⟩
      · rintro ⟨q, pq, hq, hnm⟩
        by_cases e2 : q = id
        · subst e2; rw [hpls, Map.set_same] at hq; cases hq; exact absurd hnm.symm e
        · rw [hpls, Map.set_other _ _ _ _ e2] at hq; exact ⟨q, pq, hq, hnm⟩
  · intro i j p q hi hj hnm
    by_cases ei : i = id <;> by_cases ej : j = id
    · rw [ei, ej]
    · subst ei; rw [hpls, Map.set_same] at hi; cases hi
      rw [hpls, Map.set_other _ _ _ _ ej] at hj
      exact absurd hnm.symm (nofree j q hj)
    · subst ej; rw [hpls, Map.set_same] at hj; cases hj
      rw [hpls, Map.set_other _ _ _ _ ei] at hi
      exact absurd hnm (nofree i p hi)
    · rw [hpls, Map.set_other _ _ _ _ ei] at hi; rw [hpls, Map.set_other _ _ _ _ ej] at hj
      exact hu i j p q hi hj hnm

theorem names_delPl (m m' : Mem) (hn : NamesOk m) (hu : NameUniq m) (id : Id) (p : Pl) (hp : m.pls id = some p)
    (hpls : m'.pls = m.pls.del id) (hnames : m'.names = setName m.names p.name false) :
    NamesOk m' ∧ NameUniq m' := by
  constructor
  · intro n
    rw [hnames]
    by_cases e : n = p.name
    · subst e; simp only [setName, if_true]
      constructor
      · intro h; cases h
      · rintro ⟨q, pq, hq, hnm⟩
        by_cases e3 : q = id
        · subst e3; rw [hpls, Map.del_same] at hq; cases hq
        · rw [hpls, Map.del_other _ _ _ e3] at hq
          exact absurd (hu q id pq p hq hp hnm) e3
    · simp only [setName, e, if_false]
      rw [hn n]
      constructor
      · rintro ⟨q, pq, hq, hnm⟩
        have : q ≠ id := by intro e3; subst e3; rw [hp] at hq; cases hq; exact e hnm.symm
        exact ⟨q, pq, by rw [hpls, Map.del_other _ _ _ this]; exact hq, hnm⟩
      · rintro ⟨q, pq, hq, hnm⟩
        by_cases e3 : q = id
        · subst e3; rw [hpls, Map.del_same] at hq; cases hq
        · rw [hpls, Map.del_other _ _ _ e3] at hq; exact ⟨q, pq, hq, hnm⟩
  · intro i j pi pj hi hj hnm
    have hi' : i ≠ id ∧ m.pls i = some pi := by
      by_cases e : i = id
      · subst e; rw [hpls, Map.del_same] at hi; cases hi
      · rw [hpls, Map.del_other _ _ _ e] at hi; exact ⟨e, hi⟩
    have hj' : j ≠ id ∧ m.pls j = some pj := by
      by_cases e : j = id
      · subst e; rw [hpls, Map.del_same] at hj; cases hj
      · rw [hpls, Map.del_other _ _ _ e] at hj; exact ⟨e, hj⟩
    exact hu i j pi pj hi'.2 hj'.2 hnm

/-- renaming a pipeline is removing it and inserting it again under the new name. -/
theorem names_updPl (m m' : Mem) (hn : NamesOk m) (hu : NameUniq m) (id : Id) (p p' : Pl) (hp : m.pls id = some p)
    (hok : ¬ (m.names p'.name = true ∧ p.name ≠ p'.name)) (hpls : m'.pls = m.pls.set id p')
    (hnames : m'.names = setName (setName m.names p.name false) p'.name true) : NamesOk m' ∧ NameUniq m' := by
  obtain ⟨a, b⟩ := names_delPl m { m with pls := m.pls.del id, names := setName m.names p.name false } hn hu id p hp rfl rfl
  refine names_insPl _ m' a b id p' (Map.del_same _ _) ?_ ?_ hnames
  · show setName m.names p.name false p'.name = false
    by_cases e : p'.name = p.name
    · simp [setName, e]
    · simpa [setName, e] using fun h => hok ⟨h, fun e' => e e'.symm⟩
  · rw [hpls]; funext j; by_cases e : j = id <;> simp [Map.set, Map.del, e]

theorem names_setPl {m : Mem} (hn : NamesOk m) (hu : NameUniq m) {i : Id} {p : Pl} (p' : Pl) (hp : m.pls i = some p)
    (he : p'.name = p.name) (m' : Mem) (hpls : m'.pls = m.pls.set i p') (hnames : m'.names = m.names) :
    NamesOk m' ∧ NameUniq m' := by
  refine names_updPl m m' hn hu i p p' hp (fun h => h.2 he.symm) hpls ?_
  rw [hnames, he]; funext j
  by_cases e : j = p.name
  · simp [setName, e, (hn p.name).2 ⟨i, p, hp, rfl⟩]
  · simp [setName, e]

/-! ### what each kind of effect does to `MInv`

A field-only update leaves every projection of `Links` as it is (`Map.mapOpt_set_same`); creating or
deleting a pipeline adds or removes an empty parent in two links; creating a connector or processor
is `Link.add` in its own link (the two service calls together: the child names the parent, the parent
lists the child), deleting one is `Link.remove`; a connector is also an empty parent in the
connector–processor link. -/

theorem MInv.updPl {n : Nat} {m : Mem} (h : MInv n m) (i : Id) (f : Pl → Pl)
    (hf : ∀ p, (f p).name = p.name ∧ (f p).conns = p.conns ∧ (f p).procs = p.procs) : MInv n (m.updPl i f) := by
  cases hp : m.pls i with
  | none => simp only [Mem.updPl, hp]; exact h
  | some p =>
    simp only [Mem.updPl, hp]
    obtain ⟨a, b⟩ := names_setPl h.names h.uniq (f p) hp (hf p).1 { m with pls := m.pls.set i (f p) } rfl rfl
    refine ⟨a, b, ⟨?_, ?_, h.links.cnPr, h.links.typ⟩, ⟨h.wf.cnTyp, h.wf.prPlg⟩,
      map_set_none _ _ _ _ (key_lt h.keys.pls hp) h.keys.pls, h.keys.cns, h.keys.prs⟩
    · show Link ((m.pls.set i (f p)).mapOpt _) _
      rw [Map.mapOpt_set_same _ _ _ _ hp (by rw [(hf p).2.1])]; exact h.links.plCn
    · show Link ((m.pls.set i (f p)).mapOpt _) _
      rw [Map.mapOpt_set_same _ _ _ _ hp (by rw [(hf p).2.2])]; exact h.links.plPr

theorem MInv.updCn {n : Nat} {m : Mem} (h : MInv n m) (i : Id) (f : Cn → Cn)
    (hf : ∀ c, (f c).typ = c.typ ∧ (f c).pipeline = c.pipeline ∧ (f c).procs = c.procs) : MInv n (m.updCn i f) := by
  cases hc : m.cns i with
  | none => simp only [Mem.updCn, hc]; exact h
  | some c =>
    simp only [Mem.updCn, hc]
    refine ⟨h.names, h.uniq, ⟨?_, h.links.plPr, ?_, h.links.typ⟩,
      ⟨map_set_all _ _ _ _ h.wf.cnTyp ((hf c).1 ▸ h.wf.cnTyp i c hc), h.wf.prPlg⟩,
      h.keys.pls, map_set_none _ _ _ _ (key_lt h.keys.cns hc) h.keys.cns, h.keys.prs⟩
    · show Link _ ((m.cns.set i (f c)).mapOpt _)
      rw [Map.mapOpt_set_same _ _ _ _ hc (by rw [(hf c).2.1])]; exact h.links.plCn
    · show Link ((m.cns.set i (f c)).mapOpt _) _
      rw [Map.mapOpt_set_same _ _ _ _ hc (by rw [(hf c).2.2])]; exact h.links.cnPr

theorem MInv.updPr {n : Nat} {m : Mem} (h : MInv n m) (i : Id) (f : Pr → Pr)
    (hf : ∀ r, (f r).plugin ≠ 0 ∧ (f r).ptype = r.ptype ∧ (f r).parent = r.parent) : MInv n (m.updPr i f) := by
  cases hr : m.prs i with
  | none => simp only [Mem.updPr, hr]; exact h
  | some r =>
    simp only [Mem.updPr, hr]
    have e : ∀ t, (m.prs.set i (f r)).mapOpt (parentOf t) = m.prs.mapOpt (parentOf t) := fun t =>
      Map.mapOpt_set_same _ _ _ _ hr (by simp only [parentOf, (hf r).2.1, (hf r).2.2])
    refine ⟨h.names, h.uniq, ⟨h.links.plCn, ?_, ?_, map_set_all _ _ _ _ h.links.typ ((hf r).2.1 ▸ h.links.typ i r hr)⟩,
      ⟨h.wf.cnTyp, map_set_all _ _ _ _ h.wf.prPlg (hf r).1⟩,
      h.keys.pls, h.keys.cns, map_set_none _ _ _ _ (key_lt h.keys.prs hr) h.keys.prs⟩
    · show Link _ ((m.prs.set i (f r)).mapOpt _)
      rw [e]; exact h.links.plPr
    · show Link _ ((m.prs.set i (f r)).mapOpt _)
      rw [e]; exact h.links.cnPr

theorem MInv.plCreate {n : Nat} {m : Mem} (h : MInv n m) (name desc prov : Nat) (hfree : m.names name = false) :
    MInv (n + 1) ((svcPlCreate n name desc prov).upd m) := by
  have hp : m.pls n = none := h.keys.pls n (Nat.le_refl _)
  obtain ⟨a, b⟩ := names_insPl m ((svcPlCreate n name desc prov).upd m) h.names h.uniq n _ hp hfree rfl rfl
  refine ⟨a, b, ⟨?_, ?_, h.links.cnPr, h.links.typ⟩, ⟨h.wf.cnTyp, h.wf.prPlg⟩,
    map_set_none _ _ _ _ (Nat.lt_succ_self n) (fun id hi => h.keys.pls id (by omega)),
    fun id hi => h.keys.cns id (by omega), fun id hi => h.keys.prs id (by omega)⟩
  · show Link ((m.pls.set n _).mapOpt _) _
    rw [Map.mapOpt_set_map]; exact h.links.plCn.addParent (Map.mapOpt_eq_none _ hp)
  · show Link ((m.pls.set n _).mapOpt _) _
    rw [Map.mapOpt_set_map]; exact h.links.plPr.addParent (Map.mapOpt_eq_none _ hp)

theorem MInv.plDelete {n : Nat} {m : Mem} (h : MInv n m) {i : Id} {p : Pl} (hp : m.pls i = some p)
    (hc0 : p.conns = []) (hr0 : p.procs = []) : MInv n ((svcPlDelete i).upd m) := by
  simp only [svcPlDelete, hp]
  obtain ⟨a, b⟩ := names_delPl m { m with pls := m.pls.del i, names := setName m.names p.name false } h.names h.uniq i p hp
    rfl rfl
  refine ⟨a, b, ⟨?_, ?_, h.links.cnPr, h.links.typ⟩, ⟨h.wf.cnTyp, h.wf.prPlg⟩,
    map_del_none _ _ _ h.keys.pls, h.keys.cns, h.keys.prs⟩
  · show Link ((m.pls.del i).mapOpt _) _
    rw [Map.mapOpt_del]; exact h.links.plCn.delParent (by rw [← hc0]; exact Map.mapOpt_some _ hp)
  · show Link ((m.pls.del i).mapOpt _) _
    rw [Map.mapOpt_del]; exact h.links.plPr.delParent (by rw [← hr0]; exact Map.mapOpt_some _ hp)

theorem MInv.plUpdate (v : Variant) {n : Nat} {m : Mem} (h : MInv n m) (i name desc : Nat)
    (hpre : (svcPlUpdate v i name desc).pre m = none) : MInv n ((svcPlUpdate v i name desc).upd m) := by
  cases hp : m.pls i with
  | none => simp [svcPlUpdate, hp] at hpre
  | some p =>
    have hcond : ¬ (m.names name = true ∧ p.name ≠ name) := by
      simp only [svcPlUpdate, hp] at hpre
      by_cases h0 : name = 0
      · simp [h0] at hpre
      · simp only [h0, if_false] at hpre
        intro hc; simp [hc.1, hc.2] at hpre
    simp only [svcPlUpdate, hp]
    obtain ⟨a, b⟩ := names_updPl m
      { m with pls := m.pls.set i { p with name, desc }, names := setName (setName m.names p.name false) name true }
      h.names h.uniq i p { p with name, desc } hp hcond rfl rfl
    refine ⟨a, b, ⟨?_, ?_, h.links.cnPr, h.links.typ⟩, ⟨h.wf.cnTyp, h.wf.prPlg⟩,
      map_set_none _ _ _ _ (key_lt h.keys.pls hp) h.keys.pls, h.keys.cns, h.keys.prs⟩
    · show Link ((m.pls.set i _).mapOpt _) _
      rw [Map.mapOpt_set_same _ _ _ _ hp (by rfl)]; exact h.links.plCn
    · show Link ((m.pls.set i _).mapOpt _) _
      rw [Map.mapOpt_set_same _ _ _ _ hp (by rfl)]; exact h.links.plPr

theorem MInv.cnCreate (v : Variant) {n : Nat} {m : Mem} (h : MInv n m) (typ plugin pid name settings prov : Nat) {p : Pl}
    (hp : m.pls pid = some p) (ht : typ = 1 ∨ typ = 2) :
    MInv (n + 1) ((svcPlAddConn v pid n).upd ((svcCnCreate n typ plugin pid name settings prov 0).upd m)) := by
  have hc : m.cns n = none := h.keys.cns n (Nat.le_refl _)
  simp only [svcPlAddConn, svcCnCreate, Mem.updPl, hp]
  obtain ⟨a, b⟩ := names_setPl h.names h.uniq { p with conns := p.conns ++ [n] } hp rfl
    { m with pls := m.pls.set pid { p with conns := p.conns ++ [n] } } rfl rfl
  refine ⟨a, b, ⟨?_, ?_, ?_, h.links.typ⟩, ⟨map_set_all _ _ _ _ h.wf.cnTyp ht, h.wf.prPlg⟩,
    map_set_none _ _ _ _ (Nat.lt_succ_of_lt (key_lt h.keys.pls hp)) (fun id hi => h.keys.pls id (by omega)),
    map_set_none _ _ _ _ (Nat.lt_succ_self n) (fun id hi => h.keys.cns id (by omega)),
    fun id hi => h.keys.prs id (by omega)⟩
  · show Link ((m.pls.set pid _).mapOpt _) ((m.cns.set n _).mapOpt _)
    rw [Map.mapOpt_set_map, Map.mapOpt_set_map]
    exact h.links.plCn.add (Map.mapOpt_some _ hp) (Map.mapOpt_eq_none _ hc)
  · show Link ((m.pls.set pid _).mapOpt _) _
    rw [Map.mapOpt_set_same _ _ _ _ hp (by rfl)]; exact h.links.plPr
  · show Link ((m.cns.set n _).mapOpt _) _
    rw [Map.mapOpt_set_map]; exact h.links.cnPr.addParent (Map.mapOpt_eq_none _ hc)

theorem MInv.cnDelete (v : Variant) {n : Nat} {m : Mem} (h : MInv n m) {i : Id} {c : Cn} {p : Pl} (hc : m.cns i = some c)
    (hprocs : c.procs = []) (hp : m.pls c.pipeline = some p) :
    MInv n ((svcPlRemConn v c.pipeline i).upd ((svcCnDelete i).upd m)) := by
  simp only [svcPlRemConn, svcCnDelete, Mem.updPl, hp]
  obtain ⟨a, b⟩ := names_setPl h.names h.uniq { p with conns := p.conns.erase i } hp rfl
    { m with pls := m.pls.set c.pipeline { p with conns := p.conns.erase i } } rfl rfl
  refine ⟨a, b, ⟨?_, ?_, ?_, h.links.typ⟩, ⟨map_del_all _ _ _ h.wf.cnTyp, h.wf.prPlg⟩,
    map_set_none _ _ _ _ (key_lt h.keys.pls hp) h.keys.pls, map_del_none _ _ _ h.keys.cns, h.keys.prs⟩
  · show Link ((m.pls.set c.pipeline _).mapOpt _) ((m.cns.del i).mapOpt _)
    rw [Map.mapOpt_set_map, Map.mapOpt_del]
    exact h.links.plCn.remove (Map.mapOpt_some _ hp) (Map.mapOpt_some _ hc)
  · show Link ((m.pls.set c.pipeline _).mapOpt _) _
    rw [Map.mapOpt_set_same _ _ _ _ hp (by rfl)]; exact h.links.plPr
  · show Link ((m.cns.del i).mapOpt _) _
    rw [Map.mapOpt_del]; exact h.links.cnPr.delParent (by rw [← hprocs]; exact Map.mapOpt_some _ hc)

/-- the child side of the two processor links when a processor is inserted or deleted: it shows in the link of its
own parent kind only. -/
theorem prs_set_own {prs : Map Pr} {i : Id} (r : Pr) {t : Nat} (ht : r.ptype = t) :
    (prs.set i r).mapOpt (parentOf t) = (prs.mapOpt (parentOf t)).set i r.parent :=
  Map.mapOpt_set_some _ _ _ _ (parentOf_eq_some.2 ⟨ht, rfl⟩)

theorem prs_set_other {prs : Map Pr} {i : Id} (r : Pr) {t : Nat} (ht : r.ptype ≠ t) (hi : prs i = none) :
    (prs.set i r).mapOpt (parentOf t) = prs.mapOpt (parentOf t) := by
  rw [Map.mapOpt_set_none _ _ _ _ (by simp [parentOf, ht]), Map.del_none _ _ (Map.mapOpt_eq_none _ hi)]

theorem prs_del_other {prs : Map Pr} {i : Id} {r : Pr} {t : Nat} (hi : prs i = some r) (ht : r.ptype ≠ t) :
    (prs.del i).mapOpt (parentOf t) = prs.mapOpt (parentOf t) := by
  rw [Map.mapOpt_del, Map.del_none _ _ (by simp [Map.mapOpt, hi, parentOf, ht])]

/-- creating a processor under a pipeline (`ptype = 2`) or a connector (`ptype = 1`): the same two calls,
on the processor list of either kind of parent. -/
theorem MInv.prCreate (v : Variant) {n : Nat} {m : Mem} (h : MInv n m) (plugin ptype parent settings : Nat)
    (workers : Int) (prov cond : Nat) (hg : plugin ≠ 0)
    (hpar : (ptype = 2 ∧ ∃ p, m.pls parent = some p) ∨ (ptype = 1 ∧ ∃ c, m.cns parent = some c)) :
    MInv (n + 1) ((attachStep v ptype parent n).act.upd ((svcPrCreate n plugin ptype parent settings workers prov cond).upd m)) := by
  have hr : m.prs n = none := h.keys.prs n (Nat.le_refl _)
  have kpls : ∀ id, n + 1 ≤ id → m.pls id = none := fun id hi => h.keys.pls id (by omega)
  have kcns : ∀ id, n + 1 ≤ id → m.cns id = none := fun id hi => h.keys.cns id (by omega)
  have kprs := map_set_none m.prs n ⟨plugin, settings, if workers = 0 then 1 else workers, cond, ptype, parent, prov⟩ _
    (Nat.lt_succ_self n) (fun id hi => h.keys.prs id (by omega))
  have wfp := map_set_all _ m.prs n ⟨plugin, settings, if workers = 0 then 1 else workers, cond, ptype, parent, prov⟩
    h.wf.prPlg hg
  rcases hpar with ⟨rfl, p, hp⟩ | ⟨rfl, c, hc⟩
  · simp only [attachStep, if_true, svcPlAddProc, svcPrCreate, Mem.updPl, hp]
    obtain ⟨a, b⟩ := names_setPl h.names h.uniq { p with procs := p.procs ++ [n] } hp rfl
      { m with pls := m.pls.set parent { p with procs := p.procs ++ [n] } } rfl rfl
    refine ⟨a, b, ⟨?_, ?_, ?_, map_set_all _ _ _ _ h.links.typ (.inl rfl)⟩, ⟨h.wf.cnTyp, wfp⟩,
      map_set_none _ _ _ _ (Nat.lt_succ_of_lt (key_lt h.keys.pls hp)) kpls, kcns, kprs⟩
    · show Link ((m.pls.set parent _).mapOpt _) _
      rw [Map.mapOpt_set_same _ _ _ _ hp (by rfl)]; exact h.links.plCn
    · show Link ((m.pls.set parent _).mapOpt _) ((m.prs.set n _).mapOpt _)
      rw [Map.mapOpt_set_map, prs_set_own _ rfl]
      exact h.links.plPr.add (Map.mapOpt_some _ hp) (Map.mapOpt_eq_none _ hr)
    · show Link _ ((m.prs.set n _).mapOpt _)
      rw [prs_set_other _ (by simp) hr]; exact h.links.cnPr
  · simp only [attachStep, show ¬ (1 : Nat) = 2 by decide, if_false, svcCnAddProc, svcPrCreate, Mem.updCn, hc]
    refine ⟨h.names, h.uniq, ⟨?_, ?_, ?_, map_set_all _ _ _ _ h.links.typ (.inr rfl)⟩,
      ⟨map_set_all _ _ _ _ h.wf.cnTyp (h.wf.cnTyp parent c hc), wfp⟩,
      kpls, map_set_none _ _ _ _ (Nat.lt_succ_of_lt (key_lt h.keys.cns hc)) kcns, kprs⟩
    · show Link _ ((m.cns.set parent _).mapOpt _)
      rw [Map.mapOpt_set_same _ _ _ _ hc (by rfl)]; exact h.links.plCn
    · show Link _ ((m.prs.set n _).mapOpt _)
      rw [prs_set_other _ (by simp) hr]; exact h.links.plPr
    · show Link ((m.cns.set parent _).mapOpt _) ((m.prs.set n _).mapOpt _)
      rw [Map.mapOpt_set_map, prs_set_own _ rfl]
      exact h.links.cnPr.add (Map.mapOpt_some _ hc) (Map.mapOpt_eq_none _ hr)

theorem MInv.prDelete (v : Variant) {n : Nat} {m : Mem} (h : MInv n m) {i : Id} {r : Pr} (hr : m.prs i = some r) :
    MInv n ((detachStep v r.ptype r.parent i).act.upd ((svcPrDelete i).upd m)) := by
  have kprs := map_del_none m.prs i n h.keys.prs
  have wfp := map_del_all _ m.prs i h.wf.prPlg
  have typ := map_del_all _ m.prs i h.links.typ
  have own : ∀ t, r.ptype = t → m.prs.mapOpt (parentOf t) i = some r.parent := fun t ht =>
    Map.mapOpt_eq_some.2 ⟨r, hr, parentOf_eq_some.2 ⟨ht, rfl⟩⟩
  rcases h.links.typ i r hr with h2 | h1
  · obtain ⟨l, hl, _⟩ := h.links.plPr.up i r.parent (own 2 h2)
    obtain ⟨p, hp, e⟩ := Map.mapOpt_eq_some.1 hl; cases e
    simp only [detachStep, h2, if_true, svcPlRemProc, svcPrDelete, Mem.updPl, hp]
    obtain ⟨a, b⟩ := names_setPl h.names h.uniq { p with procs := p.procs.erase i } hp rfl
      { m with pls := m.pls.set r.parent { p with procs := p.procs.erase i } } rfl rfl
    refine ⟨a, b, ⟨?_, ?_, ?_, typ⟩, ⟨h.wf.cnTyp, wfp⟩,
      map_set_none _ _ _ _ (key_lt h.keys.pls hp) h.keys.pls, h.keys.cns, kprs⟩
    · show Link ((m.pls.set r.parent _).mapOpt _) _
      rw [Map.mapOpt_set_same _ _ _ _ hp (by rfl)]; exact h.links.plCn
    · show Link ((m.pls.set r.parent _).mapOpt _) ((m.prs.del i).mapOpt _)
      rw [Map.mapOpt_set_map, Map.mapOpt_del]
      exact h.links.plPr.remove hl (own 2 h2)
    · show Link _ ((m.prs.del i).mapOpt _)
      rw [prs_del_other hr (by omega)]; exact h.links.cnPr
  · obtain ⟨l, hl, _⟩ := h.links.cnPr.up i r.parent (own 1 h1)
    obtain ⟨c, hc, e⟩ := Map.mapOpt_eq_some.1 hl; cases e
    simp only [detachStep, show ¬ r.ptype = 2 by omega, if_false, svcCnRemProc, svcPrDelete, Mem.updCn, hc]
    refine ⟨h.names, h.uniq, ⟨?_, ?_, ?_, typ⟩, ⟨map_set_all _ _ _ _ h.wf.cnTyp (h.wf.cnTyp r.parent c hc), wfp⟩,
      h.keys.pls, map_set_none _ _ _ _ (key_lt h.keys.cns hc) h.keys.cns, kprs⟩
    · show Link _ ((m.cns.set r.parent _).mapOpt _)
      rw [Map.mapOpt_set_same _ _ _ _ hc (by rfl)]; exact h.links.plCn
    · show Link _ ((m.prs.del i).mapOpt _)
      rw [prs_del_other hr (by omega)]; exact h.links.plPr
    · show Link ((m.cns.set r.parent _).mapOpt _) ((m.prs.del i).mapOpt _)
      rw [Map.mapOpt_set_map, Map.mapOpt_del]
      exact h.links.cnPr.remove hl (own 1 h1)

end Conduit.Ctl
