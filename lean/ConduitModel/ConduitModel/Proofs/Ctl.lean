import ConduitModel.Spec.Ctl

/-!
Helper lemmas for C14/C15 over M6: the three outcomes of a service call in normal form, and the
*frame theorem* for the orchestrator's `transaction + rollback.R` shape: if every registered
rollback exactly undoes its step and the step whose store operation fails leaves memory alone
(`keep`), a failure at any store operation leaves memory and store as they were.
-/
namespace Conduit.Ctl

def stepOk (f : Svc) (s : St) : St :=
  ({ s with ctr := s.ctr + 1, mem := f.upd s.mem,
            nameU := match f.nm with | some n => n :: s.nameU | none => s.nameU }).write
    (fun k => k.sync (f.upd s.mem) f.kind f.id)

theorem Svc.run_pre_err {f : Svc} {s : St} {e : Err} (h : f.pre s.mem = some e) :
    f.run s = (.error e, s) := by
  simp [Svc.run, h]

theorem Svc.run_fail {f : Svc} {s : St} (h : f.pre s.mem = none) (hf : s.failsNow = true) :
    f.run s = (.error .st, { s with ctr := s.ctr + 1, mem := if f.keep then s.mem else f.upd s.mem,
                                    nameU := match f.nm with | some n => n :: s.nameU | none => s.nameU }) := by
  unfold Svc.run; simp only [h, hf]; rfl

theorem Svc.run_ok {f : Svc} {s : St} (h : f.pre s.mem = none) (hf : s.failsNow = false) :
    f.run s = (.ok (), stepOk f s) := by
  unfold Svc.run; simp only [h, hf]; rfl

theorem Svc.run_ok_inv {f : Svc} {s : St} (hok : (f.run s).1 = .ok ()) : f.pre s.mem = none ∧ f.run s = (.ok (), stepOk f s) := by
  cases hp : f.pre s.mem with
  | some e => rw [Svc.run_pre_err hp] at hok; cases hok
  | none =>
    cases hf : s.failsNow with
    | true => rw [Svc.run_fail hp hf] at hok; cases hok
    | false => exact ⟨rfl, Svc.run_ok hp hf⟩

@[simp] theorem St.write_mem (s : St) (g : KV → KV) : (s.write g).mem = s.mem := by
  unfold St.write; split <;> rfl
@[simp] theorem St.write_ctr (s : St) (g : KV → KV) : (s.write g).ctr = s.ctr := by
  unfold St.write; split <;> rfl
@[simp] theorem St.write_failAt (s : St) (g : KV → KV) : (s.write g).failAt = s.failAt := by
  unfold St.write; split <;> rfl
@[simp] theorem St.write_next (s : St) (g : KV → KV) : (s.write g).next = s.next := by
  unfold St.write; split <;> rfl
theorem St.write_tx_some (s : St) (g : KV → KV) (t : KV) (h : s.tx = some t) :
    (s.write g).tx = some (g t) ∧ (s.write g).kv = s.kv := by
  unfold St.write; simp [h]
theorem St.write_tx_none (s : St) (g : KV → KV) (h : s.tx = none) :
    (s.write g).tx = none ∧ (s.write g).kv = g s.kv := by
  unfold St.write; simp [h]

@[simp] theorem stepOk_mem (f : Svc) (s : St) : (stepOk f s).mem = f.upd s.mem := by simp [stepOk]
@[simp] theorem stepOk_ctr (f : Svc) (s : St) : (stepOk f s).ctr = s.ctr + 1 := by simp [stepOk]
@[simp] theorem stepOk_failAt (f : Svc) (s : St) : (stepOk f s).failAt = s.failAt := by simp [stepOk]
@[simp] theorem stepOk_next (f : Svc) (s : St) : (stepOk f s).next = s.next := by simp [stepOk]
theorem stepOk_tx_some (f : Svc) (s : St) (t : KV) (h : s.tx = some t) :
    (stepOk f s).tx = some (t.sync (f.upd s.mem) f.kind f.id) ∧ (stepOk f s).kv = s.kv := by
  unfold stepOk; exact St.write_tx_some _ _ t h
theorem stepOk_tx_none (f : Svc) (s : St) (h : s.tx = none) :
    (stepOk f s).tx = none ∧ (stepOk f s).kv = s.kv.sync (f.upd s.mem) f.kind f.id := by
  unfold stepOk; exact St.write_tx_none _ _ h

theorem failsNow_iff (s : St) : s.failsNow = true ↔ s.failAt = some (s.ctr + 1) := by
  simp [St.failsNow]

/-- the failure index is not ahead of the counter any more. -/
def Spent (s : St) : Prop := ∀ t, s.failAt = some t → t ≤ s.ctr

theorem failsNow_false {s : St} (h : s.failAt ≠ some (s.ctr + 1)) : s.failsNow = false :=
  Bool.eq_false_iff.2 (mt (failsNow_iff s).1 h)

theorem Spent.not_fails {s : St} (h : Spent s) : s.failsNow = false :=
  failsNow_false fun e => absurd (h _ e) (Nat.not_succ_le_self _)

/-- the operation that fails uses the index up. -/
theorem Spent.of_fails {s s' : St} (hf : s.failsNow = true) (ha : s'.failAt = s.failAt) (hc : s'.ctr = s.ctr + 1) :
    Spent s' := by
  intro t ht
  rw [ha, (failsNow_iff s).1 hf] at ht; cases ht
  exact Nat.le_of_eq hc.symm

theorem Spent.stepOk {s : St} (h : Spent s) (f : Svc) : Spent (stepOk f s) := by
  intro t ht
  simp at ht
  have := h t ht
  simp; omega

def applySteps (m : Mem) : List Step → Mem
  | [] => m
  | st :: rest => applySteps (st.act.upd m) rest

def Reversible (m : Mem) : List Step → Prop
  | [] => True
  | st :: rest =>
    st.act.pre m = none ∧ st.undo.pre (st.act.upd m) = none ∧ st.undo.upd (st.act.upd m) = m ∧
    Reversible (st.act.upd m) rest

def PreOk (m : Mem) : List Step → Prop
  | [] => True
  | st :: rest => st.act.pre m = none ∧ PreOk (st.act.upd m) rest

def okRun (s : St) : List Step → St
  | [] => s
  | st :: rest => okRun (stepOk st.act s) rest

theorem okRun_mem (s : St) (L : List Step) : (okRun s L).mem = applySteps s.mem L := by
  induction L generalizing s with
  | nil => rfl
  | cons st rest ih => simp [okRun, applySteps, ih]

theorem okRun_ctr (s : St) (L : List Step) : (okRun s L).ctr = s.ctr + L.length := by
  induction L generalizing s with
  | nil => rfl
  | cons st rest ih => simp [okRun, ih]; omega

theorem okRun_failAt (s : St) (L : List Step) : (okRun s L).failAt = s.failAt := by
  induction L generalizing s with
  | nil => rfl
  | cons st rest ih => simp [okRun, ih]

theorem okRun_kv_tx (s : St) (L : List Step) (t : KV) (h : s.tx = some t) :
    (okRun s L).kv = s.kv ∧ ∃ t', (okRun s L).tx = some t' := by
  induction L generalizing s t with
  | nil => exact ⟨rfl, t, h⟩
  | cons st rest ih =>
    obtain ⟨h1, h2⟩ := stepOk_tx_some st.act s t h
    obtain ⟨h3, h4⟩ := ih (stepOk st.act s) _ h1
    exact ⟨by simp [okRun, h3, h2], h4⟩

theorem runSteps_ok (L : List Step) : ∀ (stack : List Svc) (s : St), PreOk s.mem L →
    (∀ j, j < L.length → s.failAt ≠ some (s.ctr + j + 1)) →
    runSteps L stack s = (none, (L.map (·.undo)).reverse ++ stack, okRun s L) := by
  induction L with
  | nil => intro stack s _ _; simp [runSteps, okRun]
  | cons st rest ih =>
    intro stack s hr hk
    obtain ⟨h1, h4⟩ := hr
    have hf : s.failsNow = false := failsNow_false (by simpa using hk 0 (by simp))
    simp only [runSteps, Svc.run_ok h1 hf, okRun]
    rw [ih (st.undo :: stack) (stepOk st.act s) (by simpa using h4)
      (by intro j hj; simp; have := hk (j + 1) (by simp; omega); intro h; apply this; rw [h]; congr 1; omega)]
    simp

theorem runSteps_none_inv (L : List Step) : ∀ (stack stk : List Svc) (s s' : St),
    runSteps L stack s = (none, stk, s') → PreOk s.mem L ∧ s' = okRun s L := by
  induction L with
  | nil => intro stack stk s s' h; simp [runSteps] at h; exact ⟨trivial, h.2.symm⟩
  | cons st rest ih =>
    intro stack stk s s' h
    simp only [runSteps] at h
    rcases hr : st.act.run s with ⟨_ | ⟨⟨⟩⟩, s1⟩ <;> rw [hr] at h
    · simp at h
    · obtain ⟨hp, e⟩ := Svc.run_ok_inv (by rw [hr])
      cases hr.symm.trans e
      obtain ⟨a, b⟩ := ih _ _ _ _ h
      exact ⟨⟨hp, by simpa using a⟩, b⟩

theorem Reversible.take {m : Mem} {L : List Step} (h : Reversible m L) (j : Nat) : Reversible m (L.take j) := by
  induction L generalizing m j with
  | nil => simp [Reversible]
  | cons st rest ih =>
    cases j with
    | zero => simp [Reversible]
    | succ j =>
      obtain ⟨h1, h2, h3, h4⟩ := h
      exact ⟨h1, h2, h3, ih h4 j⟩

theorem runSteps_fail (L : List Step) : ∀ (stack : List Svc) (s : St) (j : Nat) (t : KV), PreOk s.mem L →
    s.tx = some t → j < L.length → s.failAt = some (s.ctr + j + 1) → (∀ st, L[j]? = some st → st.act.keep = true) →
    ∃ s', runSteps L stack s = (some .st, ((L.take j).map (·.undo)).reverse ++ stack, s') ∧
      s'.mem = applySteps s.mem (L.take j) ∧ s'.kv = s.kv ∧ Spent s' ∧ s'.failAt = s.failAt ∧ s'.next = s.next ∧
      ∃ t', s'.tx = some t' := by
  induction L with
  | nil => intro _ _ j _ _ _ hj; simp at hj
  | cons st rest ih =>
    intro stack s j t hr htx hj hk hkeep
    obtain ⟨h1, h4⟩ := hr
    cases j with
    | zero =>
      have hf : s.failsNow = true := (failsNow_iff s).2 (by simpa using hk)
      have hkp : st.act.keep = true := hkeep st (by simp)
      refine ⟨{ s with ctr := s.ctr + 1, mem := if st.act.keep then s.mem else st.act.upd s.mem,
                       nameU := match st.act.nm with | some n => n :: s.nameU | none => s.nameU },
        by simp only [runSteps, Svc.run_fail h1 hf]; rfl, ?_, rfl, Spent.of_fails hf rfl rfl, rfl, rfl, ⟨t, htx⟩⟩
      simp [hkp, applySteps]
    | succ j =>
      have hf : s.failsNow = false := failsNow_false (by rw [hk, Ne, Option.some.injEq]; omega)
      obtain ⟨htx1, hkv1⟩ := stepOk_tx_some st.act s t htx
      obtain ⟨s', e1, e2, e3, e4, e5, e6, e7⟩ := ih (st.undo :: stack) (stepOk st.act s) j _ (by simpa using h4) htx1
        (by simpa using hj) (by simp [hk]; omega) (by intro st' h; exact hkeep st' (by simpa using h))
      refine ⟨s', ?_, ?_, ?_, e4, ?_, ?_, e7⟩
      · simp only [runSteps, Svc.run_ok h1 hf, e1]; simp
      · simpa [applySteps] using e2
      · rw [e3, hkv1]
      · simpa using e5
      · simpa using e6

theorem runRollback_restores (L : List Step) : ∀ (m : Mem) (stack : List Svc) (s : St) (t : KV), Reversible m L →
    s.mem = applySteps m L → Spent s → s.tx = some t →
    ∃ s', runRollback ((L.map (·.undo)).reverse ++ stack) s = runRollback stack s' ∧
      s'.mem = m ∧ s'.kv = s.kv ∧ Spent s' ∧ (∃ t', s'.tx = some t') ∧ s'.next = s.next := by
  induction L with
  | nil => intro m stack s t _ hm hs ht; exact ⟨s, by simp, by simpa [applySteps] using hm, rfl, hs, ⟨t, ht⟩, rfl⟩
  | cons st rest ih =>
    intro m stack s t hr hm hs ht
    obtain ⟨_, h2, h3, h4⟩ := hr
    obtain ⟨s1, e1, e2, e3, e4, ⟨t1, e5⟩, e6⟩ := ih (st.act.upd m) (st.undo :: stack) s t h4 (by simpa [applySteps] using hm) hs ht
    have hrun : st.undo.run s1 = (.ok (), stepOk st.undo s1) := Svc.run_ok (by rw [e2]; exact h2) e4.not_fails
    refine ⟨stepOk st.undo s1, ?_, ?_, ?_, e4.stepOk _, ?_, ?_⟩
    · simp only [List.map_cons, List.reverse_cons, List.append_assoc, List.singleton_append]
      rw [e1]; simp [runRollback, hrun]
    · simp [e2, h3]
    · rw [(stepOk_tx_some st.undo s1 t1 e5).2, e3]
    · exact ⟨_, (stepOk_tx_some st.undo s1 t1 e5).1⟩
    · simpa using e6

theorem okRun_congr (L : List Step) : ∀ (s s' : St), s.mem = s'.mem → s.kv = s'.kv → s.tx = s'.tx →
    (okRun s L).mem = (okRun s' L).mem ∧ (okRun s L).kv = (okRun s' L).kv ∧ (okRun s L).tx = (okRun s' L).tx := by
  induction L with
  | nil => intro s s' a b c; exact ⟨a, b, c⟩
  | cons st rest ih =>
    intro s s' a b c
    apply ih
    · simp [a]
    · unfold stepOk St.write; rw [a, b, c]; cases s'.tx <;> simp
    · unfold stepOk St.write; rw [a, b, c]; cases s'.tx <;> simp

/-- all-or-nothing for a program run from `s`: against the run without any store failure. -/
def AtomicRun (prog : M Unit) (s : St) : Prop :=
  ((prog s).1 = .ok () → (prog s).2.view = (prog { s with failAt := none }).2.view) ∧
  ((prog s).1 ≠ .ok () → (prog s).2.view = s.view)

theorem view_eq {s t : St} (h1 : s.mem = t.mem) (h2 : s.kv = t.kv) : s.view = t.view := by
  simp [St.view, h1, h2]

def FirstPreFails (m : Mem) (L : List Step) : Prop :=
  ∃ st rest e, L = st :: rest ∧ st.act.pre m = some e

section
variable {β} {g : Mem → Except Err β} {steps : β → List Step} {s : St} {b : β} {stk : List Svc} {s' s'' : St}
  (hf : s.failsNow = false) (hg : g s.mem = .ok b)
include hf hg

/-! The three ways `orch g steps` ends once `NewTransaction` and the guards have passed, read off
the run of the steps (a failing rollback apart: there `MustExecute` panics). -/

theorem orch_commit (hr : runSteps (steps b) [] { s with ctr := s.ctr + 1, tx := some s.kv } = (none, stk, s'))
    (hc : s'.failsNow = false) :
    orch g steps s = (.ok (), { s' with ctr := s'.ctr + 1, kv := s'.tx.getD s'.kv, tx := none }) := by
  simp only [orch, hf, hg, hr, hc]; rfl

theorem orch_commit_fails (hr : runSteps (steps b) [] { s with ctr := s.ctr + 1, tx := some s.kv } = (none, stk, s'))
    (hc : s'.failsNow = true) (hb : runRollback stk { s' with ctr := s'.ctr + 1 } = (true, s'')) :
    orch g steps s = (.error .st, { s'' with tx := none }) := by
  simp only [orch, hf, hg, hr, hc, hb]; rfl

theorem orch_step_fails {e : Err}
    (hr : runSteps (steps b) [] { s with ctr := s.ctr + 1, tx := some s.kv } = (some e, stk, s'))
    (hb : runRollback stk s' = (true, s'')) : orch g steps s = (.error e, { s'' with tx := none }) := by
  simp only [orch, hf, hg, hr, hb]; rfl
end

theorem orch_ok_inv {β} (g : Mem → Except Err β) (steps : β → List Step) (s : St) (hok : (orch g steps s).1 = .ok ()) :
    ∃ b s', g s.mem = .ok b ∧ PreOk s.mem (steps b) ∧ s' = okRun { s with ctr := s.ctr + 1, tx := some s.kv } (steps b) ∧
      orch g steps s = (.ok (), { s' with ctr := s'.ctr + 1, kv := s'.tx.getD s'.kv, tx := none }) := by
  cases hf : s.failsNow
  · cases hg : g s.mem with
    | error e => simp [orch, hf, hg] at hok
    | ok b =>
      rcases hr : runSteps (steps b) [] { s with ctr := s.ctr + 1, tx := some s.kv } with ⟨_ | e, stk, s'⟩
      · cases hc : s'.failsNow
        · obtain ⟨hp, e⟩ := runSteps_none_inv _ _ _ _ _ hr
          exact ⟨b, s', rfl, hp, e, orch_commit hf hg hr hc⟩
        · rcases hb : runRollback stk { s' with ctr := s'.ctr + 1 } with ⟨_ | _, s''⟩ <;>
            simp [orch, hf, hg, hr, hc, hb] at hok
      · rcases hb : runRollback stk s' with ⟨_ | _, s''⟩ <;> simp [orch, hf, hg, hr, hb] at hok
  · simp [orch, hf] at hok

/-- **Frame theorem.** A transactional orchestrator method (`NewTransaction`, guards, steps with
registered rollbacks, `Commit`, deferred `MustExecute`) is all-or-nothing for every failing
store-operation index, provided, the guards having passed, either the first step's validation
refuses, or every rollback exactly undoes its step (`Reversible`) and the step whose store
operation fails leaves memory alone (`keep`). -/
theorem orch_atomicRun {β} (g : Mem → Except Err β) (steps : β → List Step) (s : St)
    (H : ∀ b, g s.mem = .ok b → FirstPreFails s.mem (steps b) ∨
      (PreOk s.mem (steps b) ∧
        (∀ j, j ≤ (steps b).length → s.failAt = some (s.ctr + j + 2) → Reversible s.mem ((steps b).take j)) ∧
        ∀ j st, s.failAt = some (s.ctr + j + 2) → (steps b)[j]? = some st → st.act.keep = true)) :
    AtomicRun (orch g steps) s := by
  unfold AtomicRun
  have hnf : ({ s with failAt := none } : St).failsNow = false := by simp [St.failsNow]
  by_cases hk1 : s.failsNow = true
  · -- `NewTransaction` fails
    simp [orch, hk1, St.view]
  have hk1' : s.failsNow = false := by simpa using hk1
  cases hg : g s.mem with
  | error e => simp [orch, hk1', hg, St.view]
  | ok b =>
    rcases H b hg with ⟨st, rest, e, hL, hpre⟩ | ⟨hpok, hrevs, hkeep⟩
    · -- first step refuses: empty rollback stack
      have : st.act.run { s with ctr := s.ctr + 1, tx := some s.kv } = (.error e, { s with ctr := s.ctr + 1, tx := some s.kv }) :=
        Svc.run_pre_err (by simpa using hpre)
      simp [orch, hk1', hg, hL, runSteps, this, runRollback, St.view]
    · let s1 : St := { s with ctr := s.ctr + 1, tx := some s.kv }
      let L := steps b
      have hidx : ∀ j, s1.failAt = some (s1.ctr + j + 1) ↔ s.failAt = some (s.ctr + j + 2) := fun j => by
        show s.failAt = some (s.ctr + 1 + j + 1) ↔ _
        rw [show s.ctr + 1 + j + 1 = s.ctr + j + 2 by omega]
      by_cases hin : ∃ j, j < L.length ∧ s.failAt = some (s.ctr + j + 2)
      · -- step `j` fails: the steps before it are rolled back
        obtain ⟨j, hj, hk⟩ := hin
        obtain ⟨s', e1, e2, e3, e4, _, _, ⟨t', e7⟩⟩ := runSteps_fail L [] s1 j s.kv hpok rfl hj
          ((hidx j).2 hk) (hkeep j · hk)
        obtain ⟨s'', f1, f2, f3, _⟩ := runRollback_restores (L.take j) s.mem [] s' t' (hrevs j (Nat.le_of_lt hj) hk) e2 e4 e7
        rw [orch_step_fails hk1' hg e1 f1]
        exact ⟨by simp, fun _ => view_eq f2 (f3.trans e3)⟩
      · have hrun := runSteps_ok L [] s1 hpok fun j hj h => hin ⟨j, hj, (hidx j).1 h⟩
        obtain ⟨hkv, t', htx'⟩ := okRun_kv_tx s1 L s.kv rfl
        by_cases hcm : (okRun s1 L).failsNow = true
        · -- `Commit` fails: all steps are rolled back
          have hsp : Spent ({ okRun s1 L with ctr := (okRun s1 L).ctr + 1 } : St) := Spent.of_fails hcm rfl rfl
          have hkc : s.failAt = some (s.ctr + L.length + 2) := by
            have := (failsNow_iff _).1 hcm
            rwa [okRun_failAt, okRun_ctr, hidx] at this
          have hrev : Reversible s.mem L := by
            have := hrevs L.length (Nat.le_refl _) hkc
            rwa [show List.take L.length (steps b) = L from List.take_length] at this
          obtain ⟨s'', f1, f2, f3, _⟩ := runRollback_restores L s.mem [] _ t' hrev (by simpa using okRun_mem s1 L) hsp htx'
          rw [orch_commit_fails hk1' hg hrun hcm f1]
          exact ⟨by simp, fun _ => view_eq f2 (f3.trans hkv)⟩
        · -- no failure: the same steps run from the same memory and store as without `failAt`
          let s0 : St := { s with failAt := none }
          let s01 : St := { s0 with ctr := s0.ctr + 1, tx := some s0.kv }
          have hrun0 := runSteps_ok L [] s01 hpok (by intro j _; simp [s01, s0])
          have hcm0 : (okRun s01 L).failsNow = false := by simp [St.failsNow, okRun_failAt, s01, s0]
          obtain ⟨c1, c2, c3⟩ := okRun_congr L s1 s01 rfl rfl rfl
          rw [orch_commit hk1' hg hrun (by simpa using hcm), orch_commit (s := s0) hnf hg hrun0 hcm0]
          refine ⟨fun _ => view_eq c1 ?_, by simp⟩
          show (okRun s1 L).tx.getD (okRun s1 L).kv = (okRun s01 L).tx.getD (okRun s01 L).kv
          rw [c2, c3]

/-- the frame theorem for a call that starts with fresh counters (`exec`). -/
theorem orch_atomic {β} (g : Mem → Except Err β) (steps : β → List Step) (s : St)
    (htx : s.tx = none) (hc : s.ctr = 0)
    (H : ∀ b, g s.mem = .ok b → FirstPreFails s.mem (steps b) ∨
      (PreOk s.mem (steps b) ∧
        (∀ j, j ≤ (steps b).length → s.failAt = some (j + 2) → Reversible s.mem ((steps b).take j)) ∧
        ∀ j st, s.failAt = some (j + 2) → (steps b)[j]? = some st → st.act.keep = true)) :
    AtomicRun (orch g steps) s :=
  orch_atomicRun g steps s (by rw [hc]; simpa only [Nat.zero_add] using H)

end Conduit.Ctl
