import ConduitModel.Proofs.MonSRows
import ConduitModel.Proofs.WorkerConfirm

/-!
# Effect of `DestinationTask.Do` (pure core `destDoP`) on a batch that may carry split records

From `destDoP_ok` (Proofs/BatchDest.lean): a nack spreads over the unfiltered pieces of a split
record, so a rejected record is flagged nack, any other status is unchanged or flagged nack, filtered
records are untouched (`Weak`).
-/
namespace Conduit.Funnel

/-- `DestinationTask.Do` keeps "a nack / retry flag implies tainted": without a rejected record the
batch is unchanged, with one it is tainted -/
theorem destDoP_taintC {h : Heap} {b b' : Batch} (hwf : b.WF h) {werr : Option Err} {resps : List AckResp}
    (hr : destDoP b werr resps = .ok b') (htc : TaintC b) : TaintC b' := by
  obtain ⟨_, _, _, t, hno⟩ := destDoP_ok hwf hr
  cases ha : (ackScan (b.active.map (·.pos)) b.nAct 0 resps).1.flatten.any (·.2.isSome) with
  | false => rw [hno ha]; exact htc
  | true => rw [ha, Bool.or_true] at t; exact fun _ _ _ => t

structure DestEffS (h : Heap) (b : Batch) (werr : Option Err) (resps : List AckResp) (b' : Batch)
    (all : List (PosV × Option Err)) : Prop where
  werr : werr = none
  len : all.length = b.nAct
  loop : Mon.confirmedLoop (b.active.map (·.pos)) (b.active.map (·.pos)).length 0 resps [] = all.map (·.2.isNone)
  recs : b'.recs = b.recs
  pos : b'.pos = b.pos
  runs : b'.runs = b.runs
  split : b'.split = b.split
  stlen : b'.st.length = b.st.length
  wf : b'.WF h
  nack : ∀ (k p : Nat) (a : PosV × Option Err), (actList b.st)[k]? = some p → all[k]? = some a → a.2.isSome = true →
    ∃ st', b'.st[p]? = some st' ∧ st'.flag = .nack
  old : ∀ (q : Nat) (st st' : Status), b.st[q]? = some st → b'.st[q]? = some st' → st' = st ∨ st'.flag = .nack
  filt : ∀ (q : Nat) (st : Status), b.st[q]? = some st → st.flag = .filter → b'.st[q]? = some st
  taint : TaintC b → TaintC b'

theorem destDoP_effS {h : Heap} {b : Batch} (hwf : b.WF h) (werr : Option Err)
    (resps : List AckResp) {b' : Batch} (hr : destDoP b werr resps = .ok b') :
    ∃ all : List (PosV × Option Err), DestEffS h b werr resps b' all := by
  have hact : (b.active.map (·.pos)).length = b.nAct := by
    rw [List.length_map]; exact active_length hwf.1.st_len hwf.2
  obtain ⟨hw, hlen, p, _, _⟩ := destDoP_ok hwf hr
  have hloop : Mon.confirmedLoop (b.active.map (·.pos)) (b.active.map (·.pos)).length 0 resps [] =
      (ackScan (b.active.map (·.pos)) b.nAct 0 resps).1.flatten.map (·.2.isNone) := by
    rw [confirmedLoop_eq_scan, hact]; rfl
  generalize (ackScan (b.active.map (·.pos)) b.nAct 0 resps).1.flatten = all at hlen p hloop
  have mark : MarkPost h b b' (TA (actList b.st) 0 all all.length) := hlen.symm ▸ p
  have W := mark.weak
  refine ⟨all, hw, hlen, hloop, mark.recs, mark.pos, mark.runs, mark.split, ?_, mark.wf, ?_, ?_, ?_,
    destDoP_taintC hwf hr⟩
  · rw [mark.wf.1.st_len, hwf.1.st_len, mark.recs]
  · intro k p a hk ha hsome
    obtain ⟨ap, ae⟩ := a
    have hkl : k < all.length := (List.getElem?_eq_some_iff.mp ha).1
    cases ae with
    | none => cases hsome
    | some e => exact W.1 p e ⟨k, ap, hkl, by rw [Nat.zero_add]; exact hk, ha⟩
  · intro q st st' hst hst'
    by_cases he : b'.st[q]? = b.st[q]?
    · left; rw [hst, hst'] at he; exact Option.some.inj he
    · right
      obtain ⟨s, hs, hf⟩ := W.2.1 q he
      rw [hst'] at hs; cases hs; exact hf
  · exact W.2.2

end Conduit.Funnel
