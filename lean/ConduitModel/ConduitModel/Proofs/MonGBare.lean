import ConduitModel.Proofs.MonGDefs

/-!
# A call of a BARE handler (`Worker`, a fan-out tally) under its contract

With split runs the wrapper `runAckNacker(X)` calls the bare handler `X` itself (for a group of
records without run, and for the original record of a completed run), so the contracts `workerMC0` /
`multiMC0` (Proofs/MonFWorker.lean, Proofs/MonFMulti.lean) of `.worker` / `.multi id a` are what the
vote loop works with. Such a call leaves the run ledger alone (`ackerCall_heapG`, for batches without runs: `NoRunG`), and an `Ack`
does not look at the task id (`ackerCall_ack_task`). `handlerCallG` is the contract's `ack` / `nack` in one
conclusion `HCallG`; `Kept`: neither `X` nor the ledger adds a fact to the monitor's view.
-/
namespace Conduit.Funnel
open Conduit.Funnel.Mon

def NoRunG (b : Batch) : Prop := ∀ rs, b.runs = some rs → ∀ x ∈ rs, x = none

theorem NoRunG.of_BOK {b : Batch} (h : BOK b) : NoRunG b := by
  intro rs hrs x hx
  rw [h.runs rs hrs] at hx
  exact (List.mem_replicate.mp hx).2

theorem NoRunG.of_none {b : Batch} (h : b.runs = none) : NoRunG b := by
  intro rs hrs; rw [h] at hrs; cases hrs

theorem NoRunG.sub {b sb : Batch} {i j : Nat} (h : NoRunG b) (hs : b.sub i j = .ok sb) : NoRunG sb := by
  have hso := sub_ok_fields hs
  intro rs hrs x hx
  rw [hso.runs] at hrs
  cases hr : b.runs with
  | none => rw [hr] at hrs; cases hrs
  | some rs0 =>
    rw [hr] at hrs
    simp only [Option.map_some, Option.some.injEq] at hrs
    rw [← hrs] at hx
    exact h rs0 hr x ((List.take_sublist j rs0).subset ((List.drop_sublist i _).subset hx))

theorem NoRunG.runAt {b : Batch} (h : NoRunG b) {k : Nat} {run : Option Nat} (hr : runAt b k = .ok run) : run = none := by
  unfold Conduit.Funnel.runAt at hr
  cases hb : b.runs with
  | none => rw [hb] at hr; cases hr; rfl
  | some rs =>
    rw [hb] at hr
    dsimp only at hr
    exact h rs hb _ (idx_mem hr)

theorem ackerCall_heapG {fuel : Nat} {a : Acker} {b : Batch} {isAck : Bool} {t : Nat} {s s' : PS} {r : Except Stop Unit}
    (hb : NoRunG b) (h : exec (ackerCall fuel a b isAck t) s = (r, s')) : s'.heap = s.heap := by
  -- the batches the handlers build themselves carry no runs
  have := ((ackers_keep (I := fun u => u.heap = s.heap) (fun _ => True) NoRunG (fun _ _ _ _ h hs => h.sub hs)
    (fun _ _ _ => ⟨.of_none rfl, .of_none rfl⟩) (fun _ => ⟨.of_none rfl, .of_none rfl⟩)
    (fun _ _ _ hB hr => nomatch hB.runAt hr) (fun _ _ _ _ h => h)
    (worker_keeps (fun _ _ h => h) (fun _ _ h => h) (fun _ _ h => h)).1
    (worker_keeps (fun _ _ h => h) (fun _ _ h => h) (fun _ _ h => h)).2 fuel).1 a b isAck t hb
    (fun _ _ => trivial) s rfl).1
  rw [h] at this
  exact this

theorem voteBody_ack_task (id : Nat) (ob : Batch) (t : Nat) : voteBody id ob true t = voteBody id ob true 0 := by
  funext i m
  unfold voteBody
  simp only [if_true]

theorem ack_task : ∀ fuel : Nat,
    (∀ (a : Acker) (b : Batch) (t : Nat), ackerCall fuel a b true t = ackerCall fuel a b true 0) ∧
    (∀ (p : Acker) (b : Batch) (t i : Nat), voteLoop fuel p b true t i = voteLoop fuel p b true 0 i) := by
  intro fuel
  induction fuel with
  | zero =>
    refine ⟨?_, ?_⟩
    · intro a b t; rw [ackerCall_zero, ackerCall_zero]
    · intro p b t i; rw [voteLoop_zero, voteLoop_zero]
  | succ fuel ih =>
    obtain ⟨ihA, ihV⟩ := ih
    refine ⟨?_, ?_⟩
    · intro a b t
      cases a with
      | worker => rw [ackerCall_worker, ackerCall_worker]; simp only [if_true]
      | run parent => rw [ackerCall_run, ackerCall_run]; exact ihV parent b t 0
      | multi id parent => rw [ackerCall_multi, ackerCall_multi, voteBody_ack_task id b.original t]
    · intro p b t i
      by_cases hi : i < b.recs.length
      · rw [voteLoop_unfold fuel p b true t i hi, voteLoop_unfold fuel p b true 0 i hi]
        have e1 : ∀ sb, ackerCall fuel p sb true t = ackerCall fuel p sb true 0 := fun sb => ihA p sb t
        have e2 : ∀ j, voteLoop fuel p b true t j = voteLoop fuel p b true 0 j := fun j => ihV p b t j
        have : ∀ j run, voteRest fuel p b true t i j run = voteRest fuel p b true 0 i j run := fun j run => by
          cases run <;> simp only [voteRest, e1, e2, Bool.not_true, Bool.false_eq_true, false_and, if_false]
        simp only [this]
      · rw [voteLoop, voteLoop, if_neg hi, if_neg hi]

/-- an `Ack` ignores the task argument: `MC.ack` is stated for task `0`, the vote loop passes its own -/
theorem ackerCall_ack_task (fuel : Nat) (a : Acker) (b : Batch) (t : Nat) :
    ackerCall fuel a b true t = ackerCall fuel a b true 0 := (ack_task fuel).1 a b t

/-- Between two states of the vote loop of `runAckNacker(X)`: the monitor's view has the same facts (the
handler `X` and the ledger add none), the tags seen only grow. -/
structure Kept (G : Ctx) (s s' : PS) : Prop where
  view : ExtT [] [] (fun _ => False) (G.view s) (G.view s')
  seen : ∀ x ∈ Seen G s, x ∈ Seen G s'

theorem Kept.trans {G : Ctx} {a b c : PS} (h1 : Kept G a b) (h2 : Kept G b c) : Kept G a c :=
  ⟨h1.view.trans h2.view, fun x hx => h2.seen x (h1.seen x hx)⟩

theorem Kept.setRun (G : Ctx) (rid : Nat) (x : SplitRun) (s : PS) : Kept G s (setRun rid x s) :=
  ⟨by rw [view_same G s _ rfl]; exact ExtT.refl _ _ _ _, fun y hy => by rw [Seen.same rfl]; exact hy⟩

theorem Kept.ext {G : Ctx} {s s' : PS} (h : Kept G s s') (R : Nat → Prop) : ExtT [] [] R (G.view s) (G.view s') :=
  h.view.mono (fun _ h => h) (fun _ h => h) (fun _ h => h.elim)

structure HCallG {G : Ctx} {X : Acker} (C0 : MC G X) (p len : Nat) (s s' : PS) (r : Except Stop Unit) : Prop
    extends Kept G s s' where
  ok : r = .ok () → C0.Inv (p + len) s'
  err : r ≠ .ok () → C0.Err s'
  heap : s'.heap = s.heap

theorem handlerCallG {G : Ctx} {X : Acker} (C0 : MC G X) {fuel : Nat} {sb : Batch} {isAck : Bool} {task p : Nat}
    {s s' : PS} {r : Except Stop Unit} (hI : C0.Inv p s) (hb : BOK sb) (hsp : sb.split = [])
    (hn : isAck = false → NackOK sb) (hal : Align G p sb) (hpos : 0 < sb.pos.length)
    (hj : isAck = true → ∀ (q : Nat) (src : Rec), q < sb.pos.length → G.all[p + q]? = some src →
      ActiveT (G.view s) C0.T C0.D (root src) ∨ FilteredT (G.view s) C0.T C0.D (root src))
    (hc : exec (ackerCall fuel X sb isAck task) s = (r, s')) : HCallG C0 p sb.pos.length s s' r := by
  have hheap := ackerCall_heapG (NoRunG.of_BOK hb) hc
  have hseen := Seen.mono (G := G) (log_mono_acker hc)
  cases isAck with
  | true =>
    rw [ackerCall_ack_task] at hc
    have co := C0.ack fuel sb p s s' r hI hb hsp hal (hj rfl) hc
    exact ⟨⟨co.view, hseen⟩, co.ok, co.err, hheap⟩
  | false =>
    have co := (C0.nack fuel sb task p s s' r (C0.inv_w hI) hb hsp (hn rfl) hal hpos hc).1
    exact ⟨⟨co.view, hseen⟩, co.ok, co.err, hheap⟩

end Conduit.Funnel
