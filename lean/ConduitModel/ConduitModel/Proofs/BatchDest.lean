import ConduitModel.Proofs.BatchCall

/-!
`DestinationTask.Do`. The ack loop does two things that do not depend on each other: it scans the
destination's responses (`ackScan`: which ack lists are consumed, and the error the scan ends with —
a function of the written positions and the reply alone), and it replays one `Nack` call per ack
that carries an error (`ackCalls`, `destAckLoop_eq`). Every fact about the marking is a fact about
one `Nack` call folded over the call list (`calls_ok`). For a well-formed batch the replay never
fails (`destDoP_scan`): `DestinationTask.Do` never panics, returns `.ok` only with every written
record covered by a validated ack, and the nacks land on the records whose ack carried the error
(`destDoP_ok`).
-/
namespace Conduit.Funnel

theorem destMark_eq_model (b : Batch) (from_ : Nat) (acks : List (PosV × Option Err)) :
    destMark b from_ acks = destMarkP b from_ acks := by
  unfold destMark destMarkP
  rw [← forIn_yield_foldlM, bind_pure]
  congr 1; funext i r
  unfold destMarkStep
  rcases acks[i]? with _ | ⟨_, _ | e⟩ <;> simp only [pure_bind]

/-- `T q e`: "physical record `q` is to be nacked with error `e`". -/
def Marked (st0 st' : List Status) (T : Nat → Err → Prop) : Prop :=
  ∀ q : Nat, (∀ e : Err, T q e → st'[q]? = some { flag := .nack, err := some e }) ∧
    ((¬ ∃ e : Err, T q e) → st'[q]? = st0[q]?)

/-- what is left of `Marked` with split runs in the batch, where a nack spreads over the unfiltered
members of the run -/
def Weak (st0 st' : List Status) (T : Nat → Err → Prop) : Prop :=
  (∀ (q : Nat) (e : Err), T q e → ∃ s : Status, st'[q]? = some s ∧ s.flag = .nack) ∧
  (∀ q : Nat, st'[q]? ≠ st0[q]? → ∃ s : Status, st'[q]? = some s ∧ s.flag = .nack) ∧
  (∀ (q : Nat) (s : Status), st0[q]? = some s → s.flag = .filter → st'[q]? = some s)

theorem Marked.comp {st0 st1 st2 : List Status} {T1 T2 T : Nat → Err → Prop}
    (h1 : Marked st0 st1 T1) (h2 : Marked st1 st2 T2) (hd : ∀ q e1 e2, T1 q e1 → T2 q e2 → False)
    (hT : ∀ q e, T q e ↔ (T1 q e ∨ T2 q e)) : Marked st0 st2 T := by
  intro q
  constructor
  · intro e he
    rcases (hT q e).mp he with h | h
    · rw [(h2 q).2 (fun ⟨e2, h'⟩ => hd q e e2 h h')]
      exact (h1 q).1 e h
    · exact (h2 q).1 e h
  · intro hn
    rw [(h2 q).2 (fun ⟨e, h⟩ => hn ⟨e, (hT q e).mpr (Or.inr h)⟩)]
    exact (h1 q).2 (fun ⟨e, h⟩ => hn ⟨e, (hT q e).mpr (Or.inl h)⟩)

theorem Weak.comp {st0 st1 st2 : List Status} {T1 T2 T : Nat → Err → Prop}
    (h1 : Weak st0 st1 T1) (h2 : Weak st1 st2 T2) (hT : ∀ q e, T q e → (T1 q e ∨ T2 q e)) : Weak st0 st2 T := by
  refine ⟨?_, ?_, ?_⟩
  · intro q e he
    rcases hT q e he with h | h
    · obtain ⟨s, hs, hf⟩ := h1.1 q e h
      by_cases hc : st2[q]? = st1[q]?
      · exact ⟨s, hc.trans hs, hf⟩
      · exact h2.2.1 q hc
    · exact h2.1 q e h
  · intro q hne
    by_cases hc : st2[q]? = st1[q]?
    · rw [hc] at hne ⊢
      exact h1.2.1 q hne
    · exact h2.2.1 q hc
  · intro q s hs hf
    exact h2.2.2 q s (h1.2.2 q s hs hf) hf

structure MarkPost (h : Heap) (b b' : Batch) (T : Nat → Err → Prop) : Prop where
  wf : b'.WF h
  act : actList b'.st = actList b.st
  recs : b'.recs = b.recs
  pos : b'.pos = b.pos
  runs : b'.runs = b.runs
  split : b'.split = b.split
  fc : b'.filterCount = b.filterCount
  weak : Weak b.st b'.st T
  marked : b.split = [] → Marked b.st b'.st T

theorem MarkPost.refl {h : Heap} {b : Batch} (hwf : b.WF h) {T : Nat → Err → Prop} (hT : ∀ q e, ¬ T q e) :
    MarkPost h b b T :=
  ⟨hwf, rfl, rfl, rfl, rfl, rfl, rfl,
    ⟨fun q e ht => absurd ht (hT q e), fun _ hne => absurd rfl hne, fun _ _ hs _ => hs⟩,
    fun _ q => ⟨fun e ht => absurd ht (hT q e), fun _ => rfl⟩⟩

theorem MarkPost.congr {h : Heap} {b b' : Batch} {T T' : Nat → Err → Prop} (p : MarkPost h b b' T)
    (hT : ∀ q e, T' q e ↔ T q e) : MarkPost h b b' T' := by
  rw [show T' = T from funext fun q => funext fun e => propext (hT q e)]; exact p

theorem MarkPost.trans {h : Heap} {b b1 b2 : Batch} {T1 T2 T : Nat → Err → Prop} (p1 : MarkPost h b b1 T1)
    (p2 : MarkPost h b1 b2 T2) (hd : ∀ q e1 e2, T1 q e1 → T2 q e2 → False)
    (hT : ∀ q e, T q e ↔ (T1 q e ∨ T2 q e)) : MarkPost h b b2 T :=
  ⟨p2.wf, p2.act.trans p1.act, p2.recs.trans p1.recs, p2.pos.trans p1.pos, p2.runs.trans p1.runs,
    p2.split.trans p1.split, p2.fc.trans p1.fc, Weak.comp p1.weak p2.weak (fun q e => (hT q e).mp),
    fun hsp => Marked.comp (p1.marked hsp) (p2.marked (p1.split.trans hsp)) hd hT⟩

theorem nack1_ok {h : Heap} {b : Batch} (hwf : b.WF h) {i : Nat} (hi : i < b.nAct) (e : Err) :
    ∃ b' : Batch, b.nack i [some e] = .ok b' ∧
      MarkPost h b b' (fun q e' => (actList b.st)[i]? = some q ∧ e' = e) ∧ b'.tainted = true := by
  have hi' : [some e] = [] ∨ i + [some e].length ≤ b.nAct := .inr hi
  obtain ⟨st', g1, hl, P⟩ := nack_ok_ext hwf hi'
  obtain ⟨hact, M⟩ := P.inPlace hwf hl
  refine ⟨_, g1, ⟨M.wf, hact, rfl, rfl, rfl, rfl, rfl, ⟨?_, fun q hne => ?_, fun q s => P.filtered⟩,
    fun hsp q => ?_⟩, rfl⟩
  · rintro q e' ⟨hq, rfl⟩
    obtain ⟨p, k', hp, _, hs⟩ := P.hit 0 Nat.zero_lt_one
    cases hq.symm.trans hp
    exact ⟨_, hs, rfl⟩
  · rcases P.changed q with h1 | ⟨_, _, k, _, h2, _⟩
    · exact absurd h1 hne
    · exact ⟨_, h2, rfl⟩
  · obtain ⟨m1, m2⟩ := P.plain hsp q
    refine ⟨fun e' ⟨hq, he⟩ => he ▸ m1 0 Nat.zero_lt_one hq, fun hn => m2 fun ⟨k, hk, hq⟩ => ?_⟩
    cases Nat.lt_one_iff.mp hk
    exact hn ⟨e, hq, rfl⟩

/-- target relation of the acks `0 … n-1` of one response, written at active indices `from_ + i` -/
def TA (A : List Nat) (from_ : Nat) (acks : List (PosV × Option Err)) (n : Nat) (q : Nat) (e : Err) : Prop :=
  ∃ (i : Nat) (ap : PosV), i < n ∧ A[from_ + i]? = some q ∧ acks[i]? = some (ap, some e)

theorem validateAcks_spec (acks : List (PosV × Option Err)) (ps : List PosV) (hv : validateAcks acks ps = true) :
    acks.length ≤ ps.length ∧ ∀ i : Nat, i < acks.length → ∃ a p, acks[i]? = some a ∧ ps[i]? = some p ∧ keyOf a.1 = keyOf p := by
  simp only [validateAcks, decide_eq_true_eq, List.all_eq_true, beq_iff_eq] at hv
  refine ⟨hv.1, fun i hi => ?_⟩
  have hi' : i < ps.length := Nat.lt_of_lt_of_le hi hv.1
  exact ⟨acks[i], ps[i], List.getElem?_eq_getElem hi, List.getElem?_eq_getElem hi',
    hv.2 (acks[i], ps[i]) (List.mem_iff_getElem.mpr ⟨i, by rw [List.length_zip]; exact Nat.lt_min.mpr ⟨hi, hi'⟩, List.getElem_zip⟩)⟩

def nack1 (b : Batch) (ke : Nat × Err) : R Batch := b.nack ke.1 [some ke.2]

def nackCalls (c : Nat) (acks : List (PosV × Option Err)) : List (Nat × Err) :=
  (List.range acks.length).reverse.filterMap fun i =>
    match acks[i]? with
    | some (_, some e) => some (c + i, e)
    | _ => none

theorem destMark_eq_calls (b : Batch) (c : Nat) (acks : List (PosV × Option Err)) :
    destMark b c acks = (nackCalls c acks).foldlM nack1 b := by
  rw [destMark_eq_model, destMarkP, nackCalls, ← foldlM_filterMap]
  congr 1; funext b i
  unfold destMarkStep
  rcases acks[i]? with _ | ⟨_, _ | e⟩ <;> rfl

/-- the ack loop of `DestinationTask.Do` without the batch: the ack lists it consumes from
`ackCount = c` on and the error it ends with, if any. -/
def ackScan (positions : List PosV) : Nat → Nat → List AckResp → List (List (PosV × Option Err)) × Option Err
  | 0, _, _ => ([], none)
  | _+1, _, [] => ([], some scriptExhausted)
  | _+1, _, .err e :: _ => ([], some (wrap e))
  | fuel+1, c, .acks acks :: rest =>
    if !validateAcks acks (positions.drop c) then ([], some plainErr)
    else if c + acks.length ≥ positions.length then ([acks], none)
    else (acks :: (ackScan positions fuel (c + acks.length) rest).1, (ackScan positions fuel (c + acks.length) rest).2)

def ackCalls : Nat → List (List (PosV × Option Err)) → List (Nat × Err)
  | _, [] => []
  | c, a :: as => nackCalls c a ++ ackCalls (c + a.length) as

theorem destAckLoop_eq (positions : List PosV) (fuel : Nat) (b : Batch) (c : Nat) (resps : List AckResp) :
    destAckLoop positions fuel b c resps = (do
      let b' ← (ackCalls c (ackScan positions fuel c resps).1).foldlM nack1 b
      match (ackScan positions fuel c resps).2 with
      | none => pure (b', c + (ackScan positions fuel c resps).1.flatten.length)
      | some e => throw (.err e)) := by
  induction fuel generalizing b c resps with
  | zero => simp [destAckLoop, ackScan, ackCalls]
  | succ fuel ih =>
    unfold destAckLoop ackScan
    rcases resps with _ | ⟨_ | acks, rest⟩
    · rfl
    · rfl
    · dsimp only
      by_cases hv : validateAcks acks (positions.drop c) = true
      · simp only [hv, Bool.not_true, Bool.false_eq_true, if_false, destMark_eq_calls]
        by_cases hge : c + acks.length ≥ positions.length
        · simp only [hge, if_true, ackCalls, List.append_nil, List.flatten_cons, List.flatten_nil]
        · simp only [hge, if_false, ackCalls, List.foldlM_append, bind_assoc, ih, List.flatten_cons,
            List.length_append, Nat.add_assoc]
      · simp only [hv, Bool.not_false, if_true, ackCalls]; rfl

theorem mem_nackCalls {c : Nat} {acks : List (PosV × Option Err)} {k : Nat} {e : Err} :
    (k, e) ∈ nackCalls c acks ↔ ∃ (i : Nat) (ap : PosV), k = c + i ∧ acks[i]? = some (ap, some e) := by
  simp only [nackCalls, List.mem_filterMap, List.mem_reverse, List.mem_range]
  constructor
  · rintro ⟨i, _, h⟩
    rcases ha : acks[i]? with _ | ⟨ap, _ | e'⟩ <;> rw [ha] at h <;> cases h
    exact ⟨i, ap, rfl, ha⟩
  · rintro ⟨i, ap, rfl, ha⟩
    exact ⟨i, (List.getElem?_eq_some_iff.mp ha).1, by rw [ha]⟩

theorem nackCalls_pairwise (c : Nat) (acks : List (PosV × Option Err)) :
    (nackCalls c acks).Pairwise fun x y => y.1 < x.1 := by
  refine List.Pairwise.filterMap _ ?_ (List.pairwise_reverse.mpr List.pairwise_lt_range)
  intro i j hji x hx y hy
  rcases hi : acks[i]? with _ | ⟨_, _ | _⟩ <;> rw [hi] at hx <;> cases hx
  rcases hj : acks[j]? with _ | ⟨_, _ | _⟩ <;> rw [hj] at hy <;> cases hy
  exact Nat.add_lt_add_left hji c

theorem mem_ackCalls {k : Nat} {e : Err} : ∀ {c : Nat} {as : List (List (PosV × Option Err))},
    (k, e) ∈ ackCalls c as ↔ ∃ (i : Nat) (ap : PosV), k = c + i ∧ as.flatten[i]? = some (ap, some e)
  | _, [] => by simp [ackCalls]
  | c, a :: as => by
    rw [ackCalls, List.mem_append, mem_nackCalls, mem_ackCalls (c := c + a.length) (as := as), List.flatten_cons]
    constructor
    · rintro (⟨i, ap, rfl, h⟩ | ⟨i, ap, rfl, h⟩)
      · exact ⟨i, ap, rfl, by rw [List.getElem?_append_left (List.getElem?_eq_some_iff.mp h).1]; exact h⟩
      · exact ⟨a.length + i, ap, (Nat.add_assoc ..), by
          rw [List.getElem?_append_right (Nat.le_add_right ..), Nat.add_sub_cancel_left]; exact h⟩
    · rintro ⟨i, ap, rfl, h⟩
      by_cases hi : i < a.length
      · exact .inl ⟨i, ap, rfl, by rwa [List.getElem?_append_left hi] at h⟩
      · obtain ⟨j, rfl⟩ := Nat.exists_eq_add_of_le (Nat.le_of_not_lt hi)
        rw [List.getElem?_append_right (Nat.le_add_right ..), Nat.add_sub_cancel_left] at h
        exact .inr ⟨j, ap, (Nat.add_assoc ..).symm, h⟩

theorem ackCalls_nodup : ∀ (c : Nat) (as : List (List (PosV × Option Err))), ((ackCalls c as).map (·.1)).Nodup
  | _, [] => List.nodup_nil
  | c, a :: as => by
    rw [ackCalls, List.map_append, List.nodup_append]
    refine ⟨?_, ackCalls_nodup _ as, ?_⟩
    · exact ((nackCalls_pairwise c a).map (S := fun x y => y < x) (fun x : Nat × Err => x.1) fun _ _ h => h).imp
        (fun h => Nat.ne_of_gt h)
    · rintro _ h1 _ h2 rfl
      obtain ⟨⟨k, e⟩, g1, rfl⟩ := List.mem_map.mp h1
      obtain ⟨⟨k', e'⟩, g2, hk⟩ := List.mem_map.mp h2
      obtain ⟨i, _, rfl, hi⟩ := mem_nackCalls.mp g1
      obtain ⟨j, _, rfl, _⟩ := mem_ackCalls.mp g2
      have := (List.getElem?_eq_some_iff.mp hi).1
      simp only at hk
      omega

theorem ackScan_spec (positions : List PosV) : ∀ (fuel c : Nat) (resps : List AckResp), c ≤ positions.length →
    resps.take (ackScan positions fuel c resps).1.length = (ackScan positions fuel c resps).1.map .acks ∧
    c + (ackScan positions fuel c resps).1.flatten.length ≤ positions.length ∧
    ∀ i : Nat, i < (ackScan positions fuel c resps).1.flatten.length →
      ∃ a p, (ackScan positions fuel c resps).1.flatten[i]? = some a ∧ positions[c + i]? = some p ∧ keyOf a.1 = keyOf p := by
  intro fuel
  induction fuel with
  | zero => intro c resps hc; exact ⟨rfl, hc, nofun⟩
  | succ fuel ih =>
    intro c resps hc
    unfold ackScan
    rcases resps with _ | ⟨_ | acks, rest⟩
    · exact ⟨rfl, hc, nofun⟩
    · exact ⟨rfl, hc, nofun⟩
    · dsimp only
      by_cases hv : validateAcks acks (positions.drop c) = true
      · simp only [hv, Bool.not_true, Bool.false_eq_true, if_false]
        obtain ⟨hv1, hv2⟩ := validateAcks_spec _ _ hv
        have hlen : c + acks.length ≤ positions.length := Nat.add_le_of_le_sub' hc (List.length_drop ▸ hv1)
        have hvalid : ∀ i : Nat, i < acks.length →
            ∃ a p, acks[i]? = some a ∧ positions[c + i]? = some p ∧ keyOf a.1 = keyOf p :=
          fun i hi => let ⟨a, p, h1, h2, h3⟩ := hv2 i hi; ⟨a, p, h1, List.getElem?_drop ▸ h2, h3⟩
        by_cases hge : c + acks.length ≥ positions.length
        · simp only [hge, if_true, List.length_cons, List.length_nil, List.map_cons, List.map_nil,
            List.flatten_cons, List.flatten_nil, List.append_nil]
          exact ⟨by simp, hlen, hvalid⟩
        · simp only [hge, if_false, List.length_cons, List.map_cons, List.flatten_cons, List.length_append,
            List.take_succ_cons]
          obtain ⟨h1, h2, h3⟩ := ih (c + acks.length) rest hlen
          refine ⟨by rw [h1], by omega, fun i hi => ?_⟩
          by_cases hlt : i < acks.length
          · rw [List.getElem?_append_left hlt]; exact hvalid i hlt
          · obtain ⟨j, rfl⟩ := Nat.exists_eq_add_of_le (Nat.le_of_not_lt hlt)
            rw [List.getElem?_append_right (Nat.le_add_right ..), Nat.add_sub_cancel_left, ← Nat.add_assoc]
            exact h3 j (by omega)
      · simp only [hv, Bool.not_false, if_true]
        exact ⟨rfl, hc, nofun⟩

theorem calls_ok {h : Heap} (l : List (Nat × Err)) {b : Batch} (hwf : b.WF h) (hnd : (l.map (·.1)).Nodup)
    (hlt : ∀ ke ∈ l, ke.1 < b.nAct) :
    ∃ b' : Batch, l.foldlM nack1 b = .ok b' ∧
      MarkPost h b b' (fun q e => ∃ k : Nat, (k, e) ∈ l ∧ (actList b.st)[k]? = some q) ∧
      b'.tainted = (b.tainted || !l.isEmpty) := by
  induction l generalizing b with
  | nil => exact ⟨b, rfl, .refl hwf fun _ _ ⟨_, hm, _⟩ => (nomatch hm), (Bool.or_false _).symm⟩
  | cons ke l ih =>
    obtain ⟨k, e⟩ := ke
    obtain ⟨hk, hnd'⟩ := List.nodup_cons.mp hnd
    obtain ⟨b1, e1, p1, t1⟩ := nack1_ok hwf (hlt _ List.mem_cons_self) e
    obtain ⟨b2, e2, p2, t2⟩ := ih p1.wf hnd' fun ke hm => by
      show ke.1 < (actList b1.st).length
      rw [p1.act]; exact hlt ke (List.mem_cons_of_mem _ hm)
    rw [p1.act] at p2
    refine ⟨b2, ?_, p1.trans p2 ?_ ?_, by rw [t2, t1]; simp⟩
    · rw [List.foldlM_cons]; show (b.nack k [some e] >>= _) = _; rw [e1]; exact e2
    · rintro q _ _ ⟨hq, _⟩ ⟨k', hm, hq'⟩
      exact hk (List.mem_map.mpr ⟨_, hm, actList_inj hq' hq⟩)
    · intro q e'
      constructor
      · rintro ⟨k', hm, hq⟩
        rcases List.mem_cons.mp hm with he | hm
        · cases he; exact .inl ⟨hq, rfl⟩
        · exact .inr ⟨k', hm, hq⟩
      · rintro (⟨hq, rfl⟩ | ⟨k', hm, hq⟩)
        · exact ⟨k, List.mem_cons_self, hq⟩
        · exact ⟨k', List.mem_cons_of_mem _ hm, hq⟩

def ackList : AckResp → List (PosV × Option Err)
  | .acks l => l
  | .err _ => []

/-- what an `.ok` of the ack loop means -/
structure AckPost (h : Heap) (positions : List PosV) (resps : List AckResp) (b : Batch) (ackCount : Nat)
    (b' : Batch) (n : Nat) (all : List (PosV × Option Err)) : Prop where
  count : n = ackCount + all.length
  le : n ≤ positions.length
  consumed : ∃ k : Nat, (∀ r ∈ resps.take k, ∃ l, r = AckResp.acks l) ∧ all = (resps.take k).flatMap ackList
  valid : ∀ i : Nat, i < all.length → ∃ a p, all[i]? = some a ∧ positions[ackCount + i]? = some p ∧ keyOf a.1 = keyOf p
  mark : MarkPost h b b' (TA (actList b.st) ackCount all all.length)

theorem ackScan_consumed (positions : List PosV) (fuel c : Nat) (resps : List AckResp) (hc : c ≤ positions.length) :
    ∃ k : Nat, (∀ r ∈ resps.take k, ∃ l, r = AckResp.acks l) ∧
      (ackScan positions fuel c resps).1.flatten = (resps.take k).flatMap ackList := by
  refine ⟨(ackScan positions fuel c resps).1.length, ?_, ?_⟩ <;> rw [(ackScan_spec positions fuel c resps hc).1]
  · intro r hr
    obtain ⟨l, _, rfl⟩ := List.mem_map.mp hr
    exact ⟨l, rfl⟩
  · rw [List.flatMap_map]; exact List.flatMap_id.symm

theorem ackCalls_isEmpty (c : Nat) (as : List (List (PosV × Option Err))) :
    (ackCalls c as).isEmpty = !as.flatten.any (·.2.isSome) := by
  rw [Bool.eq_iff_iff, List.isEmpty_iff, List.eq_nil_iff_forall_not_mem, Bool.not_eq_true', List.any_eq_false]
  constructor
  · rintro hn ⟨ap, _ | e⟩ hm
    · simp
    · obtain ⟨i, hi⟩ := List.mem_iff_getElem?.mp hm
      exact absurd (mem_ackCalls.mpr ⟨i, ap, rfl, hi⟩) (hn (c + i, e))
  · rintro hn ⟨k, e⟩ hm
    obtain ⟨i, ap, rfl, hi⟩ := mem_ackCalls.mp hm
    exact hn _ (List.mem_of_getElem? hi) rfl

theorem ackCalls_ok {h : Heap} {b : Batch} (hwf : b.WF h) (c : Nat) (as : List (List (PosV × Option Err)))
    (hlt : c + as.flatten.length ≤ b.nAct) :
    ∃ b' : Batch, (ackCalls c as).foldlM nack1 b = .ok b' ∧
      MarkPost h b b' (TA (actList b.st) c as.flatten as.flatten.length) ∧
      b'.tainted = (b.tainted || as.flatten.any (·.2.isSome)) := by
  obtain ⟨b', e1, p, t⟩ := calls_ok (ackCalls c as) hwf (ackCalls_nodup _ _) (by
    rintro ⟨k, e⟩ hm
    obtain ⟨i, _, rfl, hi⟩ := mem_ackCalls.mp hm
    have := (List.getElem?_eq_some_iff.mp hi).1
    omega)
  refine ⟨b', e1, p.congr fun q e => ⟨?_, ?_⟩, by rw [t, ackCalls_isEmpty, Bool.not_not]⟩
  · rintro ⟨i, ap, _, hq, hi⟩
    exact ⟨_, mem_ackCalls.mpr ⟨i, ap, rfl, hi⟩, hq⟩
  · rintro ⟨_, hm, hq⟩
    obtain ⟨i, ap, rfl, hi⟩ := mem_ackCalls.mp hm
    exact ⟨i, ap, (List.getElem?_eq_some_iff.mp hi).1, hq, hi⟩

theorem destAckLoop_total {h : Heap} (positions : List PosV) (fuel : Nat) {b : Batch} (hwf : b.WF h)
    (hpos : positions.length ≤ b.nAct) (ackCount : Nat) (hac : ackCount ≤ positions.length) (resps : List AckResp) :
    (∃ (b' : Batch) (n : Nat) (all : List (PosV × Option Err)),
        destAckLoop positions fuel b ackCount resps = .ok (b', n) ∧ AckPost h positions resps b ackCount b' n all) ∨
    (∃ e : Err, destAckLoop positions fuel b ackCount resps = .error (.err e)) := by
  obtain ⟨_, h2, h3⟩ := ackScan_spec positions fuel ackCount resps hac
  obtain ⟨b', e1, p, _⟩ := ackCalls_ok hwf ackCount (ackScan positions fuel ackCount resps).1 (Nat.le_trans h2 hpos)
  rw [destAckLoop_eq, e1]
  cases (ackScan positions fuel ackCount resps).2 with
  | some e => exact .inr ⟨e, rfl⟩
  | none => exact .inl ⟨b', _, _, rfl, ⟨rfl, h2, ackScan_consumed positions fuel ackCount resps hac, h3, p⟩⟩

theorem destAckLoop_ok {positions : List PosV} {fuel : Nat} {b : Batch} {c : Nat} {resps : List AckResp}
    {b' : Batch} {n : Nat} (hr : destAckLoop positions fuel b c resps = .ok (b', n)) :
    (ackScan positions fuel c resps).2 = none ∧ n = c + (ackScan positions fuel c resps).1.flatten.length ∧
    (ackCalls c (ackScan positions fuel c resps).1).foldlM nack1 b = .ok b' := by
  rw [destAckLoop_eq] at hr
  obtain ⟨b1, h1, hr⟩ := bind_eq_ok hr
  cases ho : (ackScan positions fuel c resps).2 with
  | some e => rw [ho] at hr; cases hr
  | none => rw [ho] at hr; cases hr; exact ⟨rfl, rfl, h1⟩

theorem destDoP_replay {b : Batch} {werr : Option Err} {resps : List AckResp} {b' : Batch}
    (hr : destDoP b werr resps = .ok b') :
    werr = none ∧
    (b.active.map (·.pos)).length ≤
      (ackScan (b.active.map (·.pos)) (b.active.map (·.pos)).length 0 resps).1.flatten.length ∧
    (ackCalls 0 (ackScan (b.active.map (·.pos)) (b.active.map (·.pos)).length 0 resps).1).foldlM nack1 b = .ok b' := by
  unfold destDoP at hr
  cases werr with
  | some e => cases hr
  | none =>
    obtain ⟨⟨b1, n⟩, hl, hr⟩ := bind_eq_ok hr
    obtain ⟨_, rfl, hf⟩ := destAckLoop_ok hl
    dsimp only at hr
    split at hr
    · cases hr
    · cases hr; exact ⟨rfl, by omega, hf⟩

theorem ackScan_err (positions : List PosV) : ∀ (fuel c : Nat) (resps : List AckResp) (e : Err),
    (ackScan positions fuel c resps).2 = some e →
    c + (ackScan positions fuel c resps).1.flatten.length < positions.length ∨ (ackScan positions fuel c resps).1.flatten = [] := by
  intro fuel
  induction fuel with
  | zero => intro c resps e h; exact .inr rfl
  | succ fuel ih =>
    intro c resps e h
    unfold ackScan at h ⊢
    rcases resps with _ | ⟨_ | acks, rest⟩
    · exact .inr rfl
    · exact .inr rfl
    · dsimp only at h ⊢
      by_cases hv : (!validateAcks acks (positions.drop c)) = true
      · rw [if_pos hv]; exact .inr rfl
      · rw [if_neg hv] at h ⊢
        by_cases hge : c + acks.length ≥ positions.length
        · rw [if_pos hge] at h; cases h
        · rw [if_neg hge] at h ⊢
          dsimp only at h ⊢
          rw [List.flatten_cons, List.length_append, ← Nat.add_assoc]
          rcases ih _ rest e h with h' | h'
          · exact .inl h'
          · rw [h', List.append_nil, List.length_nil, Nat.add_zero]; exact .inl (Nat.lt_of_not_le hge)

theorem destDoP_scan {h : Heap} {b : Batch} (hwf : b.WF h) (resps : List AckResp)
    {sc : List (List (PosV × Option Err)) × Option Err} (hsc : ackScan (b.active.map (·.pos)) b.nAct 0 resps = sc) :
    ∃ b', (ackCalls 0 sc.1).foldlM nack1 b = .ok b' ∧
      MarkPost h b b' (TA (actList b.st) 0 sc.1.flatten sc.1.flatten.length) ∧
      b'.tainted = (b.tainted || sc.1.flatten.any (·.2.isSome)) ∧
      (sc.1.flatten.any (·.2.isSome) = false → b' = b) ∧
      destDoP b none resps = match sc.2 with
        | some e => .error (.err e)
        | none => if sc.1.flatten.length < b.nAct then .error (.err plainErr) else .ok b' := by
  subst hsc
  have hact : (b.active.map (·.pos)).length = b.nAct := by
    rw [List.length_map]; exact active_length hwf.1.st_len hwf.2
  obtain ⟨_, h2, _⟩ := ackScan_spec (b.active.map (·.pos)) b.nAct 0 resps (Nat.zero_le _)
  obtain ⟨b', e1, p, t⟩ := ackCalls_ok hwf 0 (ackScan (b.active.map (·.pos)) b.nAct 0 resps).1 (by omega)
  refine ⟨b', e1, p, t, fun hno => ?_, ?_⟩
  · have := ackCalls_isEmpty 0 (ackScan (b.active.map (·.pos)) b.nAct 0 resps).1
    rw [hno, Bool.not_false, List.isEmpty_iff] at this
    rw [this] at e1
    exact (Except.ok.inj e1).symm
  · unfold destDoP
    dsimp only
    rw [hact, destAckLoop_eq, e1, Nat.zero_add]
    cases (ackScan (b.active.map (·.pos)) b.nAct 0 resps).2 with
    | some e => rfl
    | none => show (if _ then _ else _) = _; split <;> rfl

theorem destDoP_ok {h : Heap} {b : Batch} (hwf : b.WF h) {werr : Option Err} {resps : List AckResp} {b' : Batch}
    (hr : destDoP b werr resps = .ok b') :
    werr = none ∧ (ackScan (b.active.map (·.pos)) b.nAct 0 resps).1.flatten.length = b.nAct ∧
    MarkPost h b b' (TA (actList b.st) 0 (ackScan (b.active.map (·.pos)) b.nAct 0 resps).1.flatten b.nAct) ∧
    b'.tainted = (b.tainted || (ackScan (b.active.map (·.pos)) b.nAct 0 resps).1.flatten.any (·.2.isSome)) ∧
    ((ackScan (b.active.map (·.pos)) b.nAct 0 resps).1.flatten.any (·.2.isSome) = false → b' = b) := by
  cases werr with
  | some e => cases hr
  | none =>
    obtain ⟨_, h2, _⟩ := ackScan_spec (b.active.map (·.pos)) b.nAct 0 resps (Nat.zero_le _)
    rw [List.length_map, active_length hwf.1.st_len hwf.2, Nat.zero_add] at h2
    obtain ⟨b1, _, p, t, hno, e⟩ := destDoP_scan hwf resps rfl
    rw [e] at hr
    split at hr
    · cases hr
    · split at hr
      · cases hr
      · cases hr
        have hlen : (ackScan (b.active.map (·.pos)) b.nAct 0 resps).1.flatten.length = b.nAct := by omega
        rw [hlen] at p
        exact ⟨rfl, hlen, p, t, hno⟩

theorem destDoP_of_scan {h : Heap} {b : Batch} (hwf : b.WF h) (resps : List AckResp)
    (ho : (ackScan (b.active.map (·.pos)) b.nAct 0 resps).2 = none)
    (hcov : b.nAct ≤ (ackScan (b.active.map (·.pos)) b.nAct 0 resps).1.flatten.length) :
    ∃ b', destDoP b none resps = .ok b' := by
  obtain ⟨b', _, _, _, _, e⟩ := destDoP_scan hwf resps rfl
  rw [ho, if_neg (Nat.not_lt.mpr hcov)] at e
  exact ⟨b', e⟩

theorem destDoP_total {h : Heap} {b : Batch} (hwf : b.WF h) (werr : Option Err) (resps : List AckResp) :
    (∃ b' : Batch, destDoP b werr resps = .ok b') ∨ (∃ e : Err, destDoP b werr resps = .error (.err e)) := by
  cases werr with
  | some e => exact .inr ⟨wrap e, rfl⟩
  | none =>
    obtain ⟨b', _, _, _, _, e⟩ := destDoP_scan hwf resps rfl
    rw [e]
    split
    · exact .inr ⟨_, rfl⟩
    · split
      · exact .inr ⟨_, rfl⟩
      · exact .inl ⟨_, rfl⟩

theorem destDoP_ne_panic {h : Heap} {b : Batch} (hwf : b.WF h) (werr : Option Err) (resps : List AckResp)
    (m : String) : destDoP b werr resps ≠ .error (.panic m) := by
  rcases destDoP_total hwf werr resps with ⟨b', g⟩ | ⟨e, g⟩ <;> rw [g] <;> nofun

end Conduit.Funnel
