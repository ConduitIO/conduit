import ConduitModel.Proofs.MonGKey

/-!
# The group walk of a batch in flight

The tainted loop (groups of rows by status) and the run ledger's vote (groups of rows by run) both cut a batch in
flight at `i < j`: the group `[i, j)` is a batch in flight of its own (`FlightGK.sub`), something handles it, the rows
from `j` on are in flight again (`FlightGK.after`), and the outcome of the group and of the rest compose (`OutGK.seq`);
`FlightGK.walk` is the three together, for `Y >>= K`. What the cut does to the ledger, the source map and the keys is
`RowGrp` / `FlightB.sub` / `FlightB.after` / `OutB.seq` of Proofs/MonSPipe.lean; here are the clauses that speak of the
view and of the contract.
-/
namespace Conduit.Funnel
open Conduit.Funnel.Mon

variable {κ : Nat → Nat}

/-- a failure after facts about the batch were added -/
theorem OutGK.fail_ext {G : Ctx} {X : Acker} {C0 : MC G X} {Ts Ds : List Nat} {rest : Nat → Nat} {doom : Nat → Prop} {b : Batch}
    {sm : List Nat} {i nx : Nat} {s s' : PS} {e : Stop} (he : ExtT Ts Ds (RootsOf G sm i) (G.view s) (G.view s'))
    (hE : C0.Err s') (hw : WSeen G s') : OutGK κ C0 Ts Ds rest doom b sm i nx s s' (.error e) :=
  ⟨he, hw, fun _ => hE, (fun hr => nomatch hr), (fun hr => nomatch hr), (fun hr => nomatch hr),
    (fun hr => nomatch hr), (fun hr => nomatch hr)⟩

theorem OutGK.fail {G : Ctx} {X : Acker} {C0 : MC G X} {Ts Ds : List Nat} {rest : Nat → Nat} {doom : Nat → Prop} {b : Batch}
    {sm : List Nat} {i nx : Nat} {s : PS} {e : Stop} (hE : C0.Err s) (hw : WSeen G s) :
    OutGK κ C0 Ts Ds rest doom b sm i nx s s (.error e) :=
  .fail_ext (ExtT.refl _ _ _ _) hE hw

theorem OutGK.nil {G : Ctx} {X : Acker} {C0 : MC G X} {Ts Ds : List Nat} {rest : Nat → Nat} {doom : Nat → Prop} {b : Batch}
    {sm : List Nat} {i nx : Nat} {s : PS}
    (hI : C0.Inv (nxJ sm nx i) s) (hw : WSeen G s) (hlen : sm.length ≤ i)
    (hv : b.view.length ≤ i) : OutGK κ C0 Ts Ds rest doom b sm i nx s s (.ok ()) := by
  have h0 : ∀ rid : Nat, ¬ 0 < cnt rid (b.view.drop i) := fun rid hc => by
    rw [List.drop_of_length_le hv] at hc; simp [cnt] at hc
  rw [nxJ_ge hlen] at hI
  exact ⟨ExtT.refl _ _ _ _, hw, fun hr => absurd rfl hr, fun _ => hI,
    fun _ => .of_frame (WT.refl _ _ _ _) (Nat.le_refl _) (fun _ _ => rfl) (fun rid hc => absurd hc (h0 rid)),
    fun _ rid hc => absurd hc (h0 rid), fun _ rid hc => absurd hc (h0 rid), fun _ _ h => h⟩

theorem nxJ_slice {sm : List Nat} {nx nx' i j : Nat} (hij : i < j) (hj : j ≤ sm.length) :
    nxJ ((sm.drop i).take (j - i)) nx' 0 = nxJ sm nx i := by
  unfold nxJ
  rw [← List.drop_take, getElem?_take_drop _ (by omega), Nat.add_zero, List.getElem?_eq_getElem (Nat.lt_of_lt_of_le hij hj)]
  rfl

namespace RowGrp
variable {G : Ctx} {b sb : Batch} {sm : List Nat} {rs rss : List (Option Nat)} {i j : Nat} {doom : Nat → Prop}

theorem ci {h H : Heap} {v : MV} {T D : List Nat} (g : RowGrp G h b sb sm rs rss i j) (hci : CIG v T D H doom b i) :
    CIG v T D H (doomJ doom b j) sb 0 := by
  intro rid hc hncl
  have hcb : 0 < cnt rid (b.view.drop i) := by
    rw [g.cnt_split]; exact Nat.lt_of_lt_of_le hc (Nat.le_add_right _ _)
  rcases hci rid hcb hncl with h1 | h1 | ⟨k, row, hk, hr, hrun, hfl⟩
  · exact Or.inl h1
  · exact Or.inr (Or.inl (Or.inl h1))
  · by_cases hkj : k < j
    · exact Or.inr (Or.inr ⟨k - i, row, Nat.zero_le _, g.row_of hk hkj hr, hrun, hfl⟩)
    · exact Or.inr (Or.inl (Or.inr ⟨k, row, Nat.le_of_not_lt hkj, hr, hrun, hfl⟩))

/-- `CIG` of the batch from `j` on, once the group has been handled -/
theorem ci_after (hs : Src G) {X : Acker} {C0 : MC G X} {Ts Ds : List Nat} {s s1 : PS} {rest : Nat → Nat} {nx' : Nat}
    (g : RowGrp G s.heap b sb sm rs rss i j) (ht : TInv s.heap rest b i) (hlin : HLinG G s.heap rest b i)
    (hci : CIG (G.view s) C0.T C0.D s.heap doom b i)
    (ho : OutGK κ C0 Ts Ds (restJ rest b j) (doomJ doom b j) sb ((sm.drop i).take (j - i)) 0 nx' s s1 (.ok ())) :
    CIG (G.view s1) C0.T C0.D s1.heap doom b j := by
  intro rid hc hncl
  by_cases hcs : 0 < cnt rid sb.view
  · rcases ho.ci rfl rid hcs (by unfold restJ; omega) hncl with h | h | h
    · exact Or.inl h
    · exact Or.inr (Or.inl h)
    · exact Or.inr (Or.inr h)
  · have hcs0 : cnt rid sb.view = 0 := by omega
    have hci0 : 0 < cnt rid (b.view.drop i) := by rw [g.cnt_split]; omega
    rw [(ho.ledger rfl).hframe rid (ht.ids hc) hcs0] at hncl ⊢
    -- the group added nothing about the root of a run none of whose pieces it holds
    have hncl0 : ¬ CleanT (G.view s) C0.T C0.D (root (s.heap[rid]!).origRec) :=
      fun h => hncl (h.ext ho.ext (Or.inl (g.root_notin_grp hs (hlin rid (Or.inl hci0)) hc hcs0)))
    rcases hci rid hci0 hncl0 with h | h | ⟨k, row, hk, hr, hrun, hfl⟩
    · exact Or.inl h
    · exact Or.inr (Or.inl h)
    · refine Or.inr (Or.inr ⟨k, row, ?_, hr, hrun, hfl⟩)
      apply Classical.byContradiction
      intro hkj
      have := g.piece.mpr ⟨k, row, hk, by omega, hr, hrun⟩
      omega

theorem below_after {s : PS} {rest : Nat → Nat} (g : RowGrp G s.heap b sb sm rs rss i j) {nx : Nat} (hn : NextOK rest b sm nx)
    {Ts Ds sub : List Nat} {v v' : MV} (hb : WBelowG G (nxJ sm nx i) v.μ sub)
    (hext : ExtT Ts Ds (RootsOf G ((sm.drop i).take (j - i)) 0) v v') : WBelowG G (nxJ sm nx j) v'.μ sub := by
  have hq := List.getElem?_eq_getElem (Nat.lt_of_lt_of_le g.lt g.le)
  rw [nxJ_of hq] at hb
  intro e he hsub
  rcases hext.wr_new e he with h1 | ⟨_, h1⟩
  · exact (hb e h1 hsub).mono (Nat.succ_le_succ (g.src_le_nx hn g.lt hq))
  · obtain ⟨k, q, src, _, hk2, hq, hsrc, hroot⟩ := h1.of_slice
    exact ⟨q, src, Nat.lt_succ_of_le (g.src_le_nx hn hk2 hq), hsrc, hroot⟩

end RowGrp

theorem OutGK.seq {G : Ctx} (hs : Src G) {X : Acker} {C0 : MC G X} {Ts Ds : List Nat} {rest : Nat → Nat} {doom : Nat → Prop}
    {b sb : Batch} {sm : List Nat} {nx i j : Nat} {s s1 s' : PS} {r : Except Stop Unit} {rs rss : List (Option Nat)}
    (g : RowGrp G s.heap b sb sm rs rss i j) (ht : TInv s.heap rest b i) (hl : HLinG G s.heap rest b i)
    (h1 : OutGK κ C0 Ts Ds (restJ rest b j) (doomJ doom b j) sb ((sm.drop i).take (j - i)) 0 (nxJ sm nx j) s s1 (.ok ()))
    (h2 : OutGK κ C0 Ts Ds rest doom b sm j nx s1 s' r) : OutGK κ C0 Ts Ds rest doom b sm i nx s s' r := by
  have hids : ∀ rid, 0 < cnt rid (b.view.drop i) → rid < s.heap.size := fun rid hc => ht.ids hc
  have H1 := h1.ledger rfl
  have H : r = .ok () → OutB κ G rest b i s s' := fun hr => H1.seq g hids (h1.seen rfl) (h2.ledger hr)
  have hext2 := h2.ext
  refine ⟨(h1.ext.mono (fun _ hx => hx) (fun _ hx => hx) (fun _ hx => hx.slice_le)).trans
      (h2.ext.mono (fun _ hx => hx) (fun _ hx => hx) (fun x hx => hx.mono (Nat.le_of_lt g.lt))), h2.wseen, h2.err, h2.inv,
    H, ?_, ?_, fun hr x hx => h2.seen hr x (h1.seen rfl x hx)⟩
  · intro hr rid hc hrest
    by_cases hcj : 0 < cnt rid (b.view.drop j)
    · exact h2.htouch hr rid hcj hrest
    · have hc0 : cnt rid (b.view.drop j) = 0 := by omega
      have hcs : 0 < cnt rid sb.view := by rw [g.cnt_split] at hc; omega
      rw [(h2.ledger hr).hframe rid (Nat.lt_of_lt_of_le (hids rid hc) H1.hsize) hc0]
      intro hna
      exact (h1.htouch rfl rid hcs (by unfold restJ; omega) hna).extT hext2
  · intro hr rid hc hrest
    by_cases hcj : 0 < cnt rid (b.view.drop j)
    · exact h2.ci hr rid hcj hrest
    · have hc0 : cnt rid (b.view.drop j) = 0 := by omega
      have hcs : 0 < cnt rid sb.view := by rw [g.cnt_split] at hc; omega
      have hlt := hids rid hc
      rw [(h2.ledger hr).hframe rid (Nat.lt_of_lt_of_le hlt H1.hsize) hc0]
      intro hncl
      -- the rows from `j` on add nothing about the root of this run
      have hncl1 : ¬ CleanT (G.view s1) C0.T C0.D (root (s1.heap[rid]!).origRec) := by
        intro h
        rw [(H1.horig rid hlt).2] at h hncl
        exact hncl (h.ext hext2 (Or.inl (root_notin hs g.vb g.srcmap (hl rid (Or.inl hc)) hc hc0)))
      rcases h1.ci rfl rid hcs (by unfold restJ; omega) hncl1 with h | h | ⟨k, row, hk, hrow, hrun, _⟩
      · exact Or.inl h
      · exact Or.inr h
      · have : 0 < cnt rid (b.view.drop j) := (cnt_drop_pos g.vb).mpr ⟨k, row, hk, hrow, hrun⟩
        omega

theorem FlightGK.fail {G : Ctx} {X : Acker} {C0 : MC G X} {s : PS} {pre pre' : List Nat} {nd : Prop} {sub : List Nat}
    {rest : Nat → Nat} {doom : Nat → Prop} {nx : Nat} {b : Batch} {sm : List Nat} {i : Nat}
    (hF : FlightGK κ C0 s pre pre' nd sub rest doom nx b sm i) {Ts Ds : List Nat} {rest' : Nat → Nat} {doom' : Nat → Prop}
    {b' : Batch} {sm' : List Nat} {i' nx' : Nat} {e : Stop} : OutGK κ C0 Ts Ds rest' doom' b' sm' i' nx' s s (.error e) :=
  .fail (C0.w_err (C0.inv_w hF.inv)) hF.wseen

theorem FlightGK.sub {G : Ctx} (hs : Src G) {X : Acker} {C0 : MC G X} {s : PS} {pre pre' : List Nat} {nd : Prop} {sub : List Nat}
    {rest : Nat → Nat} {doom : Nat → Prop} {nx : Nat} {b sb : Batch} {sm : List Nat} {i j : Nat}
    (hF : FlightGK κ C0 s pre pre' nd sub rest doom nx b sm i) (hsub : b.sub i j = .ok sb) (hij : i < j) :
    FlightGK κ C0 s pre pre' nd sub (restJ rest b j) (doomJ doom b j) (nxJ sm nx j) sb ((sm.drop i).take (j - i)) 0 := by
  obtain ⟨rs, rss, g⟩ := hF.toFlightB.grp hsub hij
  have c := hF.toFlightB.sub hs g hsub
  have hnx0 : nxJ ((sm.drop i).take (j - i)) (nxJ sm nx j) 0 = nxJ sm nx i := nxJ_slice hij g.le
  -- a run alive for the group is alive for the batch
  have hlive : ∀ rid, LiveRun (restJ rest b j) sb 0 rid → LiveRun rest b i rid := by
    intro rid h
    unfold LiveRun restJ at *
    simp only [List.drop_zero] at h
    rw [g.cnt_split]
    omega
  exact ⟨⟨c, hF.wseen, fun rid h => hF.hlin rid (hlive rid h), fun rid h => hF.htouch rid (hlive rid h), g.ci hF.ci,
    ⟨g.facts hF.facts.ack, g.facts hF.facts.fil, g.facts hF.facts.retry, g.facts hF.facts.clean⟩,
    by rw [hnx0]; exact hF.below, fun rid h => hF.nackt rid (hlive rid h)⟩, by rw [hnx0]; exact hF.inv⟩

theorem FlightGK.after {G : Ctx} (hs : Src G) {X : Acker} {C0 : MC G X} {Ts Ds : List Nat} {s s1 : PS} {pre pre' : List Nat}
    {nd : Prop} {sub : List Nat} {rest : Nat → Nat} {doom : Nat → Prop} {nx : Nat} {b sb : Batch} {sm : List Nat} {i j : Nat}
    (hF : FlightGK κ C0 s pre pre' nd sub rest doom nx b sm i) (hsub : b.sub i j = .ok sb) (hij : i < j)
    (ho : OutGK κ C0 Ts Ds (restJ rest b j) (doomJ doom b j) sb ((sm.drop i).take (j - i)) 0 (nxJ sm nx j) s s1 (.ok ())) :
    FlightGK κ C0 s1 pre pre' nd sub rest doom nx b sm j := by
  obtain ⟨rs, rss, g⟩ := hF.toFlightB.grp hsub hij
  have H := ho.ledger rfl
  have c := hF.toFlightB.after g (ho.seen rfl) H
  have hext := ho.ext
  have hij' := Nat.le_of_lt hij
  have ht := hF.tinv
  -- a run alive at `j` is alive at `i`, and allocated
  have hlive : ∀ rid, LiveRun rest b j rid → LiveRun rest b i rid := by
    intro rid h
    unfold LiveRun at h ⊢
    rw [g.cnt_split]; omega
  have hlalloc : ∀ rid, LiveRun rest b i rid → rid < s.heap.size := by
    intro rid h
    rcases h with h | h
    · exact ht.ids h
    · apply Classical.byContradiction
      intro hge
      have := ht.restok rid (Nat.le_of_not_lt hge)
      omega
  have hrun : ∀ rid, LiveRun rest b j rid →
      (0 < cnt rid (sb.view.drop 0) ∧ 0 < restJ rest b j rid) ∨ s1.heap[rid]! = s.heap[rid]! := by
    intro rid hlv
    by_cases hcs : 0 < cnt rid sb.view
    · exact Or.inl ⟨hcs, by unfold restJ; unfold LiveRun at hlv; omega⟩
    · exact Or.inr (H.hframe rid (hlalloc rid (hlive rid hlv)) (by simp only [List.drop_zero]; omega))
  refine ⟨⟨c, ho.wseen, ?_, ?_, ?_, ?_, ?_, ?_⟩, ho.inv rfl⟩
  · intro rid hlv
    obtain ⟨a1, a2⟩ := H.horig rid (hlalloc rid (hlive rid hlv))
    obtain ⟨src, g1, g2, g3⟩ := hF.hlin rid (hlive rid hlv)
    exact ⟨src, g1, by rw [a1]; exact g2, by rw [a2]; exact g3⟩
  · intro rid hlv hterm hna
    rcases hrun rid hlv with ⟨h1, h2⟩ | hfr
    · exact ho.htouch rfl rid h1 h2 hna
    · rw [hfr] at hterm hna ⊢
      exact (hF.htouch rid (hlive rid hlv) hterm hna).extT hext
  · exact g.ci_after hs ht hF.hlin hF.ci ho
  · exact hF.facts.ext hij' hext fun k row q src hk hr hq hsrc hrun => Or.inl (g.norun_notin_grp hs hk hr hq hsrc hrun)
  · exact g.below_after hF.nextok hF.below hext
  · intro rid hlv hna
    rcases hrun rid hlv with ⟨h1, h2⟩ | hfr
    · exact (H.lpost rid h1 h2).2
    · rw [hfr] at hna ⊢
      exact hF.nackt rid (hlive rid hlv) hna

/-- The group walk, taken by the tainted loop (groups of rows by status) and by the run ledger's vote (groups of rows by
run): the group `[i, j)` of a batch in flight is a batch in flight of its own (`FlightGK.sub`), `Y` handles it, then the
rows from `j` on are in flight again (`FlightGK.after`) for the rest `K` of the loop, and the two outcomes compose
(`OutGK.seq`). `Q` = what the caller knows of a state from which the rest of the loop ends in `s'` (for the tainted
loop: its log is a prefix of the final one, so it obeys `RP` and `Disc`). -/
theorem FlightGK.walk {G : Ctx} (hs : Src G) {X : Acker} {C0 : MC G X} {Ts Ds pre pre' : List Nat} {nd : Prop} {sub : List Nat}
    {rest : Nat → Nat} {doom : Nat → Prop} {nx : Nat} {b sb : Batch} {sm : List Nat} {i j : Nat} {Y : M Unit} {K : Unit → M Unit}
    {Q : PS → Prop} {s s' : PS} {r : Except Stop Unit}
    (hF : FlightGK κ C0 s pre pre' nd sub rest doom nx b sm i) (hsub : b.sub i j = .ok sb) (hij : i < j)
    (hQ : ∀ s1, s1 = s' ∨ exec (K ()) s1 = (r, s') → Q s1)
    (hY : ∀ r1 s1, exec Y s = (r1, s1) → Q s1 →
      OutGK κ C0 Ts Ds (restJ rest b j) (doomJ doom b j) sb ((sm.drop i).take (j - i)) 0 (nxJ sm nx j) s s1 r1)
    (hK : ∀ s1, OutGK κ C0 Ts Ds (restJ rest b j) (doomJ doom b j) sb ((sm.drop i).take (j - i)) 0 (nxJ sm nx j) s s1 (.ok ()) →
      FlightGK κ C0 s1 pre pre' nd sub rest doom nx b sm j → exec (K ()) s1 = (r, s') →
      OutGK κ C0 Ts Ds rest doom b sm j nx s1 s' r)
    (h : exec (Y >>= K) s = (r, s')) : OutGK κ C0 Ts Ds rest doom b sm i nx s s' r := by
  rw [exec_bind] at h
  rcases hx : exec Y s with ⟨r1, s1⟩
  rw [hx] at h
  cases r1 with
  | error e =>
    cases h
    have o1 := hY _ _ hx (hQ _ (Or.inl rfl))
    exact OutGK.fail_ext (o1.ext.mono (fun _ hx => hx) (fun _ hx => hx) (fun _ hx => hx.slice_le)) (o1.err (fun hh => nomatch hh)) o1.wseen
  | ok u =>
    dsimp only at h
    have o1 := hY _ _ hx (hQ _ (Or.inr h))
    obtain ⟨rs, rss, g⟩ := hF.toFlightB.grp hsub hij
    exact OutGK.seq hs g hF.tinv hF.hlin o1 (hK s1 o1 (hF.after hs hsub hij o1) h)

end Conduit.Funnel
