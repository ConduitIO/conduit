import ConduitModel.Model.TreeBuild
import ConduitModel.Spec.FunnelMon
import ConduitModel.Proofs.MonFFan

/-!
# The shape of the trees built by `Model/TreeBuild.lean`

`chainN f ts tl` is the closed form: a chain `f → ts…` whose last node has the children `tl`.
Every tree-building function of the model is shown to return such closed forms, from which
`Linear` / `Fan1` / `tasksS` / `Mon.dests` are read off.
-/
namespace Conduit.Funnel
open Conduit.Funnel.Mon

/-- the chain `ts` (as a list of at most one node) ending in the children `tl` -/
def chainL : List TaskSpec → List TaskNode → List TaskNode
  | [], tl => tl
  | t :: ts, tl => [.mk t.1 t.2 (chainL ts tl)]

/-- node `f`, then the chain `ts`, then the children `tl` -/
def chainN (f : TaskSpec) (ts : List TaskSpec) (tl : List TaskNode) : TaskNode := .mk f.1 f.2 (chainL ts tl)

theorem leaf_eq (f : TaskSpec) : leaf f = chainN f [] [] := rfl

theorem chainN_cons (f t : TaskSpec) (ts : List TaskSpec) (tl : List TaskNode) :
    chainN f (t :: ts) tl = .mk f.1 f.2 [chainN t ts tl] := rfl

theorem appendToEnd_chain (ts : List TaskSpec) : ∀ (f : TaskSpec) (nx : List TaskNode),
    appendToEnd (chainN f ts []) nx = some (chainN f ts nx) := by
  induction ts with
  | nil => intro f nx; simp [chainN, chainL, appendToEnd]
  | cons t ts ih =>
    intro f nx
    rw [chainN_cons, appendToEnd, ih t nx]
    rfl

theorem chainL_append (a b : List TaskSpec) (tl : List TaskNode) : chainL (a ++ b) tl = chainL a (chainL b tl) := by
  induction a with
  | nil => rfl
  | cons t a ih => simp [chainL, ih]

theorem appendTasks_chain (rest : List TaskSpec) : ∀ (f : TaskSpec) (done : List TaskSpec),
    appendTasks (chainN f done []) rest = some (chainN f (done ++ rest) []) := by
  induction rest with
  | nil => intro f done; simp [appendTasks]
  | cons t rest ih =>
    intro f done
    rw [appendTasks, appendToEnd_chain]
    have h : chainN f done [leaf t] = chainN f (done ++ [t]) [] := by
      simp [chainN, chainL_append, chainL, leaf]
    simp only [h]
    rw [ih f (done ++ [t])]
    simp

theorem appendTasks_leaf (f : TaskSpec) (rest : List TaskSpec) :
    appendTasks (leaf f) rest = some (chainN f rest []) := by
  rw [leaf_eq, appendTasks_chain]; simp

/-- a destination branch -/
def branchOf : List TaskSpec → TaskNode
  | [] => default
  | f :: rest => chainN f rest []

theorem destBranches_spec (dests : List (List TaskSpec)) :
    match destBranches dests with
    | .error e => e = .emptyBranch ∧ [] ∈ dests
    | .ok l => l = dests.map branchOf ∧ ∀ b ∈ dests, b ≠ [] := by
  induction dests with
  | nil => exact ⟨rfl, nofun⟩
  | cons b bs ih =>
    cases b with
    | nil => exact ⟨rfl, List.mem_cons_self⟩
    | cons f rest =>
      rw [destBranches, appendTasks_leaf]
      simp only
      cases hb : destBranches bs with
      | error e => rw [hb] at ih; exact ⟨ih.1, List.mem_cons_of_mem _ ih.2⟩
      | ok l =>
        rw [hb] at ih
        refine ⟨by rw [ih.1]; rfl, fun b hb' => ?_⟩
        rcases List.mem_cons.mp hb' with rfl | hb'
        · exact List.cons_ne_nil _ _
        · exact ih.2 b hb'

theorem destBranches_ok (dests : List (List TaskSpec)) (hne : ∀ b ∈ dests, b ≠ []) :
    destBranches dests = .ok (dests.map branchOf) := by
  have := destBranches_spec dests
  cases h : destBranches dests with
  | error e => rw [h] at this; exact absurd rfl (hne [] this.2)
  | ok l => rw [h] at this; rw [this.1]

/-- the shared roots: the branches themselves, or the processor chain ending in the branches -/
def sharedRootsOf (procs : List Nat) (dests : List (List TaskSpec)) : List TaskNode :=
  match procs with
  | [] => dests.map branchOf
  | p :: ps => [chainN (p, .proc) (ps.map fun q => (q, TaskKind.proc)) (dests.map branchOf)]

theorem buildSharedTail_ok (procs : List Nat) (dests : List (List TaskSpec)) (hne : ∀ b ∈ dests, b ≠ []) :
    buildSharedTail procs dests = .ok (sharedRootsOf procs dests) := by
  rw [buildSharedTail, destBranches_ok dests hne]
  cases procs with
  | nil => rfl
  | cons p ps =>
    simp only [sharedRootsOf]
    rw [appendTasks_leaf]
    simp only []
    rw [appendToEnd_chain]

theorem sourceTree_ok (f : TaskSpec) (rest : List TaskSpec) (roots : List TaskNode) :
    sourceTree (f :: rest) roots = .ok (chainN f rest roots) := by
  rw [sourceTree, appendTasks_leaf]
  simp only []
  rw [appendToEnd_chain]

theorem workerTreeE_ok (f : TaskSpec) (rest : List TaskSpec) (procs : List Nat) (dests : List (List TaskSpec))
    (hne : ∀ b ∈ dests, b ≠ []) :
    workerTreeE (f :: rest) procs dests = .ok (chainN f rest (sharedRootsOf procs dests)) := by
  rw [workerTreeE, buildSharedTail_ok procs dests hne]
  exact sourceTree_ok f rest _

theorem workerTree_ok (f : TaskSpec) (rest : List TaskSpec) (procs : List Nat) (dests : List (List TaskSpec))
    (hne : ∀ b ∈ dests, b ≠ []) :
    workerTree (f :: rest) procs dests = some (chainN f rest (sharedRootsOf procs dests)) := by
  rw [workerTree, workerTreeE_ok f rest procs dests hne]

/-- `buildSharedTail` never fails with the "multiple next tasks" error, whatever its arguments -/
theorem buildSharedTail_err (procs : List Nat) (dests : List (List TaskSpec)) (e : TreeErr)
    (h : buildSharedTail procs dests = .error e) : e = .emptyBranch ∧ [] ∈ dests := by
  have := destBranches_spec dests
  cases hb : destBranches dests with
  | error e' =>
    rw [buildSharedTail, hb] at h
    rw [hb] at this
    exact Except.error.inj h ▸ this
  | ok l =>
    rw [hb] at this
    rw [buildSharedTail_ok procs dests this.2] at h
    cases h

theorem linear_chainN (ts : List TaskSpec) : ∀ f : TaskSpec, Linear (chainN f ts []) := by
  induction ts with
  | nil => intro f; exact .mk _ _ _ (by simp [chainL]) (fun n hn => by simp [chainL] at hn)
  | cons t ts ih =>
    intro f
    rw [chainN_cons]
    exact .mk _ _ _ (by simp) (fun n hn => by rw [List.mem_singleton.mp hn]; exact ih t)

theorem linear_branchOf (b : List TaskSpec) (hb : b ≠ []) : Linear (branchOf b) := by
  cases b with
  | nil => exact absurd rfl hb
  | cons f rest => exact linear_chainN rest f

theorem Linear.fan1 : ∀ {node : TaskNode}, Linear node → Fan1 node
  | .mk _ _ [], _ => .mk _ _ _ (fun _ _ hn => nomatch hn) (fun h2 => absurd h2 (by simp))
  | .mk _ _ [c], h =>
    .mk _ _ _ (fun _ n hn => by
        rw [List.mem_singleton.mp hn]
        exact Linear.fan1 (h.child c (List.mem_singleton_self c)))
      (fun h2 => absurd h2 (by simp))
  | .mk _ _ (_ :: _ :: _), h => absurd h.len (by simp [TaskNode.next])

/-- a chain ending in children that are (at most one: `Fan1`; two or more: all `Linear`) is `Fan1` -/
theorem fan1_chainN (ts : List TaskSpec) (tl : List TaskNode)
    (h1 : tl.length ≤ 1 → ∀ n ∈ tl, Fan1 n) (h2 : 2 ≤ tl.length → ∀ n ∈ tl, Linear n) :
    ∀ f : TaskSpec, Fan1 (chainN f ts tl) := by
  induction ts with
  | nil => intro f; exact .mk _ _ _ h1 h2
  | cons t ts ih =>
    intro f
    rw [chainN_cons]
    exact .mk _ _ _ (fun _ n hn => by rw [List.mem_singleton.mp hn]; exact ih t) (fun h => absurd h (by simp))

theorem linear_branches (dests : List (List TaskSpec)) (hne : ∀ b ∈ dests, b ≠ []) :
    ∀ n ∈ dests.map branchOf, Linear n := by
  intro n hn
  obtain ⟨b, hb, rfl⟩ := List.mem_map.mp hn
  exact linear_branchOf b (hne b hb)

theorem fan1_sharedRoots (procs : List Nat) (dests : List (List TaskSpec)) (hne : ∀ b ∈ dests, b ≠ []) :
    (∀ n ∈ sharedRootsOf procs dests, Fan1 n) ∧
    (2 ≤ (sharedRootsOf procs dests).length → ∀ n ∈ sharedRootsOf procs dests, Linear n) := by
  have hlin := linear_branches dests hne
  cases procs with
  | nil => exact ⟨fun n hn => (hlin n hn).fan1, fun _ => hlin⟩
  | cons p ps =>
    refine ⟨fun n hn => ?_, fun h => absurd h (by simp [sharedRootsOf])⟩
    rw [List.mem_singleton.mp hn]
    exact fan1_chainN _ _ (fun _ n hn => (hlin n hn).fan1) (fun _ => hlin) _

theorem fan1_workerShape (f : TaskSpec) (rest : List TaskSpec) (procs : List Nat) (dests : List (List TaskSpec))
    (hne : ∀ b ∈ dests, b ≠ []) : Fan1 (chainN f rest (sharedRootsOf procs dests)) :=
  fan1_chainN rest _ (fun _ => (fan1_sharedRoots procs dests hne).1) (fan1_sharedRoots procs dests hne).2 f

theorem tasksL_chainL (ts : List TaskSpec) (tl : List TaskNode) :
    tasksL (chainL ts tl) = ts.map (·.1) ++ tasksL tl := by
  induction ts with
  | nil => rfl
  | cons t ts ih => simp [chainL, tasksL_cons, tasksL_nil, tasksS_eq, TaskNode.id, TaskNode.next, ih]

theorem tasksS_chainN (f : TaskSpec) (ts : List TaskSpec) (tl : List TaskNode) :
    tasksS (chainN f ts tl) = f.1 :: (ts.map (·.1) ++ tasksL tl) := by
  rw [tasksS_eq]; simp [chainN, TaskNode.id, TaskNode.next, tasksL_chainL]

theorem tasksS_branchOf (b : List TaskSpec) (hb : b ≠ []) : tasksS (branchOf b) = b.map (·.1) := by
  cases b with
  | nil => exact absurd rfl hb
  | cons f rest => simp [branchOf, tasksS_chainN, tasksL_nil]

theorem tasksL_branches (dests : List (List TaskSpec)) (hne : ∀ b ∈ dests, b ≠ []) :
    tasksL (dests.map branchOf) = dests.flatten.map (·.1) := by
  induction dests with
  | nil => simp [tasksL_nil]
  | cons b bs ih =>
    simp only [List.map_cons, tasksL_cons, List.flatten_cons, List.map_append]
    rw [tasksS_branchOf b (hne b (List.mem_cons_self ..)), ih (fun b hb => hne b (List.mem_cons_of_mem _ hb))]

theorem tasksL_sharedRoots (procs : List Nat) (dests : List (List TaskSpec)) (hne : ∀ b ∈ dests, b ≠ []) :
    tasksL (sharedRootsOf procs dests) = procs ++ dests.flatten.map (·.1) := by
  cases procs with
  | nil => simp [sharedRootsOf, tasksL_branches dests hne]
  | cons p ps =>
    simp only [sharedRootsOf, tasksL_cons, tasksL_nil, tasksS_chainN, tasksL_branches dests hne]
    simp [Function.comp_def]

theorem tasksS_workerShape (f : TaskSpec) (rest : List TaskSpec) (procs : List Nat) (dests : List (List TaskSpec))
    (hne : ∀ b ∈ dests, b ≠ []) :
    tasksS (chainN f rest (sharedRootsOf procs dests)) =
      (f :: rest).map (·.1) ++ procs ++ dests.flatten.map (·.1) := by
  rw [tasksS_chainN, tasksL_sharedRoots procs dests hne]; simp

/-- ids of the destination tasks of a task list -/
def destIds (ts : List TaskSpec) : List Nat := (ts.filter (·.2 == .dest)).map (·.1)

theorem destIds_cons (t : TaskSpec) (ts : List TaskSpec) :
    destIds (t :: ts) = (if t.2 == .dest then [t.1] else []) ++ destIds ts := by
  unfold destIds
  by_cases h : (t.2 == TaskKind.dest) = true <;> simp [h]

theorem destIds_append (a b : List TaskSpec) : destIds (a ++ b) = destIds a ++ destIds b := by
  simp [destIds]

theorem destsL_chainL (ts : List TaskSpec) (tl : List TaskNode) :
    destsL (chainL ts tl) = destIds ts ++ destsL tl := by
  induction ts with
  | nil => simp [chainL, destIds]
  | cons t ts ih => simp [chainL, destsL_cons, destsL_nil, destsS_eq, own, TaskNode.id, TaskNode.kind, TaskNode.next, ih, destIds_cons]

theorem dests_chainN (f : TaskSpec) (ts : List TaskSpec) (tl : List TaskNode) :
    destsS (chainN f ts tl) = destIds (f :: ts) ++ destsL tl := by
  rw [destsS_eq]; simp [chainN, own, TaskNode.id, TaskNode.kind, TaskNode.next, destsL_chainL, destIds_cons]

theorem dests_branchOf (b : List TaskSpec) (hb : b ≠ []) : destsS (branchOf b) = destIds b := by
  cases b with
  | nil => exact absurd rfl hb
  | cons f rest => simp [branchOf, dests_chainN, destsL_nil]

theorem destsL_branches (dl : List (List TaskSpec)) (hne : ∀ b ∈ dl, b ≠ []) :
    destsL (dl.map branchOf) = destIds dl.flatten := by
  induction dl with
  | nil => simp [destsL_nil, destIds]
  | cons b bs ih =>
    simp only [List.map_cons, destsL_cons, List.flatten_cons, destIds_append]
    rw [dests_branchOf b (hne b (List.mem_cons_self ..)), ih (fun b hb => hne b (List.mem_cons_of_mem _ hb))]

theorem destIds_procs (ps : List Nat) : destIds (ps.map fun q => (q, TaskKind.proc)) = [] := by
  induction ps with
  | nil => rfl
  | cons p ps ih => rw [List.map_cons, destIds_cons, ih]; rfl

theorem destsL_sharedRoots (procs : List Nat) (dl : List (List TaskSpec)) (hne : ∀ b ∈ dl, b ≠ []) :
    destsL (sharedRootsOf procs dl) = destIds dl.flatten := by
  cases procs with
  | nil => simp [sharedRootsOf, destsL_branches dl hne]
  | cons p ps =>
    simp only [sharedRootsOf, destsL_cons, destsL_nil, dests_chainN, destsL_branches dl hne, destIds_cons,
      destIds_procs]
    simp

theorem dests_workerShape (f : TaskSpec) (rest : List TaskSpec) (procs : List Nat) (dl : List (List TaskSpec))
    (hne : ∀ b ∈ dl, b ≠ []) :
    destsS (chainN f rest (sharedRootsOf procs dl)) = destIds (f :: rest) ++ destIds dl.flatten := by
  rw [dests_chainN, destsL_sharedRoots procs dl hne]

theorem destIds_srcChain (s : Nat) (ps : List Nat) : destIds (srcChain s ps) = [] := by
  rw [srcChain, destIds_cons, destIds_procs]; rfl

theorem destIds_destChain (d : Nat) (ps : List Nat) : destIds (destChain d ps) = [d] := by
  rw [destChain, destIds_append, destIds_procs]; rfl

theorem destIds_destChains (ds : List (Nat × List Nat)) :
    destIds (ds.map fun d => destChain d.1 d.2).flatten = ds.map (·.1) := by
  induction ds with
  | nil => rfl
  | cons d ds ih => simp only [List.map_cons, List.flatten_cons, destIds_append, destIds_destChain, ih]; rfl

end Conduit.Funnel
