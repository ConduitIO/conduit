import ConduitModel.Proofs.WorkerAcker
import ConduitModel.Spec.FunnelMon

/-!
# The DLQ batch after `DestinationTask.Do` vs. the trace monitor's `confirmed`

For the fresh batch `sendToDLQ` builds (`NewBatch`): when `destDoP` returns `.ok db`, the flag of
record `j` in `db` is `.ack` iff `Mon.confirmedLoop` (Spec/FunnelMon.lean) says record `j` was
covered by a validated ack without error (`destDoP_new_confirmed`): the monitor reads the same scan of
the reply as the engine (`confirmedLoop_eq_scan`). `replyOf` is `Mon.replyOfCall … 0` (`nextReply_eq_replyOfCall`).
-/
namespace Conduit.Funnel
open Conduit.Dlq Agree

def Status.isAck (st : Status) : Bool := decide (st.flag = .ack)

theorem confirmedLoop_eq_scan (positions : List PosV) : ∀ (fuel c : Nat) (resps : List AckResp) (acc : List Bool),
    Mon.confirmedLoop positions fuel c resps acc = acc ++ (ackScan positions fuel c resps).1.flatten.map (·.2.isNone) := by
  intro fuel
  induction fuel with
  | zero => intro c resps acc; simp [Mon.confirmedLoop, ackScan]
  | succ fuel ih =>
    intro c resps acc
    unfold Mon.confirmedLoop ackScan
    rcases resps with _ | ⟨_ | acks, rest⟩
    · simp
    · simp
    · dsimp only
      by_cases hv : validateAcks acks (positions.drop c) = true
      · simp only [hv, Bool.not_true, Bool.false_eq_true, if_false]
        by_cases hge : c + acks.length ≥ positions.length
        · simp [hge]
        · simp [hge, ih]
      · simp [hv]

theorem new_active (recs : List Rec) : (Batch.new recs).active = recs := by
  unfold Batch.active; rfl

theorem destDoP_new_confirmed (recs : List Rec) (werr : Option Err) (resps : List AckResp) (db : Batch)
    (h : destDoP (Batch.new recs) werr resps = .ok db) :
    werr = none ∧ db.st.length = recs.length ∧
    db.st.map Status.isAck = Mon.confirmedLoop (recs.map (·.pos)) (recs.map (·.pos)).length 0 resps [] := by
  have hwf := new_WF #[] recs
  have hact : actList (Batch.new recs).st = List.range recs.length := by
    rw [actList_of_countFilter_zero hwf.2.symm]; simp [Batch.new]
  have hN : (Batch.new recs).nAct = recs.length := by unfold Batch.nAct; rw [hact]; simp
  obtain ⟨hw, hlen, p, _⟩ := destDoP_ok hwf h
  rw [new_active, hN] at hlen p
  have hst : db.st.length = recs.length := by rw [p.wf.1.st_len, p.recs]; rfl
  have hm := p.marked rfl
  rw [hact] at hm
  refine ⟨hw, hst, ?_⟩
  rw [confirmedLoop_eq_scan, List.length_map, List.nil_append]
  generalize (ackScan (recs.map (·.pos)) recs.length 0 resps).1.flatten = all at hlen hm
  apply List.ext_getElem?
  intro q
  rw [List.getElem?_map, List.getElem?_map]
  rcases ha : all[q]? with _ | ⟨ap, _ | e⟩
  · have hq := List.getElem?_eq_none_iff.mp ha
    rw [List.getElem?_eq_none_iff.mpr (by omega)]; rfl
  · rw [(hm q).2 fun ⟨e, i, ap', _, hi, he⟩ => by
      rw [Nat.zero_add] at hi
      obtain rfl : i = q := by simpa using (List.getElem?_eq_some_iff.mp hi).2
      rw [ha] at he; cases he]
    have hq : q < recs.length := hlen ▸ (List.getElem?_eq_some_iff.mp ha).1
    simp [Batch.new, hq, Status.isAck]
  · have hq : q < recs.length := hlen ▸ (List.getElem?_eq_some_iff.mp ha).1
    rw [(hm q).1 e ⟨q, ap, hq, by rw [Nat.zero_add]; exact List.getElem?_range hq, ha⟩]; rfl

def leadTrue (l : List Bool) : Nat := (l.takeWhile id).length

theorem leadAcks_eq_leadTrue (st : List Status) : leadAcks st = leadTrue (st.map Status.isAck) := by
  unfold leadAcks leadTrue
  induction st with
  | nil => rfl
  | cons a st ih =>
    simp only [List.map_cons, List.takeWhile_cons]
    by_cases ha : a.flag = .ack
    · simp [ha, Status.isAck, ih]
    · simp [ha, Status.isAck]

theorem nextReply_eq_replyOfCall (scripts : List (Nat × List Reply)) (task : Nat) :
    nextReply scripts task = Mon.replyOfCall scripts task 0 := by
  unfold nextReply Mon.replyOfCall
  cases scripts.find? (·.1 == task) with
  | none => rfl
  | some x =>
    obtain ⟨t, l⟩ := x
    cases l <;> rfl

theorem replyOf_none {s : PS} (h : (replyOf s).1 = none) :
    Mon.replyOfCall s.scripts s.dlqTask 0 = some (.dest none (replyOf s).2) := by
  rw [← nextReply_eq_replyOfCall]
  unfold replyOf at h ⊢
  cases hn : nextReply s.scripts s.dlqTask with
  | none => rw [hn] at h; cases h
  | some r =>
    rw [hn] at h
    cases r with
    | proc o => cases h
    | dest w a =>
      simp only [destReply] at h ⊢
      rw [h]

end Conduit.Funnel
