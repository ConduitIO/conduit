import ConduitModel.Model.JsonStr

/-! Helper lemmas: the JSON string unescaper inverts the escaper, character by character. -/
namespace Conduit.Codec

/-- the sixteen digits, by the kernel's evaluator. -/
theorem hexVal_hexDigit_lt : ∀ k, k < 16 → hexVal (hexDigit k) = some k := by decide +kernel

theorem hexVal_hexDigit (n : Nat) : hexVal (hexDigit n) = some (n % 16) := by
  have h := hexVal_hexDigit_lt (n % 16) (Nat.mod_lt _ (by decide))
  simpa [hexDigit, Nat.mod_mod] using h

theorem hex4_u4 (n : Nat) (h : n < 65536) :
    hex4 (hexDigit (n / 4096)) (hexDigit (n / 256)) (hexDigit (n / 16)) (hexDigit n) = some n := by
  -- Horner form of the four hex digits, regrouped into `hex4`'s sum of multiples
  have e : ((n / 4096 % 16 * 16 + n / 256 % 16) * 16 + n / 16 % 16) * 16 + n % 16 = n := by
    rw [Nat.mod_eq_of_lt (a := n / 4096) (Nat.div_lt_of_lt_mul h),
      show n / 4096 = n / 256 / 16 from (Nat.div_div_eq_div_mul n 256 16).symm, Nat.div_add_mod' (n / 256) 16,
      show n / 256 = n / 16 / 16 from (Nat.div_div_eq_div_mul n 16 16).symm, Nat.div_add_mod' (n / 16) 16,
      Nat.div_add_mod' n 16]
  simp only [Nat.add_mul, Nat.mul_assoc, Nat.reduceMul] at e
  simp only [hex4, hexVal_hexDigit, e]

theorem push_push (c : Char) (x : Option (Str × List Char)) :
    push c x = x.map (fun p => (c :: p.1, p.2)) := by
  cases x with
  | none => rfl
  | some p => cases p; rfl

/-- a character that needs no escape is read back as itself. -/
theorem unescFrom_raw (c : Char) (t : List Char) (h1 : c ≠ '"') (h2 : c ≠ '\\') :
    unescFrom none (c :: t) = push c (unescFrom none t) := by
  rw [unescFrom.eq_def]; simp [h1, h2, flushSur]

theorem unescFrom_simple (e ch : Char) (t : List Char) (he : e ≠ 'u') (hs : simpleEsc e = some ch) :
    unescFrom none ('\\' :: e :: t) = push ch (unescFrom none t) := by
  rw [unescFrom.eq_def]; simp [he, hs, flushSur]

theorem unescFrom_u4 (n : Nat) (t : List Char) (h : n < 0xD800) :
    unescFrom none (u4 n ++ t) = push (Char.ofNat n) (unescFrom none t) := by
  have h4 := hex4_u4 n (by omega)
  have hl : isLowSur n = false := by simp [isLowSur]; omega
  have hh : isHighSur n = false := by simp [isHighSur]; omega
  rw [unescFrom.eq_def]; simp [u4, h4, hl, hh, flushSur]

theorem needsU_lt (c : Char) (h : needsU c = true) : c.toNat < 0xD800 := by
  simp only [needsU, Bool.or_eq_true, decide_eq_true_eq] at h
  rcases h with ((((h | h) | h) | h) | h) | h
  · omega
  · subst h; decide
  · subst h; decide
  · subst h; decide
  · omega
  · omega

theorem unescFrom_escapeChar (c : Char) (t : List Char) :
    unescFrom none (escapeChar c ++ t) = push c (unescFrom none t) := by
  unfold escapeChar
  by_cases h1 : c = '"'
  · subst h1; exact unescFrom_simple '"' '"' t (by decide) (by decide)
  by_cases h2 : c = '\\'
  · subst h2; exact unescFrom_simple '\\' '\\' t (by decide) (by decide)
  by_cases h3 : c = '\n'
  · subst h3; exact unescFrom_simple 'n' '\n' t (by decide) (by decide)
  by_cases h4 : c = '\r'
  · subst h4; exact unescFrom_simple 'r' '\r' t (by decide) (by decide)
  by_cases h5 : c = '\t'
  · subst h5; exact unescFrom_simple 't' '\t' t (by decide) (by decide)
  by_cases h6 : needsU c = true
  · simp only [h1, h2, h3, h4, h5, h6, if_false, if_true]
    rw [unescFrom_u4 _ _ (needsU_lt c h6), Char.ofNat_toNat]
  · simp only [h1, h2, h3, h4, h5, h6, if_false]
    exact unescFrom_raw c t h1 h2

theorem unescape_escape (s : Str) (rest : List Char) :
    unescape (escape s ++ '"' :: rest) = some (s, rest) := by
  unfold unescape
  induction s with
  | nil => rw [unescFrom.eq_def]; simp [escape, flushSur]
  | cons c t ih =>
    simp only [escape, List.append_assoc]
    rw [unescFrom_escapeChar, ih]; rfl

theorem unquote_quote (s : Str) : unquote (quote s) = some s := by
  simp [unquote, quote, unescape_escape]

/-- the literal starts with `"`, so white-space skipping in front of it stops at once. -/
theorem quote_eq (s : Str) (rest : List Char) : quote s ++ rest = '"' :: (escape s ++ '"' :: rest) := by
  simp [quote]

end Conduit.Codec
