import ConduitModel.Proofs.TreeBuild

/-!
# What a successful `buildWorkers` (model of `buildRunnablePipeline`) returns, in closed form
-/
namespace Conduit.Funnel
open Conduit.Funnel.Mon

def procIds (ps : List ProcRef) : List Nat := ps.map (·.1)
def procSpecs (ps : List Nat) : List TaskSpec := ps.map fun q => (q, TaskKind.proc)

def srcConns (cs : List ConnCfg) : List ConnCfg := cs.filter (·.kind == .source)
def dstConns (cs : List ConnCfg) : List ConnCfg := cs.filter (·.kind == .dest)

/-- `srcTaskSets` / `destTasks` of a successful build -/
def srcSetsOf (cs : List ConnCfg) : List (List TaskSpec) := (srcConns cs).map fun c => srcChain c.id (procIds c.procs)
def destSetsOf (cs : List ConnCfg) : List (List TaskSpec) := (dstConns cs).map fun c => destChain c.id (procIds c.procs)

/-- processor ids in the order in which the build reserves them -/
def srcProcIds (cs : List ConnCfg) : List Nat := ((srcConns cs).map fun c => procIds c.procs).flatten
def dstProcIds (cs : List ConnCfg) : List Nat := ((dstConns cs).map fun c => procIds c.procs).flatten
def allProcIds (cfg : PipeCfg) : List Nat := srcProcIds cfg.conns ++ dstProcIds cfg.conns ++ procIds cfg.procs

theorem srcConns_cons (c : ConnCfg) (cs : List ConnCfg) :
    srcConns (c :: cs) = if c.kind = .source then c :: srcConns cs else srcConns cs := by
  unfold srcConns; cases hk : c.kind <;> simp [hk]

theorem dstConns_cons (c : ConnCfg) (cs : List ConnCfg) :
    dstConns (c :: cs) = if c.kind = .dest then c :: dstConns cs else dstConns cs := by
  unfold dstConns; cases hk : c.kind <;> simp [hk]

theorem hasDup_false : ∀ l : List Nat, hasDup l = false ↔ l.Nodup
  | [] => by simp [hasDup]
  | x :: xs => by simp [hasDup, hasDup_false xs, List.nodup_cons]

mutual
theorem nodeIds_eq : (t : TaskNode) → nodeIds t = tasksS t
  | .mk id k next => by rw [nodeIds, tasksS, nodesIds_eq next]
theorem nodesIds_eq : (l : List TaskNode) → nodesIds l = tasksL l
  | [] => by rw [nodesIds, tasksL]
  | n :: ns => by rw [nodesIds, tasksL, nodeIds_eq n, nodesIds_eq ns]
end

theorem nodup_append_of {a b : List Nat} (ha : a.Nodup) (hb : b.Nodup) (hd : ∀ x ∈ b, x ∉ a) : (a ++ b).Nodup :=
  List.nodup_append.mpr ⟨ha, hb, fun _ hx y hy hxy => hd y hy (hxy ▸ hx)⟩

/-- `running` is the list of the instances reserved so far, latest first, each once. -/
theorem buildProcessorTasks_spec (ps : List ProcRef) : ∀ r : List Nat, r.Nodup →
    match buildProcessorTasks r ps with
    | .error y => y = .processor ∨ y = .running
    | .ok (ts, r') => ts = procIds ps ∧ r' = ts.reverse ++ r ∧ r'.Nodup := by
  induction ps with
  | nil => intro r hr; simpa [buildProcessorTasks, procIds] using hr
  | cons p ps ih =>
    intro r hr
    obtain ⟨id, found⟩ := p
    rw [buildProcessorTasks]
    cases found with
    | false => exact Or.inl rfl
    | true =>
      cases hc : r.contains id with
      | true => exact Or.inr rfl
      | false =>
        have := ih (id :: r) (List.nodup_cons.mpr ⟨by simpa using hc, hr⟩)
        simp only [Bool.not_true, Bool.false_eq_true, if_false]
        cases hrec : buildProcessorTasks (id :: r) ps with
        | error e => rw [hrec] at this; exact this
        | ok v =>
          rw [hrec] at this
          obtain ⟨h1, h2, h3⟩ := this
          exact ⟨by simp [procIds, h1], by simp [h2], h3⟩

/-- the loop the two share: the connectors of kind `kd`, each with `chain` over its processors -/
def connTasks (kd : ConnKind) (chain : Nat → List Nat → List TaskSpec) (running : List Nat) :
    List ConnCfg → Except BuildErr (List (List TaskSpec) × List Nat)
  | [] => .ok ([], running)
  | c :: cs =>
    if c.kind = .missing then .error .connector
    else if c.kind ≠ kd then connTasks kd chain running cs
    else
      match buildProcessorTasks running c.procs with
      | .error e => .error e
      | .ok (ps, r) =>
        match connTasks kd chain r cs with
        | .error e => .error e
        | .ok (sets, r') => .ok (chain c.id ps :: sets, r')

theorem buildSourceTasks_eq (cs : List ConnCfg) : ∀ r, buildSourceTasks r cs = connTasks .source srcChain r cs := by
  induction cs with
  | nil => intro r; rfl
  | cons c cs ih => intro r; rw [buildSourceTasks, connTasks]; cases hk : c.kind <;> simp [ih] <;> rfl

theorem buildDestinationTasks_eq (cs : List ConnCfg) : ∀ r, buildDestinationTasks r cs = connTasks .dest destChain r cs := by
  induction cs with
  | nil => intro r; rfl
  | cons c cs ih => intro r; rw [buildDestinationTasks, connTasks]; cases hk : c.kind <;> simp [ih] <;> rfl

theorem connTasks_spec (kd : ConnKind) (chain : Nat → List Nat → List TaskSpec) (cs : List ConnCfg) :
    ∀ r : List Nat, r.Nodup →
    match connTasks kd chain r cs with
    | .error y => y = .connector ∨ y = .processor ∨ y = .running
    | .ok (sets, r') =>
      sets = (cs.filter (·.kind == kd)).map (fun c => chain c.id (procIds c.procs)) ∧
      r' = ((cs.filter (·.kind == kd)).map fun c => procIds c.procs).flatten.reverse ++ r ∧ r'.Nodup := by
  induction cs with
  | nil => intro r hr; simpa [connTasks] using hr
  | cons c cs ih =>
    intro r hr
    rw [connTasks]
    by_cases hm : c.kind = .missing
    · rw [if_pos hm]; exact Or.inl rfl
    rw [if_neg hm]
    by_cases hk : c.kind = kd
    · have hf : (c :: cs).filter (·.kind == kd) = c :: cs.filter (·.kind == kd) :=
        List.filter_cons_of_pos (by simpa using hk)
      rw [if_neg (fun h => h hk), hf]
      have hp := buildProcessorTasks_spec c.procs r hr
      cases hpe : buildProcessorTasks r c.procs with
      | error e => rw [hpe] at hp; exact Or.inr hp
      | ok v =>
        obtain ⟨ps, r1⟩ := v
        rw [hpe] at hp
        obtain ⟨rfl, p2, p3⟩ := hp
        have hrec := ih r1 p3
        simp only
        cases hre : connTasks kd chain r1 cs with
        | error e => rw [hre] at hrec; exact hrec
        | ok w =>
          obtain ⟨sets', r2⟩ := w
          rw [hre] at hrec
          obtain ⟨h1, h2, h3⟩ := hrec
          exact ⟨by rw [h1]; rfl, by rw [h2, p2]; simp, h3⟩
    · rw [if_pos hk, List.filter_cons_of_neg (by simpa using hk)]
      exact ih r hr

theorem buildSourceTasks_spec (cs : List ConnCfg) (r : List Nat) (hr : r.Nodup) :
    match buildSourceTasks r cs with
    | .error y => y = .connector ∨ y = .processor ∨ y = .running
    | .ok (sets, r') => sets = srcSetsOf cs ∧ r' = (srcProcIds cs).reverse ++ r ∧ r'.Nodup := by
  rw [buildSourceTasks_eq]; exact connTasks_spec .source srcChain cs r hr

theorem buildDestinationTasks_spec (cs : List ConnCfg) (r : List Nat) (hr : r.Nodup) :
    match buildDestinationTasks r cs with
    | .error y => y = .connector ∨ y = .processor ∨ y = .running
    | .ok (sets, r') => sets = destSetsOf cs ∧ r' = (dstProcIds cs).reverse ++ r ∧ r'.Nodup := by
  rw [buildDestinationTasks_eq]; exact connTasks_spec .dest destChain cs r hr

theorem srcChain_ids (s : Nat) (ps : List Nat) : (srcChain s ps).map (·.1) = s :: ps := by
  simp [srcChain, Function.comp_def]

/-- the tree of the worker of source connector `c` -/
def treeOf (roots : List TaskNode) (c : ConnCfg) : TaskNode :=
  chainN (c.id, .source) (procSpecs (procIds c.procs)) roots

theorem buildWorkerTrees_spec (roots : List TaskNode) (scs : List ConnCfg) :
    match buildWorkerTrees roots (scs.map fun c => srcChain c.id (procIds c.procs)) with
    | .error y => y = .worker
    | .ok ts => ts = scs.map (treeOf roots) ∧ ∀ c ∈ scs, (c.id :: procIds c.procs).Nodup := by
  induction scs with
  | nil => simp [buildWorkerTrees]
  | cons c scs ih =>
    rw [List.map_cons, buildWorkerTrees, srcChain_ids, srcChain, sourceTree_ok]
    simp only
    cases hd : hasDup (c.id :: procIds c.procs) with
    | true => rfl
    | false =>
      have hnd : (c.id :: procIds c.procs).Nodup := (hasDup_false _).mp hd
      simp only [Bool.false_eq_true, if_false]
      cases hrec : buildWorkerTrees roots (scs.map fun c => srcChain c.id (procIds c.procs)) with
      | error e => rw [hrec] at ih; exact ih
      | ok ts' =>
        rw [hrec] at ih
        refine ⟨by rw [ih.1]; rfl, fun d hd' => ?_⟩
        rcases List.mem_cons.mp hd' with rfl | hd'
        · exact hnd
        · exact ih.2 d hd'

theorem destSetsOf_ne (cs : List ConnCfg) : ∀ b ∈ destSetsOf cs, b ≠ [] := by
  intro b hb
  obtain ⟨c, _, rfl⟩ := List.mem_map.mp hb
  simp [destChain]

def sharedOf (cfg : PipeCfg) : List TaskNode := sharedRootsOf (procIds cfg.procs) (destSetsOf cfg.conns)

structure Built (cfg : PipeCfg) (trees : List TaskNode) : Prop where
  trees_eq : trees = (srcConns cfg.conns).map (treeOf (sharedOf cfg))
  procs_nodup : (allProcIds cfg).Nodup
  shared_nodup : (tasksL (sharedOf cfg)).Nodup
  prefix_nodup : ∀ c ∈ srcConns cfg.conns, (c.id :: procIds c.procs).Nodup
  has_src : srcConns cfg.conns ≠ []
  has_dst : dstConns cfg.conns ≠ []

theorem buildWorkers_spec (cfg : PipeCfg) :
    match buildWorkers cfg with
    | .error y => y ∈ [BuildErr.connector, .processor, .running, .nosrc, .nodst, .sink, .worker]
    | .ok trees => Built cfg trees := by
  have sub : ∀ y : BuildErr, y = .connector ∨ y = .processor ∨ y = .running →
      y ∈ [BuildErr.connector, .processor, .running, .nosrc, .nodst, .sink, .worker] := by
    rintro y (rfl | rfl | rfl) <;> simp
  rw [buildWorkers]
  have hS := buildSourceTasks_spec cfg.conns [] List.nodup_nil
  cases hs : buildSourceTasks [] cfg.conns with
  | error e => rw [hs] at hS; exact sub e hS
  | ok v =>
    obtain ⟨srcSets, r1⟩ := v
    rw [hs] at hS
    obtain ⟨s1, s2, s3⟩ := hS
    simp only
    by_cases hse : srcSets.isEmpty = true
    · rw [if_pos hse]; simp
    rw [if_neg hse]
    have hD := buildDestinationTasks_spec cfg.conns r1 s3
    cases hd : buildDestinationTasks r1 cfg.conns with
    | error e => rw [hd] at hD; exact sub e hD
    | ok w =>
      obtain ⟨destTasks, r2⟩ := w
      rw [hd] at hD
      obtain ⟨d1, d2, d3⟩ := hD
      simp only
      by_cases hde : destTasks.isEmpty = true
      · rw [if_pos hde]; simp
      rw [if_neg hde]
      have hP := buildProcessorTasks_spec cfg.procs r2 d3
      cases hp : buildProcessorTasks r2 cfg.procs with
      | error e => rw [hp] at hP; exact sub e (Or.inr hP)
      | ok u =>
        obtain ⟨procTasks, r3⟩ := u
        rw [hp] at hP
        obtain ⟨p1, p2, p3⟩ := hP
        subst d1 p1 s1
        simp only
        rw [show buildSharedTail (procIds cfg.procs) _ = .ok (sharedOf cfg) from
          buildSharedTail_ok _ _ (destSetsOf_ne cfg.conns)]
        simp only
        by_cases hk : ((sharedOf cfg).isEmpty || hasDup (nodesIds (sharedOf cfg))) = true
        · rw [if_pos hk]; simp
        rw [if_neg hk]
        simp only [Bool.or_eq_true, not_or, Bool.not_eq_true] at hk
        have hT := buildWorkerTrees_spec (sharedOf cfg) (srcConns cfg.conns)
        rw [srcSetsOf]
        cases ht : buildWorkerTrees (sharedOf cfg) ((srcConns cfg.conns).map fun c => srcChain c.id (procIds c.procs)) with
        | error e => rw [ht] at hT; subst hT; simp
        | ok trees =>
          rw [ht] at hT
          refine ⟨hT.1, ?_, ?_, hT.2, ?_, ?_⟩
          · -- the final `running` list is `allProcIds cfg` backwards
            rw [p2, d2, s2] at p3
            exact (List.reverse_perm _).nodup_iff.mp (by simpa [allProcIds, List.reverse_append, List.append_assoc] using p3)
          · rw [← nodesIds_eq]; exact (hasDup_false _).mp hk.2
          · intro he; apply hse; rw [srcSetsOf, he]; rfl
          · intro he; apply hde; rw [destSetsOf, he]; rfl

theorem buildWorkers_ok (cfg : PipeCfg) (trees : List TaskNode) (h : buildWorkers cfg = .ok trees) : Built cfg trees := by
  have := buildWorkers_spec cfg
  rw [h] at this
  exact this

end Conduit.Funnel
