import ConduitModel.Proofs.MonSPipe
import ConduitModel.Proofs.MonSDestEffect
import ConduitModel.Proofs.MonDest

/-!
# `DestinationTask.Do` against the monitor, on a batch that may carry split records

`write_silentS`, `destDo_rows` (the row-level effect, from `destDoP_effS` of
Proofs/MonSDestEffect.lean) and the `DestEff` lemmas that rebuild the batch in flight do not mention
the handler chain; Proofs/MonGDest.lean uses them under a contract `MC`.
-/
namespace Conduit.Funnel
open Conduit.Funnel.Mon

theorem row_active {h : Heap} {b : Batch} {rs : List (Option Nat)} (hwf : b.WF h) (hvb : VB b rs) {p : Nat} {row : Row}
    (hp : b.rows[p]? = some row) (hf : row.st.flag ≠ .filter) :
    ∃ j : Nat, (actList b.st)[j]? = some p ∧ b.active[j]? = some row.r := 
  let ⟨j, hj⟩ := SProc.row_act hvb hp hf
  ⟨j, hj, (SProc.act_row hwf hvb hj hp).1⟩

theorem entriesW_row {h : Heap} {b : Batch} {rs : List (Option Nat)} (hwf : b.WF h) (hvb : VB b rs) (haf : FlagsAF b)
    {scr : List (Nat × List Reply)} {d c : Nat} {e : Nat × Nat × Nat × Bool} (he : e ∈ entriesW scr d c b.active) :
    ∃ (j p : Nat) (row : Row), b.active[j]? = some row.r ∧ (actList b.st)[j]? = some p ∧ b.rows[p]? = some row ∧
      row.st.flag = .ack ∧ e = (d, root row.r, row.r.tag, confirmed scr d c j (b.active.map (·.pos))) := by
  obtain ⟨j, r, hj, rfl⟩ := mem_entriesW.mp he
  obtain ⟨p, row, hp, hrow, rfl, hnf⟩ := active_row hwf hvb hj
  exact ⟨j, p, row, hj, hp, hrow, (flagsAF_row hvb haf hrow).resolve_right hnf, rfl⟩

theorem write_silentS {G : Ctx} (hs : Src G) {s : PS} {b : Batch} {d p : Nat} {sub : List Nat} {sm : List Nat}
    {rs : List (Option Nat)} (hwf : b.WF s.heap) (hvb : VB b rs) (hm : SrcMap G s.heap b sm)
    (hfront : ∀ q : Nat, sm[0]? = some q → p = q) (haf : FlagsAF b)
    {κ : Nat → Nat} (htags : TagsK κ G s (d :: sub) b 0)
    (hbelow : ∀ e ∈ (G.mu s).written, e.1 ∈ d :: sub → NonPend G (p + 1) e.2.1) :
    (writeT G.scripts (G.mu s) d b.active).tv = (G.mu s).tv := by
  apply write_silent_of
  · intro e hmem hc r hr
    have hed : e.1 ∈ d :: sub := by rw [hc]; exact List.mem_cons_self
    obtain ⟨i, src0, hi, hsrc0, hroot0⟩ := hbelow e hmem hed
    obtain ⟨j, hj⟩ := List.getElem?_of_mem hr
    obtain ⟨p', row, hp, hrow, hrr, hnf⟩ := active_row hwf hvb hj
    obtain ⟨q, src, hq, hsrc, _, hroot⟩ := SM.srcOf hm hrow
    have hack : row.st.flag = .ack := (flagsAF_row hvb haf hrow).resolve_right hnf
    constructor
    · have h0 : 0 < sm.length := by
        have := (List.getElem?_eq_some_iff.mp hq).1
        omega
      have hq0 : sm[0]? = some sm[0] := List.getElem?_eq_getElem h0
      have hn := hfront _ hq0
      have hle := (SM.le' hm (Nat.zero_le p') hq0 hq).1
      rw [← hrr, hroot, ← hroot0]
      rcases Nat.lt_or_eq_of_le (by omega : i ≤ q) with hlt | heq
      · exact Nat.le_of_lt (hs.root_lt hsrc0 hsrc hlt)
      · subst heq
        rw [hsrc0] at hsrc; cases hsrc
        exact Nat.le_refl _
    · have := (htags.unw p' row (Nat.zero_le _) hrow (Or.inl hack)).tag e hmem hed
      rw [← hrr]; exact this
  · intro i j a c hij ha hc
    obtain ⟨p1, row, hp, hrow, hrr, _⟩ := active_row hwf hvb ha
    obtain ⟨p2, row', hp', hrow', hrr', _⟩ := active_row hwf hvb hc
    have hpw := List.pairwise_iff_getElem.mp (actList_pairwise b.st)
    obtain ⟨hi1, hi2⟩ := List.getElem?_eq_some_iff.mp hp
    obtain ⟨hj1, hj2⟩ := List.getElem?_eq_some_iff.mp hp'
    have := hpw i j hi1 hj1 hij
    rw [hi2, hj2] at this
    rw [← hrr, ← hrr']
    exact SM.root_le hs hm (Nat.le_of_lt this) hrow hrow'

/-- how a row changes: only the status, which stays or becomes a nack -/
def RowUpd (row row' : Row) : Prop :=
  row'.r = row.r ∧ row'.pos = row.pos ∧ row'.run = row.run ∧ (row'.st = row.st ∨ row'.st.flag = .nack)

/-- what `DestinationTask.Do` on `d` does, in terms of rows: the heap, the acknowledged prefix and
the tags seen stay; the monitor gets one `written` entry per unfiltered row, confirmed unless the row
is flagged nack afterwards; the rows only change their status -/
structure DestEff (G : Ctx) (s s' : PS) (d : Nat) (b b1 : Batch) : Prop where
  heap : s'.heap = s.heap
  nacked : nAcked s' = nAcked s
  seen : Seen G s' = Seen G s
  err : (G.mu s').errored = (G.mu s).errored
  fil : (G.mu s').filtered = (G.mu s).filtered
  any : (G.mu s').dlqAny = (G.mu s).dlqAny
  ok : (G.mu s').dlqOk = (G.mu s).dlqOk
  view : b1.view = b.view
  split : b1.split = b.split
  len : b1.rows.length = b.rows.length
  rows1 : ∀ (p : Nat) (row' : Row), b1.rows[p]? = some row' → ∃ row, b.rows[p]? = some row ∧ RowUpd row row'
  wr_old : ∀ e ∈ (G.mu s).written, e ∈ (G.mu s').written
  wr_new : ∀ e ∈ (G.mu s').written, e ∈ (G.mu s).written ∨
    ∃ (p : Nat) (row row' : Row), b.rows[p]? = some row ∧ b1.rows[p]? = some row' ∧ row.st.flag = .ack ∧
      e.1 = d ∧ e.2.1 = root row.r ∧ e.2.2.1 = row.r.tag ∧ (e.2.2.2 = true ∨ row'.st.flag = .nack)
  wr_row : ∀ (p : Nat) (row : Row), b.rows[p]? = some row → row.st.flag = .ack →
    ∃ e ∈ (G.mu s').written, e.1 = d ∧ e.2.1 = root row.r

theorem mu_write (G : Ctx) {s s' : PS} {d : Nat} {recs : List Rec} (hlog : s'.log = s.log.push (.write d recs)) :
    (G.mu s').written = (G.mu s).written ++ entriesW G.scripts d (callNoL (G.mu s).calls d) recs ∧
    (G.mu s').errored = (G.mu s).errored ∧ (G.mu s').filtered = (G.mu s).filtered ∧
    (G.mu s').dlqAny = (G.mu s).dlqAny ∧ (G.mu s').dlqOk = (G.mu s).dlqOk := by
  have hmu : G.mu s' = writeT G.scripts (G.mu s) d recs := mu_push G s s' _ hlog
  rw [hmu]
  exact ⟨rfl, rfl, rfl, rfl, rfl⟩

theorem destDo_rows {G : Ctx} {s s' : PS} {b b1 : Batch} {d : Nat} {rs : List (Option Nat)}
    (hsc : SC G s) (hwf : b.WF s.heap) (hvb : VB b rs) (haf : FlagsAF b)
    (hlog : s'.log = s.log.push (.write d b.active)) (hheap : s'.heap = s.heap)
    (hr : destDoP b (destReply (nextReply s.scripts d)).1 (destReply (nextReply s.scripts d)).2 = .ok b1) :
    DestEff G s s' d b b1 ∧ (b1.tainted = false → FlagsAF b1) := by
  obtain ⟨hwr, herr, hfil, hany, hok⟩ := mu_write G hlog
  obtain ⟨all, f⟩ := destDoP_effS hwf _ _ hr
  have hrep : replyOfCall G.scripts d (callNoL (G.mu s).calls d) =
      some (.dest none (destReply (nextReply s.scripts d)).2) := by
    rw [← hsc.nextReply d]; exact destReply_none f.werr
  have hconf : ∀ j : Nat, confirmed G.scripts d (callNoL (G.mu s).calls d) j (b.active.map (·.pos)) =
      ((all.map (·.2.isNone))[j]?).getD false := by
    intro j
    unfold confirmed
    rw [hrep]
    simp only []
    rw [f.loop]
  have hnAct : b.active.length = all.length := by rw [f.len]; exact active_length hwf.1.st_len hwf.2
  have hvb1 : VB b1 rs :=
    ⟨by rw [f.runs]; exact hvb.runs, by rw [f.recs]; exact hvb.rlen, by rw [f.stlen, f.recs]; exact hvb.slen,
     by rw [f.pos, f.recs]; exact hvb.plen, by rw [f.pos]; exact hvb.nopos⟩
  have hrows1 : ∀ (p : Nat) (row' : Row), b1.rows[p]? = some row' → ∃ row, b.rows[p]? = some row ∧ RowUpd row row' := by
    intro p row' hp
    obtain ⟨row, g1, g2, g3, g4, g5, g6⟩ := rows_congr hvb hvb1 f.recs f.pos hp
    exact ⟨row, g1, g2.symm, g3.symm, g4.symm, f.old p _ _ g6 g5⟩
  have hrlen : b1.rows.length = b.rows.length := by rw [rows_length, rows_length, f.recs]
  have hnew : ∀ e ∈ entriesW G.scripts d (callNoL (G.mu s).calls d) b.active,
      ∃ (p : Nat) (row row' : Row), b.rows[p]? = some row ∧ b1.rows[p]? = some row' ∧ row.st.flag = .ack ∧
        e.1 = d ∧ e.2.1 = root row.r ∧ e.2.2.1 = row.r.tag ∧ (e.2.2.2 = true ∨ row'.st.flag = .nack) := by
    intro e he
    obtain ⟨j, p, row, hj, hp, hrow, hack, rfl⟩ := entriesW_row hwf hvb haf he
    have hjl : j < all.length := by rw [← hnAct]; exact (List.getElem?_eq_some_iff.mp hj).1
    have hlt1 : p < b1.rows.length := by rw [hrlen]; exact (List.getElem?_eq_some_iff.mp hrow).1
    have hrow1 : b1.rows[p]? = some b1.rows[p] := List.getElem?_eq_getElem hlt1
    refine ⟨p, row, _, hrow, hrow1, hack, rfl, rfl, rfl, ?_⟩
    show confirmed _ _ _ _ _ = true ∨ _
    rw [hconf j]
    have haj : all[j]? = some all[j] := List.getElem?_eq_getElem hjl
    cases hae : (all[j]).2 with
    | none => left; simp [hjl, hae]
    | some er =>
      right
      obtain ⟨st', hst', hfl⟩ := f.nack j p _ hp haj (by rw [hae]; rfl)
      obtain ⟨_, g2, _, _⟩ := rows_fields hvb1 hrow1
      rw [hst'] at g2
      rw [← Option.some.inj g2]; exact hfl
  have heff : DestEff G s s' d b b1 := by
    refine ⟨hheap, nAcked_push_other s s' _ hlog rfl, Seen.push_other _ hlog (fun _ _ hh => Ev.noConfusion hh),
      herr, hfil, hany, hok, ?_, f.split, hrlen, hrows1, ?_, ?_, ?_⟩
    · unfold Batch.view; rw [f.runs, f.pos]
    · intro e he; rw [hwr]; exact List.mem_append_left _ he
    · intro e he
      rw [hwr, List.mem_append] at he
      rcases he with he | he
      · exact Or.inl he
      · exact Or.inr (hnew e he)
    · intro p row hrow hack
      obtain ⟨j, hj, haj⟩ := row_active hwf hvb hrow (by rw [hack]; exact fun hh => Flag.noConfusion hh)
      exact ⟨_, by rw [hwr]; exact List.mem_append_right _ (mem_entriesW.mpr ⟨j, _, haj, rfl⟩), rfl, rfl⟩
  exact ⟨heff, haf.of_taint f.taint⟩

theorem SrcMap.run_of_root {G : Ctx} {h : Heap} {b : Batch} {sm : List Nat} (hm : SrcMap G h b sm) (hs : Src G)
    {k p rid : Nat} {row0 row : Row}
    (hl : LinOf G h rid)
    (h0 : b.rows[k]? = some row0) (hr0 : row0.run = some rid) (hp : b.rows[p]? = some row)
    (hroot : root row.r = root (h[rid]!).origRec) : row.run = some rid := by
  obtain ⟨q, src, b1, b2, _, b4⟩ := SM.srcOf hm hp
  obtain ⟨row', h1, h2⟩ := row_of_root hs hm hl h0 hr0 b1 b2 (by rw [← b4, hroot])
  rw [hp] at h1
  exact Option.some.inj h1 ▸ h2

theorem cnt_pos_row {h : Heap} {b : Batch} {rs : List (Option Nat)} (hwf : b.WF h) (hvb : VB b rs) {rid : Nat}
    (hc : 0 < cnt rid b.view) : rid < h.size ∧ ∃ (k : Nat) (row : Row), b.rows[k]? = some row ∧ row.run = some rid := by
  constructor
  · apply Classical.byContradiction
    intro hn
    have := cnt_zero_of_ge hwf (Nat.le_of_not_lt hn)
    omega
  · exact (cnt_pos hvb).mp hc

theorem RowUpd.st_eq {row row' : Row} (hu : RowUpd row row') (hn : row'.st.flag ≠ .nack) : row'.st = row.st :=
  hu.2.2.2.resolve_right hn

namespace DestEff
variable {G : Ctx} {s s' : PS} {d : Nat} {b b1 : Batch} {sm : List Nat}

theorem sim (he : DestEff G s s' d b b1) : RowsSim id s.heap s'.heap b b1 :=
  ⟨he.len, fun p row' hp => let ⟨row, g1, u⟩ := he.rows1 p row' hp; ⟨row, g1, u.1, u.2.1, by rw [u.2.2.1]; cases row.run <;> rfl⟩,
    fun _ _ _ _ _ => by rw [he.heap]; rfl, he.split⟩

theorem upd (he : DestEff G s s' d b b1) {k : Nat} {row row' : Row} (hk : b.rows[k]? = some row)
    (hk' : b1.rows[k]? = some row') : RowUpd row row' := by
  obtain ⟨row0, g1, u⟩ := he.rows1 k row' hk'
  rw [hk] at g1
  exact Option.some.inj g1 ▸ u

theorem unw_st (he : DestEff G s s' d b b1) (k : Nat) (row row' : Row) (hk : b.rows[k]? = some row)
    (hk' : b1.rows[k]? = some row') (hf : row'.st.flag = .ack ∨ row'.st.flag = .retry) :
    row.st.flag = .ack ∨ row.st.flag = .retry := by
  rw [← (he.upd hk hk').st_eq (by rcases hf with h1 | h1 <;> rw [h1] <;> exact fun hh => Flag.noConfusion hh)]; exact hf

theorem wr_ahead (he : DestEff G s s' d b b1) {sub : List Nat} (hd : d ∉ sub) :
    ∀ e ∈ (G.mu s').written, e.1 ∈ sub → e ∈ (G.mu s).written ∧ e.1 ∈ d :: sub := by
  intro e hm' hsub
  rcases he.wr_new e hm' with old | ⟨_, _, _, _, _, _, hed, _, _, _⟩
  · exact ⟨old, List.mem_cons_of_mem _ hsub⟩
  · rw [hed] at hsub; exact absurd hsub hd

theorem reach (he : DestEff G s s' d b b1) (hm : SrcMap G s.heap b sm) {pre : List Nat}
    (h : ∀ (k : Nat) (row : Row) (q : Nat) (src : Rec), 0 ≤ k → b.rows[k]? = some row → sm[k]? = some q →
      G.all[q]? = some src → row.st.flag = .ack → Reach (G.mu s) pre (root src)) :
    ∀ (k : Nat) (row : Row) (q : Nat) (src : Rec), 0 ≤ k → b1.rows[k]? = some row → sm[k]? = some q →
      G.all[q]? = some src → row.st.flag = .ack → Reach (G.mu s') (pre ++ [d]) (root src) := by
  intro k row' q src _ hk hq hsrc hfl
  obtain ⟨row, hrow, hu⟩ := he.rows1 k row' hk
  have hack : row.st.flag = .ack := by
    rw [← hu.st_eq (by rw [hfl]; exact fun hh => Flag.noConfusion hh)]; exact hfl
  have hold := h k row q src (Nat.zero_le _) hrow hq hsrc hack
  obtain ⟨src2, a1, _, a3⟩ := hm.key k row q hrow hq
  rw [hsrc] at a1; cases a1
  intro d' hd'
  rcases List.mem_append.mp hd' with hd' | hd'
  · obtain ⟨e, hm', x1, x2⟩ := hold d' hd'
    exact ⟨e, he.wr_old e hm', x1, x2⟩
  · have hdd : d' = d := by simpa using hd'
    subst hdd
    obtain ⟨e, hm', x1, x2⟩ := he.wr_row k row hrow hack
    exact ⟨e, hm', x1, by rw [x2, a3]⟩

theorem filtered (he : DestEff G s s' d b b1)
    (h : ∀ (k : Nat) (row : Row) (q : Nat) (src : Rec), 0 ≤ k → b.rows[k]? = some row → sm[k]? = some q →
      G.all[q]? = some src → row.st.flag = .filter → root src ∈ (G.mu s).filtered) :
    ∀ (k : Nat) (row : Row) (q : Nat) (src : Rec), 0 ≤ k → b1.rows[k]? = some row → sm[k]? = some q →
      G.all[q]? = some src → row.st.flag = .filter → root src ∈ (G.mu s').filtered := by
  intro k row' q src _ hk hq hsrc hfl
  obtain ⟨row, hrow, hu⟩ := he.rows1 k row' hk
  rw [he.fil]
  refine h k row q src (Nat.zero_le _) hrow hq hsrc ?_
  rw [← hu.st_eq (by rw [hfl]; exact fun hh => Flag.noConfusion hh)]; exact hfl

theorem no_retry (he : DestEff G s s' d b b1) (haf : FlagsAF b) {rs : List (Option Nat)} (hvb : VB b rs)
    {k : Nat} {row' : Row} (hk : b1.rows[k]? = some row') : row'.st.flag ≠ .retry := by
  intro hfl
  obtain ⟨row, hrow, hu⟩ := he.rows1 k row' hk
  rw [hu.st_eq (by rw [hfl]; exact fun hh => Flag.noConfusion hh)] at hfl
  rcases flagsAF_row hvb haf hrow with h2 | h2 <;> rw [hfl] at h2 <;> cases h2

end DestEff

end Conduit.Funnel
