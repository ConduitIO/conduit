import ConduitModel.Proofs.MonTaskDefs
import ConduitModel.Proofs.PassPipe

/-!
# One iteration of the task recursion, whatever the invariant

What the monitor proofs add to the one-level lemmas of Proofs/PassStep.lean: `Appends` (a program of the engine
only appends to the event log: `log_mono_*`), `doTaskAttempt_succ` (a
skipped task is the source's and returns its batch; the continuation only appends to the log), and the
small facts about a retried group flagged `ack` again, the destinations of a node and justified acks that
Proofs/MonSPipe.lean, MonGPipe.lean and the handler files share.
-/
namespace Conduit.Funnel
open Conduit.Funnel.Mon

/-- `x` only appends to the event log (what carries a hypothesis on the final log, `RP`, `Disc`, back to a state on the way) -/
def Appends {α} (x : M α) : Prop :=
  ∀ ⦃s s' : PS⦄ ⦃r : Except Stop α⦄, exec x s = (r, s') → s.log.toList <+: s'.log.toList

theorem Appends.of_spec {α} {x : M α} (hx : ∀ L, Spec (fun t => L <+: t.log.toList) x (fun _ => True)) : Appends x := by
  intro s s' r h
  have := (hx _ s (List.prefix_refl _)).1
  rw [h] at this
  exact this

theorem log_mono_dta {fuel : Nat} {node : TaskNode} {b : Batch} {a : Acker} {retry : Option RetryAttempt} {skipDo : Bool} :
    Appends (doTaskAttempt fuel node b a retry skipDo) :=
  Appends.of_spec fun _ => (pipeline_keeps_inv (prims_logPrefix _) fuel).1 _ _ _ _ _

theorem log_mono_taint {fuel : Nat} {node : TaskNode} {b : Batch} {a : Acker} {retry : Option RetryAttempt} {i : Nat} :
    Appends (taintedLoop fuel node b a retry i) :=
  Appends.of_spec fun _ => (pipeline_keeps_inv (prims_logPrefix _) fuel).2.1 _ _ _ _ _

theorem log_mono_next {fuel : Nat} {node : TaskNode} {b : Batch} {a : Acker} : Appends (doNextTask fuel node b a) :=
  Appends.of_spec fun _ => (pipeline_keeps_inv (prims_logPrefix _) fuel).2.2.1 _ _ _

theorem log_mono_acker {fuel : Nat} {a : Acker} {b : Batch} {isAck : Bool} {t : Nat} : Appends (ackerCall fuel a b isAck t) :=
  Appends.of_spec fun _ => (ackers_keep_inv (prims_logPrefix _) fuel).1 _ _ _ _

theorem log_mono_ackOrNext {fuel : Nat} {node : TaskNode} {a : Acker} {b : Batch} : Appends (ackOrNext fuel node a b) := by
  unfold ackOrNext
  split
  · exact log_mono_acker
  · exact log_mono_next

theorem viaDests_of_clean {tree : TaskNode} {μ : TSt} {ρ : Nat} (hc : Clean μ ρ)
    (ht : ∀ d ∈ dests tree, WrittenTo μ d ρ ∨ ρ ∈ μ.filtered) : viaDestsT tree μ ρ = true := by
  unfold viaDestsT
  rw [List.all_eq_true]
  intro d hdm
  simp only [Bool.and_eq_true, Bool.or_eq_true, List.all_eq_true, Bool.not_eq_true']
  constructor
  · intro e he
    rw [List.mem_filter] at he
    have : e.2.1 = ρ := by have := he.2; simp at this; exact this.2
    exact hc.2 e he.1 this
  · rcases ht d hdm with ⟨e, hm, h1, h2⟩ | hf
    · left
      rw [List.isEmpty_eq_false_iff_exists_mem]
      exact ⟨e, List.mem_filter.mpr ⟨hm, by simp [h1, h2]⟩⟩
    · right
      simpa using hf

theorem viaDests_of_active {tree : TaskNode} {μ : TSt} {P : List Nat} {ρ : Nat} (h : Active μ P ρ)
    (hd : ∀ d ∈ dests tree, d ∈ P) : viaDestsT tree μ ρ = true :=
  viaDests_of_clean h.1 fun d hdm => .inl (h.2 d (hd d hdm))

theorem viaDests_of_filtered {tree : TaskNode} {μ : TSt} {ρ : Nat} (h : Filtered μ ρ) : viaDestsT tree μ ρ = true :=
  viaDests_of_clean h.1 fun _ _ => .inr h.2

theorem all_filter_of_not_hasActive' {h : Heap} {b : Batch} (hwf : b.WF h) (hna : b.hasActive = false) :
    ∀ (q : Nat) (st : Status), b.st[q]? = some st → st.flag = .filter := by
  unfold Batch.hasActive at hna
  have hfc := hwf.2
  have hlen := hwf.1.st_len
  have hge : b.st.length ≤ countFilter b.st := by
    have : ¬ b.filterCount < b.recs.length := by simpa using hna
    omega
  have hle : countFilter b.st ≤ b.st.length := List.length_filter_le _ _
  have heq : (b.st.filter (·.flag = .filter)).length = b.st.length := by unfold countFilter at hge hle; omega
  have := List.length_filter_eq_length_iff.mp heq
  intro q st hq
  have := this st (List.mem_of_getElem? hq)
  simpa using this

theorem Align.congr {G : Ctx} {n0 : Nat} {b b' : Batch} (h : Align G n0 b) (hp : b'.pos = b.pos) (hr : b'.recs = b.recs) :
    Align G n0 b' := ⟨by rw [hp]; exact h.pos, by rw [hr]; exact h.lin⟩

theorem Align.inR {G : Ctx} {n0 : Nat} {b : Batch} (_h : Align G n0 b) {q : Nat} {src : Rec} (hq : q < b.pos.length)
    (hsrc : G.all[n0 + q]? = some src) : InR G n0 b.pos.length (root src) := ⟨q, src, hq, hsrc, rfl⟩

theorem own_of_ne_dest {node : TaskNode} (h : node.kind ≠ .dest) : own node = [] := by
  unfold own
  cases hk : node.kind with
  | dest => exact absurd hk h
  | proc => rfl
  | source => rfl

theorem destsL_single (n : TaskNode) : destsL [n] = destsS n := by rw [destsL_cons, destsL_nil, List.append_nil]

theorem destsS_single {node n : TaskNode} (hnx : node.next = [n]) : destsS node = own node ++ destsS n := by
  rw [destsS_eq, hnx, destsL_single]

theorem cover_child {node n : TaskNode} (hnx : node.next = [n]) {pre : List Nat} {d : Nat} (h : d ∈ pre ∨ d ∈ destsS node) :
    d ∈ pre ++ own node ∨ d ∈ destsS n := by
  rcases h with h1 | h1
  · exact Or.inl (List.mem_append_left _ h1)
  · rw [destsS_single hnx, List.mem_append] at h1
    exact h1.imp (List.mem_append_right _) id

/-- `doTaskAttempt_step` for a skipped task that is the source's (which returns its batch), with the
fact that the continuation only appends to the log -/
theorem doTaskAttempt_succ {fuel : Nat} {node : TaskNode} {b : Batch} {a : Acker} {retry : Option RetryAttempt}
    {skipDo : Bool} {s s' : PS} {r : Except Stop Unit} (hskip : skipDo = true → node.kind = .source)
    (h : exec (doTaskAttempt (fuel+1) node b a retry skipDo) s = (r, s')) :
    ∃ (r1 : Except Stop Batch) (s1 : PS), exec (taskDo node b) s = (r1, s1) ∧ s1.log.toList <+: s'.log.toList ∧
      match r1 with
      | .error _ => (∃ e, r = .error e) ∧ s' = s1
      | .ok b1 =>
        exec (if !b1.tainted then ackOrNext fuel node a b1 else taintedLoop fuel node b1 a retry 0) s1 = (r, s') := by
  rcases doTaskAttempt_step h with ⟨_, e, ht, e', rfl⟩ | ⟨b1, s1, X, hpre, hX, hx⟩
  · exact ⟨_, _, ht, List.prefix_refl _, ⟨_, rfl⟩, rfl⟩
  · have ht : exec (taskDo node b) s = (.ok b1, s1) := by
      rcases hpre with ⟨hsk, rfl, rfl⟩ | ⟨_, ht⟩
      · unfold taskDo; rw [hskip hsk]; rfl
      · exact ht
    cases hX with
    | clean hc => exact ⟨_, _, ht, log_mono_ackOrNext hx, by simp only [hc]; exact hx⟩
    | taint hc => exact ⟨_, _, ht, log_mono_taint hx, by simp only [hc]; exact hx⟩

theorem reflag_retry {h : Heap} {sb sb' : Batch} (hwf : sb.WF h)
    (hallr : ∀ (q : Nat) (st : Status), sb.st[q]? = some st → st.flag = .retry)
    (hsf : sb.setFlagRange .ack 0 sb.recs.length = .ok sb') :
    ∀ (q : Nat) (st' : Status), sb'.st[q]? = some st' → ∃ st, sb.st[q]? = some st ∧ st' = setFlagP .ack st := by
  obtain ⟨hij, hj⟩ := setFlagRange_inrange hwf hsf
  rw [setFlagRange_ok hwf .ack hij hj] at hsf
  have hst' : sb'.st = sb.flagged .ack 0 sb.recs.length := by injection hsf with hsf; rw [← hsf]
  have hcf : countFilter sb.st = 0 := by
    unfold countFilter
    rw [List.length_eq_zero_iff, List.filter_eq_nil_iff]
    intro x hx
    obtain ⟨q, hq, rfl⟩ := List.getElem_of_mem hx
    have := hallr q _ (List.getElem?_eq_getElem hq)
    simp [this]
  have hact := actList_of_countFilter_zero hcf
  intro q st' hq
  rw [hst'] at hq
  by_cases hql : q < sb.st.length
  · have hk : ∃ k : Nat, 0 ≤ k ∧ k < sb.recs.length ∧ (actList sb.st)[k]? = some q :=
      ⟨q, Nat.zero_le _, by rw [← hwf.1.st_len]; exact hql, by rw [hact]; simp [hql]⟩
    rw [(getElem?_flagged sb .ack 0 sb.recs.length q).1 hk, List.getElem?_eq_getElem hql] at hq
    exact ⟨_, List.getElem?_eq_getElem hql, (Option.some.inj hq).symm⟩
  · have hk : ¬ ∃ k : Nat, 0 ≤ k ∧ k < sb.recs.length ∧ (actList sb.st)[k]? = some q := by
      rintro ⟨k, _, _, hk⟩
      rw [hact] at hk
      exact hql (List.mem_range.mp (List.mem_of_getElem? hk))
    rw [(getElem?_flagged sb .ack 0 sb.recs.length q).2 hk, List.getElem?_eq_none_iff.mpr (Nat.le_of_not_lt hql)] at hq
    cases hq

theorem new_st_ack (recs : List Rec) {q : Nat} {st : Status} (hst : (Batch.new recs).st[q]? = some st) : st.flag = .ack := by
  simp only [Batch.new, List.getElem?_map] at hst
  cases hx : recs[q]? with
  | none => rw [hx] at hst; cases hst
  | some x => rw [hx] at hst; cases hst; rfl

theorem new_flagsAF (recs : List Rec) : FlagsAF (Batch.new recs) := fun _ _ hst => Or.inl (new_st_ack recs hst)

end Conduit.Funnel
