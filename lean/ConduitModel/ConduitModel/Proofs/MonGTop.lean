import ConduitModel.Proofs.MonGFan

/-!
# From the task recursion to the whole run

`runPass_monG` starts a pass on the batch just read (`new_flightB`, Proofs/MonSTop.lean) under the root
handler chain, `runBatches_monG` chains the passes of a run (`runBatches_lift`, Proofs/MonRun.lean;
`RestedT` is what holds between two passes): the monitor never fires on a run that keeps the roots and
obeys the key discipline `Disc κ` for a key `κ` that determines the root. Both take the task recursion
as a parameter, for any class of trees on which it is available under the root chain: linear pipelines
(`pipeG_linear`), trees with one level of fan-out (`pipeG_fan1`).
-/
namespace Conduit.Funnel
open Conduit.Funnel.Mon

variable {κ : Nat → Nat}

/-- between two passes: every attributed error and every `written` entry belongs to a record behind the read frontier -/
structure RestedT (G : Ctx) (s : PS) : Prop where
  err : ∀ x ∈ G.errT s, NonPend G (nAcked s) x.2
  wr : ∀ e ∈ (G.mu s).written, NonPend G (nAcked s) e.2.1

theorem RestedT.same {G : Ctx} {s s' : PS} (h : RestedT G s) (hlog : s'.log = s.log) : RestedT G s' := by
  have hm := mu_same G s s' hlog
  have he := errT_same G s s' hlog
  have hn : nAcked s' = nAcked s := by unfold nAcked; rw [hlog]
  exact ⟨by rw [he, hn]; exact h.err, by rw [hm, hn]; exact h.wr⟩

theorem pipeG_fan1 {G : Ctx} (hs : Src G) (fuel : Nat) : PipeG κ G (GoodG G) (IsWorkerG G hs) fuel :=
  (pipeG_all hs (GoodG G) (IsWorkerG G hs) (fun _ hg hl => hg.child hl)
    (fun fuel _ => fanG_worker hs fuel) fuel fuel (Nat.le_refl _)).1

theorem runPass_monG {G : Ctx} (hs : Src G) {Good : TaskNode → Prop} {P : ∀ X, MC G X → Prop}
    (hpipe : ∀ fuel, PipeG κ G Good P fuel) (hg : Good G.tree) (hp : P .worker (workerMC0 G hs))
    (hκ : ∀ a b : Nat, κ a = κ b → a % 1000 = b % 1000)
    (hsrc : G.tree.kind = .source) (hnd : (dests G.tree).Nodup) (fuel : Nat) (recs : List Rec) (n0 : Nat)
    {s s' : PS} {r : Except Stop Unit} (hI : WInv G n0 s) (hq : RestedT G s) (hw : WSeen G s)
    (hrecs : ∀ (q : Nat) (x : Rec), recs[q]? = some x → G.all[n0 + q]? = some x)
    (h : exec (runPass fuel G.tree recs) s = (r, s')) (hrp : RP G s') (hft : Disc κ G s') :
    OutGK κ (workerMC0 G hs) (tasksS G.tree) (dests G.tree) (fun _ => 0) (fun _ => False) (Batch.new recs)
      (List.range' n0 recs.length) 0 (n0 + recs.length) s s' r := by
  unfold runPass at h
  have hf := hI.front
  have hclean : ∀ (q : Nat) (src : Rec), G.all[n0 + q]? = some src →
      CleanT (G.view s) (tasksS G.tree) (dests G.tree) (root src) := by
    intro q src hsrc
    refine ⟨fun t _ hx => ?_, fun e he _ hr => ?_⟩
    · exact not_nonPend_of_read hs hsrc (hf ▸ hq.err _ hx)
    · exact absurd (hf ▸ hr ▸ hq.wr e he) (not_nonPend_of_read hs hsrc)
  have c : FlightB κ G s (destsS G.tree) (fun _ => 0) (fun _ => False) (n0 + recs.length) (Batch.new recs)
      (List.range' n0 recs.length) 0 := new_flightB hs hκ hrecs (fun e he => ⟨hI.base.wr e he, hf ▸ hq.wr e he⟩)
  have hnxJ : nxJ (List.range' n0 recs.length) (n0 + recs.length) 0 = n0 := by
    unfold nxJ
    rw [range'_get]
    split
    · rfl
    · simp only [Option.getD_none]; omega
  have hnolive : ∀ rid : Nat, ¬ LiveRun (fun _ => 0) (Batch.new recs) 0 rid := by
    intro rid hl
    rcases hl with g | g
    · rw [List.drop_zero, new_cnt0] at g; exact Nat.lt_irrefl 0 g
    · exact Nat.lt_irrefl 0 g
  refine hpipe fuel .worker (workerMC0 G hs) G.tree [] (n0 + recs.length) (Batch.new recs) (List.range' n0 recs.length)
    (fun _ => 0) (fun _ => False) none true s s' r hg hp
    ⟨fun d hd => Or.inr hd, hnd, fun x hx => hx, fun x hx => hx, fun x hx => hx⟩ (fun _ => hsrc) ?_ rfl
    (new_flagsAF recs) h hrp hft
  refine ⟨⟨c, hw, fun rid hl => absurd hl (hnolive rid), fun rid hl => absurd hl (hnolive rid), ?_, ?_, ?_,
    fun rid hl => absurd hl (hnolive rid)⟩, by rw [hnxJ]; exact hI⟩
  · intro rid hc; rw [List.drop_zero, new_cnt0] at hc; exact absurd hc (Nat.lt_irrefl 0)
  · refine ⟨(fun k row q src _ _ _ _ _ d hd => nomatch hd), ?_, ?_, ?_⟩
    · intro k row q src _ hr _ _ hfl
      rw [new_row_ack recs hr] at hfl; cases hfl
    · intro k row q src _ hr _ _ hfl
      rw [new_row_ack recs hr] at hfl; cases hfl
    · intro k row q src _ hr hq' hsrc _ _
      obtain ⟨rfl, _⟩ := range'_some hq'
      exact hclean k src hsrc
  · rw [hnxJ]
    intro e he _
    exact (hf ▸ hq.wr e he).mono (Nat.le_succ _)

theorem runBatches_monG {G : Ctx} (hs : Src G) {Good : TaskNode → Prop} {P : ∀ X, MC G X → Prop}
    (hpipe : ∀ fuel, PipeG κ G Good P fuel) (hg : Good G.tree) (hp : P .worker (workerMC0 G hs))
    (hκ : ∀ a b : Nat, κ a = κ b → a % 1000 = b % 1000)
    (hsrc : G.tree.kind = .source) (hnd : (dests G.tree).Nodup) (fuel : Nat) :
    ∀ (rest done : List (List Rec)) (s s' : PS) (r : Except Stop Unit),
      G.batches = done ++ rest → WInv G done.flatten.length s → RestedT G s → WSeen G s →
      exec (runBatches fuel G.tree rest) s = (r, s') → RP G s' → Disc κ G s' → (G.mu s').tv = [] := by
  intro rest done s s' r hb hI hq hw h hrp hft
  refine runBatches_lift (I := fun n s => WInv G n s ∧ RestedT G s ∧ WSeen G s)
    (Q := fun s => RP G s ∧ Disc κ G s) (Good := fun s => (G.mu s).tv = [])
    (fun _ _ hm h => ⟨h.1.prefix hm, h.2.prefix hm⟩) (fun _ _ h => h.1.base.safe) ?_
    rest done s s' r hb ⟨hI, hq, hw⟩ h ⟨hrp, hft⟩
  intro n0 b s s1 r1 ⟨hI, hq, hw⟩ hrecs hx ⟨hrp1, hft1⟩
  have hI0 : WInv G n0 (resetPass s) := hI.same rfl rfl
  have hq0 : RestedT G (resetPass s) := hq.same rfl
  have o1 := runPass_monG hs hpipe hg hp hκ hsrc hnd fuel b n0 hI0 hq0 hw.reset hrecs hx hrp1 hft1
  refine ⟨o1.err, fun hr => ?_⟩
  have hI1 : WInv G (n0 + b.length) s1 := o1.inv hr
  refine ⟨hI1, ⟨?_, ?_⟩, o1.wseen⟩
  · intro x hx'
    rw [hI1.front]
    rcases o1.ext.err_new x hx' with h1 | ⟨_, h1⟩
    · exact (hq0.err x h1).mono (by rw [hI0.front]; omega)
    · exact h1.range_nonPend
  · intro e he
    rw [hI1.front]
    rcases o1.ext.wr_new e he with h1 | ⟨_, h1⟩
    · exact (hq0.wr e h1).mono (by rw [hI0.front]; omega)
    · exact h1.range_nonPend

end Conduit.Funnel
