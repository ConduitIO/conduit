import ConduitModel.Proofs.PassWorker

/-!
# One level of the task recursion

What `doTaskAttempt`, `taintedLoop`, `doNextTask` and `branches` do with one more unit of fuel, as
the calls they make, and what they do without fuel (`*_zero`). Every early exit that is not listed
leaves the state as it was. The walks of the recursion (`pipe_all`, `spipe_all`, `pipeG_all`) start
from these and close with `fuel_rec`.
-/
namespace Conduit.Funnel

theorem doTaskAttempt_zero (node : TaskNode) (b : Batch) (a : Acker) (retry : Option RetryAttempt) (skipDo : Bool) :
    doTaskAttempt 0 node b a retry skipDo = throw (.panic "out of fuel") := by
  rw [doTaskAttempt]

theorem taintedLoop_zero (node : TaskNode) (b : Batch) (a : Acker) (retry : Option RetryAttempt) (i : Nat) :
    taintedLoop 0 node b a retry i = throw (.panic "out of fuel") := by
  rw [taintedLoop]

theorem doNextTask_zero (node : TaskNode) (b : Batch) (a : Acker) : doNextTask 0 node b a = throw (.panic "out of fuel") := by
  rw [doNextTask]

theorem branches_zero (nexts : List TaskNode) (order : List Nat) (b : Batch) (a : Acker) (errs : Option Err)
    (pan : Option String) : branches 0 nexts order b a errs pan = throw (.panic "out of fuel") := by
  rw [branches]

/-- a batch of kept / filtered records is acknowledged at a leaf, or when nothing in it is active,
and handed to the next task otherwise (`doTaskAttempt` and the tainted loop share the text) -/
abbrev ackOrNext (fuel : Nat) (node : TaskNode) (a : Acker) (b : Batch) : M Unit :=
  if node.next.isEmpty || !b.hasActive then ackerCall fuel a b true 0 else doNextTask fuel node b a

/-- what `doTaskAttempt` does with the batch `b1` its task hands back -/
inductive AfterTask (fuel : Nat) (node : TaskNode) (a : Acker) (retry : Option RetryAttempt) (b1 : Batch) : M Unit → Prop
  | clean : b1.tainted = false → AfterTask fuel node a retry b1 (ackOrNext fuel node a b1)
  | taint : b1.tainted = true → AfterTask fuel node a retry b1 (taintedLoop fuel node b1 a retry 0)

theorem doTaskAttempt_step {fuel : Nat} {node : TaskNode} {b : Batch} {a : Acker} {retry : Option RetryAttempt}
    {skipDo : Bool} {s s' : PS} {r : Except Stop Unit}
    (h : exec (doTaskAttempt (fuel+1) node b a retry skipDo) s = (r, s')) :
    (skipDo = false ∧ ∃ e, exec (taskDo node b) s = (.error e, s') ∧ ∃ e', r = .error e') ∨
    ∃ (b1 : Batch) (s1 : PS) (X : M Unit),
      ((skipDo = true ∧ b1 = b ∧ s1 = s) ∨ (skipDo = false ∧ exec (taskDo node b) s = (.ok b1, s1))) ∧
      AfterTask fuel node a retry b1 X ∧ exec X s1 = (r, s') := by
  rw [doTaskAttempt] at h
  have fin : ∀ (b1 : Batch) (s1 : PS),
      exec (if (!b1.tainted) = true then ackOrNext fuel node a b1 else taintedLoop fuel node b1 a retry 0) s1 = (r, s') →
      ∃ X : M Unit, AfterTask fuel node a retry b1 X ∧ exec X s1 = (r, s') := by
    intro b1 s1 h
    cases ht : b1.tainted with
    | false => rw [ht] at h; exact ⟨_, .clean ht, h⟩
    | true => rw [ht] at h; exact ⟨_, .taint ht, h⟩
  cases skipDo with
  | true =>
    simp only [if_true] at h
    rw [exec_bind, exec_pure] at h
    obtain ⟨X, hX, hx⟩ := fin b s h
    exact Or.inr ⟨b, s, X, Or.inl ⟨rfl, rfl, rfl⟩, hX, hx⟩
  | false =>
    simp only [Bool.false_eq_true, if_false] at h
    rw [exec_bind, exec_tryCatch] at h
    rcases ht : exec (taskDo node b) s with ⟨r1, s1⟩
    rw [ht] at h
    cases r1 with
    | error e =>
      dsimp only at h
      refine Or.inl ⟨rfl, e, ?_⟩
      cases e <;> simp only [exec_throw] at h <;> cases h <;> exact ⟨rfl, _, rfl⟩
    | ok b1 =>
      dsimp only at h
      obtain ⟨X, hX, hx⟩ := fin b1 s1 h
      exact Or.inr ⟨b1, s1, X, Or.inr ⟨rfl, rfl⟩, hX, hx⟩

theorem take_takeWhile_length {α} (p : α → Bool) (l : List α) : l.take (l.takeWhile p).length = l.takeWhile p := by
  induction l with
  | nil => rfl
  | cons x t ih =>
    rw [List.takeWhile_cons]
    split
    · simp [ih]
    · simp

/-- the span the tainted loop cuts out at its cursor holds statuses of one group (`sameGroup`) -/
theorem group_mem {b sb : Batch} {i : Nat} {s0 : Status} (hsub : b.sub i (groupEnd b.st i) = .ok sb)
    (h00 : sb.st[0]? = some s0) : ∀ x ∈ sb.st, sameGroup s0.flag x.flag = true := by
  have hst := (sub_ok_fields hsub).st
  rw [hst, List.getElem?_drop, List.getElem?_take, Nat.add_zero] at h00
  split at h00
  · rw [hst, groupEnd_eq, h00]
    dsimp only
    intro x hx
    rw [List.drop_take, Nat.add_sub_cancel_left, take_takeWhile_length] at hx
    exact mem_takeWhile_imp _ _ x hx
  · cases h00

/-- the call that one iteration of the tainted loop makes for its group `sb`, by the flag all its statuses have -/
inductive GroupAct (fuel : Nat) (node : TaskNode) (a : Acker) (sb : Batch) : M Unit → Prop
  | keep (h : ∀ x ∈ sb.st, x.flag = .ack ∨ x.flag = .filter) : GroupAct fuel node a sb (ackOrNext fuel node a sb)
  | nack (h : ∀ x ∈ sb.st, x.flag = .nack) : GroupAct fuel node a sb (ackerCall fuel a sb false node.id)
  | retry (h : ∀ x ∈ sb.st, x.flag = .retry) (sb' : Batch) (nxr : RetryAttempt)
      (hsf : sb.setFlagRange .ack 0 sb.recs.length = .ok sb') :
    GroupAct fuel node a sb (doTaskAttempt fuel node { sb' with tainted := false } a (some nxr) false)

theorem ite_bind_same {α β} (c : Prop) [Decidable c] (x y : M α) (f : α → M β) :
    (if c then x >>= f else y >>= f) = (if c then x else y) >>= f := by
  split <;> rfl

theorem taintedLoop_step {fuel : Nat} {node : TaskNode} {b : Batch} {a : Acker} {retry : Option RetryAttempt} {i : Nat}
    {s s' : PS} {r : Except Stop Unit} (h : exec (taintedLoop (fuel+1) node b a retry i) s = (r, s')) :
    (b.st.length ≤ i ∧ r = .ok () ∧ s' = s) ∨
    (i < b.st.length ∧ ((∃ e, r = .error e ∧ s' = s) ∨
      ∃ (sb : Batch) (s0 : Status) (Y : M Unit), b.sub i (groupEnd b.st i) = .ok sb ∧ sb.st[0]? = some s0 ∧
        GroupAct fuel node a sb Y ∧
        exec (Y >>= fun _ => taintedLoop fuel node b a retry (groupEnd b.st i)) s = (r, s'))) := by
  rw [taintedLoop] at h
  by_cases hi : i ≥ b.st.length
  · rw [if_pos hi, exec_pure] at h
    cases h
    exact Or.inl ⟨hi, rfl, rfl⟩
  · rw [if_neg hi] at h
    refine Or.inr ⟨Nat.lt_of_not_le hi, ?_⟩
    rw [exec_bind] at h
    rcases hsub : b.sub i (groupEnd b.st i) with e | sb
    · rw [hsub, exec_liftR_err] at h
      cases h
      exact Or.inl ⟨_, rfl, rfl⟩
    · rw [hsub, exec_liftR_ok] at h
      dsimp only at h
      rw [exec_bind] at h
      rcases h0 : idx sb.st 0 "subBatch.recordStatuses[0]" with e | s0
      · rw [h0, exec_liftR_err] at h
        cases h
        exact Or.inl ⟨_, rfl, rfl⟩
      · rw [h0, exec_liftR_ok] at h
        dsimp only at h
        have h00 : sb.st[0]? = some s0 := idx_eq_ok_iff.mp h0
        have hg := group_mem hsub h00
        have hso := sub_ok_fields hsub
        have hspan : i + sb.pos.length = groupEnd b.st i := by
          have := groupEnd_gt b.st i (Nat.lt_of_not_le hi)
          have := hso.pos_le
          rw [hso.pos, List.length_drop, List.length_take]; omega
        rw [hspan] at h
        cases hfl : s0.flag with
        | ack =>
          rw [hfl] at h hg
          exact Or.inr ⟨sb, s0, _, rfl, h00, .keep fun x hx => by simpa [sameGroup] using hg x hx, by rw [← ite_bind_same]; exact h⟩
        | filter =>
          rw [hfl] at h hg
          exact Or.inr ⟨sb, s0, _, rfl, h00, .keep fun x hx => by simpa [sameGroup] using hg x hx, by rw [← ite_bind_same]; exact h⟩
        | nack =>
          rw [hfl] at h hg
          exact Or.inr ⟨sb, s0, _, rfl, h00, .nack fun x hx => by simpa [sameGroup] using hg x hx, h⟩
        | retry =>
          rw [hfl] at h hg
          have hfl : ∀ x ∈ sb.st, x.flag = .retry := fun x hx => by simpa [sameGroup] using hg x hx
          dsimp only at h
          rw [exec_bind] at h
          rcases hsf : sb.setFlagRange Flag.ack 0 sb.recs.length with e | sb'
          · rw [hsf, exec_liftR_err] at h
            cases h
            exact Or.inl ⟨_, rfl, rfl⟩
          · rw [hsf, exec_liftR_ok] at h
            dsimp only at h
            cases retry with
            | none =>
              dsimp only at h
              by_cases c1 : 1 > maxRetryAttempts
              · rw [if_pos c1, exec_throw_bind] at h
                cases h
                exact Or.inl ⟨_, rfl, rfl⟩
              · rw [if_neg c1] at h
                exact Or.inr ⟨sb, s0, _, rfl, h00, .retry hfl sb' _ hsf, h⟩
            | some rt =>
              dsimp only at h
              by_cases c0 : (if sb'.recs.length ≥ rt.size then rt.stall + 1 else 0) ≥ maxRetryStall
              · rw [if_pos c0, exec_throw_bind] at h
                cases h
                exact Or.inl ⟨_, rfl, rfl⟩
              · by_cases c1 : rt.count + 1 > maxRetryAttempts
                · rw [if_neg c0, if_pos c1, exec_throw_bind] at h
                  cases h
                  exact Or.inl ⟨_, rfl, rfl⟩
                · rw [if_neg c0, if_neg c1] at h
                  exact Or.inr ⟨sb, s0, _, rfl, h00, .retry hfl sb' _ hsf, h⟩

def cntValid (n : Nat) (order : List Nat) : Nat := (order.filter (· < n)).length

theorem perm_of_covers (M : Nat) (o : List Nat) (hlen : o.length = M) (hall : ∀ k : Nat, k < M → k ∈ o) :
    o.Nodup ∧ ∀ k ∈ o, k < M := by
  have h1 : List.range M ⊆ (o.eraseDups).filter (· < M) := by
    intro x hx
    rw [List.mem_range] at hx
    rw [List.mem_filter]
    exact ⟨List.mem_eraseDups.mpr (hall x hx), by simpa using hx⟩
  have h2 := List.nodup_range.length_le_of_subset h1
  simp only [List.length_range] at h2
  have h3 : ((o.eraseDups).filter (· < M)).length ≤ (o.eraseDups).length := List.length_filter_le _ _
  have h4 : (o.eraseDups).length ≤ o.length := eraseDups_length_le _ o (Nat.le_refl _)
  have h5 : (o.eraseDups).length = o.length := by omega
  have h6 : ((o.eraseDups).filter (· < M)).length = (o.eraseDups).length := by omega
  refine ⟨nodup_of_eraseDups_length _ o (Nat.le_refl _) h5, ?_⟩
  intro k hk
  have := List.length_filter_eq_length_iff.mp h6 k (List.mem_eraseDups.mpr hk)
  simpa using this

/-- the order a fan-out of `n` branches runs them in, given the scripted order `o` (`doNextTask` in
`Model/Funnel.lean`: a script order that is not a permutation of the branches is replaced by `range n`) -/
abbrev runOrder (n : Nat) (o : List Nat) : List Nat :=
  if (o.length == n) = true ∧ ((List.range n).all fun x => o.contains x) = true then o else List.range n

/-- it is a permutation of the branches; this is what makes each branch run exactly once -/
theorem order_perm (n : Nat) (o : List Nat) :
    (runOrder n o).Nodup ∧ (∀ k ∈ runOrder n o, k < n) ∧ (∀ k : Nat, k < n → k ∈ runOrder n o) ∧
    (runOrder n o).length = n := by
  unfold runOrder
  split
  · rename_i hc
    obtain ⟨hl, hall⟩ := hc
    have hl' : o.length = n := by simpa using hl
    have hall' : ∀ x, x < n → x ∈ o := by
      intro x hx
      have := List.all_eq_true.mp hall x (List.mem_range.mpr hx)
      simpa using this
    obtain ⟨h1, h2⟩ := perm_of_covers n o hl' hall'
    exact ⟨h1, h2, hall', hl'⟩
  · exact ⟨List.nodup_range, fun k hk => List.mem_range.mp hk, fun k hk => List.mem_range.mpr hk, List.length_range⟩

theorem order_valid (n : Nat) (o : List Nat) : cntValid n (runOrder n o) = n := by
  obtain ⟨_, hlt, _, hlen⟩ := order_perm n o
  rw [cntValid, List.filter_eq_self.mpr fun k hk => by simpa using hlt k hk, hlen]

theorem doNextTask_step {fuel : Nat} {node : TaskNode} {b : Batch} {a : Acker} {s s' : PS} {r : Except Stop Unit}
    (h : exec (doNextTask (fuel+1) node b a) s = (r, s')) :
    (node.next = [] ∧ r = .ok () ∧ s' = s) ∨
    (∃ n, node.next = [n] ∧ exec (doTaskAttempt fuel n b a none false) s = (r, s')) ∨
    (2 ≤ node.next.length ∧ ((∃ e, r = .error e ∧ s' = s) ∨
      (runsWhole s.heap b = true ∧ ∃ (ma : MA) (o : List Nat) (rest : List (List Nat)),
        maNew node.next.length b.original.pos = .ok ma ∧
        exec (branches fuel node.next (runOrder node.next.length o) b (.multi s.mas.size a) none none)
          { s with mas := s.mas.push ma, orders := rest } = (r, s')))) := by
  rw [doNextTask] at h
  split at h
  · rename_i he; cases h; exact Or.inl ⟨he, rfl, rfl⟩
  · rename_i n he; exact Or.inr (Or.inl ⟨n, he, h⟩)
  · rename_i hnil hone
    refine Or.inr (Or.inr ⟨?_, ?_⟩)
    · rcases hn : node.next with _ | ⟨n, _ | ⟨n2, t⟩⟩
      · exact absurd hn hnil
      · exact absurd hn (hone n)
      · simp
    rw [exec_bind, exec_get] at h
    dsimp only at h
    by_cases hrw : runsWhole s.heap b = true
    · simp only [hrw, Bool.not_true, Bool.false_eq_true, if_false] at h
      cases hma : maNew node.next.length b.original.pos with
      | error e =>
        rw [hma] at h
        dsimp only at h
        rw [exec_throw] at h
        cases h
        exact Or.inl ⟨_, rfl, rfl⟩
      | ok ma =>
        rw [hma] at h
        dsimp only at h
        rw [exec_bind, exec_set] at h
        dsimp only at h
        exact Or.inr ⟨hrw, ma, _, _, rfl, h⟩
    · simp only [hrw, Bool.not_false, if_true, exec_throw_bind] at h
      cases h
      exact Or.inl ⟨_, rfl, rfl⟩

theorem branches_done {fuel : Nat} {nexts : List TaskNode} {b : Batch} {macker : Acker} {errs : Option Err}
    {pan : Option String} {s s' : PS} {r : Except Stop Unit}
    (h : exec (branches (fuel+1) nexts [] b macker errs pan) s = (r, s')) :
    s' = s ∧ (r = .ok () → errs = none ∧ pan = none) := by
  cases pan with
  | some m => rw [branches] at h; cases h; exact ⟨rfl, fun h => nomatch h⟩
  | none =>
    cases errs with
    | some e => rw [branches] at h; cases h; exact ⟨rfl, fun h => nomatch h⟩
    | none => rw [branches] at h; cases h; exact ⟨rfl, fun _ => ⟨rfl, rfl⟩⟩

theorem branches_step {fuel : Nat} {nexts : List TaskNode} {k : Nat} {rest : List Nat} {b : Batch} {macker : Acker}
    {errs : Option Err} {pan : Option String} {s s' : PS} {r : Except Stop Unit}
    (h : exec (branches (fuel+1) nexts (k :: rest) b macker errs pan) s = (r, s')) :
    (nexts[k]? = none ∧ exec (branches fuel nexts rest b macker errs pan) s = (r, s')) ∨
    ∃ (n : TaskNode) (rb : Except Stop Unit) (s2 : PS) (errs' : Option Err) (pan' : Option String), nexts[k]? = some n ∧
      exec (doTaskAttempt fuel n (b.clone s.heap).2 (.run macker) none false) { s with heap := (b.clone s.heap).1 } = (rb, s2) ∧
      exec (branches fuel nexts rest b macker errs' pan') s2 = (r, s') ∧
      (errs' = none → pan' = none → rb = .ok () ∧ errs = none ∧ pan = none) ∧
      (rb = .ok () → errs' = errs ∧ pan' = pan) := by
  rw [branches] at h
  cases hk : nexts[k]? with
  | none => rw [hk] at h; exact Or.inl ⟨rfl, h⟩
  | some n =>
    rw [hk] at h
    dsimp only at h
    rw [exec_bind, exec_get] at h
    dsimp only at h
    rw [exec_bind, exec_set] at h
    dsimp only at h
    rw [exec_bind, exec_tryCatch, exec_bind] at h
    rcases hd : exec (doTaskAttempt fuel n (b.clone s.heap).2 (.run macker) none false)
      { s with heap := (b.clone s.heap).1 } with ⟨rb, s2⟩
    rw [hd] at h
    refine Or.inr ⟨n, rb, s2, ?_⟩
    cases rb with
    | ok u => exact ⟨errs, pan, rfl, hd, h, fun h1 h2 => ⟨rfl, h1, h2⟩, fun _ => ⟨rfl, rfl⟩⟩
    | error e =>
      cases e with
      | panic m => exact ⟨errs, pan <|> some m, rfl, hd, h, (fun _ h2 => by cases pan <;> cases h2), fun h => nomatch h⟩
      | err e => exact ⟨_, pan, rfl, hd, h, (fun h1 _ => by cases errs <;> cases h1), fun h => nomatch h⟩

/-- the induction over the recursion budget that the task recursions share: `P`, `T`, `N` (for
`doTaskAttempt`, `taintedLoop`, `doNextTask`) step as the code calls them. -/
theorem fuel_rec {P T N : Nat → Prop} (h0 : P 0 ∧ T 0 ∧ N 0) (hP : ∀ n, N n → T n → P (n+1))
    (hT : ∀ n, P n → N n → T n → T (n+1)) (hN : ∀ n, (∀ f, f ≤ n → P f) → N (n+1)) :
    ∀ fuel f, f ≤ fuel → P f ∧ T f ∧ N f := by
  intro fuel
  induction fuel with
  | zero =>
    intro f hf
    have : f = 0 := by omega
    subst this
    exact h0
  | succ n ih =>
    intro f hf
    by_cases hle : f ≤ n
    · exact ih f hle
    · have : f = n + 1 := by omega
      subst this
      obtain ⟨p, t, nx⟩ := ih n (Nat.le_refl _)
      exact ⟨hP n nx t, hT n p nx t, hN n (fun f hf => (ih f hf).1)⟩

end Conduit.Funnel
