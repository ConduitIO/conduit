import ConduitModel.Model.Funnel

/-!
`groupEnd`, the span `subBatchByFlag` hands out at a cursor of the tainted loop: the statuses from the cursor on
that fall in the group of the first one (`sameGroup`: ack and filter go together), so it lies strictly beyond the
cursor and inside the batch.
-/
namespace Conduit.Funnel

def sameGroup (f0 f : Flag) : Bool :=
  match f0 with
  | .filter | .ack => f == .ack || f == .filter
  | x => f == x

theorem groupEnd_eq (st : List Status) (i : Nat) :
    groupEnd st i = match st[i]? with
      | none => i
      | some s0 => i + ((st.drop i).takeWhile fun s => sameGroup s0.flag s.flag).length := by
  unfold groupEnd
  cases st[i]? with
  | none => rfl
  | some s0 => rfl

theorem sameGroup_self (f : Flag) : sameGroup f f = true := by cases f <;> rfl

theorem groupEnd_gt (st : List Status) (i : Nat) (h : i < st.length) : i < groupEnd st i := by
  rw [groupEnd_eq]
  have hs : st[i]? = some st[i] := List.getElem?_eq_getElem h
  rw [hs]
  simp only
  have hd : st.drop i = st[i] :: st.drop (i+1) := List.drop_eq_getElem_cons h
  rw [hd, List.takeWhile_cons, sameGroup_self]
  simp

theorem groupEnd_le (st : List Status) (i : Nat) (h : i ≤ st.length) : groupEnd st i ≤ st.length := by
  rw [groupEnd_eq]
  cases hs : st[i]? with
  | none => simpa using h
  | some s0 =>
    simp only
    have := (List.takeWhile_prefix (fun s => sameGroup s0.flag s.flag) (l := st.drop i)).length_le
    simp only [List.length_drop] at this
    omega

end Conduit.Funnel
