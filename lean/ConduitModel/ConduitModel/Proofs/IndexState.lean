import ConduitModel.Model.IndexState
import ConduitModel.Proofs.Gates

/-!
The persisted index version never decreases, whatever sequence of `VerifyIndex` calls runs.
-/
namespace Conduit.IndexState
open Conduit.Gates

/-- `f` is the fetched version, `h` the high-water mark. -/
theorem checkRollback_none (f h : Int) : (Generated.RegistryIndex.CheckRollback f h).isNone = true ↔ h ≤ f := by
  unfold Generated.RegistryIndex.CheckRollback
  by_cases hlt : f < h
  · simp [hlt]
  · simp [hlt]; omega

theorem envOf_succBy (order : List GateCall) (st : State) (r : Req) :
    SuccBy order (envOf order st r) (gateSucc st r) :=
  fun i g h => by simp [envOf, h]

theorem step_monotone {order : List GateCall} (h : domBy order "CheckRollback" "SaveState" = true)
    (st : State) (r : Req) : st.version ≤ (stepOrder order st r).1.version := by
  unfold stepOrder
  simp only []
  by_cases hs : ranNamed order (exec (envOf order st r) 0 order).1 "SaveState" = true
  · rw [if_pos hs]
    exact (checkRollback_none _ _).mp ((envOf_succBy order st r).of_ran (ranNamed_of_domBy h _ hs))
  · rw [if_neg hs]; exact Int.le_refl _

theorem step_version_cases (order : List GateCall) (st : State) (r : Req) :
    (stepOrder order st r).1 = st ∨ (stepOrder order st r).1.version = r.version := by
  unfold stepOrder
  simp only []
  by_cases hs : ranNamed order (exec (envOf order st r) 0 order).1 "SaveState" = true
  · rw [if_pos hs]; exact Or.inr rfl
  · rw [if_neg hs]; exact Or.inl rfl

theorem accept_gate {order : List GateCall} {st : State} {r : Req} (hacc : (stepOrder order st r).2 = none)
    {n : String} (h : hasGate order n = true) :
    ranNamed order (ran (envOf order st r) order) n = true ∧ gateSucc st r n = true := by
  refine (envOf_succBy order st r).of_complete (fun _ => rfl) ?_ h
  unfold stepOrder at hacc
  simp only [] at hacc
  cases he : (exec (envOf order st r) 0 order).2 with
  | none => rfl
  | some i => rw [he] at hacc; cases ho : order[i]? <;> simp [ho] at hacc

theorem step_accept {order : List GateCall} (hr : hasGate order "CheckRollback" = true)
    (hsv : hasGate order "SaveState" = true) (st : State) (r : Req)
    (hacc : (stepOrder order st r).2 = none) :
    st.version ≤ r.version ∧ (stepOrder order st r).1.version = r.version := by
  refine ⟨(checkRollback_none _ _).mp (accept_gate hacc hr).2, ?_⟩
  have hsaved : ranNamed order (exec (envOf order st r) 0 order).1 "SaveState" = true := (accept_gate hacc hsv).1
  unfold stepOrder
  simp only [hsaved, if_true]

/-- a sequence of calls stands for any interleaving of concurrent installs under the state lock. -/
theorem runSeq_monotone {order : List GateCall} (h : domBy order "CheckRollback" "SaveState" = true) :
    ∀ (rs : List Req) (st : State), st.version ≤ (runSeq order st rs).1.version := by
  intro rs
  induction rs with
  | nil => intro st; exact Int.le_refl _
  | cons r rs ih =>
    intro st
    simp only [runSeq]
    exact Int.le_trans (step_monotone h st r) (ih _)

theorem runSeq_accepted_le_final {order : List GateCall} (h : domBy order "CheckRollback" "SaveState" = true)
    (hr : hasGate order "CheckRollback" = true) (hsv : hasGate order "SaveState" = true) :
    ∀ (rs : List Req) (st : State) (i : Nat) (r : Req), rs[i]? = some r →
      (runSeq order st rs).2[i]? = some none → r.version ≤ (runSeq order st rs).1.version := by
  intro rs
  induction rs with
  | nil => intro st i r hi; simp at hi
  | cons r0 rs ih =>
    intro st i r hi hacc
    simp only [runSeq] at hacc ⊢
    cases i with
    | zero =>
      simp only [List.getElem?_cons_zero, Option.some.injEq] at hi hacc
      subst hi
      have := (step_accept hr hsv st r0 hacc).2
      rw [← this]
      exact runSeq_monotone h rs _
    | succ i =>
      simp only [List.getElem?_cons_succ] at hi hacc
      exact ih _ i r hi hacc

end Conduit.IndexState
