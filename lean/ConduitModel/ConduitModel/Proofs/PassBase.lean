import ConduitModel.Proofs.Arbiter
import ConduitModel.Proofs.BatchWF
import ConduitModel.Proofs.GroupEnd

/-!
# The vocabulary of the pass-level statements (C04)

The keys a log acknowledges (`ackedKeys`), split-free scripts (`NS`), steps that acknowledge nothing
(`Q`, `Quiet`), batches without split runs (`BOK`), and what the task recursion may assume of an
ack/nack handler chain (`Contract`). The `eraseDups` lemmas serve `perm_of_covers`
(Proofs/PassStep.lean) and Proofs/MonView.lean.
-/
namespace Conduit.Funnel

theorem eraseDups_length_le : ∀ (n : Nat) (l : List Nat), l.length ≤ n → l.eraseDups.length ≤ l.length := by
  intro n
  induction n with
  | zero => intro l h; have : l = [] := List.length_eq_zero_iff.mp (by omega); subst this; simp
  | succ n ih =>
    intro l h
    cases l with
    | nil => simp
    | cons a l =>
      rw [List.eraseDups_cons]
      have h1 : (l.filter fun b => !b == a).length ≤ l.length := List.length_filter_le _ _
      have := ih (l.filter fun b => !b == a) (by simp at h; omega)
      simp only [List.length_cons]
      omega

theorem nodup_of_eraseDups_length : ∀ (n : Nat) (l : List Nat), l.length ≤ n → l.eraseDups.length = l.length → l.Nodup := by
  intro n
  induction n with
  | zero => intro l h _; have : l = [] := List.length_eq_zero_iff.mp (by omega); subst this; simp
  | succ n ih =>
    intro l h he
    cases l with
    | nil => simp
    | cons a l =>
      rw [List.eraseDups_cons] at he
      simp only [List.length_cons] at he h
      have h1 : (l.filter fun b => !b == a).length ≤ l.length := List.length_filter_le _ _
      have h2 := eraseDups_length_le _ (l.filter fun b => !b == a) (Nat.le_refl _)
      have hf : (l.filter fun b => !b == a).length = l.length := by omega
      have hfe : l.filter (fun b => !b == a) = l := List.filter_eq_self.mpr (by
        have := List.length_filter_eq_length_iff.mp hf
        exact this)
      rw [hfe] at he
      have hnd := ih l (by omega) (by omega)
      refine List.nodup_cons.mpr ⟨?_, hnd⟩
      intro hmem
      have := (List.filter_eq_self.mp hfe) a hmem
      simp at this

def evKeys : Ev → List Nat
  | .sack ps => ps.map keyOf
  | _ => []

/-- the keys of every position acknowledged to the source connector, in log order -/
def ackedKeys (log : Array Ev) : List Nat := log.toList.flatMap evKeys

abbrev keys (ps : List PosV) : List Nat := ps.map keyOf

theorem ackedKeys_push (log : Array Ev) (e : Ev) : ackedKeys (log.push e) = ackedKeys log ++ evKeys e := by
  simp [ackedKeys]

theorem ackedKeys_empty : ackedKeys #[] = [] := rfl

/-- a reply that never asks for a real split (`MultiRecord` with ≥ 2 records) -/
def NoSplitReply : Reply → Prop
  | .proc out => ∀ pr ∈ out, ∀ m, pr = PR.multi m → m.length ≤ 1
  | .dest _ _ => True

/-- no scripted reply of any task splits a record (the hypothesis of the `_nosplit` theorems) -/
def NS (scr : List (Nat × List Reply)) : Prop := ∀ kv ∈ scr, ∀ rp ∈ kv.2, NoSplitReply rp

def PR.noSplit : PR → Bool
  | .multi m => decide (m.length ≤ 1)
  | _ => true

theorem noSplitReply_proc_iff (out : List PR) : NoSplitReply (.proc out) ↔ out.all PR.noSplit = true := by
  simp only [NoSplitReply, List.all_eq_true]
  constructor
  · intro h pr hm
    cases pr with
    | multi m => simpa [PR.noSplit] using h _ hm m rfl
    | _ => rfl
  · intro h pr hm m he
    subst he
    simpa [PR.noSplit] using h _ hm

instance (rp : Reply) : Decidable (NoSplitReply rp) :=
  match rp with
  | .proc out => decidable_of_iff _ (noSplitReply_proc_iff out).symm
  | .dest _ _ => isTrue trivial

instance (scr : List (Nat × List Reply)) : Decidable (NS scr) := by unfold NS; infer_instance

/-- `t` is reached from `σ` without acknowledging anything, without touching a tally, and the
scripts stay split-free. -/
structure Q (σ t : PS) : Prop where
  acked : ackedKeys t.log = ackedKeys σ.log
  mas : t.mas = σ.mas
  ns : NS σ.scripts → NS t.scripts

theorem Q.refl (s : PS) : Q s s := ⟨rfl, rfl, id⟩

/-- a batch without split runs: parallel slices, no run; and either no split key or no nil
position (so that `originalBatch()` keeps every row). -/
structure BOK (b : Batch) : Prop where
  split : b.split = [] ∨ ∀ p ∈ b.pos, p ≠ none
  runs : ∀ rs, b.runs = some rs → rs = List.replicate b.recs.length none
  st_len : b.st.length = b.recs.length
  pos_len : b.pos.length = b.recs.length

/-- every status carries an error (what `Nack` hands over). -/
def NackOK (b : Batch) : Prop := ∀ st ∈ b.st, st.err.isSome = true

/-- quiet with respect to the tallies below `top`: nothing acked, no tally below `top` touched
(tallies may be added), scripts stay split-free. -/
structure Quiet (top : Nat) (σ t : PS) : Prop where
  acked : ackedKeys t.log = ackedKeys σ.log
  size : σ.mas.size ≤ t.mas.size
  mas : ∀ i : Nat, i < top → t.mas[i]! = σ.mas[i]!
  ns : NS σ.scripts → NS t.scripts

theorem Quiet.refl (top : Nat) (s : PS) : Quiet top s s := ⟨rfl, Nat.le_refl _, fun _ _ => rfl, id⟩
theorem Quiet.trans {top : Nat} {a b c : PS} (h1 : Quiet top a b) (h2 : Quiet top b c) : Quiet top a c :=
  ⟨h2.acked.trans h1.acked, Nat.le_trans h1.size h2.size, fun i hi => (h2.mas i hi).trans (h1.mas i hi),
    fun h => h2.ns (h1.ns h)⟩
theorem Q.quiet {σ t : PS} (h : Q σ t) (top : Nat) : Quiet top σ t :=
  ⟨h.acked, by rw [h.mas]; exact Nat.le_refl _, fun i _ => by rw [h.mas], h.ns⟩

/-- What the pipeline may assume about an ack/nack handler chain `a`.
`Done ks s s'`: between `s` and `s'` the handler was successfully given exactly the keys `ks`
(in order, each once) — and otherwise only quiet steps happened; `Partial ks s s'`: it was given
some part of `ks`, possibly failing; `Stutter s s'`: a failed all-or-nothing call. Only an `Ack`, or
a `Nack` of at most one record, is all-or-nothing (`isAck = true ∨ b.recs.length ≤ 1` in `call`):
`Worker.Nack` of several records may acknowledge a prefix of them and then fail. -/
structure Contract (a : Acker) where
  top : Nat
  Valid : PS → Prop
  Partial : List Nat → PS → PS → Prop
  Done : List Nat → PS → PS → Prop
  Stutter : PS → PS → Prop
  valid_top : ∀ {s}, Valid s → top ≤ s.mas.size
  done_partial : ∀ {ks s s'}, Done ks s s' → Partial ks s s'
  done_done : ∀ {k1 k2 s s1 s2}, Done k1 s s1 → Done k2 s1 s2 → Done (k1 ++ k2) s s2
  done_partial_trans : ∀ {k1 k2 s s1 s2}, Done k1 s s1 → Partial k2 s1 s2 → Partial (k1 ++ k2) s s2
  partial_mono : ∀ {k1 s s'} (k2 : List Nat), Partial k1 s s' → Partial (k1 ++ k2) s s'
  quiet_done : ∀ {s s'}, Valid s → Quiet top s s' → Done [] s s'
  quiet_stutter : ∀ {s s'}, Valid s → Quiet top s s' → Stutter s s'
  stutter_partial : ∀ {ks s s1 s2}, Stutter s s1 → Partial ks s1 s2 → Partial ks s s2
  stutter_trans : ∀ {s s1 s2}, Stutter s s1 → Stutter s1 s2 → Stutter s s2
  partial_valid : ∀ {ks s s'}, Valid s → Partial ks s s' → Valid s'
  stutter_valid : ∀ {s s'}, Valid s → Stutter s s' → Valid s'
  partial_ns : ∀ {ks s s'}, Partial ks s s' → NS s.scripts → NS s'.scripts
  stutter_ns : ∀ {s s'}, Stutter s s' → NS s.scripts → NS s'.scripts
  call : ∀ (fuel : Nat) (b : Batch) (isAck : Bool) (task : Nat) (s : PS) (r : Except Stop Unit) (s' : PS),
    Valid s → BOK b → (isAck = false → NackOK b) →
    exec (ackerCall fuel a b isAck task) s = (r, s') →
      Partial (keys b.pos) s s' ∧ (r = .ok () → Done (keys b.pos) s s') ∧
      ((isAck = true ∨ b.recs.length ≤ 1) → r ≠ .ok () → Stutter s s') ∧
      s'.mas.size = s.mas.size ∧ (∀ i : Nat, top ≤ i → s'.mas[i]! = s.mas[i]!) ∧ s'.heap = s.heap

namespace Contract
variable {a : Acker} (C : Contract a)

theorem done_refl {s : PS} (hv : C.Valid s) : C.Done [] s s := C.quiet_done hv (Quiet.refl _ _)

theorem quiet_partial {s s' : PS} (hv : C.Valid s) (hq : Q s s') (ks : List Nat) : C.Partial ks s s' := by
  have := C.partial_mono ks (C.done_partial (C.quiet_done hv (hq.quiet C.top)))
  simpa using this

theorem quiet_valid {s s' : PS} (hv : C.Valid s) (hq : Q s s') : C.Valid s' :=
  C.partial_valid hv (C.quiet_partial hv hq [])

end Contract

theorem orig_ok {b : Batch} (hb : BOK b) :
    b.original.pos = b.pos ∧ b.original.st = b.st ∧ b.original.recs.length = b.recs.length := by
  by_cases hs : b.split.length = 0
  · rw [original_of_split_nil (List.length_eq_zero_iff.mp hs)]
    exact ⟨rfl, rfl, rfl⟩
  · have hp : ∀ p ∈ b.pos, p ≠ none := by
      rcases hb.split with h | h
      · rw [h] at hs; exact absurd rfl hs
      · exact h
    have hrows : (b.pos.zip (b.recs.zip b.st)).filter (fun x => x.1 != none) = b.pos.zip (b.recs.zip b.st) := by
      rw [List.filter_eq_self]
      intro x hx
      have := hp x.1 (List.of_mem_zip hx).1
      simpa using this
    unfold Batch.original
    simp only [hs, if_false]
    have hrows' : (b.pos.zip (b.recs.zip b.st)).filter (fun (x : PosV × Rec × Status) =>
        match x with | (p, _) => p != none) = b.pos.zip (b.recs.zip b.st) := hrows
    refine ⟨?_, ?_, ?_⟩
    · show List.map _ (List.filter _ _) = _
      rw [hrows']
      have : (b.pos.zip (b.recs.zip b.st)).map (fun (x : PosV × Rec × Status) => match x with | (p, _, _) => p)
          = (b.pos.zip (b.recs.zip b.st)).map Prod.fst := rfl
      rw [this, List.map_fst_zip]
      simp [hb.pos_len, hb.st_len]
    · show List.map _ (List.filter _ _) = _
      rw [hrows']
      have : (b.pos.zip (b.recs.zip b.st)).map (fun (x : PosV × Rec × Status) => match x with | (_, _, s) => s)
          = ((b.pos.zip (b.recs.zip b.st)).map Prod.snd).map Prod.snd := by simp [List.map_map, Function.comp_def]
      rw [this, List.map_snd_zip, List.map_snd_zip]
      · simp [hb.st_len]
      · simp [hb.pos_len, hb.st_len]
    · show (List.map _ (List.filter _ _)).length = _
      rw [hrows']
      simp [hb.pos_len, hb.st_len]

end Conduit.Funnel
