import ConduitModel.Proofs.MonFView

/-!
# Invariants and handler contracts against the monitor

* `tasksS`, `tasksL` — the task ids of a tree, with the destinations among them (`destsS_sublist_tasksS`);
* `Base G s` — what holds of every reachable state: monitor silent, scripts consistent, `written`
  entries well-formed, every attributed fact is by a task / destination of the tree;
* `QStep` — a task step (`procDo` / `destDo`, successful or not) as the handler chains see it;
* `MC G a` — the contract of an ack/nack handler chain `a` against the monitor: a state invariant
  `Inv p s` at a read frontier `p` (strong) / `InvW` (after a failed all-or-nothing call) / `Err`
  (after any failure), stable under task steps of the tasks below (`quiet`), and the specifications
  of an `Ack` (`ack`: the records must be justified for the tasks `T` and destinations `D`) and of a
  `Nack`; `CallOut` is the conclusion of both, `SameBut` the states a contract's invariant cannot tell apart
  (`frame`).
-/
namespace Conduit.Funnel
open Conduit.Funnel.Mon

mutual
def tasksS : TaskNode → List Nat
  | .mk id _ next => id :: tasksL next
def tasksL : List TaskNode → List Nat
  | [] => []
  | n :: ns => tasksS n ++ tasksL ns
end

theorem tasksS_eq (node : TaskNode) : tasksS node = node.id :: tasksL node.next := by
  cases node with
  | mk id k next => rw [tasksS]; rfl

theorem tasksL_sub (node : TaskNode) : ∀ x ∈ tasksL node.next, x ∈ tasksS node :=
  fun x hx => by rw [tasksS_eq]; exact List.mem_cons_of_mem _ hx

theorem mem_tasksS_self (node : TaskNode) : node.id ∈ tasksS node := by rw [tasksS_eq]; exact List.mem_cons_self

theorem tasksL_nil : tasksL [] = [] := by rw [tasksL]
theorem tasksL_cons (n : TaskNode) (ns : List TaskNode) : tasksL (n :: ns) = tasksS n ++ tasksL ns := by rw [tasksL]

theorem tasksL_single (n : TaskNode) : tasksL [n] = tasksS n := by rw [tasksL_cons, tasksL_nil, List.append_nil]

theorem dests_sublist_tasks : ∀ (n : Nat) (node : TaskNode), sizeOf node ≤ n → (destsS node).Sublist (tasksS node) := by
  intro n
  induction n with
  | zero => intro node h; cases node; simp at h
  | succ n ih =>
    intro node hn
    cases node with
    | mk id k next =>
      have key : ∀ (l : List TaskNode), sizeOf l ≤ n → (destsL l).Sublist (tasksL l) := by
        intro l
        induction l with
        | nil => intro _; rw [destsL_nil, tasksL_nil]; exact List.Sublist.refl _
        | cons c cs ihl =>
          intro hl
          rw [destsL_cons, tasksL_cons]
          simp only [List.cons.sizeOf_spec] at hl
          exact (ih c (by omega)).append (ihl (by omega))
      simp only [TaskNode.mk.sizeOf_spec] at hn
      rw [destsS_eq, tasksS_eq]
      unfold own
      split
      · exact (key next (by omega)).cons_cons id
      · exact (key next (by omega)).cons id

theorem destsS_sublist_tasksS (node : TaskNode) : (destsS node).Sublist (tasksS node) :=
  dests_sublist_tasks _ node (Nat.le_refl _)

theorem own_sub (node : TaskNode) : ∀ x ∈ own node, x = node.id := by
  intro x hx
  unfold own at hx
  split at hx
  · simpa using hx
  · cases hx

structure Base (G : Ctx) (s : PS) : Prop where
  safe : (G.mu s).tv = []
  sc : SC G s
  /-- as `GInv.wr`: the root booked with a written tag is `Mon.root` of the tag -/
  wr : ∀ e ∈ (G.mu s).written, e.2.1 = e.2.2.1 % 1000
  errIn : ∀ x ∈ G.errT s, x.1 ∈ tasksS G.tree
  wrIn : ∀ e ∈ (G.mu s).written, e.1 ∈ dests G.tree
  /-- for a case without record splitting the remaining scripts are split-free -/
  ns : NS G.scripts → NS s.scripts

theorem Base.same {G : Ctx} {s s' : PS} (h : Base G s) (hlog : s'.log = s.log) (hscr : s'.scripts = s.scripts) : Base G s' := by
  have hm := mu_same G s s' hlog
  have he := errT_same G s s' hlog
  exact ⟨by rw [hm]; exact h.safe, h.sc.same hlog hscr, by rw [hm]; exact h.wr, by rw [he]; exact h.errIn,
    by rw [hm]; exact h.wrIn, by rw [hscr]; exact h.ns⟩

/-- `ρ` is the root of a record at an index `≥ p` -/
def InRge (G : Ctx) (p : Nat) (ρ : Nat) : Prop := ∃ (j : Nat) (src : Rec), p ≤ j ∧ G.all[j]? = some src ∧ root src = ρ

theorem InR.ge {G : Ctx} {n0 len : Nat} {ρ : Nat} (h : InR G n0 len ρ) : InRge G n0 ρ := by
  obtain ⟨q, src, _, h1, h2⟩ := h
  exact ⟨n0 + q, src, by omega, h1, h2⟩

theorem InRge.not_nonPend {G : Ctx} (hs : Src G) {p : Nat} {ρ : Nat} (h : InRge G p ρ) : ¬ NonPend G p ρ := by
  obtain ⟨j, src, hj, h1, h2⟩ := h
  intro hn
  have := hn.lt hs h1 hj
  omega

/-- A task step of task `t` (a destination iff `isDest`) about roots `R`, as seen by the handler
chains: one `.pcall` / `.write` event, the scripts of `t` popped, tallies untouched, new facts
attributed to `t`. -/
structure QStep (G : Ctx) (t : Nat) (isDest : Bool) (R : Nat → Prop) (s s' : PS) : Prop where
  log : ∃ e, s'.log = s.log.push e ∧ evKeys e = [] ∧ evTask e = some t ∧ ∀ tk i, e ≠ .dlqw tk i
  scripts : s'.scripts = popScripts s.scripts t
  mas : s'.mas = s.mas
  win : s'.win = s.win
  thr : s'.thr = s.thr
  size : s'.size = s.size
  dlqTask : s'.dlqTask = s.dlqTask
  ext : ExtT [t] (if isDest then [t] else []) R (G.view s) (G.view s')
  dlqAny : (G.mu s').dlqAny = (G.mu s).dlqAny
  dlqOk : (G.mu s').dlqOk = (G.mu s).dlqOk

theorem QStep.of_push {G : Ctx} {t : Nat} {isDest : Bool} {R : Nat → Prop} {s s' : PS} {e : Ev} {hp : Heap}
    (hs' : { s with log := s.log.push e, scripts := popScripts s.scripts t, heap := hp } = s') (hk : evKeys e = [])
    (ht : evTask e = some t) (hd : ∀ tk i, e ≠ .dlqw tk i)
    (hext : ExtT [t] (if isDest then [t] else []) R (G.view s) (G.view s'))
    (hany : (G.mu s').dlqAny = (G.mu s).dlqAny) (hok : (G.mu s').dlqOk = (G.mu s).dlqOk) : QStep G t isDest R s s' := by
  subst hs'
  exact ⟨⟨e, rfl, hk, ht, hd⟩, rfl, rfl, rfl, rfl, rfl, rfl, hext, hany, hok⟩

theorem QStep.acked_eq {G : Ctx} {t : Nat} {isDest : Bool} {R : Nat → Prop} {s s' : PS} (h : QStep G t isDest R s s') :
    ackedKeys s'.log = ackedKeys s.log := by
  obtain ⟨e, h1, h2, _⟩ := h.log
  rw [h1, ackedKeys_push, h2, List.append_nil]

theorem QStep.nAcked_eq {G : Ctx} {t : Nat} {isDest : Bool} {R : Nat → Prop} {s s' : PS} (h : QStep G t isDest R s s') :
    nAcked s' = nAcked s := by
  unfold nAcked; rw [h.acked_eq]

/-- `s'` differs from `s` at most in the split-run heap, the remaining fan-out orders, and the
tallies from `top` on (more may have been added) -/
structure SameBut (top : Nat) (s s' : PS) : Prop where
  log : s'.log = s.log
  scripts : s'.scripts = s.scripts
  win : s'.win = s.win
  thr : s'.thr = s.thr
  size : s'.size = s.size
  dlqTask : s'.dlqTask = s.dlqTask
  masSize : s.mas.size ≤ s'.mas.size
  mas : ∀ i : Nat, i < top → s'.mas[i]! = s.mas[i]!

theorem SameBut.heap (top : Nat) (s : PS) (h : Heap) : SameBut top s { s with heap := h } :=
  ⟨rfl, rfl, rfl, rfl, rfl, rfl, Nat.le_refl _, fun _ _ => rfl⟩

structure CallOut (G : Ctx) (top : Nat) (Inv InvW : Nat → PS → Prop) (Err : PS → Prop) (Dead : PS → Nat → Prop)
    (p len : Nat) (atomic : Prop) (s s' : PS) (r : Except Stop Unit) : Prop where
  ok : r = .ok () → Inv (p + len) s'
  dead : ∀ j : Nat, Dead s j → Dead s' j
  stutter : atomic → r ≠ .ok () → InvW p s'
  err : r ≠ .ok () → Err s'
  view : ExtT [] [] (fun _ => False) (G.view s) (G.view s')
  masSize : s'.mas.size = s.mas.size
  mas : ∀ i : Nat, top ≤ i → s'.mas[i]! = s.mas[i]!

structure MC (G : Ctx) (a : Acker) where
  top : Nat
  Inv : Nat → PS → Prop
  InvW : Nat → PS → Prop
  Err : PS → Prop
  /-- tasks / destinations an acknowledged record must be justified for -/
  T : List Nat
  D : List Nat
  /-- tasks that may run while this chain waits -/
  Below : List Nat
  /-- the record at absolute index `j` has been nacked through this chain: whatever a branch still
  does with it is of no consequence. It says something only in a tally's own contract (`MDead`,
  Proofs/MonFMulti.lean): the root handler's contracts take `fun _ _ => True`, and `multiMC0` assumes
  as much of its parent, which a tally below another tally would not give. -/
  Dead : PS → Nat → Prop
  inv_w : ∀ {p s}, Inv p s → InvW p s
  w_err : ∀ {p s}, InvW p s → Err s
  err_safe : ∀ {s}, Err s → (G.mu s).tv = []
  base : ∀ {p s}, Inv p s → Base G s
  baseW : ∀ {p s}, InvW p s → Base G s
  top_le : ∀ {p s}, InvW p s → top ≤ s.mas.size
  quiet : ∀ {p s s' t isDest R}, Inv p s → QStep G t isDest R s s' → t ∈ Below →
    (∀ x, R x → ∀ (j : Nat) (src : Rec), j < p → G.all[j]? = some src → root src = x → Dead s j) →
    Base G s' → Inv p s'
  quietW : ∀ {p s s' t isDest R}, InvW p s → QStep G t isDest R s s' → t ∈ Below →
    (∀ x, R x → ∀ (j : Nat) (src : Rec), j < p → G.all[j]? = some src → root src = x → Dead s j) →
    Base G s' → InvW p s'
  frame : ∀ {p s s'}, Inv p s → SameBut top s s' → Inv p s'
  frameW : ∀ {p s s'}, InvW p s → SameBut top s s' → InvW p s'
  dead_quiet : ∀ {s s' t isDest R j}, Dead s j → QStep G t isDest R s s' → Dead s' j
  dead_frame : ∀ {s s' j}, Dead s j → SameBut top s s' → Dead s' j
  ack : ∀ (fuel : Nat) (sb : Batch) (p : Nat) (s s' : PS) (r : Except Stop Unit),
    Inv p s → BOK sb → sb.split = [] → Align G p sb →
    (∀ (q : Nat) (src : Rec), q < sb.pos.length → G.all[p + q]? = some src →
      ActiveT (G.view s) T D (root src) ∨ FilteredT (G.view s) T D (root src)) →
    exec (ackerCall fuel a sb true 0) s = (r, s') →
    CallOut G top Inv InvW Err Dead p sb.pos.length False s s' r
  nack : ∀ (fuel : Nat) (sb : Batch) (task p : Nat) (s s' : PS) (r : Except Stop Unit),
    InvW p s → BOK sb → sb.split = [] → NackOK sb → Align G p sb → 0 < sb.pos.length →
    exec (ackerCall fuel a sb false task) s = (r, s') →
    CallOut G top Inv InvW Err Dead p sb.pos.length (sb.pos.length ≤ 1) s s' r ∧
    (r = .ok () → ∀ q : Nat, q < sb.pos.length → Dead s' (p + q))

end Conduit.Funnel
