import ConduitModel.Spec.Arbiter

/-!
The fan-out tally (`maVote1`, `maVote`, `maRelease`, `maRun` of `Spec/Arbiter.lean`) as a pure theory. The tally
is a family of independent slots (`Slot`, `Slot.vote`): one vote changes one slot (`maVote1_slot`), the final
state of a slot is the fold of the votes cast on it (`maRun_slot`), `released` is the length of the longest
terminal prefix (`MA.Stable`), and the parent calls release exactly the slots in between (`maRun_log`).
-/
namespace Conduit.Funnel

theorem drop_range (n r : Nat) : (List.range n).drop r = List.range' r (n - r) := by
  rw [List.range_eq_range', List.drop_range']; simp

theorem mem_takeWhile_imp {α} (p : α → Bool) : ∀ (l : List α) (x : α), x ∈ l.takeWhile p → p x = true := by
  intro l
  induction l with
  | nil => intro x h; simp at h
  | cons a l ih =>
    intro x h
    rw [List.takeWhile_cons] at h
    by_cases ha : p a = true
    · simp only [ha, if_true, List.mem_cons] at h
      rcases h with h | h
      · subst h; exact ha
      · exact ih x h
    · simp [ha] at h

theorem maAckRun_spec (m : MA) (r : Nat) (hr : r < m.positions.length)
    (ht : m.term r = true) (ha : m.ack r = true) :
    maAckRun m r = List.range' r (maAckRun m r).length ∧ 0 < (maAckRun m r).length ∧
    r + (maAckRun m r).length ≤ m.positions.length ∧
    ∀ t : Nat, r ≤ t → t < r + (maAckRun m r).length → m.term t = true ∧ m.ack t = true := by
  unfold maAckRun
  rw [drop_range]
  generalize hl : List.takeWhile (fun t => m.term t && m.ack t) _ = l
  have hpre : l <+: List.range' r (m.positions.length - r) := hl ▸ List.takeWhile_prefix _
  have hlen := hpre.length_le
  rw [List.length_range'] at hlen
  have heq : l = List.range' r l.length := by
    have := List.prefix_iff_eq_take.mp hpre
    rwa [List.take_range'_of_length_ge hlen] at this
  refine ⟨heq, ?_, by omega, fun t h1 h2 => ?_⟩
  · obtain ⟨k, hk⟩ : ∃ k, m.positions.length - r = k + 1 := ⟨m.positions.length - r - 1, by omega⟩
    rw [← hl, hk, List.range'_succ, List.takeWhile_cons, ht, ha]
    exact Nat.succ_pos _
  · have hmem : t ∈ l := by rw [heq, List.mem_range'_1]; omega
    have := mem_takeWhile_imp _ _ _ (hl ▸ hmem)
    simpa using this

theorem maReleaseLoop_zero (m : MA) : maReleaseLoop 0 m = (m, []) := rfl

/-- `m.released` after the parent call returned. -/
def Released.next : Released → Nat
  | .ackRun _ t => t
  | .nackOne i => i + 1

/-- the parent call `releaseLocked` makes at a terminal, unreleased slot. -/
def maNext (m : MA) : Released :=
  if m.ack m.released then .ackRun m.released (m.released + (maAckRun m m.released).length)
  else .nackOne m.released

theorem maReleaseLoop_halt (f : Nat) (m : MA)
    (h : ¬ (m.released < m.positions.length ∧ m.term m.released = true)) :
    maReleaseLoop (f+1) m = (m, []) := by
  rw [maReleaseLoop]
  by_cases h1 : m.released < m.positions.length
  · have ht : m.term m.released = false := by simpa [h1] using h
    simp [h1, ht]
  · rw [if_neg h1]

theorem maReleaseLoop_step (f : Nat) (m : MA) (h : m.released < m.positions.length)
    (ht : m.term m.released = true) :
    maReleaseLoop (f+1) m =
      ((maReleaseLoop f { m with released := (maNext m).next }).1,
       maNext m :: (maReleaseLoop f { m with released := (maNext m).next }).2) := by
  rw [maReleaseLoop, if_pos h]
  unfold maNext
  cases m.ack m.released <;> simp [ht, Released.next]

theorem maNext_spec (m : MA) (h : m.released < m.positions.length) (ht : m.term m.released = true) :
    m.released < (maNext m).next ∧ (maNext m).next ≤ m.positions.length ∧
    (∀ i : Nat, m.released ≤ i → i < (maNext m).next → m.term i = true) ∧
    (maNext m).expand =
      (List.range' m.released ((maNext m).next - m.released)).map (fun i => (i, m.ack i)) := by
  unfold maNext
  cases ha : m.ack m.released with
  | false =>
    refine ⟨Nat.lt_succ_self _, h, fun i h1 h2 => ?_, ?_⟩
    · have : i = m.released := by simp only [Released.next, Bool.false_eq_true, if_false] at h2; omega
      rw [this]; exact ht
    · simp [Released.next, Released.expand, ha]
  | true =>
    obtain ⟨_, hpos, hle, hall⟩ := maAckRun_spec m m.released h ht ha
    refine ⟨by simp only [Released.next, if_true]; omega, hle, fun i h1 h2 => (hall i h1 h2).1, ?_⟩
    simp only [if_true, Released.next, Released.expand, Nat.add_sub_cancel_left]
    exact List.map_congr_left fun i hi => by
      rw [List.mem_range'_1] at hi; rw [(hall i hi.1 hi.2).2]

theorem maReleaseLoop_spec : ∀ (f : Nat) (m : MA),
    (maReleaseLoop f m).1 = { m with released := (maReleaseLoop f m).1.released } ∧
    m.released ≤ (maReleaseLoop f m).1.released ∧
    (m.released ≤ m.positions.length → (maReleaseLoop f m).1.released ≤ m.positions.length) ∧
    releasedOf (maReleaseLoop f m).2 =
      (List.range' m.released ((maReleaseLoop f m).1.released - m.released)).map (fun i => (i, m.ack i)) ∧
    (∀ i : Nat, m.released ≤ i → i < (maReleaseLoop f m).1.released → m.term i = true) := by
  intro f
  induction f with
  | zero =>
    intro m; simp only [maReleaseLoop_zero, releasedOf]
    exact ⟨trivial, Nat.le_refl _, id, by simp, fun i a b => by omega⟩
  | succ f ih =>
    intro m
    by_cases hc : m.released < m.positions.length ∧ m.term m.released = true
    · rw [maReleaseLoop_step f m hc.1 hc.2]
      obtain ⟨n1, n2, n3, n4⟩ := maNext_spec m hc.1 hc.2
      obtain ⟨i1, i2, i3, i4, i5⟩ := ih { m with released := (maNext m).next }
      generalize (maReleaseLoop f { m with released := (maNext m).next }) = res at *
      generalize (maNext m).next = k at *
      simp only at i1 i2 i3 i4 i5 ⊢
      refine ⟨by rw [i1], by omega, fun _ => i3 n2, ?_, fun i hi1 hi2 => ?_⟩
      · have : res.1.released - m.released = (k - m.released) + (res.1.released - k) := by omega
        rw [this, List.range'_append_1.symm, List.map_append, ← n4, show m.released + (k - m.released) = k by omega, ← i4]
        rfl
      · by_cases hik : i < k
        · exact n3 i hi1 hik
        · exact i5 i (by omega) hi2
    · rw [maReleaseLoop_halt f m hc]; simp only [releasedOf]
      exact ⟨trivial, Nat.le_refl _, id, by simp, fun i a b => by omega⟩

theorem maNext_ack {m : MA} (ha : m.ack m.released = true) :
    maNext m = .ackRun m.released (m.released + (maAckRun m m.released).length) := by
  unfold maNext; rw [if_pos ha]

theorem maNext_nack {m : MA} (ha : m.ack m.released = false) : maNext m = .nackOne m.released := by
  unfold maNext; rw [if_neg (by rw [ha]; exact Bool.false_ne_true)]

theorem maReleaseLoop_fuel : ∀ (f1 f2 : Nat) (m : MA),
    m.positions.length - m.released < f1 → m.positions.length - m.released < f2 →
    maReleaseLoop f1 m = maReleaseLoop f2 m := by
  intro f1
  induction f1 with
  | zero => intro f2 m h; omega
  | succ f1 ih =>
    intro f2 m h1 h2
    cases f2 with
    | zero => omega
    | succ f2 =>
      by_cases hc : m.released < m.positions.length ∧ m.term m.released = true
      · have := (maNext_spec m hc.1 hc.2).1
        rw [maReleaseLoop_step f1 m hc.1 hc.2, maReleaseLoop_step f2 m hc.1 hc.2,
          ih f2 _ (by dsimp only; omega) (by dsimp only; omega)]
      · rw [maReleaseLoop_halt f1 m hc, maReleaseLoop_halt f2 m hc]

theorem maReleaseLoop_eq_maRelease (fuel : Nat) (m : MA) (h : m.positions.length - m.released < fuel) :
    maReleaseLoop fuel m = maRelease m :=
  maReleaseLoop_fuel _ _ m h (by omega)

theorem maReleaseLoop_last : ∀ (f : Nat) (m : MA),
    (maReleaseLoop f m).1.released = (((maReleaseLoop f m).2.getLast?).map Released.next).getD m.released ∧
    (maReleaseLoop f m).2.length ≤ m.positions.length - m.released := by
  intro f
  induction f with
  | zero => intro m; simp [maReleaseLoop_zero]
  | succ f ih =>
    intro m
    by_cases hc : m.released < m.positions.length ∧ m.term m.released = true
    · rw [maReleaseLoop_step f m hc.1 hc.2]
      obtain ⟨n1, n2, _⟩ := maNext_spec m hc.1 hc.2
      obtain ⟨i1, i2⟩ := ih { m with released := (maNext m).next }
      dsimp only at i1 i2 ⊢
      refine ⟨?_, by simp only [List.length_cons]; omega⟩
      rw [i1, List.getLast?_cons]
      cases (maReleaseLoop f { m with released := (maNext m).next }).2.getLast? <;> rfl
    · rw [maReleaseLoop_halt f m hc]; simp

theorem maReleaseLoop_stop : ∀ (f : Nat) (m : MA), m.positions.length - m.released < f →
    (maReleaseLoop f m).1.released < m.positions.length → m.term (maReleaseLoop f m).1.released = false := by
  intro f
  induction f with
  | zero => intro m h; omega
  | succ f ih =>
    intro m hf
    by_cases hc : m.released < m.positions.length ∧ m.term m.released = true
    · rw [maReleaseLoop_step f m hc.1 hc.2]
      have := (maNext_spec m hc.1 hc.2).1
      exact ih { m with released := (maNext m).next } (by dsimp only; omega)
    · rw [maReleaseLoop_halt f m hc]
      intro h
      simpa [h] using hc

structure MA.WF (m : MA) : Prop where
  votes_len : m.ackVotes.length = m.positions.length
  term_len : m.terminal.length = m.positions.length
  ack_len : m.acked.length = m.positions.length

structure MA.Inv (m : MA) : Prop extends m.WF where
  full : ∀ i : Nat, m.term i = true → m.ack i = true → m.votes i = m.branches

theorem MA.Fresh.inv {m : MA} (h : m.Fresh) : m.Inv := by
  obtain ⟨_, h2, h3, h4⟩ := h
  refine ⟨⟨by rw [h2]; simp, by rw [h3]; simp, by rw [h4]; simp⟩, ?_⟩
  intro i ht
  rw [MA.term, h3] at ht
  simp [List.getElem?_replicate] at ht
  split at ht <;> simp at ht

theorem maVote1_frame (m : MA) (a : Bool) (t : Nat) (it : VItem) :
    (maVote1 m a t it).released = m.released ∧ (maVote1 m a t it).positions = m.positions ∧
    (maVote1 m a t it).branches = m.branches := by
  grind [maVote1]

theorem maVote1_wf (m : MA) (a : Bool) (t : Nat) (it : VItem) (wf : m.WF) : (maVote1 m a t it).WF := by
  have := wf.votes_len; have := wf.term_len; have := wf.ack_len
  constructor <;> grind [maVote1]

theorem maVote1_skip (m : MA) (a : Bool) (t : Nat) (it : VItem) (h : m.term it.ix = true) :
    maVote1 m a t it = m := if_pos h

theorem maVote1_other (m : MA) (a : Bool) (t : Nat) (it : VItem) (i : Nat) (h : i ≠ it.ix) :
    (maVote1 m a t it).term i = m.term i ∧ (maVote1 m a t it).ack i = m.ack i ∧
    (maVote1 m a t it).votes i = m.votes i ∧ (maVote1 m a t it).record[i]? = m.record[i]? := by
  -- every branch of `maVote1` only does `List.set it.ix` on some of the slices
  unfold maVote1
  by_cases ht : m.term it.ix = true
  · rw [if_pos ht]; exact ⟨rfl, rfl, rfl, rfl⟩
  · rw [if_neg ht]
    cases a
    · simp only [Bool.false_eq_true, if_false, MA.term, MA.ack, MA.votes, List.getElem?_set_ne h.symm, and_self]
    · rw [if_pos rfl]
      dsimp only
      by_cases hv : (m.votes it.ix + 1 == m.branches) = true
      · simp only [if_pos hv, MA.term, MA.ack, MA.votes, List.getElem?_set_ne h.symm, and_self]
      · simp only [if_neg hv, MA.term, MA.ack, MA.votes, List.getElem?_set_ne h.symm, and_self]

theorem maVote1_frozen (m : MA) (a : Bool) (t : Nat) (it : VItem) (i : Nat) (h : m.term i = true) :
    (maVote1 m a t it).term i = true ∧ (maVote1 m a t it).ack i = m.ack i ∧
    (maVote1 m a t it).votes i = m.votes i := by
  by_cases hx : it.ix = i
  · subst hx; rw [maVote1_skip m a t it h]; exact ⟨h, rfl, rfl⟩
  · obtain ⟨e1, e2, e3, _⟩ := maVote1_other m a t it i (Ne.symm hx)
    exact ⟨e1.trans h, e2, e3⟩

theorem maVote_nil (m : MA) (a : Bool) (t : Nat) : maVote m a t [] = m := rfl
theorem maVote_cons (m : MA) (a : Bool) (t : Nat) (it : VItem) (its : List VItem) :
    maVote m a t (it :: its) = maVote (maVote1 m a t it) a t its := rfl

theorem maVote_frame (a : Bool) (t : Nat) : ∀ (its : List VItem) (m : MA),
    (maVote m a t its).released = m.released ∧ (maVote m a t its).positions = m.positions ∧
    (maVote m a t its).branches = m.branches
  | [], _ => ⟨rfl, rfl, rfl⟩
  | it :: its, m =>
    have ⟨h1, h2, h3⟩ := maVote_frame a t its (maVote1 m a t it)
    have ⟨g1, g2, g3⟩ := maVote1_frame m a t it
    ⟨h1.trans g1, h2.trans g2, h3.trans g3⟩

theorem maVote_frozen (a : Bool) (t : Nat) (i : Nat) : ∀ (its : List VItem) (m : MA), m.term i = true →
    (maVote m a t its).term i = true ∧ (maVote m a t its).ack i = m.ack i ∧
    (maVote m a t its).votes i = m.votes i
  | [], _, h => ⟨h, rfl, rfl⟩
  | it :: its, m, h =>
    have ⟨g1, g2, g3⟩ := maVote1_frozen m a t it i h
    have ⟨h1, h2, h3⟩ := maVote_frozen a t i its _ g1
    ⟨h1, h2.trans g2, h3.trans g3⟩

theorem maStep_spec (m : MA) (v : Vote) :
    (maStep m v).1 = { maVote m v.isAck v.task v.items with released := (maStep m v).1.released } ∧
    m.released ≤ (maStep m v).1.released ∧
    (m.released ≤ m.positions.length → (maStep m v).1.released ≤ m.positions.length) ∧
    releasedOf (maStep m v).2 =
      (List.range' m.released ((maStep m v).1.released - m.released)).map
        (fun i => (i, (maVote m v.isAck v.task v.items).ack i)) ∧
    (∀ i : Nat, m.released ≤ i → i < (maStep m v).1.released → (maVote m v.isAck v.task v.items).term i = true) := by
  have h := maReleaseLoop_spec ((maVote m v.isAck v.task v.items).positions.length -
    (maVote m v.isAck v.task v.items).released + 1) (maVote m v.isAck v.task v.items)
  obtain ⟨f1, f2, _⟩ := maVote_frame v.isAck v.task v.items m
  simp only [maStep, maRelease]
  rw [f1, f2] at h
  rw [f1, f2]
  exact h

theorem maStep_fields (m : MA) (v : Vote) (i : Nat) :
    (maStep m v).1.term i = (maVote m v.isAck v.task v.items).term i ∧
    (maStep m v).1.ack i = (maVote m v.isAck v.task v.items).ack i ∧
    (maStep m v).1.votes i = (maVote m v.isAck v.task v.items).votes i := by
  rw [(maStep_spec m v).1]
  exact ⟨rfl, rfl, rfl⟩

theorem maStep_frame (m : MA) (v : Vote) :
    (maStep m v).1.positions = m.positions ∧ (maStep m v).1.branches = m.branches := by
  rw [(maStep_spec m v).1]
  exact (maVote_frame v.isAck v.task v.items m).2

theorem maStep_frozen (m : MA) (v : Vote) (i : Nat) (h : m.term i = true) :
    (maStep m v).1.term i = true ∧ (maStep m v).1.ack i = m.ack i ∧ (maStep m v).1.votes i = m.votes i := by
  obtain ⟨e1, e2, e3⟩ := maStep_fields m v i
  rw [e1, e2, e3]
  exact maVote_frozen v.isAck v.task i v.items m h

theorem maRun_nil (m : MA) : maRun m [] = (m, []) := rfl
theorem maRun_cons (m : MA) (v : Vote) (vs : List Vote) :
    maRun m (v :: vs) = ((maRun (maStep m v).1 vs).1, (maStep m v).2 ++ (maRun (maStep m v).1 vs).2) := rfl

theorem maRun_append : ∀ (vs ws : List Vote) (m : MA),
    maRun m (vs ++ ws) = ((maRun (maRun m vs).1 ws).1, (maRun m vs).2 ++ (maRun (maRun m vs).1 ws).2)
  | [], _, _ => rfl
  | v :: vs, ws, m => by simp only [List.cons_append, maRun_cons, maRun_append vs, List.append_assoc]

theorem maRun_frame : ∀ (vs : List Vote) (m : MA),
    (maRun m vs).1.positions = m.positions ∧ (maRun m vs).1.branches = m.branches
  | [], _ => ⟨rfl, rfl⟩
  | v :: vs, m =>
    have ⟨e1, e2⟩ := maStep_frame m v
    ⟨(maRun_frame vs _).1.trans e1, (maRun_frame vs _).2.trans e2⟩

theorem maRun_frozen (i : Nat) : ∀ (vs : List Vote) (m : MA), m.term i = true →
    (maRun m vs).1.term i = true ∧ (maRun m vs).1.ack i = m.ack i ∧ (maRun m vs).1.votes i = m.votes i
  | [], _, h => ⟨h, rfl, rfl⟩
  | v :: vs, m, h =>
    have ⟨g1, g2, g3⟩ := maStep_frozen m v i h
    have ⟨h1, h2, h3⟩ := maRun_frozen i vs _ g1
    ⟨h1, h2.trans g2, h3.trans g3⟩

theorem maRun_log : ∀ (vs : List Vote) (m : MA),
    m.released ≤ (maRun m vs).1.released ∧
    (m.released ≤ m.positions.length → (maRun m vs).1.released ≤ m.positions.length) ∧
    releasedOf (maRun m vs).2 = (List.range' m.released ((maRun m vs).1.released - m.released)).map
      (fun i => (i, (maRun m vs).1.ack i)) ∧
    ∀ i : Nat, m.released ≤ i → i < (maRun m vs).1.released → (maRun m vs).1.term i = true := by
  intro vs
  induction vs with
  | nil => intro m; exact ⟨Nat.le_refl _, id, by simp [maRun_nil, releasedOf],
      fun i a (b : i < m.released) => by omega⟩
  | cons v vs ih =>
    intro m
    rw [maRun_cons]
    obtain ⟨_, s2, s3, s4, s5⟩ := maStep_spec m v
    obtain ⟨i1, i2, i3, i4⟩ := ih (maStep m v).1
    rw [(maStep_frame m v).1] at i2
    -- a slot released by this call is terminal from now on, so it keeps its decision to the end
    have hfin : ∀ i : Nat, m.released ≤ i → i < (maStep m v).1.released →
        (maRun (maStep m v).1 vs).1.term i = true ∧
        (maRun (maStep m v).1 vs).1.ack i = (maVote m v.isAck v.task v.items).ack i := by
      intro i h1 h2
      obtain ⟨e1, e2, _⟩ := maStep_fields m v i
      obtain ⟨g1, g2, _⟩ := maRun_frozen i vs _ (e1.trans (s5 i h1 h2))
      exact ⟨g1, g2.trans e2⟩
    dsimp only
    refine ⟨by omega, fun h => i2 (s3 h), ?_, fun i h1 h2 => ?_⟩
    · have : (maRun (maStep m v).1 vs).1.released - m.released = ((maStep m v).1.released - m.released) +
          ((maRun (maStep m v).1 vs).1.released - (maStep m v).1.released) := by omega
      rw [releasedOf, List.flatMap_append, ← releasedOf, ← releasedOf, s4, i3, this,
        List.range'_append_1.symm, List.map_append,
        show m.released + ((maStep m v).1.released - m.released) = (maStep m v).1.released by omega]
      congr 1
      exact List.map_congr_left fun i hi => by
        rw [List.mem_range'_1] at hi; rw [(hfin i hi.1 (by omega)).2]
    · by_cases h : i < (maStep m v).1.released
      · exact (hfin i h1 h).1
      · exact i4 i (by omega) h2

theorem maRun_released_iff (vs : List Vote) (m : MA) (p : Nat × Bool) :
    p ∈ releasedOf (maRun m vs).2 ↔
      m.released ≤ p.1 ∧ p.1 < (maRun m vs).1.released ∧ (maRun m vs).1.ack p.1 = p.2 := by
  rw [(maRun_log vs m).2.2.1, List.mem_map]
  constructor
  · rintro ⟨i, hi, rfl⟩; rw [List.mem_range'_1] at hi; exact ⟨hi.1, by omega, rfl⟩
  · rintro ⟨h1, h2, h3⟩; exact ⟨p.1, List.mem_range'_1.mpr ⟨h1, by omega⟩, by rw [h3]⟩

def ackCount (vs : List Vote) (i : Nat) : Nat :=
  (votePairs (vs.filter (·.isAck))).countP (·.2 == i)

theorem ackCount_nil (i : Nat) : ackCount [] i = 0 := rfl

theorem ackCount_cons (v : Vote) (vs : List Vote) (i : Nat) :
    ackCount (v :: vs) i = (if v.isAck = true then v.items.countP (·.ix == i) else 0) + ackCount vs i := by
  unfold ackCount
  by_cases h : v.isAck = true
  · simp [h, votePairs, Vote.idxs, List.countP_map, Function.comp_def]
  · simp [h]

/-- the deciding part of one slot of the tally -/
structure Slot where
  votes : Nat
  term : Bool
  ack : Bool

def MA.slot (m : MA) (i : Nat) : Slot := ⟨m.votes i, m.term i, m.ack i⟩

/-- one vote on a slot of a fan-out of `M` branches -/
def Slot.vote (M : Nat) (σ : Slot) (isAck : Bool) : Slot :=
  if σ.term then σ
  else if isAck then (if σ.votes + 1 == M then ⟨σ.votes + 1, true, true⟩ else ⟨σ.votes + 1, false, σ.ack⟩)
  else ⟨σ.votes, true, false⟩

theorem MA.WF.slot_ge {m : MA} (wf : m.WF) {i : Nat} (hi : m.positions.length ≤ i) : m.slot i = ⟨0, false, false⟩ := by
  unfold MA.slot MA.votes MA.term MA.ack
  rw [List.getElem?_eq_none_iff.mpr (wf.votes_len ▸ hi), List.getElem?_eq_none_iff.mpr (wf.term_len ▸ hi),
    List.getElem?_eq_none_iff.mpr (wf.ack_len ▸ hi)]
  rfl

theorem maVote1_slot (m : MA) (a : Bool) (t : Nat) (it : VItem) (wf : m.WF) (i : Nat) (hi : i < m.positions.length) :
    (maVote1 m a t it).slot i = if it.ix = i then (m.slot i).vote m.branches a else m.slot i := by
  by_cases hx : it.ix = i
  · subst hx
    have := wf.votes_len; have := wf.term_len; have := wf.ack_len
    rw [if_pos rfl]
    unfold MA.slot Slot.vote maVote1
    grind
  · obtain ⟨e1, e2, e3, _⟩ := maVote1_other m a t it i (Ne.symm hx)
    rw [if_neg hx, MA.slot, e1, e2, e3]; rfl

theorem maVote1_record (m : MA) (a : Bool) (t : Nat) (it : VItem) (i : Nat) (hi : i < m.record.length) :
    (maVote1 m a t it).record[i]? = if it.ix = i ∧ m.term i = false then some it.r else m.record[i]? := by
  by_cases hx : it.ix = i
  · subst hx
    by_cases ht : m.term it.ix = true
    · rw [maVote1_skip m a t it ht, if_neg (fun hc => Bool.noConfusion (ht.symm.trans hc.2))]
    · rw [if_pos ⟨rfl, by simpa using ht⟩]
      unfold maVote1
      rw [if_neg ht]
      cases a with
      | false => simp only [Bool.false_eq_true, if_false, List.getElem?_set_self hi]
      | true => rw [if_pos rfl]; dsimp only; split <;> exact List.getElem?_set_self hi
  · rw [if_neg (fun hc => hx hc.1)]
    exact (maVote1_other m a t it i (Ne.symm hx)).2.2.2

theorem maVote1_nackErr (m : MA) (a : Bool) (t : Nat) (it : VItem) (i : Nat) (hi : i < m.nackErr.length) :
    (maVote1 m a t it).nackErr[i]? = if it.ix = i ∧ m.term i = false ∧ a = false then some it.err else m.nackErr[i]? := by
  by_cases hc : it.ix = i ∧ m.term i = false ∧ a = false
  · obtain ⟨rfl, ht, rfl⟩ := hc
    rw [if_pos ⟨rfl, ht, rfl⟩]
    unfold maVote1
    simp only [ht, Bool.false_eq_true, if_false, List.getElem?_set_self hi]
  · rw [if_neg hc]
    unfold maVote1
    by_cases ht : m.term it.ix = true
    · rw [if_pos ht]
    · rw [if_neg ht]
      cases a with
      | true => rw [if_pos rfl]; dsimp only; split <;> rfl
      | false =>
        simp only [Bool.false_eq_true, if_false]
        exact List.getElem?_set_ne (fun hx => hc ⟨hx, by rw [← hx]; simpa using ht, rfl⟩)

theorem maVote1_len (m : MA) (a : Bool) (t : Nat) (it : VItem) :
    (maVote1 m a t it).record.length = m.record.length ∧ (maVote1 m a t it).nackErr.length = m.nackErr.length := by
  unfold maVote1
  by_cases ht : m.term it.ix = true
  · rw [if_pos ht]; exact ⟨rfl, rfl⟩
  · rw [if_neg ht]
    cases a with
    | false => simp only [Bool.false_eq_true, if_false, List.length_set, and_self]
    | true =>
      dsimp only
      by_cases hv : (m.votes it.ix + 1 == m.branches) = true
      · simp only [hv, if_true, List.length_set, and_self]
      · simp only [hv, if_true, if_false, Bool.false_eq_true, List.length_set, and_self]

/-- the votes (ack?) that a sequence of calls casts on slot `i`, in order -/
def hits (vs : List Vote) (i : Nat) : List Bool :=
  vs.flatMap fun v => (v.items.filter (·.ix == i)).map fun _ => v.isAck

theorem maVote_slot (a : Bool) (t : Nat) (i : Nat) : ∀ (its : List VItem) (m : MA), m.WF → i < m.positions.length →
    (maVote m a t its).slot i = ((its.filter (·.ix == i)).map fun _ => a).foldl (Slot.vote m.branches) (m.slot i)
  | [], _, _, _ => rfl
  | it :: its, m, wf, hi => by
    obtain ⟨_, f2, f3⟩ := maVote1_frame m a t it
    rw [maVote_cons, maVote_slot a t i its _ (maVote1_wf m a t it wf) (by rw [f2]; exact hi), f3,
      maVote1_slot m a t it wf i hi, List.filter_cons]
    by_cases hx : it.ix = i
    · simp [hx]
    · simp [hx]

theorem maStep_slot (m : MA) (v : Vote) (i : Nat) : (maStep m v).1.slot i = (maVote m v.isAck v.task v.items).slot i := by
  obtain ⟨e1, e2, e3⟩ := maStep_fields m v i
  rw [MA.slot, e1, e2, e3]; rfl

theorem maStep_wf (m : MA) (v : Vote) (wf : m.WF) : (maStep m v).1.WF := by
  have g : (maVote m v.isAck v.task v.items).WF := by
    induction v.items generalizing m with
    | nil => exact wf
    | cons it its ih => exact ih _ (maVote1_wf m _ _ it wf)
  rw [(maStep_spec m v).1]
  exact ⟨g.votes_len, g.term_len, g.ack_len⟩

theorem maRun_slot (i : Nat) : ∀ (vs : List Vote) (m : MA), m.WF → i < m.positions.length →
    (maRun m vs).1.slot i = (hits vs i).foldl (Slot.vote m.branches) (m.slot i)
  | [], _, _, _ => rfl
  | v :: vs, m, wf, hi => by
    obtain ⟨f1, f2⟩ := maStep_frame m v
    rw [maRun_cons, hits, List.flatMap_cons, List.foldl_append, ← maVote_slot _ v.task i _ m wf hi, ← maStep_slot,
      ← f2]
    exact maRun_slot i vs _ (maStep_wf m v wf) (by rw [f1]; exact hi)

theorem maRun_wf : ∀ (vs : List Vote) (m : MA), m.WF → (maRun m vs).1.WF
  | [], _, h => h
  | v :: vs, m, h => maRun_wf vs _ (maStep_wf m v h)

theorem hits_append (vs ws : List Vote) (i : Nat) : hits (vs ++ ws) i = hits vs i ++ hits ws i :=
  List.flatMap_append

theorem Slot.vote_lt {M : Nat} {σ : Slot} {a : Bool} (h : σ.term = false → σ.votes < M)
    (ht : (σ.vote M a).term = false) : (σ.vote M a).votes < M := by
  unfold Slot.vote at *; grind

theorem Slot.vote_nacked {M : Nat} {σ : Slot} {a : Bool} (ht : (σ.vote M a).term = true) (ha : (σ.vote M a).ack = false) :
    (σ.term = true ∧ σ.ack = false) ∨ (σ.term = false ∧ a = false) := by
  unfold Slot.vote at *; grind

theorem Slot.vote_va {M : Nat} (σ : Slot) (a : Bool) :
    (σ.term = true → (σ.vote M a).term = true) ∧ ((σ.vote M a).term = true ∨ (σ.vote M a).votes = σ.votes + 1) := by
  unfold Slot.vote; grind

theorem Slot.foldl_term {M : Nat} : ∀ (l : List Bool) {σ : Slot}, σ.term = true → l.foldl (Slot.vote M) σ = σ
  | [], _, _ => rfl
  | a :: l, σ, h => by rw [List.foldl_cons, Slot.vote, if_pos h]; exact Slot.foldl_term l h

def Slot.Full (M : Nat) (σ : Slot) : Prop := σ.term = true → σ.ack = true → σ.votes = M

theorem Slot.foldl_full {M : Nat} : ∀ (l : List Bool) {σ : Slot}, σ.Full M → (l.foldl (Slot.vote M) σ).Full M
  | [], _, h => h
  | a :: l, σ, h => Slot.foldl_full l (by unfold Slot.Full Slot.vote at *; grind)

theorem Slot.foldl_votes_le {M : Nat} : ∀ (l : List Bool) (σ : Slot),
    (l.foldl (Slot.vote M) σ).votes ≤ σ.votes + l.count true
  | [], _ => Nat.le_refl _
  | a :: l, σ => by
    have := Slot.foldl_votes_le (M := M) l (σ.vote M a)
    have : (σ.vote M a).votes + l.count true ≤ σ.votes + (a :: l).count true := by
      unfold Slot.vote; cases a <;> grind
    rw [List.foldl_cons]; omega

/-- nack wins: a nack on an open slot decides it, whatever follows -/
theorem Slot.foldl_nack {M : Nat} {σ : Slot} (h : σ.term = false) (l : List Bool) :
    ((false :: l).foldl (Slot.vote M) σ).ack = false := by
  rw [List.foldl_cons, Slot.vote, if_neg (by rw [h]; exact Bool.false_ne_true), if_neg Bool.false_ne_true,
    Slot.foldl_term l rfl]

theorem hits_count (i : Nat) : ∀ vs : List Vote, (hits vs i).count true = ackCount vs i
  | [] => rfl
  | v :: vs => by
    rw [ackCount_cons, ← hits_count i vs, hits, List.flatMap_cons, List.count_append]
    congr 1
    cases v.isAck
    · simp [List.count_eq_zero]
    · simp only [if_true, List.countP_eq_length_filter]
      generalize List.filter _ v.items = l
      induction l with
      | nil => rfl
      | cons _ l ih => simp [ih]

theorem flatMap_filter_sublist {α β} (p : α → Bool) (f : α → List β) : ∀ l : List α,
    ((l.filter p).flatMap f).Sublist (l.flatMap f) := by
  intro l
  induction l with
  | nil => simp
  | cons a l ih =>
    rw [List.filter_cons]
    by_cases h : p a = true
    · simp only [h, if_true, List.flatMap_cons]
      exact List.Sublist.append (List.Sublist.refl _) ih
    · simp only [h, List.flatMap_cons]
      exact List.Sublist.trans ih (List.sublist_append_right _ _)

theorem mem_of_nodup_of_length_ge (M : Nat) (l : List Nat) (nd : l.Nodup) (hlt : ∀ x ∈ l, x < M) (hlen : M ≤ l.length)
    (b : Nat) (hb : b < M) : b ∈ l := by
  apply Classical.byContradiction
  intro hn
  have nd' : (b :: l).Nodup := List.nodup_cons.mpr ⟨hn, nd⟩
  have hsub : (b :: l) ⊆ List.range M := by
    intro x hx
    rw [List.mem_range]
    rcases List.mem_cons.mp hx with h | h
    · rw [h]; exact hb
    · exact hlt x h
  have := nd'.length_le_of_subset hsub
  simp at this
  omega

/-- Pigeonhole: the (branch, slot) pairs of the calls are distinct (`WellVoted`), so `M` ack votes for slot `i`
come from `M` different branches below `M`, that is, from all of them. -/
theorem ackCount_unanimous (M : Nat) (vs : List Vote) (wv : WellVoted M vs) (i : Nat)
    (h : M ≤ ackCount vs i) (b : Nat) (hb : b < M) :
    ∃ v ∈ vs, v.branch = b ∧ v.isAck = true ∧ i ∈ v.idxs := by
  let P := (votePairs (vs.filter (·.isAck))).filter (·.2 == i)
  have hsub : P.Sublist (votePairs vs) :=
    List.Sublist.trans List.filter_sublist (flatMap_filter_sublist _ _ vs)
  have ndP : P.Nodup := List.Nodup.sublist hsub wv.1
  have hsnd : ∀ p ∈ P, p.2 = i := by
    intro p hp
    have := (List.mem_filter.mp hp).2
    simpa using this
  have ndL : (P.map (·.1)).Nodup := by
    rw [List.Nodup, List.pairwise_map]
    refine List.Pairwise.imp_of_mem ?_ ndP
    intro p q hp hq hne heq
    apply hne
    have := hsnd p hp; have := hsnd q hq
    cases p; cases q; simp_all
  have hmemP : ∀ p ∈ P, ∃ v ∈ vs, v.branch = p.1 ∧ v.isAck = true ∧ p.2 ∈ v.idxs := by
    intro p hp
    have hp' := (List.mem_filter.mp hp).1
    simp only [votePairs, List.mem_flatMap, List.mem_filter, List.mem_map] at hp'
    obtain ⟨v, ⟨hv, hva⟩, j, hj, rfl⟩ := hp'
    exact ⟨v, hv, rfl, hva, hj⟩
  have hlt : ∀ x ∈ P.map (·.1), x < M := by
    intro x hx
    obtain ⟨p, hp, rfl⟩ := List.mem_map.mp hx
    obtain ⟨v, hv, e, _, _⟩ := hmemP p hp
    rw [← e]; exact wv.2 v hv
  have hlen : M ≤ (P.map (·.1)).length := by
    rw [List.length_map]
    show M ≤ (List.filter _ _).length
    rw [← List.countP_eq_length_filter]
    exact h
  have hbL := mem_of_nodup_of_length_ge M _ ndL hlt hlen b hb
  obtain ⟨p, hp, rfl⟩ := List.mem_map.mp hbL
  obtain ⟨v, hv, e, ha, hi⟩ := hmemP p hp
  exact ⟨v, hv, e, ha, by rw [← hsnd p hp]; exact hi⟩

theorem votePairs_two (vs : List Vote) (nd : (votePairs vs).Nodup) (v w : Vote) (hv : v ∈ vs) (hw : w ∈ vs)
    (hne : v ≠ w) (p : Nat × Nat) (hpv : p ∈ v.idxs.map (fun i => (v.branch, i)))
    (hpw : p ∈ w.idxs.map (fun i => (w.branch, i))) : False := by
  induction vs with
  | nil => simp at hv
  | cons a t ih =>
    simp only [votePairs, List.flatMap_cons] at nd
    obtain ⟨_, nd2, nd3⟩ := List.nodup_append.mp nd
    have inT : ∀ u ∈ t, p ∈ u.idxs.map (fun i => (u.branch, i)) →
        p ∈ t.flatMap (fun v => v.idxs.map fun i => (v.branch, i)) :=
      fun u hu hp => List.mem_flatMap.mpr ⟨u, hu, hp⟩
    rcases List.mem_cons.mp hv with h1 | h1 <;> rcases List.mem_cons.mp hw with h2 | h2
    · exact hne (h1.trans h2.symm)
    · subst h1; exact nd3 p hpv p (inT w h2 hpw) rfl
    · subst h2; exact nd3 p hpw p (inT v h1 hpv) rfl
    · exact ih nd2 h1 h2

/-- `newMultiAckNacker` (model `maNew`) returns a fresh tally for exactly the given branches and positions. -/
theorem maNew_fresh (M : Nat) (ps : List PosV) (m : MA) (h : maNew M ps = .ok m) :
    m.Fresh ∧ m.branches = M ∧ m.positions = ps := by
  unfold maNew at h
  split at h
  · cases h
  · injection h with h; subst h; simp [MA.Fresh]

structure MA.Stable (m : MA) : Prop where
  le : m.released ≤ m.positions.length
  below : ∀ i : Nat, i < m.released → m.term i = true
  stop : m.released < m.positions.length → m.term m.released = false

theorem maStep_stable (m : MA) (v : Vote) (hs : m.Stable) : (maStep m v).1.Stable := by
  obtain ⟨s1, s2, s3, _, s5⟩ := maStep_spec m v
  obtain ⟨f1, f2, _⟩ := maVote_frame v.isAck v.task v.items m
  have hp := (maStep_frame m v).1
  refine ⟨by rw [hp]; exact s3 hs.le, ?_, ?_⟩
  · intro i hi
    rw [(maStep_fields m v i).1]
    by_cases h : i < m.released
    · exact (maVote_frozen v.isAck v.task i v.items m (hs.below i h)).1
    · exact s5 i (by omega) hi
  · intro h
    rw [hp] at h
    rw [(maStep_fields m v _).1]
    have key : (maStep m v).1.released < (maVote m v.isAck v.task v.items).positions.length →
        (maVote m v.isAck v.task v.items).term (maStep m v).1.released = false :=
      maReleaseLoop_stop _ (maVote m v.isAck v.task v.items) (by omega)
    exact key (by rw [f2]; exact h)

theorem maRun_stable : ∀ (vs : List Vote) (m : MA), m.Stable → (maRun m vs).1.Stable
  | [], _, h => h
  | v :: vs, m, h => maRun_stable vs _ (maStep_stable m v h)

theorem MA.Fresh.stable {m : MA} (h : m.Fresh) : m.Stable := by
  refine ⟨by rw [h.1]; omega, by intro i hi; rw [h.1] at hi; omega, ?_⟩
  intro _
  rw [MA.term, h.2.2.1, h.1]
  simp [List.getElem?_replicate]; split <;> rfl

theorem stable_released_eq (m₁ m₂ : MA) (h₁ : m₁.Stable) (h₂ : m₂.Stable)
    (hp : m₁.positions.length = m₂.positions.length) (ht : m₁.terminal = m₂.terminal) :
    m₁.released = m₂.released := by
  have e : ∀ i, m₁.term i = m₂.term i := fun i => by rw [MA.term, MA.term, ht]
  rcases Nat.lt_trichotomy m₁.released m₂.released with h | h | h
  · have := h₁.stop (by have := h₂.le; omega)
    rw [e, h₂.below _ h] at this; cases this
  · exact h
  · have := h₂.stop (by have := h₁.le; omega)
    rw [← e, h₁.below _ h] at this; cases this

end Conduit.Funnel
