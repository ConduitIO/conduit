import ConduitModel.Model.Gates

/-!
Gate programs. One fact about `exec` carries everything (`exec_gate`): when the run comes to a
straight-line guarded call, that call runs, or the function has ended by then. A call that was
reached therefore lies behind gates that ran (`reached.gate`), a function that returned without
error ran all its gates (`ran_of_complete`). Which calls are gates for which is a check of the
regenerated order (`domBy`, `hasGate`); `SuccBy` turns "the gate ran" into the success condition the
model attaches to the gate's name.
-/
namespace Conduit.Gates

theorem exec_cons (env : Env) (i : Nat) (g : GateCall) (gs : List GateCall) :
    (env.stop i = true ∧ exec env i (g :: gs) = ([], none)) ∨
    (env.succ i = false ∧ exec env i (g :: gs) = ([], some i)) ∨
    (g.isGate = false ∧ exec env i (g :: gs) = exec env (i + 1) gs) ∨
    (env.succ i = true ∧
      exec env i (g :: gs) = (i :: (exec env (i + 1) gs).1, (exec env (i + 1) gs).2)) := by
  simp only [exec, GateCall.isGate]
  by_cases hst : env.stop i = true
  · simp [hst]
  by_cases hd : g.deferred = true
  · simp [hst, hd]
  by_cases hc : (g.cond != "" && !env.taken i) = true
  · have : g.cond ≠ "" := by intro h; simp [h] at hc
    simp [hst, hd, hc, this]
  by_cases hs : env.succ i = true
  · simp [hst, hd, hc, hs]
  by_cases hg : g.guarded = true <;> simp [hst, hd, hc, hs, hg]

/-- the run was over at position `k` or before. -/
structure Ended (env : Env) (r : List Nat × Option Nat) (k : Nat) : Prop where
  ran : ∀ x ∈ r.1, x < k
  fail : ∀ x, r.2 = some x → x ≤ k
  stop : r.2 = none → ∃ m, env.stop m = true

theorem exec_gate (env : Env) : ∀ (gs : List GateCall) (i j : Nat) (g : GateCall),
    gs[j]? = some g → g.isGate = true →
    (i + j) ∈ (exec env i gs).1 ∨ Ended env (exec env i gs) (i + j) := by
  intro gs
  induction gs with
  | nil => intro i j g hg; simp at hg
  | cons g0 gs ih =>
    intro i j g hg hgate
    have tail : ∀ j', j = j' + 1 →
        (i + j) ∈ (exec env (i + 1) gs).1 ∨ Ended env (exec env (i + 1) gs) (i + j) := by
      rintro j' rfl
      rw [show i + (j' + 1) = i + 1 + j' by omega]
      exact ih (i + 1) j' g (by simpa using hg) hgate
    rcases exec_cons env i g0 gs with ⟨hst, h⟩ | ⟨-, h⟩ | ⟨hng, h⟩ | ⟨-, h⟩ <;> rw [h]
    · exact .inr ⟨by simp, by simp, fun _ => ⟨i, hst⟩⟩
    · exact .inr ⟨by simp, fun x hx => by cases hx; omega, by simp⟩
    · cases j with
      | zero => simp at hg; subst hg; simp [hgate] at hng
      | succ j' => exact tail j' rfl
    · cases j with
      | zero => simp
      | succ j' =>
        refine (tail j' rfl).imp (List.mem_cons_of_mem _) fun e => ⟨fun x hx => ?_, e.fail, e.stop⟩
        rcases List.mem_cons.1 hx with rfl | hx
        · omega
        · exact e.ran x hx

/-- indices of successfully executed calls of the whole function. -/
def ran (env : Env) (order : List GateCall) : List Nat := (exec env 0 order).1

/-- a call was *reached*: it executed successfully or it is the guarded call whose failure ended the function. -/
def reached (env : Env) (order : List GateCall) (k : Nat) : Prop :=
  k ∈ ran env order ∨ (exec env 0 order).2 = some k

theorem reached.gate {env : Env} {order : List GateCall} {j k : Nat} {g : GateCall}
    (hr : reached env order k) (hg : order[j]? = some g) (hgate : g.isGate = true) (hjk : j < k) :
    j ∈ ran env order := by
  rcases exec_gate env order 0 j g hg hgate with h | e
  · simpa [ran] using h
  · rcases hr with hr | hr
    · have := e.ran k hr; omega
    · have := e.fail k hr; omega

theorem ran_of_complete {env : Env} {order : List GateCall} {j : Nat} {g : GateCall}
    (hstop : ∀ i, env.stop i = false) (hnone : (exec env 0 order).2 = none)
    (hg : order[j]? = some g) (hgate : g.isGate = true) : j ∈ ran env order := by
  rcases exec_gate env order 0 j g hg hgate with h | e
  · simpa [ran] using h
  · obtain ⟨m, hm⟩ := e.stop hnone
    simp [hstop m] at hm

theorem exec_mem_succ (env : Env) : ∀ (gs : List GateCall) (i x : Nat),
    x ∈ (exec env i gs).1 → env.succ x = true := by
  intro gs
  induction gs with
  | nil => intro i x h; simp [exec] at h
  | cons g gs ih =>
    intro i x h
    rcases exec_cons env i g gs with ⟨-, e⟩ | ⟨-, e⟩ | ⟨-, e⟩ | ⟨hs, e⟩ <;> rw [e] at h
    · simp at h
    · simp at h
    · exact ih _ _ h
    · rcases List.mem_cons.1 h with rfl | h
      · exact hs
      · exact ih _ _ h

theorem name_at {order : List GateCall} {k : Nat} {n : String} :
    ((order[k]?.map (·.name)) == some n) = true ↔ ∃ g, order[k]? = some g ∧ g.name = n := by
  cases order[k]? <;> simp

theorem mem_positions {order : List GateCall} {n : String} {k : Nat} :
    k ∈ positions order n ↔ ∃ g, order[k]? = some g ∧ g.name = n := by
  rw [positions, List.mem_filter, name_at, List.mem_range]
  exact ⟨And.right, fun h => ⟨by obtain ⟨g, hg, -⟩ := h; exact (List.getElem?_eq_some_iff.mp hg).1, h⟩⟩

theorem ranNamed_iff {order : List GateCall} {ran : List Nat} {n : String} :
    ranNamed order ran n = true ↔ ∃ k ∈ ran, ∃ g, order[k]? = some g ∧ g.name = n := by
  simp only [ranNamed, List.any_eq_true, name_at]

theorem domBy_get {order : List GateCall} {a b : String} (h : domBy order a b = true)
    {k : Nat} {gk : GateCall} (hk : order[k]? = some gk) (hb : gk.name = b) :
    ∃ j gj, j < k ∧ order[j]? = some gj ∧ gj.name = a ∧ gj.isGate = true := by
  have := List.all_eq_true.mp h k (mem_positions.mpr ⟨gk, hk, hb⟩)
  obtain ⟨j, hj, hm⟩ := List.any_eq_true.mp this
  cases hgj : order[j]? with
  | none => simp [hgj] at hm
  | some gj => exact ⟨j, gj, List.mem_range.mp hj, hgj, by simpa [hgj] using hm⟩

/-- a straight-line guarded call named `n` occurs. -/
def hasGate (order : List GateCall) (n : String) : Bool := order.any fun (g : GateCall) => g.name == n && g.isGate

theorem hasGate_get {order : List GateCall} {n : String} (h : hasGate order n = true) :
    ∃ (j : Nat) (g : GateCall), order[j]? = some g ∧ g.name = n ∧ g.isGate = true := by
  unfold hasGate at h
  rw [List.any_eq_true] at h
  obtain ⟨g, hg, hm⟩ := h
  obtain ⟨j, hj, hgj⟩ := List.getElem_of_mem hg
  simp only [Bool.and_eq_true, beq_iff_eq] at hm
  exact ⟨j, g, by simp [hgj, hj], hm.1, hm.2⟩

theorem domBy_reached {order : List GateCall} {a b : String} (h : domBy order a b = true) {env : Env}
    {k : Nat} {gk : GateCall} (hk : order[k]? = some gk) (hb : gk.name = b) (hr : reached env order k) :
    ranNamed order (ran env order) a = true := by
  obtain ⟨j, gj, hj, hgj, ha, hg⟩ := domBy_get h hk hb
  exact ranNamed_iff.mpr ⟨j, hr.gate hgj hg hj, gj, hgj, ha⟩

theorem ranNamed_of_domBy {order : List GateCall} {a b : String} (h : domBy order a b = true) (env : Env)
    (hb : ranNamed order (ran env order) b = true) : ranNamed order (ran env order) a = true := by
  obtain ⟨k, hk, g, hg, hn⟩ := ranNamed_iff.mp hb
  exact domBy_reached h hg hn (.inl hk)

/-- whether a call succeeds depends on its name only: `f` of the name. -/
def SuccBy (order : List GateCall) (env : Env) (f : String → Bool) : Prop :=
  ∀ i g, order[i]? = some g → env.succ i = f g.name

theorem SuccBy.of_ran {order : List GateCall} {env : Env} {f : String → Bool} (hf : SuccBy order env f)
    {a : String} (h : ranNamed order (ran env order) a = true) : f a = true := by
  obtain ⟨j, hj, g, hg, rfl⟩ := ranNamed_iff.mp h
  exact hf j g hg ▸ exec_mem_succ _ _ _ _ hj

theorem SuccBy.of_complete {order : List GateCall} {env : Env} {f : String → Bool} (hf : SuccBy order env f)
    (hstop : ∀ i, env.stop i = false) (hnone : (exec env 0 order).2 = none)
    {n : String} (h : hasGate order n = true) : ranNamed order (ran env order) n = true ∧ f n = true := by
  obtain ⟨j, g, hg, hn, hgate⟩ := hasGate_get h
  have := ranNamed_iff.mpr ⟨j, ran_of_complete hstop hnone hg hgate, g, hg, hn⟩
  exact ⟨this, hf.of_ran this⟩

end Conduit.Gates
