import ConduitModel.Proofs.MonFVote

/-!
# `multiAckNacker.releaseLocked` against the monitor, over a parent chain whose failed acks are benign
-/
namespace Conduit.Funnel
open Conduit.Funnel.Mon

theorem view_same (G : Ctx) (s s' : PS) (h : s'.log = s.log) : G.view s' = G.view s := by
  unfold Ctx.view
  rw [mu_same G s s' h, errT_same G s s' h]

theorem SameBut.mono {top top' : Nat} {s s' : PS} (h : SameBut top s s') (hle : top' ≤ top) : SameBut top' s s' :=
  ⟨h.log, h.scripts, h.win, h.thr, h.size, h.dlqTask, h.masSize, fun i hi => h.mas i (by omega)⟩

theorem TI.ext {G : Ctx} {F : FanCtx} {v v' : MV} {p : Nat} {m : MA} (h : TI G F v p m)
    (he : ExtT [] [] (fun _ => False) v v') : TI G F v' p m :=
  h.map rfl rfl rfl h.mok rfl rfl h.rel fun _ _ _ _ s => s.ext he (fun _ r => r.elim) (fun _ => ⟨nofun, nofun⟩)

theorem TI.withReleased {G : Ctx} {F : FanCtx} {v : MV} {p : Nat} {m : MA} (h : TI G F v p m) (k : Nat)
    (h1 : m.released ≤ k) (h2 : k ≤ F.L) (ht : ∀ ix : Nat, m.released ≤ ix → ix < k → m.term ix = true) :
    TI G F v p { m with released := k } :=
  h.map rfl rfl rfl (h.mok.withReleased k (by rw [h.len]; exact h2)) rfl rfl
    (fun ix hix => if hlt : ix < m.released then h.rel ix hlt else ht ix (Nat.le_of_not_lt hlt) hix)
    fun _ _ _ _ s => s.release (Nat.le_trans h1)

/-- only the tally, what the parent chain holds at its `released` and the frontier depend on the state -/
theorem MAInv.move {G : Ctx} {a : Acker} {C : MC G a} {F : FanCtx} {p q : Nat} {s s' : PS} (h : MAInv C F p s)
    (hb : Base G s') (hid : F.id < s'.mas.size) (hti : TI G F (G.view s') q (s'.mas[F.id]!))
    (hW : C.InvW (F.m0 + (s'.mas[F.id]!).released) s')
    (hpar : C.Inv (F.m0 + (s'.mas[F.id]!).released) s' ∨
      ((s'.mas[F.id]!).released < F.L ∧ (s'.mas[F.id]!).term (s'.mas[F.id]!).released = true ∧
        (s'.mas[F.id]!).ack (s'.mas[F.id]!).released = false))
    (hq : F.m0 ≤ q ∧ q ≤ F.m0 + F.L) : MAInv C F q s' :=
  ⟨hb, hid, hti, h.srcs, hW, hpar, hq, h.tpos, h.top, h.below, h.disjT, h.disjD, h.dsub, h.coverT, h.coverD, h.ddp⟩

theorem MAInv.frame {G : Ctx} {a : Acker} {C : MC G a} {F : FanCtx} {p : Nat} {s s' : PS} (h : MAInv C F p s)
    (hf : SameBut (F.id + 1) s s') : MAInv C F p s' := by
  have hm : s'.mas[F.id]! = s.mas[F.id]! := hf.mas F.id (by omega)
  have hv : G.view s' = G.view s := view_same G s s' hf.log
  have sbC : SameBut C.top s s' := hf.mono (by have := h.top; omega)
  refine h.move (h.base.same hf.log hf.scripts) (Nat.lt_of_lt_of_le h.hid hf.masSize) ?_ ?_ ?_ h.front
  · rw [hm, hv]; exact h.ti
  · rw [hm]; exact C.frameW h.parW sbC
  · rw [hm]; exact h.par.imp (fun x => C.frame x sbC) id

/-- rebuilding `MAInv` after a call of the parent chain -/
theorem MAInv.call {G : Ctx} {a : Acker} {C : MC G a} {F : FanCtx} {p q len : Nat} {atomic : Prop} {s s1 : PS}
    {r1 : Except Stop Unit} (h : MAInv C F p s) (co : CallOut G C.top C.Inv C.InvW C.Err C.Dead q len atomic s s1 r1)
    (hW : C.InvW (F.m0 + (s.mas[F.id]!).released) s1)
    (hpar : C.Inv (F.m0 + (s.mas[F.id]!).released) s1 ∨
      ((s.mas[F.id]!).released < F.L ∧ (s.mas[F.id]!).term (s.mas[F.id]!).released = true ∧
        (s.mas[F.id]!).ack (s.mas[F.id]!).released = false)) : MAInv C F p s1 := by
  have hm1 : s1.mas[F.id]! = s.mas[F.id]! := co.mas F.id h.top
  refine h.move (C.baseW hW) (by rw [co.masSize]; exact h.hid) ?_ ?_ ?_ h.front
  · rw [hm1]; exact h.ti.ext co.view
  · rw [hm1]; exact hW
  · rw [hm1]; exact hpar

theorem setMa_same (top id : Nat) (m : MA) (s : PS) (hle : top ≤ id) : SameBut top s (setMa id m s) :=
  ⟨rfl, rfl, rfl, rfl, rfl, rfl, Nat.le_of_eq (set!_other s.mas id (id + 1) m (by omega)).1.symm,
    fun i hi => (set!_other s.mas id i m (by omega)).2⟩

/-- after a successful call of the parent chain for the slots `[released, to)`, `released := to` -/
theorem MAInv.advance {G : Ctx} {a : Acker} {C : MC G a} {F : FanCtx} {p : Nat} {s s1 : PS} (h : MAInv C F p s)
    (hv : ExtT [] [] (fun _ => False) (G.view s) (G.view s1)) (hsz : s1.mas.size = s.mas.size)
    (hmas : ∀ i : Nat, C.top ≤ i → s1.mas[i]! = s.mas[i]!) (to : Nat)
    (hto1 : (s.mas[F.id]!).released ≤ to) (hto2 : to ≤ F.L)
    (hterm : ∀ ix : Nat, (s.mas[F.id]!).released ≤ ix → ix < to → (s.mas[F.id]!).term ix = true)
    (hinv : C.Inv (F.m0 + to) s1) : MAInv C F p (setReleased F.id to s1) := by
  have hm1 : s1.mas[F.id]! = s.mas[F.id]! := hmas F.id h.top
  have hid1 : F.id < s1.mas.size := by rw [hsz]; exact h.hid
  have hm2 : (setReleased F.id to s1).mas[F.id]! = { (s.mas[F.id]!) with released := to } :=
    (setMa_get F.id _ s1 hid1).trans (by rw [hm1])
  have sb : SameBut C.top s1 (setReleased F.id to s1) := setMa_same C.top F.id _ s1 h.top
  have hv2 : G.view (setReleased F.id to s1) = G.view s1 := view_same G _ _ rfl
  have hinv2 : C.Inv (F.m0 + to) (setReleased F.id to s1) := C.frame hinv sb
  refine h.move (C.base hinv2) (Nat.lt_of_lt_of_le hid1 sb.masSize) ?_ ?_ ?_ h.front
  · rw [hm2, hv2]; exact (h.ti.ext hv).withReleased to hto1 hto2 hterm
  · rw [hm2]; exact C.inv_w hinv2
  · rw [hm2]; exact Or.inl hinv2

theorem align_ack {G : Ctx} {F : FanCtx} {v : MV} {p : Nat} {m : MA} (h : TI G F v p m)
    (hsrc : ∀ ix : Nat, ix < F.L → ∃ src, G.all[F.m0 + ix]? = some src) (f t : Nat) (ht : t ≤ F.L)
    (hterm : ∀ ix : Nat, f ≤ ix → ix < t → m.term ix = true) : Align G (F.m0 + f) (maAckBatch m f t) := by
  constructor
  · intro q pp hq
    simp only [maAckBatch, List.getElem?_drop, List.getElem?_take] at hq
    by_cases hlt : f + q < t
    · simp only [hlt, if_true] at hq
      obtain ⟨src, hs⟩ := hsrc (f + q) (by omega)
      refine ⟨src, by rw [Nat.add_assoc]; exact hs, ?_⟩
      rw [← h.keys (f + q) src (by omega) hs]
      unfold kAt
      rw [hq]
      rfl
    · simp [hlt] at hq
  · intro q r src hr hs
    simp only [maAckBatch, List.getElem?_drop, List.getElem?_take] at hr
    by_cases hlt : f + q < t
    · simp only [hlt, if_true] at hr
      rw [Nat.add_assoc] at hs
      have := h.lin (f + q) src (by omega) hs (Or.inl (hterm _ (by omega) hlt))
      rw [hr] at this
      exact this
    · simp [hlt] at hr

theorem align_nack {G : Ctx} {F : FanCtx} {v : MV} {p : Nat} {m : MA} (h : TI G F v p m)
    (hsrc : ∀ ix : Nat, ix < F.L → ∃ src, G.all[F.m0 + ix]? = some src) (ix : Nat) (hix : ix < F.L)
    (hterm : m.term ix = true) : Align G (F.m0 + ix) (maNackBatch m ix) := by
  obtain ⟨src, hs⟩ := hsrc ix hix
  exact .single rfl rfl hs (h.keys ix src hix hs) (h.lin ix src hix hs (Or.inl hterm))

structure RelF {G : Ctx} {a : Acker} (C : MC G a) (F : FanCtx) (p : Nat) (s s' : PS) : Prop where
  inv : MAInv C F p s'
  view : ExtT [] [] (fun _ => False) (G.view s) (G.view s')
  size : s'.mas.size = s.mas.size
  frame : ∀ i : Nat, F.id + 1 ≤ i → s'.mas[i]! = s.mas[i]!
  same : s'.mas[F.id]! = { (s.mas[F.id]!) with released := (s'.mas[F.id]!).released }
  dead : ∀ j : Nat, C.Dead s j → C.Dead s' j

theorem RelF.refl {G : Ctx} {a : Acker} {C : MC G a} {F : FanCtx} {p : Nat} {s : PS} (h : MAInv C F p s) :
    RelF C F p s s :=
  ⟨h, ExtT.refl _ _ _ _, rfl, fun _ _ => rfl, rfl, fun _ hj => hj⟩

/-- one parent call for the slots `[released, to)`, which meets the parent's contract and when it fails leaves
`MAInv`, followed by the rest of the loop -/
theorem releaseF_chunk {G : Ctx} {a : Acker} (C : MC G a) (F : FanCtx) (fuel p : Nat) (s s' : PS)
    (r : Except Stop Unit) (h : MAInv C F p s) (b : Batch) (isAck : Bool) (task to : Nat) (atomic : Prop)
    (hto1 : to = (s.mas[F.id]!).released + b.pos.length) (hto2 : to ≤ F.L)
    (hterm : ∀ ix : Nat, (s.mas[F.id]!).released ≤ ix → ix < to → (s.mas[F.id]!).term ix = true)
    (hcall : ∀ (s1 : PS) (r1 : Except Stop Unit), exec (ackerCall fuel a b isAck task) s = (r1, s1) →
      CallOut G C.top C.Inv C.InvW C.Err C.Dead (F.m0 + (s.mas[F.id]!).released) b.pos.length atomic s s1 r1 ∧
      (r1 ≠ .ok () → MAInv C F p s1))
    (ih : ∀ (p : Nat) (s s' : PS) (r : Except Stop Unit), MAInv C F p s →
      exec (releaseLoop fuel F.id a) s = (r, s') → RelF C F p s s')
    (hx : exec (do
        ackerCall fuel a b isAck task
        modify fun s => { s with mas := s.mas.set! F.id { (s.mas[F.id]!) with released := to } }
        releaseLoop fuel F.id a) s = (r, s')) : RelF C F p s s' := by
  rw [exec_bind] at hx
  rcases hc : exec (ackerCall fuel a b isAck task) s with ⟨r1, s1⟩
  rw [hc] at hx
  obtain ⟨co, p6⟩ := hcall s1 r1 hc
  have htop := h.top
  have hm1 : s1.mas[F.id]! = s.mas[F.id]! := co.mas F.id htop
  cases r1 with
  | error e =>
    dsimp only at hx
    cases hx
    exact ⟨p6 (fun h => nomatch h), co.view, co.masSize, fun i hi => co.mas i (by omega), by rw [hm1], co.dead⟩
  | ok u =>
    dsimp only at hx
    rw [exec_bind, exec_modify] at hx
    dsimp only at hx
    have hx' : exec (releaseLoop fuel F.id a) (setReleased F.id to s1) = (r, s') := hx
    have hid1 : F.id < s1.mas.size := by rw [co.masSize]; exact h.hid
    have hinv2 : MAInv C F p (setReleased F.id to s1) :=
      h.advance co.view co.masSize co.mas to (by omega) hto2 hterm (by rw [hto1, ← Nat.add_assoc]; exact co.ok rfl)
    have hm2 : (setReleased F.id to s1).mas[F.id]! = { (s.mas[F.id]!) with released := to } :=
      (setMa_get F.id _ s1 hid1).trans (by rw [hm1])
    have hv2 : G.view (setReleased F.id to s1) = G.view s1 := view_same G _ _ rfl
    obtain ⟨q1, q2, q3, q4, q5, q6⟩ := ih p _ s' r hinv2 hx'
    refine ⟨q1, ?_, q3.trans ((setMa_size F.id _ s1).trans co.masSize), fun i hi => ?_, ?_, fun j hj => ?_⟩
    · rw [hv2] at q2; exact co.view.trans q2
    · exact (q4 i hi).trans ((setMa_other F.id _ s1 i (by omega)).trans (co.mas i (by omega)))
    · rw [q5, hm2]
    · exact q6 j (C.dead_frame (co.dead j hj) (setMa_same C.top F.id _ s1 htop))

/-- The release loop: whatever happens `MAInv` holds afterwards (a failed parent `Ack` is benign, a
failed parent `Nack` of the single record at the release point leaves the parent in its weak
invariant with that record terminal and nacked); no monitor fact other than DLQ facts and acks
changes; the tallies above `F.id` do not change, tally `F.id` only in its `released` field. -/
theorem releaseF {G : Ctx} {a : Acker} (C : MC G a) (hben : Benign C) (F : FanCtx) :
    ∀ (fuel : Nat) (p : Nat) (s s' : PS) (r : Except Stop Unit),
      MAInv C F p s → exec (releaseLoop fuel F.id a) s = (r, s') → RelF C F p s s' := by
  intro fuel
  induction fuel with
  | zero =>
    intro p s s' r h hx
    rw [releaseLoop_zero] at hx
    cases hx
    exact RelF.refl h
  | succ fuel ih =>
    intro p s s' r h hx
    rw [releaseLoop_exec] at hx
    by_cases hc : (s.mas[F.id]!).released < (s.mas[F.id]!).positions.length ∧ (s.mas[F.id]!).term (s.mas[F.id]!).released = true
    · rw [if_pos hc] at hx
      have hti := h.ti
      have hparW := h.parW
      have hpar := h.par
      generalize hm : s.mas[F.id]! = m at hx hti hparW hpar hc
      obtain ⟨h1, ht⟩ := hc
      have hlen := hti.len
      cases ha : m.ack m.released with
      | true =>
        obtain ⟨_, hkpos, hkle, hrun⟩ := maAckRun_spec m m.released h1 ht ha
        rw [maNext_ack ha] at hx
        generalize (maAckRun m m.released).length = k at *
        have hlenb : (maAckBatch m m.released (m.released + k)).pos.length = k := by
          simp only [maAckBatch, List.length_drop, List.length_take]; omega
        refine releaseF_chunk C F fuel p s s' r h (maAckBatch m m.released (m.released + k)) true 0 (m.released + k) False
          (by rw [hm, hlenb]) (by omega)
          (by rw [hm]; intro ix a1 a2; exact (hrun ix a1 a2).1) ?_ ih hx
        intro s1 r1 hc
        rw [hm]
        have hInv : C.Inv (F.m0 + m.released) s := by
          rcases hpar with hp | ⟨_, _, h3⟩
          · exact hp
          · rw [ha] at h3; cases h3
        have hb := maAckBatch_BOK m hti.mok m.released (m.released + k) (by omega) hkle
        have hal : Align G (F.m0 + m.released) (maAckBatch m m.released (m.released + k)) :=
          align_ack hti h.srcs m.released (m.released + k) (by omega) (fun ix a1 a2 => (hrun ix a1 a2).1)
        have hj : ∀ (q : Nat) (src : Rec), q < (maAckBatch m m.released (m.released + k)).pos.length →
            G.all[F.m0 + m.released + q]? = some src →
            ActiveT (G.view s) C.T C.D (root src) ∨ FilteredT (G.view s) C.T C.D (root src) := by
          intro q src hq hs
          rw [hlenb] at hq
          rw [Nat.add_assoc] at hs
          obtain ⟨tt, aa⟩ := hrun (m.released + q) (by omega) (by omega)
          obtain ⟨_, hM, hvf⟩ := hti.acked (m.released + q) src (by omega) hs tt aa
          exact ((hvf (by omega)).mono (h.coverT hM) (h.coverD hM)).just
        have co := C.ack fuel _ _ s s1 r1 hInv hb rfl hal hj hc
        refine ⟨co, fun hr => ?_⟩
        have hi1 := hben.ackFail fuel _ _ s s1 r1 hInv hb rfl hal hj hc hr
        exact h.call co (by rw [hm]; exact C.inv_w hi1) (Or.inl (by rw [hm]; exact hi1))
      | false =>
        rw [maNext_nack ha] at hx
        refine releaseF_chunk C F fuel p s s' r h (maNackBatch m m.released) false _ (m.released + 1) (1 ≤ 1) (by rw [hm]; rfl)
          (by omega)
          (by
            rw [hm]; intro ix a1 a2
            have : ix = m.released := by omega
            subst this; exact ht) ?_ ih hx
        intro s1 r1 hc
        rw [hm]
        have hb : BOK (maNackBatch m m.released) := ⟨Or.inl rfl, (fun rs h => nomatch h), rfl, rfl⟩
        have hnk : NackOK (maNackBatch m m.released) := by
          intro st hst
          simp only [maNackBatch, List.mem_singleton] at hst
          subst hst
          exact hti.mok.nack_err m.released h1 ht ha
        have hal : Align G (F.m0 + m.released) (maNackBatch m m.released) :=
          align_nack hti h.srcs m.released (by omega) ht
        have hlenb : (maNackBatch m m.released).pos.length = 1 := rfl
        obtain ⟨co, _⟩ := C.nack fuel _ _ _ s s1 r1 hparW hb rfl hnk hal (by rw [hlenb]; omega) hc
        refine ⟨co, fun hr => ?_⟩
        have hw := co.stutter (by rw [hlenb]; omega) hr
        exact h.call co (by rw [hm]; exact hw) (Or.inr (by rw [hm]; exact ⟨by omega, ht, ha⟩))
    · rw [if_neg hc] at hx
      cases hx
      exact RelF.refl h

end Conduit.Funnel
