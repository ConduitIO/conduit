import ConduitModel.Proofs.Ctl

/-!
Per-operation facts for C14: every rollback the orchestrator registers exactly undoes its step
(under the invariant and outside the F7 triggers), hence — by the frame theorem — every API
operation is all-or-nothing for every failing store-operation index (`atomic_*`). Before that: the id
lists inside entries of memory as one interface (`IdList`), when each guard passes (`plGuards_ok` …),
and at the end that a protected resource is refused untouched (`Guarded.holds`).
-/
namespace Conduit.Ctl

theorem Mem.ext' {a b : Mem} (h1 : a.pls = b.pls) (h2 : a.cns = b.cns) (h3 : a.prs = b.prs)
    (h4 : a.names = b.names) : a = b := by
  cases a; cases b; simp at *; exact ⟨h1, h2, h3, h4⟩

theorem Map.set_self {α} (m : Map α) (k : Id) (v : α) (h : m k = some v) : m.set k v = m := by
  funext j; by_cases hj : j = k <;> simp [Map.set, hj, h]

theorem Map.set_set {α} (m : Map α) (k : Id) (a b : α) : (m.set k a).set k b = m.set k b := by
  funext j; by_cases hj : j = k <;> simp [Map.set, hj]

theorem Map.set_del {α} (m : Map α) (k : Id) (a : α) (h : m k = none) : (m.set k a).del k = m := by
  funext j; by_cases hj : j = k <;> simp [Map.set, Map.del, hj, h]

theorem Map.del_none {α} (m : Map α) (k : Id) (h : m k = none) : m.del k = m := by
  funext j; by_cases e : j = k <;> simp [Map.del, e, h]

theorem Map.del_set {α} (m : Map α) (k : Id) (a : α) (h : m k = some a) : (m.del k).set k a = m := by
  funext j; by_cases hj : j = k <;> simp [Map.set, Map.del, hj, h]

theorem updCn_updCn (m : Mem) (id : Id) (f g : Cn → Cn) (c : Cn) (h : m.cns id = some c) (hg : g (f c) = c) :
    (m.updCn id f).updCn id g = m := by
  simp only [Mem.updCn, h, Map.set_same, Map.set_set, hg]
  exact Mem.ext' rfl (Map.set_self _ _ _ h) rfl rfl

theorem updPr_updPr (m : Mem) (id : Id) (f g : Pr → Pr) (r : Pr) (h : m.prs id = some r) (hg : g (f r) = r) :
    (m.updPr id f).updPr id g = m := by
  simp only [Mem.updPr, h, Map.set_same, Map.set_set, hg]
  exact Mem.ext' rfl rfl (Map.set_self _ _ _ h) rfl

theorem erase_append_self (l : List Id) (a : Id) (h : a ∉ l) : (l ++ [a]).erase a = l := by
  induction l with
  | nil => simp
  | cons x xs ih =>
    simp at h
    have hx : (x == a) = false := by simp; exact fun e => h.1 e.symm
    simp [hx, ih h.2]

theorem erase_append_last (l : List Id) (a : Id) (hn : l.Nodup) (hl : l.getLast? = some a) :
    l.erase a ++ [a] = l := by
  induction l with
  | nil => simp at hl
  | cons x xs ih =>
    cases xs with
    | nil => simp at hl; subst hl; simp
    | cons y ys =>
      have hl' : (y :: ys).getLast? = some a := by simpa [List.getLast?_cons_cons] using hl
      have hmem : a ∈ y :: ys := List.mem_of_getLast? hl'
      have hnd := List.nodup_cons.1 hn
      have hx : (x == a) = false := by simp; intro e; subst e; exact hnd.1 hmem
      have := ih hnd.2 hl'
      rw [List.erase_cons_tail (by simp [hx]), List.cons_append, this]

def Undoes (st : Step) (m : Mem) : Prop :=
  st.undo.pre (st.act.upd m) = none ∧ st.undo.upd (st.act.upd m) = m

theorem updPl_comp (m : Mem) (id : Id) (f g : Pl → Pl) : (m.updPl id f).updPl id g = m.updPl id (fun p => g (f p)) := by
  cases hp : m.pls id with
  | none => simp [Mem.updPl, hp]
  | some p => simp [Mem.updPl, hp, Map.set_set]

theorem updCn_comp (m : Mem) (id : Id) (f g : Cn → Cn) : (m.updCn id f).updCn id g = m.updCn id (fun c => g (f c)) := by
  cases hc : m.cns id with
  | none => simp [Mem.updCn, hc]
  | some c => simp [Mem.updCn, hc, Map.set_set]

theorem updPl_eq (m : Mem) (id : Id) (f : Pl → Pl) (p : Pl) (hp : m.pls id = some p) :
    m.updPl id f = { m with pls := m.pls.set id (f p) } := by simp [Mem.updPl, hp]
theorem updCn_eq (m : Mem) (id : Id) (f : Cn → Cn) (c : Cn) (hc : m.cns id = some c) :
    m.updCn id f = { m with cns := m.cns.set id (f c) } := by simp [Mem.updCn, hc]

theorem updPl_pls (m : Mem) (id : Id) (f : Pl → Pl) : (m.updPl id f).pls id = (m.pls id).map f := by
  cases hp : m.pls id <;> simp [Mem.updPl, hp]
theorem updCn_cns (m : Mem) (id : Id) (f : Cn → Cn) : (m.updCn id f).cns id = (m.cns id).map f := by
  cases hc : m.cns id <;> simp [Mem.updCn, hc]

theorem updPl_noop (m : Mem) (id : Id) (f : Pl → Pl) (h : ∀ p, m.pls id = some p → f p = p) : m.updPl id f = m := by
  cases hp : m.pls id with
  | none => simp [Mem.updPl, hp]
  | some p => simp [Mem.updPl, hp, h p hp, Map.set_self _ _ _ hp]

theorem updCn_noop (m : Mem) (id : Id) (f : Cn → Cn) (h : ∀ c, m.cns id = some c → f c = c) : m.updCn id f = m := by
  cases hc : m.cns id with
  | none => simp [Mem.updCn, hc]
  | some c => simp [Mem.updCn, hc, h c hc, Map.set_self _ _ _ hc]

/-- An id list kept inside one entry of memory (the connectors or the processors of a pipeline, the
processors of a connector), with the service that appends an id to it and the one that erases one. -/
structure IdList where
  get : Mem → Option (List Id)
  upd : Mem → (List Id → List Id) → Mem
  add : Id → Svc
  rem : Id → Svc
  get_upd : ∀ m f, get (upd m f) = (get m).map f
  upd_upd : ∀ m f g, upd (upd m f) g = upd m fun l => g (f l)
  upd_self : ∀ m f, (∀ l, get m = some l → f l = l) → upd m f = m
  add_pre : ∀ m x, (get m).isSome → (add x).pre m = none
  add_upd : ∀ m x, (add x).upd m = upd m (· ++ [x])
  rem_pre : ∀ m x l, get m = some l → x ∈ l → (rem x).pre m = none
  rem_upd : ∀ m x, (rem x).upd m = upd m (·.erase x)

def plConns (v : Variant) (pid : Id) : IdList where
  get m := (m.pls pid).map (·.conns)
  upd m f := m.updPl pid fun p => { p with conns := f p.conns }
  add := svcPlAddConn v pid
  rem := svcPlRemConn v pid
  get_upd m f := by rw [updPl_pls]; cases m.pls pid <;> rfl
  upd_upd m f g := updPl_comp ..
  upd_self m f h := updPl_noop _ _ _ fun p hp => by rw [h p.conns (by rw [hp]; rfl)]
  add_pre m x h := by cases hp : m.pls pid <;> simp [svcPlAddConn, preHasPl, hp] at h ⊢
  add_upd _ _ := rfl
  rem_pre m x l h hx := by cases hp : m.pls pid <;> simp [svcPlRemConn, hp] at h ⊢; rw [h]; exact hx
  rem_upd _ _ := rfl

def plProcs (v : Variant) (pid : Id) : IdList where
  get m := (m.pls pid).map (·.procs)
  upd m f := m.updPl pid fun p => { p with procs := f p.procs }
  add := svcPlAddProc v pid
  rem := svcPlRemProc v pid
  get_upd m f := by rw [updPl_pls]; cases m.pls pid <;> rfl
  upd_upd m f g := updPl_comp ..
  upd_self m f h := updPl_noop _ _ _ fun p hp => by rw [h p.procs (by rw [hp]; rfl)]
  add_pre m x h := by cases hp : m.pls pid <;> simp [svcPlAddProc, preHasPl, hp] at h ⊢
  add_upd _ _ := rfl
  rem_pre m x l h hx := by cases hp : m.pls pid <;> simp [svcPlRemProc, hp] at h ⊢; rw [h]; exact hx
  rem_upd _ _ := rfl

def cnProcs (v : Variant) (cid : Id) : IdList where
  get m := (m.cns cid).map (·.procs)
  upd m f := m.updCn cid fun c => { c with procs := f c.procs }
  add := svcCnAddProc v cid
  rem := svcCnRemProc v cid
  get_upd m f := by rw [updCn_cns]; cases m.cns cid <;> rfl
  upd_upd m f g := updCn_comp ..
  upd_self m f h := updCn_noop _ _ _ fun c hc => by rw [h c.procs (by rw [hc]; rfl)]
  add_pre m x h := by cases hc : m.cns cid <;> simp [svcCnAddProc, preHasCn, hc] at h ⊢
  add_upd _ _ := rfl
  rem_pre m x l h hx := by cases hc : m.cns cid <;> simp [svcCnRemProc, hc] at h ⊢; rw [h]; exact hx
  rem_upd _ _ := rfl


namespace IdList
variable (L : IdList) {m : Mem} {l : List Id} {x : Id}

theorem undoes_add (h : L.get m = some l) (hx : x ∉ l) : Undoes ⟨L.add x, L.rem x⟩ m := by
  refine ⟨L.rem_pre _ x (l ++ [x]) (by rw [L.add_upd, L.get_upd, h]; rfl) (by simp), ?_⟩
  show (L.rem x).upd ((L.add x).upd m) = m
  rw [L.add_upd, L.rem_upd, L.upd_upd]
  exact L.upd_self m _ fun k hk => by rw [h] at hk; cases hk; exact erase_append_self _ _ hx

/-- erasing an id and appending it again restores the list only if it was the last one. -/
theorem undoes_rem (h : L.get m = some l) (hn : l.Nodup) (hl : lastIn l x = true) : Undoes ⟨L.rem x, L.add x⟩ m := by
  refine ⟨L.add_pre _ x (by rw [L.rem_upd, L.get_upd, h]; rfl), ?_⟩
  show (L.add x).upd ((L.rem x).upd m) = m
  rw [L.rem_upd, L.add_upd, L.upd_upd]
  exact L.upd_self m _ fun k hk => by rw [h] at hk; cases hk; exact erase_append_last _ _ hn (by simpa [lastIn] using hl)

end IdList

/-! The guards are `do` blocks over six primitives. When each of these passes is a rewrite rule, so that
when a guard passes (`plGuards_ok` … `prGuards_ok`) is read off its definition. -/

@[simp] theorem bind_ok {α β} {x : Except Err α} {f : α → Except Err β} {b : β} :
    (x >>= f) = .ok b ↔ ∃ a, x = .ok a ∧ f a = .ok b := by
  cases x <;> simp [bind, Except.bind]

@[simp] theorem map_ok {α β} {x : Except Err α} {f : α → β} {b : β} : f <$> x = .ok b ↔ ∃ a, x = .ok a ∧ f a = b := by
  cases x <;> simp [Functor.map, Except.map]

@[simp] theorem pure_ok {α} {a b : α} : (pure a : Except Err α) = .ok b ↔ a = b := by
  simp [pure, Except.pure]

@[simp] theorem getPl_ok {m : Mem} {id : Id} {p : Pl} : getPl m id = .ok p ↔ m.pls id = some p := by
  unfold getPl; split <;> simp [*]
@[simp] theorem getCn_ok {m : Mem} {id : Id} {c : Cn} : getCn m id = .ok c ↔ m.cns id = some c := by
  unfold getCn; split <;> simp [*]
@[simp] theorem getPr_ok {m : Mem} {id : Id} {r : Pr} : getPr m id = .ok r ↔ m.prs id = some r := by
  unfold getPr; split <;> simp [*]
@[simp] theorem notConfig_ok {n : Nat} {u : Unit} : notConfig n = .ok u ↔ n = 0 := by
  unfold notConfig; split <;> simp [*]
@[simp] theorem notRunning_ok {p : Pl} {u : Unit} : notRunning p = .ok u ↔ p.status ≠ 1 := by
  unfold notRunning; split <;> simp [*]
@[simp] theorem check_ok {c : Bool} {e : Err} {u : Unit} : check c e = .ok u ↔ c = true := by
  unfold check; split <;> simp [*]

theorem plGuards_ok {m : Mem} {id : Id} {p : Pl} :
    plGuards m id = .ok p ↔ m.pls id = some p ∧ p.prov = 0 ∧ p.status ≠ 1 := by
  simp [plGuards]
  grind

theorem cnGuardsUpdate_ok {m : Mem} {id settings : Nat} {c : Cn} : cnGuardsUpdate m id settings = .ok c ↔
    m.cns id = some c ∧ c.prov = 0 ∧ (∃ p, m.pls c.pipeline = some p ∧ p.status ≠ 1) ∧ connValid c.typ c.plugin settings = true := by
  simp [cnGuardsUpdate]
  grind

theorem cnGuardsDelete_ok {m : Mem} {id : Nat} {c : Cn} : cnGuardsDelete m id = .ok c ↔
    m.cns id = some c ∧ c.prov = 0 ∧ c.procs = [] ∧ ∃ p, m.pls c.pipeline = some p ∧ p.status ≠ 1 := by
  simp [cnGuardsDelete]
  grind

theorem procPipeline_ok {m : Mem} {ptype parent : Nat} {p : Pl} : procPipeline m ptype parent = .ok p ↔
    (ptype = 2 ∧ m.pls parent = some p) ∨ (ptype = 1 ∧ ∃ c, m.cns parent = some c ∧ m.pls c.pipeline = some p) := by
  unfold procPipeline; split
  · simp [*]
  · split <;> simp [*]

theorem prGuards_ok {m : Mem} {id : Nat} {r : Pr} : prGuards m id = .ok r ↔
    m.prs id = some r ∧ r.prov = 0 ∧ ∃ p, procPipeline m r.ptype r.parent = .ok p ∧ p.status ≠ 1 := by
  simp [prGuards]
  grind

theorem procPipeline_owner {m : Mem} {ptype parent : Nat} {p : Pl} (h : procPipeline m ptype parent = .ok p) :
    procOwner m ptype parent = some p := by
  rcases procPipeline_ok.1 h with ⟨h2, hp⟩ | ⟨h1, c, hc, hp⟩
  · simp [procOwner, h2, hp]
  · simp [procOwner, h1, hc, hp]

/-- the `ProcessorIDs` list a processor with this parent is attached to. -/
def parentProcs (m : Mem) (ptype : Nat) (parent : Id) : Option (List Id) :=
  if ptype = 2 then (m.pls parent).map (·.procs) else (m.cns parent).map (·.procs)

theorem procPipeline_parent {m : Mem} {ptype parent : Nat} {p : Pl} (h : procPipeline m ptype parent = .ok p) :
    ∃ l, parentProcs m ptype parent = some l := by
  unfold parentProcs
  rcases procPipeline_ok.1 h with ⟨h2, hp⟩ | ⟨h1, c, hc, _⟩
  · exact ⟨p.procs, by simp [h2, hp]⟩
  · exact ⟨c.procs, by simp [h1, hc]⟩

/-- the processor list of either kind of parent: `attachStep` and `detachStep` append to it and erase from it. -/
def procList (v : Variant) (ptype parent : Id) : IdList := if ptype = 2 then plProcs v parent else cnProcs v parent

theorem procList_get (v : Variant) (ptype parent : Id) (m : Mem) : (procList v ptype parent).get m = parentProcs m ptype parent := by
  unfold procList parentProcs; split <;> rfl

theorem attachStep_eq (v : Variant) (ptype parent x : Id) :
    attachStep v ptype parent x = ⟨(procList v ptype parent).add x, (procList v ptype parent).rem x⟩ := by
  unfold attachStep procList; split <;> rfl

theorem detachStep_eq (v : Variant) (ptype parent x : Id) :
    detachStep v ptype parent x = ⟨(procList v ptype parent).rem x, (procList v ptype parent).add x⟩ := by
  unfold detachStep procList; split <;> rfl

theorem atomic_of_run (v : Variant) (s : St) (op : Op) (k : Option Nat) (hapi : op.isApi = true)
    (h : AtomicRun (opBody v s.next op) { s with ctr := 0, failAt := k }) : Atomic v s op k := by
  unfold Atomic exec
  unfold AtomicRun at h
  simp only [hapi, if_true] at *
  exact ⟨fun h1 => by have := h.1 h1; simpa [St.view] using this,
         fun h1 => by have := h.2 h1; simpa [St.view] using this⟩

theorem guarded_atomic (g : Mem → Except Err Unit) (f : Svc) (s : St)
    (hk : s.failsNow = true → f.keep = true) : AtomicRun (guarded g f) s := by
  unfold AtomicRun guarded
  cases hg : g s.mem with
  | error e => simp [St.view]
  | ok u =>
    cases hp : f.pre s.mem with
    | some e => rw [Svc.run_pre_err hp]; simp
    | none =>
      have hp0 : f.pre ({ s with failAt := none } : St).mem = none := hp
      have hnf : ({ s with failAt := none } : St).failsNow = false := by simp [St.failsNow]
      rw [Svc.run_ok hp0 hnf]
      cases hf : s.failsNow with
      | true => rw [Svc.run_fail hp hf]; simp [hk hf, St.view]
      | false =>
        rw [Svc.run_ok hp hf]
        refine ⟨fun _ => ?_, by simp⟩
        unfold stepOk St.write
        cases s.tx <;> simp [St.view]

/-- The store operations of one call are numbered from 1: `NewTransaction` is 1, step `j` (from 0)
of `n` is `j + 2`, `Commit` is `n + 2`; `failAt = some k` fails the `k`-th. What the frame theorem `orch_atomicRun`
asks of the steps at a fresh call, failing index by failing index as the table `f7Trigger` is laid out: validation passes; the
steps before the failing operation are undone by their rollbacks; the step whose store operation fails restores
memory itself. -/
def Undoable (k : Option Nat) (m : Mem) (L : List Step) : Prop :=
  PreOk m L ∧ (∀ j, j ≤ L.length → k = some (j + 2) → Reversible m (L.take j)) ∧
    ∀ j st, k = some (j + 2) → L[j]? = some st → st.act.keep = true

/-- The frame theorem at a call with fresh counters; nothing has happened yet if the first step's validation
refuses. -/
theorem atomic_of_undoable (v : Variant) (s : St) (op : Op) (k : Option Nat) {β} (g : Mem → Except Err β)
    (steps : β → List Step) (hapi : op.isApi = true) (hbody : opBody v s.next op = orch g steps)
    (H : ∀ b, g s.mem = .ok b → (∀ st ∈ (steps b).head?, st.act.pre s.mem = none) → Undoable k s.mem (steps b)) :
    Atomic v s op k := by
  refine atomic_of_run v s op k hapi ?_
  rw [hbody]
  refine orch_atomicRun g steps { s with ctr := 0, failAt := k } fun b hg => ?_
  simp only [Nat.zero_add]
  cases hL : steps b with
  | nil => exact .inr (hL ▸ H b hg (by simp [hL]))
  | cons st rest =>
    cases hpre : st.act.pre s.mem with
    | some e => exact .inl ⟨st, rest, e, rfl, hpre⟩
    | none => exact .inr (hL ▸ H b hg (by simp [hL, hpre]))

/-! The two shapes the orchestrator has: 2 and 3 are the steps' own store operations, the last is `Commit`. -/

theorem Undoable.one {k : Option Nat} {m : Mem} {a : Step} (ha : a.act.pre m = none)
    (h2 : k = some 2 → a.act.keep = true) (h3 : k = some 3 → Undoes a m) : Undoable k m [a] :=
  ⟨⟨ha, trivial⟩,
   fun j hj hk => match j, hj with
    | 0, _ => trivial
    | 1, _ => ⟨ha, (h3 hk).1, (h3 hk).2, trivial⟩
    | j + 2, h => absurd h (by simp),
   fun j st hk hst => match j with
    | 0 => by cases hst; exact h2 hk
    | _ + 1 => by simp at hst⟩

theorem Undoable.two {k : Option Nat} {m : Mem} {a b : Step} (ha : a.act.pre m = none) (hb : b.act.pre (a.act.upd m) = none)
    (h2 : k = some 2 → a.act.keep = true) (h3 : k = some 3 → b.act.keep = true ∧ Undoes a m)
    (h4 : k = some 4 → Undoes a m ∧ Undoes b (a.act.upd m)) : Undoable k m [a, b] :=
  ⟨⟨ha, hb, trivial⟩,
   fun j hj hk => match j, hj with
    | 0, _ => trivial
    | 1, _ => ⟨ha, (h3 hk).2.1, (h3 hk).2.2, trivial⟩
    | 2, _ => ⟨ha, (h4 hk).1.1, (h4 hk).1.2, hb, (h4 hk).2.1, (h4 hk).2.2, trivial⟩
    | j + 3, h => absurd h (by simp),
   fun j st hk hst => match j with
    | 0 => by cases hst; exact h2 hk
    | 1 => by cases hst; exact (h3 hk).1
    | _ + 2 => by simp at hst⟩

namespace IdList
variable (L : IdList) {k : Option Nat} {m : Mem} {l : List Id} {x : Id} {a : Step}

/-- create an entity, then append its id to its parent's list. -/
theorem undoable_attach (ha : a.act.pre m = none) (hk : a.act.keep = true) (hu : Undoes a m)
    (hl : L.get (a.act.upd m) = some l) (hx : x ∉ l) (h3 : k = some 3 → (L.add x).keep = true) :
    Undoable k m [a, ⟨L.add x, L.rem x⟩] :=
  .two ha (L.add_pre _ _ (by rw [hl]; rfl)) (fun _ => hk) (fun h => ⟨h3 h, hu⟩) fun _ => ⟨hu, L.undoes_add hl hx⟩

/-- delete an entity, then erase its id from its parent's list: the rollback appends it again. -/
theorem undoable_detach (ha : a.act.pre m = none) (hk : a.act.keep = true)
    (hl : L.get (a.act.upd m) = some l) (hx : x ∈ l) (hn : l.Nodup)
    (h3 : k = some 3 → (L.rem x).keep = true ∧ Undoes a m) (h4 : k = some 4 → Undoes a m ∧ lastIn l x = true) :
    Undoable k m [a, ⟨L.rem x, L.add x⟩] :=
  .two ha (L.rem_pre _ _ _ hl hx) (fun _ => hk) h3 fun h => ⟨(h4 h).1, L.undoes_rem hl hn (h4 h).2⟩

end IdList

/-- A guarded service call has one store operation, the first of the call. -/
theorem atomic_of_guarded (v : Variant) (s : St) (op : Op) (k : Option Nat) (g : Mem → Except Err Unit) (f : Svc)
    (hapi : op.isApi = true) (hbody : opBody v s.next op = guarded g f) (h1 : k = some 1 → f.keep = true) :
    Atomic v s op k := by
  refine atomic_of_run v s op k hapi ?_
  rw [hbody]
  exact guarded_atomic g f _ fun hf => h1 (by simpa [St.failsNow] using hf)

theorem atomic_plCreate (v : Variant) (s : St) (name desc : Nat) (k : Option Nat) :
    Atomic v s (.plCreate name desc) k :=
  atomic_of_guarded v s _ k (fun _ => .ok ()) (svcPlCreate s.next name desc 0) rfl rfl fun _ => rfl

theorem atomic_plUpdate (v : Variant) (s : St) (i name desc : Nat) (k : Option Nat)
    (ht : f7Trigger v s (.plUpdate i name desc) k = false) : Atomic v s (.plUpdate i name desc) k := by
  refine atomic_of_guarded v s _ k _ _ rfl (by unfold opBody opPlUpdate; rfl) ?_
  rintro rfl
  simpa [f7Trigger, svcPlUpdate] using ht

theorem atomic_plUpdateDLQ (v : Variant) (s : St) (i : Nat) (d : Dlq) (k : Option Nat)
    (ht : f7Trigger v s (.plUpdateDLQ i d) k = false) : Atomic v s (.plUpdateDLQ i d) k := by
  refine atomic_of_guarded v s _ k _ _ rfl (by unfold opBody opPlUpdateDLQ; rfl) ?_
  rintro rfl
  simpa [f7Trigger, svcPlUpdateDLQ] using ht

theorem atomic_plDelete (v : Variant) (s : St) (i : Nat) (k : Option Nat) : Atomic v s (.plDelete i) k :=
  atomic_of_guarded v s _ k _ (svcPlDelete i) rfl (by unfold opBody opPlDelete; rfl) fun _ => rfl

theorem undoes_cnCreate (id typ plugin pid name settings prov state : Nat) (m : Mem) (h : m.cns id = none) :
    Undoes ⟨svcCnCreate id typ plugin pid name settings prov state, svcCnDelete id⟩ m :=
  ⟨by simp [svcCnDelete, svcCnCreate, preHasCn], Mem.ext' rfl (Map.set_del _ _ _ h) rfl rfl⟩

theorem undoes_prCreate (id plugin ptype parent settings : Nat) (workers : Int) (prov cond : Nat) (m : Mem)
    (h : m.prs id = none) :
    Undoes ⟨svcPrCreate id plugin ptype parent settings workers prov cond, svcPrDelete id⟩ m :=
  ⟨by simp [svcPrDelete, svcPrCreate, preHasPr], Mem.ext' rfl rfl (Map.set_del _ _ _ h) rfl⟩

/-- `Delete`'s rollback re-creates the connector from its fields, without `State` and processors,
and only if `Create`'s validation accepts them. -/
theorem undoes_cnDelete (i : Id) (c : Cn) (m : Mem) (hc : m.cns i = some c) (hrec : cnRecreatable c = true)
    (hprocs : c.procs = []) (htyp : c.typ = 1 ∨ c.typ = 2) :
    Undoes ⟨svcCnDelete i, svcCnCreate i c.typ c.plugin c.pipeline c.name c.settings c.prov 0⟩ m := by
  simp [cnRecreatable] at hrec
  obtain ⟨⟨⟨hs, hn0⟩, hn99⟩, hpl⟩ := hrec
  refine ⟨by rcases htyp with h1 | h1 <;> simp [svcCnCreate, hn0, hn99, hpl, h1], Mem.ext' rfl ?_ rfl rfl⟩
  have : ({ typ := c.typ, plugin := c.plugin, name := c.name, settings := c.settings, pipeline := c.pipeline,
            prov := c.prov, state := 0, procs := [] } : Cn) = c := by
    cases c; simp at hs hprocs ⊢; exact ⟨hs.symm, hprocs⟩
  simp only [svcCnCreate, svcCnDelete, this]
  exact Map.del_set _ _ _ hc

/-- `Delete`'s rollback re-creates the processor with `ProvisionTypeAPI`, and only if `Create`
accepts its worker count unchanged and knows its plugin. -/
theorem undoes_prDelete (i : Id) (r : Pr) (m : Mem) (hr : m.prs i = some r) (hrec : prRecreatable r = true)
    (hprov : r.prov = 0) :
    Undoes ⟨svcPrDelete i, svcPrCreate i r.plugin r.ptype r.parent r.settings r.workers 0 r.cond⟩ m := by
  simp [prRecreatable] at hrec
  obtain ⟨hw, hpl⟩ := hrec
  have hw0 : ¬ r.workers < 0 := by omega
  have hw1 : ¬ r.workers = 0 := by omega
  refine ⟨by simp [svcPrCreate, hw0, hpl], Mem.ext' rfl rfl ?_ rfl⟩
  have : ({ plugin := r.plugin, settings := r.settings, workers := r.workers, cond := r.cond, ptype := r.ptype,
            parent := r.parent, prov := 0 } : Pr) = r := by
    cases r; simp at hprov ⊢; exact hprov.symm
  simp only [svcPrCreate, svcPrDelete, hw1, if_false, this]
  exact Map.del_set _ _ _ hr

theorem Refs.mem_parentProcs {m : Mem} (h : Refs m) {i : Id} {r : Pr} (hr : m.prs i = some r) :
    ∃ l, parentProcs m r.ptype r.parent = some l ∧ i ∈ l ∧ l.Nodup := by
  unfold parentProcs
  rcases h.procPar i r hr with ⟨h2, p, hp, hin⟩ | ⟨h1, c, hc, hin⟩
  · exact ⟨p.procs, by simp [h2, hp], hin, h.plNodupR _ _ hp⟩
  · exact ⟨c.procs, by simp [h1, hc], hin, h.cnNodupR _ _ hc⟩

theorem Fresh.not_mem_parentProcs {s : St} (h : Fresh s) {ptype parent : Id} {l : List Id}
    (hl : parentProcs s.mem ptype parent = some l) : s.next ∉ l := by
  unfold parentProcs at hl
  intro hx
  split at hl <;> simp only [Option.map_eq_some_iff] at hl <;> obtain ⟨q, hq, rfl⟩ := hl
  · exact Nat.lt_irrefl _ (h.plR _ _ _ hq hx)
  · exact Nat.lt_irrefl _ (h.cnR _ _ _ hq hx)

theorem atomic_cnCreate (v : Variant) (s : St) (typ plugin pid name settings : Nat) (k : Option Nat)
    (hi : Inv s) (ht : f7Trigger v s (.cnCreate typ plugin pid name settings) k = false) :
    Atomic v s (.cnCreate typ plugin pid name settings) k := by
  refine atomic_of_undoable v s _ k _ _ rfl (by unfold opBody opCnCreate; rfl) fun _ hg hpre => ?_
  obtain ⟨p, hg, _⟩ := bind_ok.1 hg
  have hp := (plGuards_ok.1 hg).1
  refine (plConns v pid).undoable_attach (l := p.conns) (hpre _ rfl) rfl
    (undoes_cnCreate _ _ _ _ _ _ _ _ _ (hi.fresh.cns _ (Nat.le_refl _))) (by simp [plConns, svcCnCreate, hp])
    (fun h => Nat.lt_irrefl _ (hi.fresh.plC pid p _ hp h)) ?_
  rintro rfl
  simpa [f7Trigger, plConns, svcPlAddConn] using ht

theorem atomic_cnUpdate (v : Variant) (s : St) (i plugin name settings : Nat) (k : Option Nat)
    (hi : Inv s) (ht : f7Trigger v s (.cnUpdate i plugin name settings) k = false) :
    Atomic v s (.cnUpdate i plugin name settings) k := by
  refine atomic_of_undoable v s _ k _ _ rfl (by unfold opBody opCnUpdate; rfl) fun c hg hpre => ?_
  have hc : s.mem.cns i = some c := (cnGuardsUpdate_ok.1 hg).1
  refine .one (hpre _ rfl) ?_ ?_ <;> rintro rfl
  · simpa [f7Trigger, svcCnUpdate] using ht
  · -- the rollback must pass the plugin read before the update
    have hv : v.cnOrchOldPlugin = true := by simpa [f7Trigger] using ht
    simp only [hv, if_true]
    exact ⟨by simp [svcCnUpdate, preHasCn, Mem.updCn, hc], updCn_updCn _ _ _ _ c hc rfl⟩

theorem atomic_cnDelete (v : Variant) (s : St) (i : Nat) (k : Option Nat)
    (hi : Inv s) (ht : f7Trigger v s (.cnDelete i) k = false) : Atomic v s (.cnDelete i) k := by
  refine atomic_of_undoable v s _ k _ _ rfl (by unfold opBody opCnDelete; rfl) fun c hg hpre => ?_
  obtain ⟨hc, _, hprocs, _⟩ := cnGuardsDelete_ok.1 hg
  obtain ⟨p, hp, hin⟩ := hi.refs.connPl i c hc
  have hu := fun h => undoes_cnDelete i c s.mem hc h hprocs (hi.wf.cnTyp i c hc)
  refine (plConns v c.pipeline).undoable_detach (l := p.conns) (hpre _ rfl) rfl (by simp [plConns, svcCnDelete, hp]) hin
    (hi.refs.plNodupC _ _ hp) ?_ ?_ <;> rintro rfl
  · obtain ⟨h1, h2⟩ : v.plRemConn = true ∧ cnRecreatable c = true := by simpa [f7Trigger, hc] using ht
    exact ⟨h1, hu h2⟩
  · obtain ⟨h1, h2⟩ : cnRecreatable c = true ∧ lastIn p.conns i = true := by simpa [f7Trigger, hc, hp] using ht
    exact ⟨hu h1, h2⟩

theorem atomic_prCreate (v : Variant) (s : St) (plugin ptype parent settings : Nat) (workers : Int) (cond : Nat)
    (k : Option Nat) (hi : Inv s) (ht : f7Trigger v s (.prCreate plugin ptype parent settings workers cond) k = false) :
    Atomic v s (.prCreate plugin ptype parent settings workers cond) k := by
  refine atomic_of_undoable v s _ k _ _ rfl (by unfold opBody opPrCreate; rfl) fun _ hg hpre => ?_
  obtain ⟨p, hpp, _⟩ := bind_ok.1 hg
  obtain ⟨l, hl⟩ := procPipeline_parent hpp
  rw [attachStep_eq]
  refine (procList v ptype parent).undoable_attach (hpre _ rfl) rfl
    (undoes_prCreate _ _ _ _ _ _ _ _ _ (hi.fresh.prs _ (Nat.le_refl _))) ((procList_get ..).trans hl)
    (hi.fresh.not_mem_parentProcs hl) ?_
  rintro rfl
  unfold procList
  split <;> simp_all [f7Trigger, plProcs, cnProcs, svcPlAddProc, svcCnAddProc]

theorem atomic_prUpdate (v : Variant) (s : St) (i plugin settings : Nat) (workers : Int) (k : Option Nat)
    (hi : Inv s) (ht : f7Trigger v s (.prUpdate i plugin settings workers) k = false) :
    Atomic v s (.prUpdate i plugin settings workers) k := by
  refine atomic_of_undoable v s _ k _ _ rfl (by unfold opBody opPrUpdate; rfl) fun r hg hpre => ?_
  obtain ⟨hr, _, _⟩ := prGuards_ok.1 hg
  refine .one (hpre _ rfl) ?_ fun _ => ⟨by simp [svcPrUpdate, Mem.updPr, hr, hi.wf.prPlg i r hr], updPr_updPr _ _ _ _ r hr (by simp)⟩
  rintro rfl
  simpa [f7Trigger, svcPrUpdate] using ht

theorem atomic_prDelete (v : Variant) (s : St) (i : Nat) (k : Option Nat)
    (hi : Inv s) (ht : f7Trigger v s (.prDelete i) k = false) : Atomic v s (.prDelete i) k := by
  refine atomic_of_undoable v s _ k _ _ rfl (by unfold opBody opPrDelete; rfl) fun r hg hpre => ?_
  obtain ⟨hr, hprov, _⟩ := prGuards_ok.1 hg
  obtain ⟨l, hl, hin, hnd⟩ := hi.refs.mem_parentProcs hr
  have hu := fun h => undoes_prDelete i r s.mem hr h hprov
  -- the two rows of the trigger table speak of the parent's list
  have hlast : (if r.ptype = 2 then (s.mem.pls r.parent).any fun p => !lastIn p.procs i
      else (s.mem.cns r.parent).any fun c => !lastIn c.procs i) = !lastIn l i := by
    unfold parentProcs at hl
    split at hl <;> rename_i h2 <;> simp only [Option.map_eq_some_iff] at hl <;> obtain ⟨q, hq, rfl⟩ := hl <;> simp [hq, h2]
  rw [detachStep_eq]
  refine (procList v r.ptype r.parent).undoable_detach (hpre _ rfl) rfl ((procList_get ..).trans hl) hin hnd ?_ ?_ <;> rintro rfl
  · simp [f7Trigger, hr] at ht
    exact ⟨by unfold procList; split <;> simp_all [plProcs, cnProcs, svcPlRemProc, svcCnRemProc], hu ht.2⟩
  · obtain ⟨h1, h2⟩ : prRecreatable r = true ∧ lastIn l i = true := by simpa [f7Trigger, hr, hlast] using ht
    exact ⟨hu h1, h2⟩

theorem orch_refused {β} (g : Mem → Except Err β) (steps : β → List Step) (s : St)
    (h : ∀ b, g s.mem ≠ .ok b) : (orch g steps s).1 ≠ .ok () ∧ (orch g steps s).2.view = s.view := by
  cases hg : g s.mem with
  | ok b => exact absurd hg (h b)
  | error e => unfold orch; cases hf : s.failsNow <;> simp [hg, St.view]

theorem guarded_refused (g : Mem → Except Err Unit) (f : Svc) (s : St)
    (h : ∀ b, g s.mem ≠ .ok b) : (guarded g f s).1 ≠ .ok () ∧ (guarded g f s).2.view = s.view := by
  cases hg : g s.mem with
  | ok b => exact absurd hg (h b)
  | error e => simp [guarded, hg]

theorem exec_refused_of_body (v : Variant) (s : St) (op : Op) (k : Option Nat)
    (h : (opBody v s.next op { s with ctr := 0, failAt := if op.isApi then k else none }).1 ≠ .ok () ∧
         (opBody v s.next op { s with ctr := 0, failAt := if op.isApi then k else none }).2.view = s.view) :
    (exec v s op k).1 ≠ .ok () ∧ (exec v s op k).2.view = s.view := by
  unfold exec; simpa [St.view] using h

/-- **guards**: an API call that would modify a resource of a running pipeline or a
file-provisioned resource fails and changes nothing — for every failing store-op index. The
guards of each method, had they passed, would show the resource unprotected. -/
theorem Guarded.holds (v : Variant) (s : St) (op : Op) (k : Option Nat) : Guarded v s op k := by
  intro hprot
  apply exec_refused_of_body
  cases op with
  | plUpdate | plUpdateDLQ | plDelete =>
    refine guarded_refused _ _ _ fun _ hg => ?_
    obtain ⟨p, h1, _⟩ := bind_ok.1 hg
    simp_all [protectedOp, Pl.locked, plGuards_ok]
  | cnCreate typ plugin pid name settings =>
    refine orch_refused _ _ _ fun _ hg => ?_
    obtain ⟨p, h1, _⟩ := bind_ok.1 hg
    simp_all [protectedOp, Pl.locked, plGuards_ok]
  | cnUpdate i plugin name settings =>
    refine orch_refused _ _ _ fun c hg => ?_
    obtain ⟨hc, hprov, ⟨p, hp, hs⟩, _⟩ := (cnGuardsUpdate_ok (m := s.mem)).1 hg
    simp [protectedOp, hc, hprov, hp, Pl.running, hs] at hprot
  | cnDelete i =>
    refine orch_refused _ _ _ fun c hg => ?_
    obtain ⟨hc, hprov, _, p, hp, hs⟩ := (cnGuardsDelete_ok (m := s.mem)).1 hg
    simp [protectedOp, hc, hprov, hp, Pl.running, hs] at hprot
  | prCreate plugin ptype parent settings workers cond =>
    refine orch_refused _ _ _ fun _ hg => ?_
    obtain ⟨p, h1, hg⟩ := bind_ok.1 hg
    simp_all [protectedOp, procPipeline_owner h1, Pl.locked]
  | prUpdate | prDelete =>
    refine orch_refused _ _ _ fun r hg => ?_
    obtain ⟨hr, hprov, p, hp, hs⟩ := (prGuards_ok (m := s.mem)).1 hg
    simp [protectedOp, hr, hprov, procPipeline_owner hp, Pl.running, hs] at hprot
  | _ => simp [protectedOp] at hprot

end Conduit.Ctl
