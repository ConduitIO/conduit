import ConduitModel.Model.WorkerStop
import ConduitModel.Proofs.EventSys

/-!
The graceful-stop protocol of the arch-v2 worker (`Model/WorkerStop.lean`): `step` as a relation, the invariant in the
form the properties read (`Inv`) and in the form the steps keep (`PcInv`, by program counter), and the rank table of the
variant of a pending stop (`Step.variant`).
-/
namespace Conduit.WorkerStop

/-- the reading goroutine is between `acquireProcessingLock` and its deferred `release()` -/
def RPc.holds : RPc → Bool
  | .locked | .inPass | .releasing _ => true
  | _ => false

/-- Stop is between `acquireProcessingLock` and its deferred `release()` -/
def SPc.holds : SPc → Bool
  | .haveLock | .flagSet | .tdDone => true
  | _ => false

/-- The invariant in the form the properties (`Props/C06Worker.lean`) read: one clause per fact.
`PcInv` below is the same invariant grouped by program counter, which is what the steps keep (`PcInv.inv`). -/
structure Inv (s : St) : Prop where
  lockR : s.lock = some .reader ↔ s.rpc.holds = true
  lockS : s.lock = some .stopper ↔ s.spc.holds = true
  tornStop : s.torn = true → s.stop = true ∨ s.rpc = .closed
  passClean : s.rpc = .inPass → s.stop = false
  td : s.teardowns = if s.torn then 1 else 0
  late : s.lateAck = false
  spcFlag : (s.spc = .flagSet ∨ s.spc = .tdDone ∨ s.spc = .released ∨ s.spc = .returned) → s.stop = true
  spcTorn : (s.spc = .tdDone ∨ s.spc = .released ∨ s.spc = .returned) → s.torn = true
  eofTd : s.rpc = .eofTd → s.stop = true
  exitOk : (s.rpc = .exiting true ∨ s.rpc = .done true) → s.stop = true
  histOk : ∀ d ∈ s.hist, d.res = .ok → d.acked = d.size ∧ d.beforeTd = true
  histDisc : ∀ d ∈ s.hist, d.res = .discarded → d.acked = 0 ∧ d.wrote = false
  cur : (s.rpc = .gotBatch ∨ s.rpc = .locked) → s.ackedB = 0 ∧ s.wroteB = false
  closedTorn : s.rpc = .closed → s.torn = true

theorem tearDown_eq (s : St) :
    tearDown s = { s with torn := true, teardowns := if s.torn then s.teardowns else s.teardowns + 1 } := by
  cases s with
  | mk _ _ torn => cases torn <;> rfl

/-- `step` as a relation: one constructor per statement and outcome, the guard as hypotheses, the
successor spelled out -/
inductive Step (s : St) : Ev → St → Prop
  | loopExit : s.rpc = .loopTest → s.stop = true → Step s .loopTest { s with rpc := .exiting true }
  | loopBody : s.rpc = .loopTest → s.stop = false → Step s .loopTest { s with rpc := .atRead }
  | readBegin : s.rpc = .atRead → Step s .readBegin { s with rpc := .inRead }
  | readBatch n : s.rpc = .inRead →
      Step s (.readReturn (.batch n)) { s with rpc := .gotBatch, batch := n, ackedB := 0, wroteB := false }
  | readEof : s.rpc = .inRead → Step s (.readReturn .eof) { s with rpc := .eofArm }
  | readStopped : s.rpc = .inRead → s.stop = true → Step s (.readReturn .notRunning) { s with rpc := .loopTest }
  | readNotRunning : s.rpc = .inRead → s.stop = false →
      Step s (.readReturn .notRunning) { s with rpc := .exiting false }
  | readErr : s.rpc = .inRead → Step s (.readReturn .err) { s with rpc := .exiting false }
  | lockAcquire : s.rpc = .gotBatch → s.lock = none → Step s .lockAcquire { s with lock := some .reader, rpc := .locked }
  | discard : s.rpc = .locked → s.stop = true → Step s .stopCheck { finish s .discarded with rpc := .releasing true }
  | passStart : s.rpc = .locked → s.stop = false → Step s .stopCheck { s with rpc := .inPass }
  | passStep : s.rpc = .inPass → Step s .passStep s
  | passWrite : s.rpc = .inPass → Step s .passWrite { s with wroteB := true }
  | lateAck n : s.rpc = .inPass → s.torn = true → s.ackedB + n ≤ s.batch →
      Step s (.passAck n true) { s with lateAck := true }
  | passAck n : s.rpc = .inPass → s.torn = false → s.ackedB + n ≤ s.batch →
      Step s (.passAck n false) { s with ackedB := s.ackedB + n }
  | passEnd ok : s.rpc = .inPass → (ok = true → s.ackedB = s.batch) →
      Step s (.passEnd ok) { finish s (if ok then .ok else .err) with rpc := .releasing ok }
  | releaseOk : s.rpc = .releasing true → Step s .lockRelease { s with lock := none, rpc := .loopTest }
  | releaseErr : s.rpc = .releasing false → Step s .lockRelease { s with lock := none, rpc := .exiting false }
  | eofSetStop : s.rpc = .eofArm → Step s .eofSetStop { s with stop := true, rpc := .eofTd }
  | eofTeardown : s.rpc = .eofTd → Step s (.teardownSource .reader)
      { s with torn := true, teardowns := if s.torn then s.teardowns else s.teardowns + 1, rpc := .loopTest }
  | doReturn ok : s.rpc = .exiting ok → Step s .doReturn { s with rpc := .done ok }
  | close ok : s.rpc = .done ok → Step s .close
      { s with torn := true, teardowns := if s.torn then s.teardowns else s.teardowns + 1, rpc := .closed }
  | stopRequest : s.spc = .idle → Step s .stopRequest { s with spc := .wantLock }
  | stopLockAcquire : s.spc = .wantLock → s.lock = none →
      Step s .stopLockAcquire { s with lock := some .stopper, spc := .haveLock }
  | setStopFlag : s.spc = .haveLock → Step s .setStopFlag { s with stop := true, spc := .flagSet }
  | stopTeardown : s.spc = .flagSet → Step s (.teardownSource .stopper)
      { s with torn := true, teardowns := if s.torn then s.teardowns else s.teardowns + 1, spc := .tdDone }
  | stopRelease : s.spc = .tdDone → Step s .stopRelease { s with lock := none, spc := .released }
  | stopReturn : s.spc = .released → Step s .stopReturn { s with spc := .returned }

theorem step_iff {s s' : St} {e : Ev} : step s e = some s' ↔ Step s e s' := by
  constructor
  -- unfold `step` once per event; every branch that returns a state is one constructor of `Step`, whose
  -- premises are the guards just split on
  · intro hs
    cases e with
    | readReturn r =>
      cases r <;> simp only [step] at hs <;> (repeat' split at hs) <;> cases hs <;> constructor <;>
        first | assumption | simp_all
    | teardownSource b =>
      cases b <;> simp only [step, tearDown_eq] at hs <;> split at hs <;> cases hs <;> constructor <;> assumption
    | close => simp only [step, tearDown_eq] at hs; split at hs <;> cases hs <;> constructor <;> assumption
    | passAck n late => cases late <;> simp only [step] at hs <;> split at hs <;> cases hs <;> constructor <;> simp_all
    | passEnd ok => simp only [step] at hs; split at hs <;> cases hs <;> constructor <;> simp_all
    | _ =>
      simp only [step] at hs <;> (repeat' split at hs) <;> cases hs <;> constructor <;> first | assumption | simp_all
  · intro h
    cases h <;> simp [step, tearDown_eq, *] <;> assumption

def RPc.asserts (s : St) : RPc → Prop
  | .gotBatch | .locked => s.ackedB = 0 ∧ s.wroteB = false
  | .inPass => s.stop = false
  | .eofTd => s.stop = true
  | .exiting ok | .done ok => ok = true → s.stop = true
  | .closed => s.torn = true
  | _ => True

def SPc.asserts (s : St) : SPc → Prop
  | .flagSet => s.stop = true
  | .tdDone | .released | .returned => s.stop = true ∧ s.torn = true
  | _ => True

/-- `Inv` arranged for the step proof: lock discipline, what each goroutine relies on at its program
counter (`RPc.asserts`, `SPc.asserts`), global facts. A step re-establishes the assertion of the pc
it moves to and must not invalidate the other goroutine's. -/
structure PcInv (s : St) : Prop where
  lockR : s.lock = some .reader ↔ s.rpc.holds = true
  lockS : s.lock = some .stopper ↔ s.spc.holds = true
  tornStop : s.torn = true → s.stop = true ∨ s.rpc = .closed
  td : s.teardowns = if s.torn then 1 else 0
  late : s.lateAck = false
  histOk : ∀ d ∈ s.hist, d.res = .ok → d.acked = d.size ∧ d.beforeTd = true
  histDisc : ∀ d ∈ s.hist, d.res = .discarded → d.acked = 0 ∧ d.wrote = false
  rA : s.rpc.asserts s
  sA : s.spc.asserts s

theorem pcInv_init : PcInv init :=
  ⟨iff_of_false nofun nofun, iff_of_false nofun nofun, nofun, rfl, rfl, nofun, nofun, trivial, trivial⟩

theorem PcInv.inv {s : St} (h : PcInv s) : Inv s where
  lockR := h.lockR
  lockS := h.lockS
  tornStop := h.tornStop
  td := h.td
  late := h.late
  histOk := h.histOk
  histDisc := h.histDisc
  passClean hr := by have := h.rA; rwa [hr] at this
  eofTd hr := by have := h.rA; rwa [hr] at this
  exitOk hr := by have := h.rA; rcases hr with hr | hr <;> rw [hr] at this <;> exact this rfl
  cur hr := by have := h.rA; rcases hr with hr | hr <;> rwa [hr] at this
  closedTorn hr := by have := h.rA; rwa [hr] at this
  spcFlag hp := by
    have := h.sA
    rcases hp with hp | hp | hp | hp <;> rw [hp] at this <;> first | exact this | exact this.1
  spcTorn hp := by have := h.sA; rcases hp with hp | hp | hp <;> rw [hp] at this <;> exact this.2

theorem PcInv.pass_not_torn {s : St} (h : PcInv s) (hp : s.rpc = .inPass) : s.torn = false := by
  have h1 : s.stop = false := by have := h.rA; rwa [hp] at this
  cases ht : s.torn with
  | false => rfl
  | true =>
    rcases h.tornStop ht with h2 | h2
    · rw [h1] at h2; cases h2
    · rw [hp] at h2; cases h2

theorem PcInv.move {s : St} (h : PcInv s) {r₀ r : RPc} (hc : s.rpc = r₀) (hh : r.holds = r₀.holds)
    (hne : r₀ ≠ .closed) (ha : r.asserts s) : PcInv { s with rpc := r } :=
  { h with
    lockR := by rw [hh, ← hc]; exact h.lockR
    tornStop := fun ht => .inl ((h.tornStop ht).resolve_right (hc ▸ hne))
    rA := ha }

/-- Outside a pass the reader's assertions only ask for flags to be up: raising `stop` or `torn`
does not interfere with them. -/
theorem RPc.asserts.mono {s s' : St} {r : RPc} (h : r.asserts s) (hr : r ≠ .inPass)
    (hst : s.stop = true → s'.stop = true) (htn : s.torn = true → s'.torn = true)
    (ha : s'.ackedB = s.ackedB) (hw : s'.wroteB = s.wroteB) : r.asserts s' := by
  cases r with
  | gotBatch | locked => exact ⟨ha.trans h.1, hw.trans h.2⟩
  | inPass => exact absurd rfl hr
  | eofTd => exact hst h
  | exiting ok | done ok => exact fun hk => hst (h hk)
  | closed => exact htn h
  | _ => trivial

theorem SPc.asserts.mono {s s' : St} {p : SPc} (h : p.asserts s) (hst : s.stop = true → s'.stop = true)
    (htn : s.torn = true → s'.torn = true) : p.asserts s' := by
  cases p with
  | flagSet => exact hst h
  | tdDone | released | returned => exact ⟨hst h.1, htn h.2⟩
  | _ => trivial

/-- the two `acquire … release()` regions exclude each other: each is in its own only with the lock -/
theorem PcInv.excl {s : St} (h : PcInv s) (hr : s.rpc.holds = true) (hs : s.spc.holds = true) : False :=
  nomatch (h.lockR.mpr hr).symm.trans (h.lockS.mpr hs)

theorem PcInv.step {s s' : St} {e : Ev} (h : PcInv s) (hs : Step s e s') : PcInv s' := by
  have lockR := h.lockR
  have lockS := h.lockS
  have tornStop := h.tornStop
  have rA := h.rA
  have sA := h.sA
  cases hs with
  | loopExit hc hst => exact h.move hc rfl nofun fun _ => hst
  | loopBody hc _ => exact h.move hc rfl nofun trivial
  | readBegin hc => exact h.move hc rfl nofun trivial
  | readBatch n hc =>
    rw [hc] at lockR tornStop
    exact { h with lockR := lockR, tornStop := fun ht => (tornStop ht).imp_right nofun, rA := ⟨rfl, rfl⟩ }
  | readEof hc => exact h.move hc rfl nofun trivial
  | readStopped hc _ => exact h.move hc rfl nofun trivial
  | readNotRunning hc _ => exact h.move hc rfl nofun nofun
  | readErr hc => exact h.move hc rfl nofun nofun
  | lockAcquire hc hl =>
    rw [hc] at tornStop rA
    exact { h with
      lockR := iff_of_true rfl rfl
      lockS := iff_of_false nofun (by rw [← lockS, hl]; nofun)
      tornStop := fun ht => (tornStop ht).imp_right nofun
      rA := rA }
  | discard hc hst =>
    rw [hc] at lockR rA
    exact { h with
      lockR := lockR
      tornStop := fun _ => .inl hst
      histOk := forall_mem_concat h.histOk nofun
      histDisc := forall_mem_concat h.histDisc fun _ => rA
      rA := trivial }
  | passStart hc hst => exact h.move hc rfl nofun hst
  | passStep _ => exact h
  | passWrite hc => rw [hc] at rA; exact { h with rA := by rw [hc]; exact rA }
  | lateAck n hc ht _ => cases (h.pass_not_torn hc).symm.trans ht
  | passAck n hc _ _ => rw [hc] at rA; exact { h with rA := by rw [hc]; exact rA }
  | passEnd ok hc hg =>
    have ht := h.pass_not_torn hc
    rw [hc] at lockR
    exact { h with
      lockR := lockR
      tornStop := fun ht' => by cases ht.symm.trans ht'
      histOk := forall_mem_concat h.histOk fun _ => by
        cases ok with
        | true => exact ⟨hg rfl, by simp [ht]⟩
        | false => contradiction
      histDisc := forall_mem_concat h.histDisc (by cases ok <;> nofun)
      rA := trivial }
  | releaseOk hc | releaseErr hc =>
    rw [hc] at tornStop
    exact { h with
      lockR := iff_of_false nofun nofun
      lockS := iff_of_false nofun (h.excl (hc ▸ rfl))
      tornStop := fun ht => (tornStop ht).imp_right nofun
      rA := by simp [RPc.asserts] }
  | eofSetStop hc =>
    rw [hc] at lockR
    exact { h with
      lockR := lockR
      tornStop := fun _ => .inl rfl
      rA := rfl
      sA := sA.mono (fun _ => rfl) id }
  | eofTeardown hc =>
    rw [hc] at lockR rA
    exact { h with
      lockR := lockR
      tornStop := fun _ => .inl rA
      td := h.td ▸ by cases s.torn <;> rfl
      rA := trivial
      sA := sA.mono id fun _ => rfl }
  | doReturn ok hc => rw [hc] at rA; exact h.move hc rfl nofun rA
  | close ok hc =>
    rw [hc] at lockR
    exact { h with
      lockR := lockR
      tornStop := fun _ => .inr rfl
      td := h.td ▸ by cases s.torn <;> rfl
      rA := rfl
      sA := sA.mono id fun _ => rfl }
  | stopRequest hc => rw [hc] at lockS; exact { h with lockS := lockS, sA := trivial }
  | stopLockAcquire hc hl =>
    exact { h with
      lockR := iff_of_false nofun (by rw [← lockR, hl]; nofun)
      lockS := iff_of_true rfl rfl
      sA := trivial }
  | setStopFlag hc =>
    -- `Stop` holds the lock, so no pass is running that relies on `stop` being down
    rw [hc] at lockS
    have hp : s.rpc ≠ .inPass := fun hp => h.excl (hp ▸ rfl) (hc ▸ rfl)
    exact { h with
      lockS := lockS
      tornStop := fun _ => .inl rfl
      rA := rA.mono hp (fun _ => rfl) id rfl rfl
      sA := rfl }
  | stopTeardown hc =>
    rw [hc] at lockS sA
    have hp : s.rpc ≠ .inPass := fun hp => h.excl (hp ▸ rfl) (hc ▸ rfl)
    exact { h with
      lockS := lockS
      tornStop := fun _ => .inl sA
      td := h.td ▸ by cases s.torn <;> rfl
      rA := rA.mono hp id (fun _ => rfl) rfl rfl
      sA := ⟨sA, rfl⟩ }
  | stopRelease hc =>
    rw [hc] at sA
    exact { h with
      lockR := iff_of_false nofun fun hr => h.excl hr (hc ▸ rfl)
      lockS := iff_of_false nofun nofun
      sA := sA }
  | stopReturn hc => rw [hc] at lockS sA; exact { h with lockS := lockS, sA := sA }

theorem step_pcInv {s s' : St} {e : Ev} (h : PcInv s) (hs : step s e = some s') : PcInv s' :=
  h.step (step_iff.mp hs)

theorem run_nil (s : St) : run s [] = some s := rfl

theorem run_eq (evs : List Ev) (s : St) : run s evs = evs.foldlM step s :=
  EventSys.run_eq (fun _ => rfl) (fun _ _ _ => rfl) evs s

theorem reach_pcInv {s : St} (h : Reach s) : PcInv s := by
  obtain ⟨evs, he⟩ := h
  exact EventSys.run_induct (fun _ _ _ hi => step_pcInv hi) evs pcInv_init (run_eq .. ▸ he)

theorem reach_inv {s : St} (h : Reach s) : Inv s := (reach_pcInv h).inv

theorem Reach.after {s s' : St} (h : Reach s) (evs : List Ev) (hr : run s evs = some s') : Reach s' := by
  obtain ⟨e0, he⟩ := h
  rw [run_eq] at he hr
  exact ⟨e0 ++ evs, run_eq .. ▸ EventSys.run_append.mpr ⟨s, he, hr⟩⟩

theorem Reach.step {s s' : St} {e : Ev} (h : Reach s) (hs : step s e = some s') : Reach s' :=
  h.after [e] (by rw [run_eq]; exact EventSys.run_cons.mpr ⟨s', hs, rfl⟩)

theorem Step.spc_forward {s s' : St} {e : Ev} (hs : Step s e s') :
    (s.spc = .returned → s'.spc = .returned) ∧ (s'.spc = .idle → s.spc = .idle) := by
  cases hs with
  | stopRequest hc | stopLockAcquire hc | setStopFlag hc | stopTeardown hc | stopRelease hc | stopReturn hc =>
    exact ⟨(fun hd => nomatch hd.symm.trans hc), nofun⟩
  | _ => exact ⟨id, id⟩

theorem variant_le (s : St) : variant s ≤ 23 := by
  unfold variant
  have h1 : spcRank s.spc ≤ 5 := by cases s.spc <;> simp [spcRank]
  have h2 : rpcRank s.rpc ≤ 3 := by cases s.rpc <;> simp [rpcRank]
  omega

/-- The rank table of `variant`, statement by statement: each of the eight stop-progress statements
lowers it; `lockAcquire` (which leaves the reader three statements away from its `release()`) and
`stopRequest` raise it; every other statement leaves the ranks alone or moves the reader to a pc of
rank 0. -/
theorem Step.variant {s s' : St} {e : Ev} (hs : Step s e s') :
    if e.stopProgress then variant s' < variant s
    else e = .lockAcquire ∨ e = .stopRequest ∨ variant s' ≤ variant s := by
  cases hs <;> simp [WorkerStop.variant, rpcRank, spcRank, Ev.stopProgress, finish, *]

theorem progress_decreases {s s' : St} {e : Ev} (he : e.stopProgress = true) (hs : step s e = some s') :
    variant s' < variant s := by
  have := (step_iff.mp hs).variant
  rwa [he, if_pos rfl] at this

end Conduit.WorkerStop
