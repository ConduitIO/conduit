import ConduitModel.Proofs.PassSTask

/-!
# The task recursion on batches with split runs; the fan-out case is a parameter (`SFan`)

`doTaskAttempt` / `taintedLoop` / `doNextTask` with handler `.run p`: the parent `p` is given the
forwarded keys `fk` of the batch's pieces, in order; when the task returns without error all of
them, and the ledger accounts for exactly the pieces outside the batch.
-/
namespace Conduit.Funnel

theorem VRes.pre_task {p : Acker} {C : Contract p} {rest : Nat → Nat} {b b1 : Batch} {s s1 s2 : PS}
    {r : Except Stop Unit} (hv : C.Valid s) (hq : Q s s1) (hs : SStep s.heap b s1.heap b1 rest)
    (h : VRes C rest b1.view s1 s2 r) : VRes C rest b.view s s2 r := by
  refine ⟨hs.fkeq ▸ h.res.pre_quiet hv hq, ⟨Nat.le_trans hs.hsize h.fr.size, fun rid hlt hc => ?_, fun rid hlt => ?_⟩,
    fun hr rid hc hrest => h.post hr rid (Nat.lt_of_lt_of_le hc (hs.mono rid)) hrest⟩
  · obtain ⟨a1, a2⟩ := hs.hframe rid hlt hc
    rw [h.fr.keep rid (Nat.lt_of_lt_of_le hlt hs.hsize) a2, a1]
  · rw [h.fr.orig rid (Nat.lt_of_lt_of_le hlt hs.hsize), hs.horig rid hlt]

theorem cnt_zero_of_ge {h : Heap} {b : Batch} (hwf : b.WF h) {r : Nat} (hr : h.size ≤ r) : cnt r b.view = 0 := by
  unfold cnt
  rw [List.countP_eq_zero]
  intro x hx hx1
  have hro := hwf.1.runs_ok
  unfold Batch.view at hx
  cases hb : b.runs with
  | none => rw [hb] at hx; simp at hx
  | some rs =>
    rw [hb] at hx hro
    simp only [Option.getD_some] at hx
    have hx1' : x.1 = some r := by simpa using hx1
    have := hro.2 x.1 (List.of_mem_zip hx).1
    rw [hx1'] at this
    simp [runIdOK] at this
    omega

theorem cnt_drop_le (r : Nat) (l : List Piece) (j : Nat) : cnt r (l.drop j) ≤ cnt r l := by
  conv => rhs; rw [← List.take_append_drop j l]
  rw [cnt_append]; omega

/-- the loop invariant of the tainted loop at index `i` -/
structure TInv (h : Heap) (rest : Nat → Nat) (b : Batch) (i : Nat) : Prop where
  wf : b.WF h
  ne : NE b.st
  runs : ∃ rs, b.runs = some rs
  nopos : ∀ x ∈ b.view, x.1 = none → x.2 ≠ none
  acc : Acc h rest (b.view.drop i)
  restok : ∀ r : Nat, h.size ≤ r → rest r = 0
  shape : ∃ (prev : Option Nat) (seen : List Nat), ShapeFrom h prev seen b.view ∧
    (∀ r : Nat, prev = some r → r ∈ seen) ∧ (∀ r ∈ seen, r < h.size)
  headless : ∀ (r : Nat) (t : List Piece), b.view.drop i = (some r, none) :: t → 0 < (h[r]!).terminal

theorem SInv.tinv {h : Heap} {rest : Nat → Nat} {b : Batch} (hi : SInv h rest b) : TInv h rest b 0 :=
  ⟨hi.wf, hi.ne, hi.runs, hi.nopos, by simpa using hi.acc, hi.restok, hi.shape, by simpa using hi.headless⟩

theorem TInv.sinv {h : Heap} {rest : Nat → Nat} {b : Batch} (ht : TInv h rest b 0) : SInv h rest b :=
  ⟨ht.wf, ht.ne, ht.runs, ht.nopos, by simpa using ht.acc, ht.restok, ht.shape, by simpa using ht.headless⟩

theorem TInv.vb {h : Heap} {rest : Nat → Nat} {b : Batch} {i : Nat} (ht : TInv h rest b i) : ∃ rs, VB b rs := by
  obtain ⟨rs, hruns⟩ := ht.runs
  have hro := ht.wf.1.runs_ok
  rw [hruns] at hro
  refine ⟨rs, hruns, hro.1, ht.wf.1.st_len, ht.wf.1.pos_len, ?_⟩
  intro k hk hp
  have hv := Batch.view_of_runs hruns
  have hmem : ((none, none) : Piece) ∈ b.view := by
    rw [hv]
    exact List.mem_of_getElem? (List.getElem?_zip_eq_some.mpr ⟨hk, hp⟩)
  exact ht.nopos _ hmem rfl rfl

theorem SInv.vb {h : Heap} {rest : Nat → Nat} {b : Batch} (hi : SInv h rest b) : ∃ rs, VB b rs := hi.tinv.vb

theorem run_call_spec {p : Acker} (C : Contract p) (b : Batch) (isAck : Bool) (task : Nat)
    (hn : isAck = false → NackOK b) (rest : Nat → Nat) (fuel : Nat) (s s' : PS) (r : Except Stop Unit)
    (hv : C.Valid s) (hi : SInv s.heap rest b)
    (h : exec (ackerCall fuel (.run p) b isAck task) s = (r, s')) : VRes C rest b.view s s' r := by
  obtain ⟨rs, hvb⟩ := hi.vb
  cases fuel with
  | zero => rw [ackerCall_zero] at h; cases h; exact VRes.stay hv
  | succ fuel =>
    rw [ackerCall_run] at h
    have := vote_spec C b rs hvb isAck task hn rest fuel 0 s s' r hv (by simpa using hi.acc) h
    simpa using this

theorem TInv.ids {h : Heap} {rest : Nat → Nat} {b : Batch} {i : Nat} (ht : TInv h rest b i) {rid k : Nat}
    (hc : 0 < cnt rid (b.view.drop k)) : rid < h.size := by
  apply Classical.byContradiction
  intro hge
  have := cnt_zero_of_ge ht.wf (Nat.le_of_not_lt hge) (r := rid)
  have := cnt_drop_le rid b.view k
  omega

theorem TInv.after {h h1 : Heap} {rest : Nat → Nat} {b : Batch} {i j : Nat} {l : List Piece} (ht : TInv h rest b i)
    (hsplit : b.view.drop i = l ++ b.view.drop j) (hne : l ≠ []) (hfr : LFr l h h1)
    (hpost : LPost h1 (fun x => rest x + cnt x (b.view.drop j)) l) : TInv h1 rest b j := by
  refine ⟨ht.wf.mono_heap hfr.size, ht.ne, ht.runs, ht.nopos, Acc.right (hsplit ▸ ht.acc) hfr hpost,
    fun r hr => ht.restok r (Nat.le_trans hfr.size hr), ?_, ?_⟩
  · obtain ⟨prev, seen, hsh, hp1, hp2⟩ := ht.shape
    exact ⟨prev, seen, shape_heap _ _ _ _ _ hsh (fun r hr => hfr.orig r (ht.ids (k := 0) hr)), hp1,
      fun r hr => Nat.lt_of_lt_of_le (hp2 r hr) hfr.size⟩
  · -- a headless rest continues a run of the group, which the group's vote left open
    intro r t hst
    obtain ⟨prev, seen, hsh, _, _⟩ := ht.shape
    have hdec : b.view = b.view.take i ++ (l ++ (some r, none) :: t) := by
      conv => lhs; rw [← List.take_append_drop i b.view, hsplit, hst]
    rw [hdec, shape_append] at hsh
    have hc := shape_tail_prev _ _ _ _ _ _ hsh.2 hne
    exact (hpost r hc (by show 0 < rest r + cnt r (b.view.drop j); rw [hst, cnt_cons_some, if_pos rfl]; omega)).2

theorem sub_SInv {h : Heap} {rest : Nat → Nat} {b sb : Batch} {i j : Nat} (ht : TInv h rest b i)
    (hs : b.sub i j = .ok sb) :
    sb.view = (b.view.drop i).take (j - i) ∧
    SInv h (fun x => rest x + cnt x (b.view.drop j)) sb := by
  have hso := sub_ok_fields hs
  obtain ⟨rs, hruns⟩ := ht.runs
  have hwf' := C08_aligned_sub ht.wf hs
  have hv := Batch.view_of_runs hruns
  have hsv : sb.view = (b.view.drop i).take (j - i) := by
    unfold Batch.view
    rw [hso.runs, hso.pos, hruns]
    simp only [Option.map_some, Option.getD_some]
    rw [← drop_zip', ← take_zip', List.drop_take]
  have hdec : b.view = b.view.take i ++ (sb.view ++ b.view.drop j) := by
    conv => lhs; rw [← List.take_append_drop i b.view, drop_split b.view (i := i) (j := j) hso.le, ← hsv]
  refine ⟨hsv, hwf', ?_, ⟨_, by rw [hso.runs, hruns]; rfl⟩, ?_, ?_, ?_, ?_, ?_⟩
  · intro x hx
    rw [hso.st] at hx
    exact ht.ne x ((List.take_sublist j b.st).subset ((List.drop_sublist i _).subset hx))
  · intro x hx
    rw [hsv] at hx
    exact ht.nopos x ((List.drop_sublist i _).subset ((List.take_sublist _ _).subset hx))
  · rw [hsv]
    have := ht.acc
    rw [drop_split b.view (i := i) (j := j) hso.le] at this
    exact this.left
  · intro r hr
    show rest r + cnt r (b.view.drop j) = 0
    rw [ht.restok r hr]
    have := cnt_zero_of_ge ht.wf hr
    have := cnt_drop_le r b.view j
    omega
  · obtain ⟨prev, seen, hsh, hp1, hp2⟩ := ht.shape
    rw [hdec, shape_append] at hsh
    obtain ⟨hA, hrest⟩ := hsh
    rw [shape_append] at hrest
    refine ⟨_, _, hrest.1, lastRun_mem h _ prev seen hA hp1, ?_⟩
    intro r hr
    rcases seenAfter_mem _ seen r hr with h3 | h3
    · exact hp2 r h3
    · apply Classical.byContradiction
      intro hge
      have := cnt_zero_of_ge ht.wf (by omega : h.size ≤ r)
      rw [hdec, cnt_append] at this
      omega
  · intro r t hst
    refine ht.headless r (t ++ b.view.drop j) ?_
    rw [drop_split b.view (i := i) (j := j) hso.le, ← hsv, hst]; rfl

def SPipe (fuel : Nat) : Prop :=
  ∀ (p : Acker) (C : Contract p) (node : TaskNode) (b : Batch) (retry : Option RetryAttempt) (skipDo : Bool)
    (s s' : PS) (r : Except Stop Unit) (rest : Nat → Nat), C.Valid s → SInv s.heap rest b →
    exec (doTaskAttempt fuel node b (.run p) retry skipDo) s = (r, s') → VRes C rest b.view s s' r

def SNext (fuel : Nat) : Prop :=
  ∀ (p : Acker) (C : Contract p) (node : TaskNode) (b : Batch) (s s' : PS) (r : Except Stop Unit)
    (rest : Nat → Nat), node.next ≠ [] → C.Valid s → SInv s.heap rest b →
    exec (doNextTask fuel node b (.run p)) s = (r, s') → VRes C rest b.view s s' r

def STaint (fuel : Nat) : Prop :=
  ∀ (p : Acker) (C : Contract p) (node : TaskNode) (b : Batch) (retry : Option RetryAttempt) (i : Nat)
    (s s' : PS) (r : Except Stop Unit) (rest : Nat → Nat), C.Valid s → TInv s.heap rest b i →
    exec (taintedLoop fuel node b (.run p) retry i) s = (r, s') → VRes C rest (b.view.drop i) s s' r

def SFan (fuel : Nat) : Prop :=
  ∀ (p : Acker) (C : Contract p) (node : TaskNode) (b : Batch) (s s' : PS) (r : Except Stop Unit)
    (rest : Nat → Nat) (ma : MA) (order : List Nat) (restO : List (List Nat)), 2 ≤ node.next.length → C.Valid s →
    SInv s.heap rest b → runsWhole s.heap b = true → cntValid node.next.length order = node.next.length →
    maNew node.next.length b.original.pos = .ok ma →
    exec (branches fuel node.next order b (.multi s.mas.size (.run p)) none none)
      { s with mas := s.mas.push ma, orders := restO } = (r, s') → VRes C rest b.view s s' r

theorem ackOrNext_vres {fuel : Nat} (hN : SNext fuel) {p : Acker} (C : Contract p) {node : TaskNode} {b : Batch}
    {s s' : PS} {r : Except Stop Unit} {rest : Nat → Nat} (hv : C.Valid s) (hi : SInv s.heap rest b)
    (h : exec (ackOrNext fuel node (.run p) b) s = (r, s')) : VRes C rest b.view s s' r := by
  unfold ackOrNext at h
  split at h
  · exact run_call_spec C b true 0 (fun h => nomatch h) rest fuel s s' r hv hi h
  · rename_i hc
    exact hN p C node b s s' r rest (fun he => hc (by rw [he]; rfl)) hv hi h

theorem sdta_step (fuel : Nat) (hN : SNext fuel) (hT : STaint fuel) : SPipe (fuel+1) := by
  intro p C node b retry skipDo s s' r rest hv hi h
  rcases doTaskAttempt_step h with ⟨_, e, ht, e', rfl⟩ | ⟨b1, s1, X, hpre, hX, h⟩
  · obtain ⟨hq, b', hs, _⟩ := taskDo_sspec node b s s' _ rest hi ht
    exact (VRes.stay (C.quiet_valid hv hq)).pre_task hv hq hs
  · have key : SInv s1.heap rest b1 → C.Valid s1 → VRes C rest b1.view s1 s' r := by
      intro hi1 hv1
      cases hX with
      | clean _ => exact ackOrNext_vres hN C hv1 hi1 h
      | taint _ => simpa using hT p C node b1 retry 0 s1 s' r rest hv1 hi1.tinv h
    rcases hpre with ⟨_, rfl, rfl⟩ | ⟨_, ht⟩
    · exact key hi hv
    · have ht' := taskDo_sspec node b s s1 _ rest hi ht
      exact (key (ht'.ok rfl).inv (C.quiet_valid hv ht'.1)).pre_task hv ht'.1 (ht'.ok rfl)

theorem SInv.reflag {h : Heap} {rest : Nat → Nat} {sb sb' : Batch} (hsi : SInv h rest sb)
    (hsf : sb.setFlagRange .ack 0 sb.recs.length = .ok sb') :
    SInv h rest { sb' with tainted := false } ∧ ({ sb' with tainted := false } : Batch).view = sb.view := by
  obtain ⟨hfr, _⟩ := setFlagRange_fr hsi.wf (by decide) (by decide) hsf
  have hwf' := C08_aligned_setFlagRange hsi.wf (by decide) hsf
  have hstep := SRel.of_fr hfr hwf' _ hsi
  have hview' : ({ sb' with tainted := false } : Batch).view = sb.view := by
    unfold Batch.view; rw [show ({ sb' with tainted := false } : Batch).runs = sb'.runs from rfl,
      show ({ sb' with tainted := false } : Batch).pos = sb'.pos from rfl, hfr.runs, hfr.pos]
  exact ⟨⟨⟨⟨hwf'.1.st_len, hwf'.1.pos_len, hwf'.1.runs_ok, hwf'.1.split_keys⟩, hwf'.2⟩, hstep.inv.ne, hstep.inv.runs,
    by rw [hview']; exact hsi.nopos, by rw [hview']; exact hsi.acc, hsi.restok,
    by rw [hview']; exact hsi.shape, by rw [hview']; exact hsi.headless⟩, hview'⟩

theorem staint_step (fuel : Nat) (hP : SPipe fuel) (hN : SNext fuel) (hT : STaint fuel) :
    STaint (fuel+1) := by
  intro p C node b retry i s s' r rest hv ht h
  obtain ⟨rs, hruns⟩ := ht.runs
  have hro := ht.wf.1.runs_ok
  rw [hruns] at hro
  have hvl : b.view.length = b.st.length := by
    unfold Batch.view; rw [hruns]; simp [hro.1, ht.wf.1.pos_len, ht.wf.1.st_len]
  rcases taintedLoop_step h with ⟨hi, rfl, rfl⟩ | ⟨hlt, ⟨e, rfl, rfl⟩ | ⟨sb, s0, X, hs, h00, hX, h⟩⟩
  · have : b.view.drop i = [] := List.drop_of_length_le (by omega)
    rw [this]
    exact VRes.nil_ok hv
  · exact VRes.stay hv
  · have hg1 := groupEnd_gt b.st i hlt
    have hg2 := groupEnd_le b.st i (by omega)
    obtain ⟨hsv, hsi⟩ := sub_SInv ht hs
    have hsplit := drop_split b.view (i := i) (j := groupEnd b.st i) (by omega)
    rw [← hsv] at hsplit
    have hl : ∀ rid : Nat, 0 < cnt rid (sb.view ++ b.view.drop (groupEnd b.st i)) → rid < s.heap.size := by
      intro rid hr; rw [← hsplit] at hr; exact (ht.acc rid hr).1
    rw [hsplit]
    have hK : ∀ s1 r2 s2, VRes C (fun x => rest x + cnt x (b.view.drop (groupEnd b.st i))) sb.view s s1 (.ok ()) →
        exec (taintedLoop fuel node b (.run p) retry (groupEnd b.st i)) s1 = (r2, s2) →
        VRes C rest (b.view.drop (groupEnd b.st i)) s1 s2 r2 := by
      intro s1 r2 s2 hv1 hx
      have hvalid1 := hv1.res.valid hv
      have hsbne : sb.view ≠ [] := by
        intro he
        have : sb.view.length = groupEnd b.st i - i := by
          rw [hsv, List.length_take, List.length_drop, hvl]; omega
        rw [he] at this; simp at this; omega
      exact hT p C node b retry _ s1 s2 r2 rest hvalid1
        (ht.after hsplit hsbne hv1.fr (hv1.post rfl)) hx
    refine vres_bind (fun r1 s1 hx => ?_) hK hl h
    cases hX with
    | keep _ => exact ackOrNext_vres hN C hv hsi hx
    | nack hall =>
      exact run_call_spec C sb false node.id (fun _ x hx => hsi.ne x hx (hall x hx)) _ fuel s s1 r1 hv hsi hx
    | retry _ sb' nx hsf =>
      obtain ⟨hbi, hview'⟩ := hsi.reflag hsf
      have := hP p C node { sb' with tainted := false } (some nx) false s s1 r1 _ hv hbi hx
      rw [hview'] at this
      exact this

theorem snext_step (fuel : Nat) (hP : SPipe fuel) (hfan : SFan fuel) : SNext (fuel+1) := by
  intro p C node b s s' r rest hne hv hi h
  rcases doNextTask_step h with ⟨he, _⟩ | ⟨n, _, h⟩ | ⟨h2, ⟨e, rfl, rfl⟩ | ⟨hw, ma, o, restO, hma, h⟩⟩
  · exact absurd he hne
  · exact hP p C n b none false s s' r rest hv hi h
  · exact VRes.stay hv
  · exact hfan p C node b s s' r rest ma _ restO h2 hv hi hw (order_valid _ _) hma h

theorem spipe_all (hfan : ∀ fuel, (∀ f, f ≤ fuel → SPipe f) → SFan fuel) :
    ∀ fuel f, f ≤ fuel → SPipe f ∧ STaint f ∧ SNext f := by
  refine fuel_rec ⟨?_, ?_, ?_⟩ sdta_step staint_step (fun n hp => snext_step n (hp n (Nat.le_refl _)) (hfan n hp))
  · intro p C node b retry skipDo s s' r rest hv _ h
    rw [doTaskAttempt_zero] at h; cases h; exact VRes.stay hv
  · intro p C node b retry i s s' r rest hv _ h
    rw [taintedLoop_zero] at h; cases h; exact VRes.stay hv
  · intro p C node b s s' r rest _ hv _ h
    rw [doNextTask_zero] at h; cases h; exact VRes.stay hv

theorem new_view (recs : List Rec) : (Batch.new recs).view = recs.map (fun r => ((none, r.pos) : Piece)) := by
  unfold Batch.view Batch.new
  simp only [Option.getD_some]
  induction recs with
  | nil => rfl
  | cons x t ih => simp [ih]

theorem new_SInv (h : Heap) (recs : List Rec) (hpos : ∀ r ∈ recs, r.pos ≠ none) :
    SInv h (fun _ => 0) (Batch.new recs) := by
  have hv := new_view recs
  have hnone : ∀ x ∈ (Batch.new recs).view, x.1 = none := by
    intro x hx; rw [hv, List.mem_map] at hx; obtain ⟨_, _, rfl⟩ := hx; rfl
  refine ⟨new_WF h recs, (new_BInv recs).ne, ⟨_, rfl⟩, ?_, ?_, fun _ _ => rfl, ⟨none, [], ?_, (fun _ h => nomatch h),
    (fun _ h => nomatch h)⟩, ?_⟩
  · intro x hx _
    rw [hv, List.mem_map] at hx
    obtain ⟨r, hr, rfl⟩ := hx
    exact hpos r hr
  · intro r hr
    rw [cnt_norun r _ hnone] at hr; omega
  · rw [hv]
    clear hv hnone -- they mention `recs` and would become premises of `ih`
    induction recs with
    | nil => trivial
    | cons x t ih =>
      exact ⟨hpos x List.mem_cons_self, ih (fun r hr => hpos r (List.mem_cons_of_mem _ hr))⟩
  · intro r t ht
    have := hnone _ (by rw [ht]; exact List.mem_cons_self)
    cases this

theorem new_fk (h : Heap) (rest : Nat → Nat) (recs : List Rec) :
    fk h rest (Batch.new recs).view = recs.map (fun r => keyOf r.pos) := by
  have hv := new_view recs
  have hnone : ∀ x ∈ (Batch.new recs).view, x.1 = none := by
    intro x hx; rw [hv, List.mem_map] at hx; obtain ⟨_, _, rfl⟩ := hx; rfl
  have := fk_norun h rest _ hnone []
  simp only [List.append_nil, fk] at this
  rw [this, hv, List.map_map]; rfl

end Conduit.Funnel
