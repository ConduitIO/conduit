import ConduitModel.Proofs.PassPipe

/-!
# The fan-out arbiter `multiAckNacker` against the contract of its parent

Given the contract `C` of a handler chain `a` and a tally `id` that `a` does not use, the arbiter
`.multi id a` has a contract again (`mContract`; by `runContract` so has `.run (.multi id a)`, what
every fan-out branch votes through): whatever is voted, the tally hands the parent exactly the next positions `released, released+1, …`
in order (`MSafe`); and when a branch's call returns without error the vote is counted once per
position and the release loop ran to its fixpoint (`MDone`).
-/
namespace Conduit.Funnel

section
variable {a : Acker} (C : Contract a)

/-- the parent was successfully given the keys `ks`, in order, possibly interleaved with failed
all-or-nothing calls and quiet steps. -/
inductive Run : List Nat → PS → PS → Prop
  | nil (s : PS) : Run [] s s
  | done {k1 k2 : List Nat} {s s1 s2 : PS} : C.Done k1 s s1 → Run k2 s1 s2 → Run (k1 ++ k2) s s2
  | stutter {k : List Nat} {s s1 s2 : PS} : C.Stutter s s1 → Run k s1 s2 → Run k s s2

variable {C}

theorem Run.trans {k1 k2 : List Nat} {s s1 s2 : PS} (h1 : Run C k1 s s1) (h2 : Run C k2 s1 s2) :
    Run C (k1 ++ k2) s s2 := by
  induction h1 with
  | nil s => simpa using h2
  | done hd _ ih => rw [List.append_assoc]; exact Run.done hd (ih h2)
  | stutter hs _ ih => exact Run.stutter hs (ih h2)

theorem Run.of_done {k : List Nat} {s s' : PS} (h : C.Done k s s') : Run C k s s' := by
  have := Run.done h (Run.nil s'); simpa using this

theorem Run.of_stutter {s s' : PS} (h : C.Stutter s s') : Run C [] s s' := Run.stutter h (Run.nil s')

theorem Run.partial {k : List Nat} {s s' : PS} (h : Run C k s s') (hv : C.Valid s) :
    C.Partial k s s' ∧ C.Valid s' := by
  induction h with
  | nil s => exact ⟨C.done_partial (C.done_refl hv), hv⟩
  | done hd _ ih =>
    have hv1 := C.partial_valid hv (C.done_partial hd)
    exact ⟨C.done_partial_trans hd (ih hv1).1, (ih hv1).2⟩
  | stutter hs _ ih =>
    have hv1 := C.stutter_valid hv hs
    exact ⟨C.stutter_partial hs (ih hv1).1, (ih hv1).2⟩

theorem Run.ns {k : List Nat} {s s' : PS} (h : Run C k s s') (hn : NS s.scripts) : NS s'.scripts := by
  induction h with
  | nil s => exact hn
  | done hd _ ih => exact ih (C.partial_ns (C.done_partial hd) hn)
  | stutter hs _ ih => exact ih (C.stutter_ns hs hn)

end

/-- what the engine keeps true of a `multiAckNacker`. -/
structure MOK (m : MA) : Prop where
  wf : m.WF
  rec_len : m.record.length = m.positions.length
  nerr_len : m.nackErr.length = m.positions.length
  rel_le : m.released ≤ m.positions.length
  votes_lt : ∀ i : Nat, i < m.positions.length → m.term i = false → m.votes i < m.branches
  nack_err : ∀ i : Nat, i < m.positions.length → m.term i = true → m.ack i = false →
    ((m.nackErr[i]?).join).isSome = true
  nodup : (keys m.positions).Nodup

def kAt (m : MA) (i : Nat) : Nat := keyOf ((m.positions[i]?).join)

/-- vote accounting between two states of a tally, for the votes on the keys `ks` -/
def VA (m m' : MA) (ks : List Nat) : Prop :=
  ∀ i : Nat, i < m.positions.length →
    (m.term i = true → m'.term i = true) ∧ (m'.term i = true ∨ m'.votes i = m.votes i + ks.count (kAt m i))

/-- the release loop is at its fixpoint -/
def MStable (m : MA) : Prop := m.released < m.positions.length → m.term m.released = false

theorem VA.refl (m : MA) : VA m m [] := fun _ _ => ⟨id, Or.inr (by simp)⟩

theorem VA.trans {m m1 m2 : MA} {k1 k2 : List Nat} (hp : m1.positions = m.positions) (h1 : VA m m1 k1)
    (h2 : VA m1 m2 k2) : VA m m2 (k1 ++ k2) := by
  intro i hi
  obtain ⟨a1, a2⟩ := h1 i hi
  obtain ⟨b1, b2⟩ := h2 i (by rw [hp]; exact hi)
  refine ⟨fun h => b1 (a1 h), ?_⟩
  rcases b2 with h | h
  · exact Or.inl h
  · rcases a2 with g | g
    · exact Or.inl (b1 g)
    · right
      have : kAt m1 i = kAt m i := by unfold kAt; rw [hp]
      rw [h, g, this, List.count_append]; omega

theorem slice_append {α} (l : List α) {r r1 r2 : Nat} (h1 : r ≤ r1) (h2 : r1 ≤ r2) :
    (l.take r1).drop r ++ (l.take r2).drop r1 = (l.take r2).drop r := by
  have e : l.take r1 = (l.take r2).take r1 := by rw [List.take_take, Nat.min_eq_left h2]
  rw [e, List.drop_take]
  exact (drop_split _ h1).symm

theorem slice_self {α} (l : List α) (r : Nat) : (l.take r).drop r = [] := by
  apply List.eq_nil_of_length_eq_zero; simp

theorem Quiet.mono {top top' : Nat} {s s' : PS} (h : Quiet top s s') (hle : top' ≤ top) : Quiet top' s s' :=
  ⟨h.acked, h.size, fun i hi => h.mas i (by omega), h.ns⟩

section
variable {a : Acker} (C : Contract a) (id : Nat)

def MValid (s : PS) : Prop := C.Valid s ∧ id < s.mas.size ∧ MOK (s.mas[id]!)

/-- whatever happened between `s` and `s'`, the tally handed the parent exactly its next
positions, in order. -/
structure MSafe (s s' : PS) : Prop where
  size : s.mas.size ≤ s'.mas.size
  pos : (s'.mas[id]!).positions = (s.mas[id]!).positions
  br : (s'.mas[id]!).branches = (s.mas[id]!).branches
  rel : (s.mas[id]!).released ≤ (s'.mas[id]!).released
  run : Run C (keys (((s.mas[id]!).positions.take (s'.mas[id]!).released).drop (s.mas[id]!).released)) s s'
  ok : MValid C id s → MValid C id s'

/-- between `s` and `s'` the tally was successfully given one vote for every key of `ks`, every
parent call succeeded and the release loop ended at its fixpoint. -/
structure MDone (ks : List Nat) (s s' : PS) : Prop where
  safe : MSafe C id s s'
  va : VA (s.mas[id]!) (s'.mas[id]!) ks
  stable : MStable (s.mas[id]!) → MStable (s'.mas[id]!)
  done : C.Done (keys (((s.mas[id]!).positions.take (s'.mas[id]!).released).drop (s.mas[id]!).released)) s s'

variable {C id}

theorem MSafe.refl (s : PS) : MSafe C id s s :=
  ⟨Nat.le_refl _, rfl, rfl, Nat.le_refl _, by rw [slice_self]; exact Run.nil s, fun h => h⟩

theorem MSafe.trans {s s1 s2 : PS} (h1 : MSafe C id s s1) (h2 : MSafe C id s1 s2) : MSafe C id s s2 := by
  refine ⟨Nat.le_trans h1.size h2.size, h2.pos.trans h1.pos, h2.br.trans h1.br, Nat.le_trans h1.rel h2.rel, ?_,
    fun h => h2.ok (h1.ok h)⟩
  have := Run.trans h1.run h2.run
  rw [h1.pos, keys, keys, ← List.map_append, slice_append _ h1.rel h2.rel] at this
  exact this

theorem MSafe.ns {s s' : PS} (h : MSafe C id s s') (hn : NS s.scripts) : NS s'.scripts := h.run.ns hn

theorem MDone.trans {k1 k2 : List Nat} {s s1 s2 : PS} (h1 : MDone C id k1 s s1) (h2 : MDone C id k2 s1 s2) :
    MDone C id (k1 ++ k2) s s2 := by
  refine ⟨h1.safe.trans h2.safe, VA.trans h1.safe.pos h1.va h2.va, fun h => h2.stable (h1.stable h), ?_⟩
  have := C.done_done h1.done h2.done
  rw [h1.safe.pos, keys, keys, ← List.map_append, slice_append _ h1.safe.rel h2.safe.rel] at this
  exact this

theorem MDone.of_quiet {s s' : PS} (hv : MValid C id s) (hle : C.top ≤ id) (hq : Quiet (id+1) s s') :
    MDone C id [] s s' := by
  have hm : s'.mas[id]! = s.mas[id]! := hq.mas id (Nat.lt_succ_self _)
  have hqc : Quiet C.top s s' := hq.mono (by omega)
  have hd : C.Done [] s s' := C.quiet_done hv.1 hqc
  refine ⟨⟨hq.size, by rw [hm], by rw [hm], by rw [hm]; exact Nat.le_refl _, ?_, ?_⟩, ?_, ?_, ?_⟩
  · rw [hm, slice_self]; exact Run.of_done hd
  · intro _
    exact ⟨C.partial_valid hv.1 (C.done_partial hd), Nat.lt_of_lt_of_le hv.2.1 hq.size, by rw [hm]; exact hv.2.2⟩
  · rw [hm]; exact VA.refl _
  · rw [hm]; exact fun h => h
  · rw [hm, slice_self]; exact hd

end

theorem maVote1_MOK (m : MA) (a : Bool) (t : Nat) (it : VItem) (hm : MOK m)
    (herr : a = false → it.err.isSome = true) : MOK (maVote1 m a t it) := by
  obtain ⟨f1, f2, f3⟩ := maVote1_frame m a t it
  obtain ⟨l1, l2⟩ := maVote1_len m a t it
  refine ⟨maVote1_wf m a t it hm.wf, by rw [l1, f2]; exact hm.rec_len, by rw [l2, f2]; exact hm.nerr_len,
    by rw [f1, f2]; exact hm.rel_le, ?_, ?_, by rw [f2]; exact hm.nodup⟩
  · intro i hi ht'
    rw [f2] at hi
    have ht : ((maVote1 m a t it).slot i).term = false := ht'
    show ((maVote1 m a t it).slot i).votes < _
    rw [f3]
    rw [maVote1_slot m a t it hm.wf i hi] at ht ⊢
    split at ht
    · rw [if_pos ‹_›]; exact Slot.vote_lt (hm.votes_lt i hi) ht
    · rw [if_neg ‹_›]; exact hm.votes_lt i hi ht
  · intro i hi ht' ha'
    rw [f2] at hi
    have ht : ((maVote1 m a t it).slot i).term = true := ht'
    have ha : ((maVote1 m a t it).slot i).ack = false := ha'
    rw [maVote1_nackErr m a t it i (by rw [hm.nerr_len]; exact hi)]
    rw [maVote1_slot m a t it hm.wf i hi] at ht ha
    split at ht
    · rename_i hx
      rw [if_pos hx] at ha
      rcases Slot.vote_nacked ht ha with ⟨g1, g2⟩ | ⟨g1, g2⟩
      · rw [if_neg (fun hc => Bool.noConfusion (g1.symm.trans (hc.2.1 : (m.slot i).term = false)))]
        exact hm.nack_err i hi g1 g2
      · rw [if_pos ⟨hx, g1, g2⟩]; exact herr g2
    · rename_i hx
      rw [if_neg hx] at ha
      rw [if_neg (fun hc => hx hc.1)]
      exact hm.nack_err i hi ht ha

theorem kAt_eq (m : MA) (i : Nat) (hi : i < m.positions.length) :
    kAt m i = (keys m.positions)[i]'(by simpa using hi) := by
  unfold kAt
  simp [List.getElem?_eq_getElem hi]

theorem kAt_inj (m : MA) (hm : MOK m) (i j : Nat) (hi : i < m.positions.length) (hj : j < m.positions.length)
    (h : kAt m i = kAt m j) : i = j := by
  rw [kAt_eq m i hi, kAt_eq m j hj] at h
  exact (List.getElem_inj hm.nodup).mp h

theorem maVote1_VA (m : MA) (a : Bool) (t : Nat) (it : VItem) (hm : MOK m) (hx : it.ix < m.positions.length) :
    VA m (maVote1 m a t it) [kAt m it.ix] := by
  intro i hi
  show (m.term i = true → ((maVote1 m a t it).slot i).term = true) ∧
    (((maVote1 m a t it).slot i).term = true ∨ ((maVote1 m a t it).slot i).votes = _)
  rw [maVote1_slot m a t it hm.wf i hi]
  by_cases he : it.ix = i
  · subst he
    rw [if_pos rfl, List.count_cons_self, List.count_nil, Nat.zero_add]
    exact Slot.vote_va (m.slot it.ix) a
  · rw [if_neg he, List.count_cons_of_ne (fun h => he (kAt_inj m hm _ _ hx hi h)), List.count_nil]
    exact ⟨id, Or.inr rfl⟩

theorem maIndexOf_some {m : MA} {p : PosV} {ix : Nat} (h : maIndexOf m p = some ix) :
    ix < m.positions.length ∧ kAt m ix = keyOf p := by
  unfold maIndexOf at h
  have h1 := List.mem_of_find?_eq_some h
  have h2 := List.find?_some h
  rw [List.mem_range] at h1
  refine ⟨h1, ?_⟩
  unfold kAt
  simp [List.getElem?_eq_getElem h1] at h2 ⊢
  exact h2

def VGood (m m' : MA) : Prop :=
  MOK m' ∧ m'.positions = m.positions ∧ m'.branches = m.branches ∧ m'.released = m.released

/-- the votes of one call, as `voteBody_forIn` reads them off the batch: the tally stays good, and if every entry was
resolved it was given one vote per listed position -/
theorem scan_spec (ob : Batch) (isAck : Bool) (task : Nat) (hst : ob.pos.length ≤ ob.st.length)
    (hne : isAck = false → NackOK ob) : ∀ (l : List Nat) (m : MA), MOK m → (∀ i ∈ l, i < ob.pos.length) →
    VGood m (maVote m isAck task (scanItems m ob l)) ∧
    ((scanItems m ob l).length = l.length →
      VA m (maVote m isAck task (scanItems m ob l)) (l.map fun i => keyOf (ob.pos[i]?).join)) := by
  intro l
  induction l with
  | nil => intro m hm _; exact ⟨⟨hm, rfl, rfl, rfl⟩, fun _ => VA.refl _⟩
  | cons i l ih =>
    intro m hm hl
    have hi := hl i List.mem_cons_self
    unfold scanItems
    cases hit : itemAt m ob i with
    | none => exact ⟨⟨hm, rfl, rfl, rfl⟩, fun h => nomatch h⟩
    | some it =>
      obtain ⟨hix, _, e2⟩ := itemAt_some hit
      obtain ⟨hlt, hk⟩ := maIndexOf_some hix
      have herr : isAck = false → it.err.isSome = true := by
        intro ha
        rw [e2, List.getElem?_eq_getElem (by omega : i < ob.st.length)]
        exact hne ha _ (List.getElem_mem _)
      have hm1 := maVote1_MOK m isAck task it hm herr
      obtain ⟨f1, f2, f3⟩ := maVote1_frame m isAck task it
      have hva := maVote1_VA m isAck task it hm hlt
      rw [hk] at hva
      obtain ⟨⟨k1, k2, k3, k4⟩, g2⟩ := ih (maVote1 m isAck task it) hm1 (fun j hj => hl j (List.mem_cons_of_mem _ hj))
      rw [scanItems_positions m _ f2] at k1 k2 k3 k4 g2
      dsimp only
      rw [maVote_cons]
      refine ⟨⟨k1, k2.trans f2, k3.trans f3, k4.trans f1⟩, fun hlen => ?_⟩
      have := VA.trans f2 hva (g2 (by simpa using hlen))
      simpa using this

/-- the vote loop of `multiAckNacker.Ack/Nack`: if it completes, the state is untouched and the tally
was given one vote per listed position; if it fails on a position that is not part of the fan-out
batch, the votes recorded so far are written back to tally `id` (nothing else changes). -/
theorem voteLoop_spec (id : Nat) (ob : Batch) (isAck : Bool) (task : Nat) (hr : ob.pos.length ≤ ob.recs.length)
    (hst : ob.pos.length ≤ ob.st.length) (hne : isAck = false → NackOK ob) (s : PS) :
    ∀ (l : List Nat) (m : MA), MOK m → (∀ i ∈ l, i < ob.pos.length) →
    ∀ (r : Except Stop MA) (s1 : PS), exec (forIn l m (voteBody id ob isAck task)) s = (r, s1) →
      (s1 = s ∨ ((∃ e, r = .error e) ∧ ∃ m', s1 = { s with mas := s.mas.set! id m' } ∧ VGood m m')) ∧
      ∀ m', r = .ok m' → s1 = s ∧ MOK m' ∧ m'.positions = m.positions ∧ m'.branches = m.branches ∧
        m'.released = m.released ∧ VA m m' (l.map fun i => keyOf (ob.pos[i]?).join) := by
  intro l m hm hl r s1 h
  obtain ⟨hg, hva⟩ := scan_spec ob isAck task hst hne l m hm hl
  rw [voteBody_forIn id ob isAck task s l m fun i hi => ⟨Nat.lt_of_lt_of_le (hl i hi) hr, Nat.lt_of_lt_of_le (hl i hi) hst⟩] at h
  split at h <;> cases h
  · exact ⟨Or.inl rfl, fun m' e => by cases e; exact ⟨rfl, hg.1, hg.2.1, hg.2.2.1, hg.2.2.2, hva ‹_›⟩⟩
  · exact ⟨Or.inr ⟨⟨_, rfl⟩, _, rfl, hg⟩, fun m' e => nomatch e⟩

theorem MOK.withReleased {m : MA} (hm : MOK m) (k : Nat) (hk : k ≤ m.positions.length) :
    MOK { m with released := k } :=
  ⟨⟨hm.wf.votes_len, hm.wf.term_len, hm.wf.ack_len⟩, hm.rec_len, hm.nerr_len, hk, hm.votes_lt, hm.nack_err, hm.nodup⟩

theorem slice_one {α} (l : List α) (i : Nat) (hi : i < l.length) : (l.take (i+1)).drop i = [l[i]] := by
  apply List.ext_getElem?
  intro n
  simp only [List.getElem?_drop, List.getElem?_take]
  cases n with
  | zero => simp [hi]
  | succ n => simp

section
variable {a : Acker} (C : Contract a) (id : Nat)

structure RelOut (s s' : PS) (r : Except Stop Unit) : Prop where
  safe : MSafe C id s s'
  same : s'.mas[id]! = { (s.mas[id]!) with released := (s'.mas[id]!).released }
  size : s'.mas.size = s.mas.size
  frame : ∀ i : Nat, id + 1 ≤ i → s'.mas[i]! = s.mas[i]!
  heap : s'.heap = s.heap
  ok : r = .ok () → MStable (s'.mas[id]!) ∧
    C.Done (keys (((s.mas[id]!).positions.take (s'.mas[id]!).released).drop (s.mas[id]!).released)) s s'

variable {C id}

theorem RelOut.refl_err (s : PS) (e : Stop) : RelOut C id s s (.error e) :=
  ⟨MSafe.refl s, rfl, rfl, fun _ _ => rfl, rfl, fun h => nomatch h⟩

theorem RelOut.refl_ok (s : PS) (hv : MValid C id s) (hs : MStable (s.mas[id]!)) : RelOut C id s s (.ok ()) :=
  ⟨MSafe.refl s, rfl, rfl, fun _ _ => rfl, rfl, fun _ => ⟨hs, by rw [slice_self]; exact C.done_refl hv.1⟩⟩

theorem tally_quiet {top id : Nat} (hle : top ≤ id) (s : PS) (x : MA) :
    Quiet top s { s with mas := s.mas.set! id x } :=
  ⟨rfl, by simp [Array.set!], fun i hi => (set!_other s.mas id i x (by omega)).2, fun h => h⟩

theorem MSafe.of_done {s s2 : PS} (hv : MValid C id s) (hsz : s.mas.size ≤ s2.mas.size) (hmok : MOK (s2.mas[id]!))
    (hpos : (s2.mas[id]!).positions = (s.mas[id]!).positions) (hbr : (s2.mas[id]!).branches = (s.mas[id]!).branches)
    (hrel : (s.mas[id]!).released ≤ (s2.mas[id]!).released)
    (hd : C.Done (keys (((s.mas[id]!).positions.take (s2.mas[id]!).released).drop (s.mas[id]!).released)) s s2) :
    MSafe C id s s2 ∧ MValid C id s2 :=
  have hv2 : MValid C id s2 := ⟨C.partial_valid hv.1 (C.done_partial hd), Nat.lt_of_lt_of_le hv.2.1 hsz, hmok⟩
  ⟨⟨hsz, hpos, hbr, hrel, Run.of_done hd, fun _ => hv2⟩, hv2⟩

theorem release_chunk (hle : C.top ≤ id) (fuel : Nat) (s s' : PS) (r : Except Stop Unit) (hv : MValid C id s)
    (b : Batch) (isAck : Bool) (task to : Nat) (hb : BOK b) (hn : isAck = false → NackOK b)
    (hat : isAck = true ∨ b.recs.length ≤ 1)
    (hto1 : (s.mas[id]!).released ≤ to) (hto2 : to ≤ (s.mas[id]!).positions.length)
    (hkeys : keys b.pos = keys (((s.mas[id]!).positions.take to).drop (s.mas[id]!).released))
    (ih : ∀ (s : PS) (r : Except Stop Unit) (s' : PS), MValid C id s → exec (releaseLoop fuel id a) s = (r, s') →
      RelOut C id s s' r)
    (h : exec (do
        ackerCall fuel a b isAck task
        modify fun s => { s with mas := s.mas.set! id { (s.mas[id]!) with released := to } }
        releaseLoop fuel id a) s = (r, s')) : RelOut C id s s' r := by
  rw [exec_bind] at h
  rcases hc : exec (ackerCall fuel a b isAck task) s with ⟨r1, s1⟩
  rw [hc] at h
  obtain ⟨p1, p2, p3, p4, p5, p6⟩ := C.call fuel b isAck task s r1 s1 hv.1 hb hn hc
  have hm1 : s1.mas[id]! = s.mas[id]! := p5 id hle
  have hv1 : C.Valid s1 := C.partial_valid hv.1 p1
  cases r1 with
  | error e =>
    dsimp only at h
    cases h
    refine ⟨⟨by rw [p4]; exact Nat.le_refl _, by rw [hm1], by rw [hm1], by rw [hm1]; exact Nat.le_refl _, ?_, ?_⟩,
      by rw [hm1], p4, fun i hi => p5 i (by omega), p6, fun h => nomatch h⟩
    · rw [hm1, slice_self]
      exact Run.of_stutter (p3 hat (fun h => nomatch h))
    · intro _; exact ⟨hv1, by rw [p4]; exact hv.2.1, by rw [hm1]; exact hv.2.2⟩
  | ok u =>
    dsimp only at h
    rw [exec_bind, exec_modify] at h
    dsimp only at h
    have hid1 : id < s1.mas.size := by rw [p4]; exact hv.2.1
    have hd12 := C.quiet_done hv1 (tally_quiet hle s1 { (s1.mas[id]!) with released := to })
    generalize hs2 : ({ s1 with mas := s1.mas.set! id { (s1.mas[id]!) with released := to } } : PS) = s2 at h hd12
    have hm2 : s2.mas[id]! = { (s.mas[id]!) with released := to } := by
      rw [← hs2]; show (s1.mas.set! id _)[id]! = _; rw [set!_get _ _ _ hid1, hm1]
    have hsz2 : s2.mas.size = s1.mas.size := by rw [← hs2]; simp [Array.set!]
    have hoth : ∀ i : Nat, i ≠ id → s2.mas[i]! = s1.mas[i]! := by
      intro i hi; rw [← hs2]; exact (set!_other s1.mas id i _ (Ne.symm hi)).2
    have hdone : C.Done (keys b.pos) s s2 := by
      have := C.done_done (p2 rfl) hd12; simpa using this
    obtain ⟨hsafe, hv2⟩ := MSafe.of_done hv (by rw [hsz2, p4]; exact Nat.le_refl _)
      (by rw [hm2]; exact hv.2.2.withReleased to hto2) (by rw [hm2]) (by rw [hm2]) (by rw [hm2]; exact hto1)
      (by rw [hm2]; dsimp only; rw [← hkeys]; exact hdone)
    obtain ⟨q1, q2, q3, q4, q6, q5⟩ := ih s2 r s' hv2 h
    have hh2 : s2.heap = s1.heap := by rw [← hs2]
    refine ⟨hsafe.trans q1, ?_, by rw [q3, hsz2, p4], fun i hi => ?_, by rw [q6, hh2, p6], fun hr => ?_⟩
    · rw [q2, hm2]
    · rw [q4 i hi, hoth i (by omega), p5 i (by omega)]
    · obtain ⟨g1, g2⟩ := q5 hr
      refine ⟨g1, ?_⟩
      rw [hm2] at g2
      dsimp only at g2
      have := C.done_done hdone g2
      rw [hkeys, keys, keys, ← List.map_append, slice_append _ hto1 (by have := q1.rel; rw [hm2] at this; exact this)] at this
      exact this

theorem maAckBatch_BOK (m : MA) (hm : MOK m) (f t : Nat) (hft : f ≤ t) (ht : t ≤ m.positions.length) :
    BOK (maAckBatch m f t) := by
  refine ⟨Or.inl rfl, (fun rs h => nomatch h), ?_, ?_⟩ <;>
    simp only [maAckBatch, List.length_replicate, List.length_drop, List.length_take, hm.rec_len, Nat.min_eq_left ht]

/-- the parent call at a terminal, unreleased slot, as the parent's contract sees it -/
theorem batchOf_next {m : MA} (hm : MOK m) (h : m.released < m.positions.length) (ht : m.term m.released = true) :
    BOK (batchOf m (maNext m)).1 ∧ ((batchOf m (maNext m)).2.1 = false → NackOK (batchOf m (maNext m)).1) ∧
    ((batchOf m (maNext m)).2.1 = true ∨ (batchOf m (maNext m)).1.recs.length ≤ 1) ∧
    keys (batchOf m (maNext m)).1.pos = keys ((m.positions.take (maNext m).next).drop m.released) := by
  cases ha : m.ack m.released with
  | true =>
    obtain ⟨_, _, hle, _⟩ := maAckRun_spec m m.released h ht ha
    rw [maNext_ack ha]
    exact ⟨maAckBatch_BOK m hm _ _ (Nat.le_add_right _ _) hle, (fun hf => nomatch hf), Or.inl rfl, rfl⟩
  | false =>
    rw [maNext_nack ha]
    refine ⟨⟨Or.inl rfl, (fun rs h => nomatch h), rfl, rfl⟩, fun _ st hst => ?_, Or.inr (Nat.le_refl 1), ?_⟩
    · simp only [batchOf, maNackBatch, List.mem_singleton] at hst
      subst hst
      exact hm.nack_err m.released h ht ha
    · simp [Released.next, slice_one _ _ h, batchOf, maNackBatch, keys, List.getElem?_eq_getElem h]

theorem release_spec (hle : C.top ≤ id) : ∀ (fuel : Nat) (s : PS) (r : Except Stop Unit) (s' : PS),
    MValid C id s → exec (releaseLoop fuel id a) s = (r, s') → RelOut C id s s' r := by
  intro fuel
  induction fuel with
  | zero => intro s r s' _ h; rw [releaseLoop_zero] at h; cases h; exact RelOut.refl_err s _
  | succ fuel ih =>
    intro s r s' hv h
    rw [releaseLoop_exec] at h
    by_cases hc : (s.mas[id]!).released < (s.mas[id]!).positions.length ∧ (s.mas[id]!).term (s.mas[id]!).released = true
    · rw [if_pos hc] at h
      obtain ⟨n1, n2, _, _⟩ := maNext_spec _ hc.1 hc.2
      obtain ⟨b1, b2, b3, b4⟩ := batchOf_next hv.2.2 hc.1 hc.2
      exact release_chunk hle fuel s s' r hv _ _ _ _ b1 b2 b3 (Nat.le_of_lt n1) n2 b4 ih h
    · rw [if_neg hc] at h
      cases h
      exact RelOut.refl_ok s hv fun hlt => by simpa [hlt] using hc

theorem range_map_keys (ps : List PosV) : (List.range ps.length).map (fun i => keyOf (ps[i]?).join) = keys ps := by
  apply List.ext_getElem?
  intro n
  simp only [List.getElem?_map, keys]
  by_cases hn : n < ps.length
  · simp [hn]
  · simp [hn]

theorem tally_set (hle : C.top ≤ id) (s : PS) (m' : MA) (hv : MValid C id s) (hg : VGood (s.mas[id]!) m') :
    MSafe C id s { s with mas := s.mas.set! id m' } ∧ MValid C id { s with mas := s.mas.set! id m' } ∧
    C.Done [] s { s with mas := s.mas.set! id m' } := by
  obtain ⟨k1, k2, k3, k4⟩ := hg
  have hd := C.quiet_done hv.1 (tally_quiet hle s m')
  have hm2 : ({ s with mas := s.mas.set! id m' } : PS).mas[id]! = m' := set!_get _ _ _ hv.2.1
  obtain ⟨h1, h2⟩ := MSafe.of_done hv (s2 := { s with mas := s.mas.set! id m' }) (by simp [Array.set!])
    (by rw [hm2]; exact k1) (by rw [hm2, k2]) (by rw [hm2, k3]) (by rw [hm2, k4]; exact Nat.le_refl _)
    (by rw [hm2, k4, slice_self]; exact hd)
  exact ⟨h1, h2, hd⟩

theorem multi_call (hle : C.top ≤ id) (fuel : Nat) (b : Batch) (isAck : Bool) (task : Nat) (s : PS)
    (r : Except Stop Unit) (s' : PS) (hv : MValid C id s) (hb : BOK b) (hn : isAck = false → NackOK b)
    (h : exec (ackerCall fuel (.multi id a) b isAck task) s = (r, s')) :
    MSafe C id s s' ∧ (r = .ok () → MDone C id (keys b.pos) s s') ∧ s'.mas.size = s.mas.size ∧
      (∀ i : Nat, id + 1 ≤ i → s'.mas[i]! = s.mas[i]!) ∧ s'.heap = s.heap := by
  cases fuel with
  | zero =>
    rw [ackerCall_zero] at h; cases h
    exact ⟨MSafe.refl s, (fun h => nomatch h), rfl, fun _ _ => rfl, rfl⟩
  | succ fuel =>
    obtain ⟨o1, o2, o3⟩ := orig_ok hb
    rw [ackerCall_multi_exec fuel id a b isAck task s ⟨by rw [o1, o3, hb.pos_len]; exact Nat.le_refl _,
      by rw [o1, o2, hb.pos_len, hb.st_len]; exact Nat.le_refl _⟩] at h
    obtain ⟨hg, hva⟩ := scan_spec b.original isAck task (by rw [o1, o2, hb.pos_len, hb.st_len]; exact Nat.le_refl _)
      (fun hi => by unfold NackOK; rw [o2]; exact hn hi) _ _ hv.2.2 (fun i hi => List.mem_range.mp hi)
    generalize maVote (s.mas[id]!) isAck task (scanItems (s.mas[id]!) b.original (List.range b.original.pos.length)) = m'
      at h hg hva
    obtain ⟨hsafe, hv2, hd12⟩ := tally_set hle s m' hv hg
    split at h
    · rename_i hc
      have k5 := hva (by rw [hc, List.length_range])
      rw [range_map_keys, o1] at k5
      have hm2 : ({ s with mas := s.mas.set! id m' } : PS).mas[id]! = m' := set!_get _ _ _ hv.2.1
      obtain ⟨q1, q2, q3, q4, q6, q5⟩ := release_spec hle fuel _ r s' hv2 h
      refine ⟨hsafe.trans q1, fun hr => ?_, by rw [q3]; simp [setMa, Array.set!],
        fun i hi => by rw [q4 i hi]; exact (set!_other s.mas id i _ (by omega)).2, by rw [q6]⟩
      obtain ⟨g1, g2⟩ := q5 hr
      refine ⟨hsafe.trans q1, ?_, fun _ => g1, ?_⟩
      · rw [q2, hm2]
        exact k5
      · rw [hm2, hg.2.1, hg.2.2.2] at g2
        have := C.done_done hd12 g2
        simpa using this
    · cases h
      exact ⟨hsafe, (fun h => nomatch h), by simp [setMa, Array.set!], fun i hi => (set!_other s.mas id i _ (by omega)).2, rfl⟩

end

def mContract {a : Acker} (C : Contract a) (id : Nat) (hle : C.top ≤ id) : Contract (.multi id a) where
  top := id + 1
  Valid := MValid C id
  Partial := fun _ => MSafe C id
  Done := MDone C id
  Stutter := MSafe C id
  valid_top := fun hv => hv.2.1
  done_partial := fun h => h.safe
  done_done := MDone.trans
  done_partial_trans := fun h1 h2 => h1.safe.trans h2
  partial_mono := fun _ h => h
  quiet_done := fun hv hq => MDone.of_quiet hv hle hq
  quiet_stutter := fun hv hq => (MDone.of_quiet hv hle hq).safe
  stutter_partial := MSafe.trans
  stutter_trans := MSafe.trans
  partial_valid := fun hv h => h.ok hv
  stutter_valid := fun hv h => h.ok hv
  partial_ns := fun h => h.ns
  stutter_ns := fun h => h.ns
  call := fun fuel b isAck task s r s' hv hb hn h => by
    obtain ⟨p1, p2, p3, p4, p5⟩ := multi_call hle fuel b isAck task s r s' hv hb hn h
    exact ⟨p1, p2, fun _ _ => p1, p3, p4, p5⟩

end Conduit.Funnel
