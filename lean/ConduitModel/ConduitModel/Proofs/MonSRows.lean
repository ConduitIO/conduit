import ConduitModel.Spec.BatchWF

/-!
# Batches as lists of rows; what `ProcessorTask.Do` does to the rows when records may be split

A *row* is one physical record of a batch: record, status, position, split run. `ProcEff` states the
effect of the pure core `procDoP` on the rows: every row of the batch is replaced by its *kids* — a
filtered (inactive) row by itself, an active row according to the reply for its active index
(`KidsOK`): one row for a kept / modified / filtered / failed / skipped record, the pieces for a split
record. Because a nack spreads over the unfiltered pieces of a split record, a status is only known
up to "… or flagged nack" (`FlagOK`).
-/
namespace Conduit.Funnel

structure Row where
  r : Rec
  st : Status
  pos : PosV
  run : Option Nat
deriving Repr, Inhabited

/-- the rows of a batch (the four parallel slices zipped) -/
def Batch.rows (b : Batch) : List Row :=
  (List.range b.recs.length).map fun k =>
    { r := b.recs[k]?.getD default, st := b.st[k]?.getD default, pos := (b.pos[k]?).getD none, run := b.runAt k }

/-- the status has flag `f`, unless a nack spread over it -/
def FlagOK (f : Flag) (st : Status) : Prop := st.flag = f ∨ st.flag = .nack

/-- the run the pieces of a split row belong to: the row's run, or a run allocated by the call -/
def NewRun (h h' : Heap) (split' : List (Nat × Rec)) (row : Row) (rid : Nat) : Prop :=
  (row.run = some rid ∧ rid < h.size) ∨
  (row.run = none ∧ h.size ≤ rid ∧ rid < h'.size ∧ row.pos ≠ none ∧ (h'[rid]!).origPos = row.pos ∧
    ((h'[rid]!).origRec = row.r ∨ ∃ e ∈ split', e.1 = keyOf row.pos ∧ (h'[rid]!).origRec = e.2) ∧
    (h'[rid]!).nacked = false ∧ (h'[rid]!).terminal = 0 ∧ (h'[rid]!).released = false)

/-- the pieces of a split row: records `ms`, statuses `sts`; the first keeps the position -/
def pieceRows (row : Row) (rid : Nat) (ms : List Rec) (sts : List Status) : List Row :=
  (List.range ms.length).map fun j =>
    { r := ms[j]?.getD default, st := sts[j]?.getD default, pos := if j = 0 then row.pos else none, run := some rid }

/-- the kids of an active row for the reply `o` -/
def KidsOK (h h' : Heap) (split' : List (Nat × Rec)) (row : Row) : PR → List Row → Prop
  | .single r', ks => ∃ st', ks = [{ row with r := r', st := st' }] ∧ FlagOK row.st.flag st'
  | .filter, ks => ∃ st', ks = [{ row with st := st' }] ∧ st'.flag = .filter
  | .error _, ks => ∃ st', ks = [{ row with st := st' }] ∧ st'.flag = .nack
  | .nil, ks => ∃ st', ks = [{ row with st := st' }] ∧ FlagOK .retry st'
  | .multi [], ks => ∃ st', ks = [{ row with st := st' }] ∧ st'.flag = .filter
  | .multi [r'], ks => ∃ st', ks = [{ row with r := r', st := st' }] ∧ FlagOK row.st.flag st'
  | .multi (r1 :: r2 :: ms), ks => ∃ (rid : Nat) (sts : List Status), sts.length = (r1 :: r2 :: ms).length ∧
      ks = pieceRows row rid (r1 :: r2 :: ms) sts ∧
      (∀ (j : Nat) (st' : Status), sts[j]? = some st' → FlagOK (if j = 0 then row.st.flag else .ack) st') ∧
      NewRun h h' split' row rid

/-- "a nack / retry flag implies tainted" -/
def TaintC (b : Batch) : Prop := ∀ st ∈ b.st, st.flag = .nack ∨ st.flag = .retry → b.tainted = true

/-- the effect of `procDoP h b out = .ok (h', b')` on the rows (`pad` = the padded reply) -/
structure ProcEff (h : Heap) (b : Batch) (pad : List PR) (h' : Heap) (b' : Batch) : Prop where
  /-- the reply covers exactly the active records -/
  padlen : pad.length = b.nAct
  kids : ∃ kids : List (List Row), kids.length = b.recs.length ∧ b'.rows = kids.flatten ∧
    (∀ (p : Nat) (row : Row), b.rows[p]? = some row → p ∉ actList b.st → kids[p]? = some [row]) ∧
    (∀ (a p : Nat) (row : Row) (o : PR), (actList b.st)[a]? = some p → b.rows[p]? = some row → pad[a]? = some o →
      ∃ ks, kids[p]? = some ks ∧ KidsOK h h' b'.split row o ks)
  /-- new entries of the split map are the records of run-less rows, under their own position -/
  split : ∀ e ∈ b'.split, e ∈ b.split ∨ ∃ row ∈ b.rows, row.run = none ∧ e = (keyOf row.pos, row.r)
  hsize : h.size ≤ h'.size
  /-- an existing run only has its total raised -/
  hold : ∀ rid : Nat, rid < h.size → ∃ t : Nat, (h[rid]!).total ≤ t ∧ h'[rid]! = { (h[rid]!) with total := t }
  taint : TaintC b → TaintC b'

end Conduit.Funnel
