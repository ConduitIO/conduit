import ConduitModel.Proofs.MonC04
import ConduitModel.Proofs.MonGeneric
import ConduitModel.Proofs.WorkerConfirm

/-!
# Monitor facts along a run: context, the monitor state of an engine state, script consistency

* `Ctx` — the inputs of a case (task tree, the case's plugin scripts, source batches);
  `G.mu s` — the tagged monitor state after the event log of engine state `s`;
* `SC G s` — script consistency: the remaining scripts of `s` are the case's scripts minus the
  replies consumed so far, as counted by the monitor (`calls`), so the reply the engine pops is the
  reply the monitor looks up (`SC.nextReply`). The run invariants carry it as a field and restore it
  after each write with `SC.event`/`SC.sack`/`SC.same`; `prims_SC` says the same in the form of
  Proofs/MonGeneric.lean.
-/
namespace Conduit.Funnel
open Conduit.Funnel.Mon

structure Ctx where
  tree : TaskNode
  scripts : List (Nat × List Reply)
  batches : List (List Rec)

namespace Ctx
/-- all records read, in read order -/
def all (G : Ctx) : List Rec := G.batches.flatten
def muL (G : Ctx) (log : List Ev) : TSt := runStT G.tree G.scripts G.batches log
/-- the monitor state after the log of `s` -/
def mu (G : Ctx) (s : PS) : TSt := G.muL s.log.toList
end Ctx

theorem muL_append (G : Ctx) (l1 l2 : List Ev) :
    G.muL (l1 ++ l2) = l2.foldl (stepT G.tree G.scripts) (G.muL l1) := by
  unfold Ctx.muL runStT
  rw [List.foldl_append]

theorem mu_push (G : Ctx) (s s' : PS) (e : Ev) (h : s'.log = s.log.push e) :
    G.mu s' = stepT G.tree G.scripts (G.mu s) e := by
  unfold Ctx.mu
  rw [h, Array.toList_push, muL_append]
  rfl

theorem mu_same (G : Ctx) (s s' : PS) (h : s'.log = s.log) : G.mu s' = G.mu s := by
  unfold Ctx.mu; rw [h]

theorem mu_initial (G : Ctx) (s₀ : PS) (hlog : s₀.log = #[]) : G.mu s₀ = { pending := G.batches.flatten } := by
  unfold Ctx.mu Ctx.muL runStT; rw [hlog]; rfl

theorem forall_mem_nil {α} {P : α → Prop} {l : List α} (h : l = []) : ∀ x ∈ l, P x := by
  subst h; exact fun _ hx => nomatch hx

/-- number of positions acknowledged so far -/
def nAcked (s : PS) : Nat := (ackedKeys s.log).length

theorem nAcked_push_other (s s' : PS) (e : Ev) (h : s'.log = s.log.push e) (he : evKeys e = []) : nAcked s' = nAcked s := by
  unfold nAcked
  rw [h, ackedKeys_push, he, List.append_nil]

theorem pending_mu (G : Ctx) (s : PS) : (G.mu s).pending = G.all.drop (nAcked s) := by
  unfold Ctx.mu Ctx.muL runStT
  rw [pending_foldl]
  rfl

theorem callNoL_bump (calls : List (Nat × Nat)) (t t' : Nat) :
    callNoL (bumpL calls t) t' = callNoL calls t' + if t' = t then 1 else 0 := by
  unfold callNoL bumpL
  split
  · rename_i hs
    rw [show (calls.map fun (x : Nat × Nat) => if x.1 == t then (x.1, x.2 + 1) else (x.1, x.2)).find? (·.1 == t') = _
      from find?_mapAt (fun x => x.2 + 1) t t' calls]
    cases hf : calls.find? (·.1 == t') with
    | none =>
      have : t' ≠ t := by rintro rfl; rw [hf] at hs; cases hs
      simp [this]
    | some x => simp only [Option.map_some, Option.getD_some]; split <;> rfl
  · rename_i hn
    rw [List.find?_append]
    by_cases ht : t' = t
    · subst ht; simp [Option.not_isSome_iff_eq_none.mp hn]
    · have : (t == t') = false := by simpa using fun hh : t = t' => ht hh.symm
      simp [this, ht]

theorem calls_stepT (tree : TaskNode) (scripts : List (Nat × List Reply)) (μ : TSt) (e : Ev) :
    (stepT tree scripts μ e).calls = match evTask e with
      | some t => bumpL μ.calls t
      | none => μ.calls := by
  cases e with
  | pcall t r =>
    show (pcallT scripts μ t r).calls = _
    unfold pcallT
    dsimp only
    split <;> rfl
  | write t r => rfl
  | dlqw t r => rfl
  | sack ps =>
    obtain ⟨l, e⟩ := foldl_ackT_eq tree ps μ
    have := congrArg TSt.calls e
    exact this

def repliesOf (scr : List (Nat × List Reply)) (t : Nat) : Option (List Reply) := (scr.find? (·.1 == t)).map (·.2)

theorem nextReply_eq (scr : List (Nat × List Reply)) (t : Nat) : nextReply scr t = (repliesOf scr t).bind List.head? := by
  unfold nextReply repliesOf
  cases scr.find? (·.1 == t) with
  | none => rfl
  | some x => obtain ⟨k, l⟩ := x; cases l <;> rfl

theorem replyOfCall_eq (scr : List (Nat × List Reply)) (t c : Nat) : replyOfCall scr t c = (repliesOf scr t).bind (·[c]?) := rfl

theorem repliesOf_pop (scr : List (Nat × List Reply)) (t t' : Nat) :
    repliesOf (popScripts scr t) t' = if t' = t then (repliesOf scr t').map List.tail else repliesOf scr t' := by
  unfold popScripts repliesOf
  split
  · rename_i k r rest hf
    rw [show (scr.map fun (x : Nat × List Reply) => if x.1 == t then (x.1, rest) else (x.1, x.2)).find? (·.1 == t') = _
      from find?_mapAt (fun _ => rest) t t' scr]
    split
    · rename_i ht; subst ht; rw [hf]; rfl
    · simp only [Option.map_id']
  · rename_i hno
    split
    · rename_i ht; subst ht
      rcases hf : scr.find? (·.1 == t') with _ | ⟨k, _ | ⟨r, rest⟩⟩
      · rw [hf]; rfl
      · rw [hf]; rfl
      · exact (hno k r rest hf).elim
    · rfl

/-- the remaining scripts are the case's scripts minus the replies the monitor counted -/
def SC (G : Ctx) (s : PS) : Prop :=
  ∀ t : Nat, repliesOf s.scripts t = (repliesOf G.scripts t).map (·.drop (callNoL (G.mu s).calls t))

theorem SC.nextReply {G : Ctx} {s : PS} (h : SC G s) (t : Nat) :
    nextReply s.scripts t = replyOfCall G.scripts t (callNoL (G.mu s).calls t) := by
  rw [nextReply_eq, replyOfCall_eq, h t]
  cases repliesOf G.scripts t with
  | none => rfl
  | some l =>
    simp only [Option.map_some, Option.bind_some]
    rw [List.head?_eq_getElem?, List.getElem?_drop]
    rfl

theorem SC.event {G : Ctx} {s s' : PS} (h : SC G s) (e : Ev) (t : Nat) (he : evTask e = some t)
    (hlog : s'.log = s.log.push e) (hscr : s'.scripts = popScripts s.scripts t) : SC G s' := by
  intro t'
  rw [mu_push G s s' e hlog, calls_stepT, he, hscr]
  dsimp only
  rw [repliesOf_pop, callNoL_bump, h t']
  split
  · cases repliesOf G.scripts t' with
    | none => rfl
    | some l => simp only [Option.map_some]; rw [List.tail_drop]
  · rfl

theorem SC.sack {G : Ctx} {s s' : PS} (h : SC G s) (ps : List PosV)
    (hlog : s'.log = s.log.push (.sack ps)) (hscr : s'.scripts = s.scripts) : SC G s' := by
  intro t'
  rw [mu_push G s s' _ hlog, calls_stepT, hscr]
  exact h t'

theorem SC.same {G : Ctx} {s s' : PS} (h : SC G s) (hlog : s'.log = s.log) (hscr : s'.scripts = s.scripts) : SC G s' := by
  intro t'
  rw [mu_same G s s' hlog, hscr]
  exact h t'


theorem prims_SC (G : Ctx) : Prims (SC G) :=
  Prims.of_events (fun _ _ hl hs h => h.same hl hs) (fun _ _ e task he hl hs h => h.event e task he hl hs)
    (fun _ _ ps hl hs h => h.sack ps hl hs)

end Conduit.Funnel
