import ConduitModel.Spec.BatchWF

/-! Retry accounting of `doTaskAttempt` (`RecordFlagRetry` branch): `nextRetry`, `retryChain`. -/
namespace Conduit.Funnel

theorem nextRetry_none (size : Nat) : nextRetry none size = .ok { count := 1, size := size, stall := 0 } := rfl

/-- what an accepted retry round looks like -/
theorem nextRetry_some_ok {r n : RetryAttempt} {size : Nat} (h : nextRetry (some r) size = .ok n) :
    n.count = r.count + 1 ∧ n.size = size ∧ n.count ≤ maxRetryAttempts ∧ n.stall < maxRetryStall ∧
      (r.size ≤ size → n.stall = r.stall + 1) ∧ (size < r.size → n.stall = 0) := by
  unfold nextRetry at h
  simp only at h
  by_cases h1 : (if size ≥ r.size then r.stall + 1 else 0) ≥ maxRetryStall
  · simp [h1] at h
  · simp only [h1, if_false] at h
    by_cases h2 : r.count + 1 > maxRetryAttempts
    · simp [h2] at h
    · simp only [h2, if_false, Except.ok.injEq] at h
      subst h
      refine ⟨rfl, rfl, by simp at h2 ⊢; omega, by simp at h1 ⊢; omega, ?_, ?_⟩
      · intro h3; simp [h3]
      · intro h3; have : ¬ size ≥ r.size := by omega
        simp [this]

theorem nextRetry_ok_count {r : Option RetryAttempt} {n : RetryAttempt} {size : Nat} (h : nextRetry r size = .ok n) :
    n.count = (r.map (·.count)).getD 0 + 1 ∧ n.count ≤ maxRetryAttempts ∧ n.stall < maxRetryStall ∧ n.size = size := by
  cases r with
  | none => rw [nextRetry_none] at h; cases h; simp [maxRetryAttempts, maxRetryStall]
  | some r => have := nextRetry_some_ok h; simp; omega

/-- a non-empty chain of accepted nested retries after attempt `r` has at most `maxRetryAttempts - r.count` rounds -/
theorem retryChain_length {r : Option RetryAttempt} {sizes : List Nat} (h : retryChain r sizes = true) :
    (r.map (·.count)).getD 0 + sizes.length ≤ maxRetryAttempts ∨ sizes = [] := by
  induction sizes generalizing r with
  | nil => exact Or.inr rfl
  | cons s rest ih =>
    left
    unfold retryChain at h
    cases hn : nextRetry r s with
    | error e => simp [hn] at h
    | ok n =>
      simp only [hn] at h
      have h1 := nextRetry_ok_count hn
      rcases ih h with h2 | h2
      · simp at h2 ⊢; omega
      · subst h2; simp; omega

theorem retryChain_drop {r : Option RetryAttempt} {sizes : List Nat} (h : retryChain r sizes = true) (t : Nat)
    (ht : t < sizes.length) :
    ∃ r' : RetryAttempt, r'.size = sizes[t] ∧ r'.stall < maxRetryStall ∧ retryChain (some r') (sizes.drop (t+1)) = true := by
  induction t generalizing r sizes with
  | zero =>
    cases sizes with
    | nil => simp at ht
    | cons s rest =>
      unfold retryChain at h
      cases hn : nextRetry r s with
      | error e => simp [hn] at h
      | ok n =>
        simp only [hn] at h
        have h1 := nextRetry_ok_count hn
        exact ⟨n, by simp [h1.2.2.2], h1.2.2.1, by simpa using h⟩
  | succ t ih =>
    cases sizes with
    | nil => simp at ht
    | cons s rest =>
      unfold retryChain at h
      cases hn : nextRetry r s with
      | error e => simp [hn] at h
      | ok n =>
        simp only [hn] at h
        obtain ⟨r', h1, h2, h3⟩ := ih h (by simpa using ht)
        exact ⟨r', by simpa using h1, h2, by simpa using h3⟩

/-- `m` consecutive non-shrinking rounds after attempt `r` push the stall counter to `r.stall + m`,
which an accepted chain keeps below `maxRetryStall`. -/
theorem retryChain_stall {r : RetryAttempt} {sizes : List Nat} (h : retryChain (some r) sizes = true) (m : Nat)
    (hm : m ≤ sizes.length)
    (hns : ∀ u : Nat, u < m → (if u = 0 then r.size else sizes[u-1]?.getD 0) ≤ sizes[u]?.getD 0) :
    r.stall + m < maxRetryStall ∨ m = 0 := by
  induction m generalizing r sizes with
  | zero => exact Or.inr rfl
  | succ m ih =>
    left
    cases sizes with
    | nil => simp at hm
    | cons s rest =>
      unfold retryChain at h
      cases hn : nextRetry (some r) s with
      | error e => simp [hn] at h
      | ok n =>
        simp only [hn] at h
        have h1 := nextRetry_some_ok hn
        have h0 := hns 0 (by omega)
        simp at h0
        have hst := h1.2.2.2.2.1 h0
        rcases ih h (by simpa using hm) (by
          intro u hu
          have := hns (u+1) (by omega)
          cases u with
          | zero => simpa [h1.2.1] using this
          | succ u => simpa using this) with h2 | h2
        · omega
        · subst h2; omega

end Conduit.Funnel
