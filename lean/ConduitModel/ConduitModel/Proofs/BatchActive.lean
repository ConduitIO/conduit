import ConduitModel.Proofs.BatchFlags

/-! `ActiveRecords()[k]` is the record at physical index `actList[k]`; converses "ok ⇒ in range". -/
namespace Conduit.Funnel

theorem actFrom_ge {o : Nat} {st : List Status} {p : Nat} (h : p ∈ actFrom o st) : o ≤ p := by
  induction st generalizing o with
  | nil => simp [actFrom] at h
  | cons s st ih =>
    unfold actFrom at h
    by_cases hs : s.flag = .filter
    · simp only [hs, if_true] at h; have := ih h; omega
    · simp only [hs, if_false, List.mem_cons] at h
      rcases h with rfl | h
      · omega
      · have := ih h; omega

theorem activeOf_getElem? (recs : List Rec) (st : List Status) (o k p : Nat) (hl : st.length = recs.length)
    (h : (actFrom o st)[k]? = some p) :
    ((recs.zip st).filterMap fun (r, s) => if s.flag = .filter then none else some r)[k]? = recs[p - o]? := by
  induction st generalizing recs o k with
  | nil => simp [actFrom] at h
  | cons s st ih =>
    cases recs with
    | nil => simp at hl
    | cons r recs =>
      unfold actFrom at h
      by_cases hs : s.flag = .filter
      · simp only [hs, if_true] at h
        have hge := actFrom_ge (List.mem_of_getElem? h)
        have := ih recs (o+1) k (by simpa using hl) h
        simp only [List.zip_cons_cons, List.filterMap_cons, hs, if_true]
        rw [this, show p - o = (p - (o+1)) + 1 by omega]
        simp
      · simp only [hs, if_false] at h
        simp only [List.zip_cons_cons, List.filterMap_cons, hs, if_false]
        cases k with
        | zero => simp at h; subst h; simp
        | succ k =>
          simp only [List.getElem?_cons_succ] at h ⊢
          have hge := actFrom_ge (List.mem_of_getElem? h)
          have := ih recs (o+1) k (by simpa using hl) h
          rw [this, show p - o = (p - (o+1)) + 1 by omega]
          simp

/-- the `k`-th active record is the record at the `k`-th unfiltered physical index. -/
theorem active_getElem? {h : Heap} {b : Batch} (hwf : b.WF h) {k p : Nat} (hk : (actList b.st)[k]? = some p) :
    b.active[k]? = b.recs[p]? := by
  unfold Batch.active
  by_cases h0 : b.filterCount = 0
  · simp only [h0, if_true]
    have h1 := actList_of_countFilter_zero (by have := hwf.2; omega : countFilter b.st = 0)
    rw [h1] at hk
    have := List.getElem?_eq_some_iff.mp hk
    obtain ⟨_, h2⟩ := this
    simp at h2; rw [h2]
  · simp only [h0, if_false]
    by_cases h2 : b.filterCount = b.recs.length
    · exfalso
      have h3 := length_actList b.st
      have h4 := (List.getElem?_eq_some_iff.mp hk).1
      have := hwf.2; have := hwf.1.st_len
      omega
    · simp only [h2, if_false]
      rw [actList_eq_actFrom] at hk
      simpa using activeOf_getElem? b.recs b.st 0 k p hwf.1.st_len hk

/-- `Batch.phys` is the `actList` lookup (for an index that is in range of the statuses). -/
theorem phys_iff {h : Heap} {b : Batch} (hwf : b.WF h) {i p : Nat} (hi : i < b.st.length) :
    b.phys i = .ok p ↔ (actList b.st)[i]? = some p := by
  constructor
  · intro hp; exact phys_eq_ok hwf.2 hp hi
  · intro hp
    have hlt := (List.getElem?_eq_some_iff.mp hp).1
    rw [phys_ok hwf.2 hlt]
    congr 1
    exact (List.getElem?_eq_some_iff.mp hp).2

theorem setFlagAt_inv {st st' : List Status} {p : Nat} {f : Flag} (h : setFlagAt st p f = .ok st') :
    p < st.length ∧ st'.length = st.length := by
  unfold setFlagAt idx at h
  cases hp : st[p]? with
  | none => simp [hp, panic, bind, Except.bind] at h
  | some s =>
    simp only [hp, bind, Except.bind, pure, Except.pure, Except.ok.injEq] at h
    subst h
    exact ⟨(List.getElem?_eq_some_iff.mp hp).1, by simp⟩

theorem phys_inrange {h : Heap} {b : Batch} (hwf : b.WF h) {k p : Nat} (hp : b.phys k = .ok p) (hlt : p < b.st.length) :
    k < b.nAct := by
  rw [phys_eq] at hp
  by_cases h0 : b.filterCount = 0
  · rw [if_pos h0] at hp
    cases hp
    have := b.nAct_eq; have := hwf.2; omega
  · rw [if_neg h0] at hp
    exact (List.getElem?_eq_some_iff.mp (idx_eq_ok_iff.mp hp)).1

theorem sfStep_inv {h : Heap} {b : Batch} (hwf : b.WF h) {f : Flag} {st st' : List Status} {k : Nat}
    (hl : st.length = b.st.length) (hs : sfStep b f st k = .ok st') : k < b.nAct ∧ st'.length = b.st.length := by
  obtain ⟨p, hp, hs⟩ := bind_eq_ok hs
  obtain ⟨h1, h2⟩ := setFlagAt_inv hs
  exact ⟨phys_inrange hwf hp (hl ▸ h1), h2.trans hl⟩

theorem foldlM_sfStep_inv {h : Heap} {b : Batch} (hwf : b.WF h) {f : Flag} (ks : List Nat) {st st' : List Status}
    (hl : st.length = b.st.length) (hs : ks.foldlM (sfStep b f) st = .ok st') : ∀ k ∈ ks, k < b.nAct := by
  induction ks generalizing st with
  | nil => intro k hk; simp at hk
  | cons k ks ih =>
    rw [List.foldlM_cons] at hs
    obtain ⟨st1, h1, hs⟩ := bind_eq_ok hs
    obtain ⟨g1, g2⟩ := sfStep_inv hwf hl h1
    intro k' hk'
    rcases List.mem_cons.mp hk' with rfl | hk'
    · exact g1
    · exact ih g2 hs k' hk'

theorem setFlag1_inrange {h : Heap} {b b' : Batch} (hwf : b.WF h) {f : Flag} {i : Nat}
    (hr : b.setFlag1 f i = .ok b') : i < b.nAct := by
  obtain ⟨p, hp, hr⟩ := bind_eq_ok hr
  obtain ⟨st', hs, -⟩ := bind_eq_ok hr
  exact phys_inrange hwf hp (setFlagAt_inv hs).1

theorem setFlagRange_inrange {h : Heap} {b b' : Batch} (hwf : b.WF h) {f : Flag} {i j : Nat}
    (hr : b.setFlagRange f i j = .ok b') : i < j ∧ j ≤ b.nAct := by
  rw [setFlagRange_eq_model] at hr
  unfold Batch.setFlagRangeP at hr
  by_cases hij : i ≥ j
  · simp [hij, panic] at hr
  · simp only [hij, if_false] at hr
    cases hs : (List.range' i (j - i)).foldlM (sfStep b f) b.st with
    | error e => simp [hs, bind, Except.bind] at hr
    | ok st' =>
      have := foldlM_sfStep_inv hwf _ rfl hs (j - 1) (by simp [List.mem_range'_1]; omega)
      omega

theorem retry_inrange {h : Heap} {b b' : Batch} (hwf : b.WF h) {i j : Nat} (hr : b.retry i j = .ok b') :
    i < j ∧ j ≤ b.nAct := by
  obtain ⟨b1, hs, -⟩ := bind_eq_ok hr
  exact setFlagRange_inrange hwf hs

theorem filter1_inrange {h : Heap} {b b' : Batch} (hwf : b.WF h) {i : Nat} (hr : b.filter1 i = .ok b') : i < b.nAct := by
  obtain ⟨b1, hs, -⟩ := bind_eq_ok hr
  exact setFlag1_inrange hwf hs

theorem filterRange_inrange {h : Heap} {b b' : Batch} (hwf : b.WF h) {i j : Nat} (hr : b.filterRange i j = .ok b') :
    i < j ∧ j ≤ b.nAct := by
  obtain ⟨b1, hs, -⟩ := bind_eq_ok hr
  exact setFlagRange_inrange hwf hs

end Conduit.Funnel
