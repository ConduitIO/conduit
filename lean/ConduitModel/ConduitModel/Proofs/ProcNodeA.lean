import ConduitModel.Model.ProcNode

/-!
Invariants of the `ProcessorNode` event system (`Model/ProcNode.lean`) and their preservation by every
step. Three groups:

* `InvA` — requests: `n.pending`, claims, withdrawals, `done` channels, caller results, the history of
  `n.Processor` values and the set of opened processors;
* `InvB` — records: the `Process` log (stamps), outcomes, counting;
* `InvC` — teardown bookkeeping and `Instance.running`.

`Step` states once what `step` does: one constructor per guarded branch. Every clause is a named predicate
`A.xxx s`; its preservation lemma `A.xxx_step` (a few lemmas cover the clauses about one field or one group
of program points together) goes by cases on `Step`, names the branches that write a field the clause
reads, and says which other clauses of the pre-state they need; in all other branches the clause of the
post-state is the clause of the pre-state up to unfolding the record update. `stepA/B/C` assemble them,
`reachable_inv` (`Proofs/ProcNodeC.lean`) is the induction over all event lists from `init`.
-/
namespace Conduit.Model.ProcNode

attribute [local grind =] upd_same
attribute [local grind =] upd_other

/-- unfold one step and split it into its guarded cases. -/
macro "step_cases " h:ident : tactic =>
  `(tactic| (simp only [step, route, afterNack] at $h:ident; repeat' (split at $h:ident)))

/-- close every case of a clause-preservation lemma: the clause is untouched (`assumption`) or `grind`. -/
macro "field_step " h:ident : tactic =>
  `(tactic| (step_cases $h:ident;
             all_goals first
               | (cases $h:ident; done)
               | (cases $h:ident; dsimp only at *; first | assumption | grind [Pc.req, Pc.inflight])))

theorem afterNack_pc (f : Fwd) (w : NackWhy) (ok : Bool) :
    (afterNack f w ok).1 = .atApply ∨ (afterNack f w ok).1 = .finalTd := by
  cases w <;> cases ok <;> cases f <;> simp [afterNack]

theorem route_cases (i : Nat) (k : Kind) :
    (∃ f, f ≠ Fwd.passthrough ∧ route i k = .sending i f) ∨ (∃ w, route i k = .nacking i .single w) := by
  cases k <;> simp [route]

@[simp] theorem afterNack_req (f : Fwd) (w : NackWhy) (ok : Bool) : (afterNack f w ok).1.req = none := by
  rcases afterNack_pc f w ok with h | h <;> simp [h, Pc.req]
@[simp] theorem afterNack_inflight (f : Fwd) (w : NackWhy) (ok : Bool) : (afterNack f w ok).1.inflight = none := by
  rcases afterNack_pc f w ok with h | h <;> simp [h, Pc.inflight]
@[simp] theorem route_req (i : Nat) (k : Kind) : (route i k).req = none := by
  cases k <;> simp [route, Pc.req]
@[simp] theorem route_inflight (i : Nat) (k : Kind) : (route i k).inflight = some i := by
  cases k <;> simp [route, Pc.inflight]

/-- `step` as a relation: one constructor per guarded branch, the guards as hypotheses and the successor
as the explicit update of `s`. `procRet` and `nack` have one constructor per shape of the next pc
(`route_cases`, `afterNack_pc`), so that every successor pc is a constructor application of `Pc` and
`cases` on a `Step` leaves no `route` or `afterNack` to be analysed in the goal. -/
inductive Step (s : State) : Event → State → Prop
  | stageBusy {r p : Nat} : s.cst r = .idle → r ≠ 0 → s.pending = some p →
    Step s (.stage r) { s with cst := upd s.cst r (.returned .rejected) }
  | stage {r : Nat} : s.cst r = .idle → r ≠ 0 → s.pending = none →
    Step s (.stage r) { s with pending := some r, cst := upd s.cst r .staged }
  | wakeSend {r : Nat} : s.cst r = .staged → Step s (.wakeSend r) { s with wake := true, cst := upd s.cst r .waiting }
  | doneRecv {r : Nat} {res : Res} : s.cst r = .waiting → s.done r = some res →
    Step s (.doneRecv r) { s with done := upd s.done r none, cst := upd s.cst r (.returned res) }
  | withdraw {r : Nat} : s.cst r = .waiting → s.pending = some r →
    Step s (.cancel r)
      { s with pending := none, withdrawn := r :: s.withdrawn, cst := upd s.cst r (.returned .cancelled) }
  | cancel {r : Nat} : s.cst r = .waiting → s.pending ≠ some r →
    Step s (.cancel r) { s with cst := upd s.cst r (.returned .cancelled) }
  | runOpen : s.pc = .init → Step s (.runOpen true) { s with opened := s.cur :: s.opened, pc := .atApply }
  | runOpenFail : s.pc = .init →
    Step s (.runOpen false) { s with opened := s.cur :: s.opened, pc := .finalTd, exitc := some .err }
  | claimNone : s.pc = .atApply → s.pending = none → Step s .claim { s with pc := .atSelect }
  | claim {r : Nat} : s.pc = .atApply → s.pending = some r →
    Step s .claim { s with pending := none, claimed := r :: s.claimed, pc := .opening r }
  | openNew {g : Nat} : s.pc = .opening g →
    Step s (.openNew g true)
      { s with opened := g :: s.opened, cur := g, hist := s.hist ++ [g], pc := .tearOld s.cur g }
  | openNewFail {g : Nat} : s.pc = .opening g →
    Step s (.openNew g false) { s with opened := g :: s.opened, pc := .tearNew g }
  | teardownOld {g old r : Nat} : s.pc = .tearOld old r → g = old →
    Step s (.teardownRc g) { s with torn := (g, false) :: s.torn, pc := .delivering r .ok }
  | teardownNew {g r : Nat} : s.pc = .tearNew r → g = r →
    Step s (.teardownRc g) { s with torn := (g, false) :: s.torn, pc := .delivering r .openErr }
  | deliver {r : Nat} {res : Res} : s.pc = .delivering r res → s.done r = none →
    Step s .deliver { s with done := upd s.done r (some res), pc := .atSelect }
  | wakeRecv : s.pc = .atSelect → s.wake = true → Step s .wakeRecv { s with wake := false, pc := .atApply }
  | procCall {g i : Nat} : s.pc = .atSelect → g = s.cur → i = s.nextIn →
    Step s (.procCall g i)
      { s with nextIn := i + 1, log := ⟨i, g, s.hist.length - 1⟩ :: s.log, pc := .processing i }
  | recvPre {i : Nat} : s.pc = .atSelect → i = s.nextIn →
    Step s (.recvPre i) { s with nextIn := i + 1, pc := .sending i .passthrough }
  | inClosed : s.pc = .atSelect → Step s .inClosed { s with pc := .finalTd, exitc := some .clean }
  | ctxDone : s.pc = .atSelect → Step s .ctxDone { s with pc := .finalTd, exitc := some .ctx }
  | procRetSend {i : Nat} {k : Kind} {f : Fwd} : s.pc = .processing i → f ≠ .passthrough → route i k = .sending i f →
    Step s (.procRet k) { s with pc := .sending i f }
  | procRetNack {i : Nat} {k : Kind} {w : NackWhy} : s.pc = .processing i → route i k = .nacking i .single w →
    Step s (.procRet k) { s with pc := .nacking i .single w }
  | sendOk {i : Nat} {f : Fwd} : s.pc = .sending i f →
    Step s .sendOk { s with outc := ⟨i, f, .forwarded⟩ :: s.outc, pc := .atApply }
  | sendCtxDone {i : Nat} {f : Fwd} : s.pc = .sending i f → Step s .sendCtxDone { s with pc := .nacking i f .sendFailed }
  | nack {i : Nat} {f : Fwd} {why : NackWhy} {ok : Bool} : s.pc = .nacking i f why → (afterNack f why ok).1 = .atApply →
    Step s (.nack ok)
      { s with outc := ⟨i, f, .nacked⟩ :: s.outc, pc := .atApply,
               exitc := match (afterNack f why ok).2 with | some c => some c | none => s.exitc }
  | nackStop {i : Nat} {f : Fwd} {why : NackWhy} {ok : Bool} : s.pc = .nacking i f why →
    (afterNack f why ok).1 = .finalTd →
    Step s (.nack ok)
      { s with outc := ⟨i, f, .nacked⟩ :: s.outc, pc := .finalTd,
               exitc := match (afterNack f why ok).2 with | some c => some c | none => s.exitc }
  | finalTeardown {g : Nat} : s.pc = .finalTd → g = s.cur →
    Step s (.finalTeardown g) { s with torn := (g, true) :: s.torn, instRunning := false, pc := .exited }

theorem Step.of_step {s s' : State} {e : Event} (h : step s e = some s') : Step s e s' := by
  rcases e with _ | _ | _ | _ | ⟨_ | _⟩ | _ | ⟨_, _ | _⟩ | _ | _ | _ | _ | _ | _ | _ | _ | _ | _ | _ | _
  case procRet k =>
    simp only [step] at h; split at h <;> cases h
    rename_i i hpc
    rcases route_cases i k with ⟨f, hf, hk⟩ | ⟨w, hk⟩ <;> rw [hk]
    · exact .procRetSend hpc hf hk
    · exact .procRetNack hpc hk
  case nack ok =>
    simp only [step] at h; split at h <;> cases h
    rename_i i f why hpc
    rcases afterNack_pc f why ok with hk | hk <;> rw [hk]
    · exact .nack hpc hk
    · exact .nackStop hpc hk
  all_goals step_cases h
  all_goals cases h
  all_goals first | contradiction | (constructor <;> first | assumption | simp only [*, ne_eq, not_false_eq_true])

theorem Step.to_step {s s' : State} {e : Event} (h : Step s e s') : step s e = some s' := by
  cases h <;> simp [step, *] <;> rfl

theorem step_iff {s s' : State} {e : Event} : step s e = some s' ↔ Step s e s' := ⟨Step.of_step, Step.to_step⟩

theorem forall_upd {α : Type} {P : Nat → α → Prop} {f : Nat → α} {r : Nat} {v : α}
    (hf : ∀ x, x ≠ r → P x (f x)) (hv : P r v) : ∀ x, P x (upd f r v x) := fun x => by
  unfold upd; split
  · next h => exact h ▸ hv
  · next h => exact hf x h

namespace A

def pend_ok (s : State) : Prop := ∀ r, s.pending = some r →
    r ≠ 0 ∧ r ∉ s.claimed ∧ r ∉ s.withdrawn ∧ (s.cst r = .staged ∨ s.cst r = .waiting) ∧ s.done r = none
def claimed_nodup (s : State) : Prop := s.claimed.Nodup
def claimed_started (s : State) : Prop := ∀ r ∈ s.claimed, s.cst r ≠ .idle ∧ r ≠ 0
def withdrawn_ok (s : State) : Prop := ∀ r ∈ s.withdrawn, r ∉ s.claimed ∧ s.cst r = .returned .cancelled
def done_claimed (s : State) : Prop := ∀ r, r ∉ s.claimed → s.done r = none
def done_res (s : State) : Prop := ∀ r res, s.done r = some res →
    (res = .ok ∧ r ∈ s.hist) ∨ (res = .openErr ∧ r ∉ s.hist)
def req_ok (s : State) : Prop := ∀ r, s.pc.req = some r → r ∈ s.claimed ∧ s.done r = none ∧ r ≠ 0
def opening_ok (s : State) : Prop := ∀ r, s.pc = .opening r → r ∉ s.hist ∧ r ∉ s.opened
def tearOld_ok (s : State) : Prop := ∀ old r, s.pc = .tearOld old r → s.cur = r ∧ r ∈ s.hist ∧ old ≠ r ∧ old ∈ s.opened
def tearNew_ok (s : State) : Prop := ∀ r, s.pc = .tearNew r → r ∉ s.hist ∧ r ∈ s.opened
def deliv_ok (s : State) : Prop := ∀ r res, s.pc = .delivering r res →
    (res = .ok ∧ r ∈ s.hist) ∨ (res = .openErr ∧ r ∉ s.hist)
def ret_ok (s : State) : Prop := ∀ r, s.cst r = .returned .ok → r ∈ s.hist
def ret_err (s : State) : Prop := ∀ r, s.cst r = .returned .openErr → r ∉ s.hist ∧ r ∈ s.claimed ∧ s.pc.req ≠ some r
def ret_rej (s : State) : Prop := ∀ r, s.cst r = .returned .rejected → r ∉ s.claimed ∧ r ∉ s.withdrawn
def ret_can (s : State) : Prop := ∀ r, s.cst r = .returned .cancelled → r ∈ s.claimed ∨ r ∈ s.withdrawn
def waiting_ok (s : State) : Prop := ∀ r, s.cst r = .staged ∨ s.cst r = .waiting → s.pending = some r ∨ r ∈ s.claimed
def hist_claimed (s : State) : Prop := ∀ g ∈ s.hist, g = 0 ∨ g ∈ s.claimed
def hist_nodup (s : State) : Prop := s.hist.Nodup
def hist_last (s : State) : Prop := s.hist.getLast? = some s.cur
def opened_claimed (s : State) : Prop := ∀ g ∈ s.opened, g = 0 ∨ g ∈ s.claimed
def opened_nodup (s : State) : Prop := s.opened.Nodup
def init_ok (s : State) : Prop := s.pc = .init → s.opened = [] ∧ s.cur = 0
def cur_opened (s : State) : Prop := s.pc ≠ .init → s.cur ∈ s.opened
def zero_hist (s : State) : Prop := 0 ∈ s.hist
def cur_hist (s : State) : Prop := s.cur ∈ s.hist
def zero_idle (s : State) : Prop := s.cst 0 = .idle
def claimed_opened (s : State) : Prop := ∀ r ∈ s.claimed, s.pc = .opening r ∨ r ∈ s.opened

end A

structure InvA (s : State) : Prop where
  pend_ok : A.pend_ok s
  claimed_nodup : A.claimed_nodup s
  claimed_started : A.claimed_started s
  withdrawn_ok : A.withdrawn_ok s
  done_claimed : A.done_claimed s
  done_res : A.done_res s
  req_ok : A.req_ok s
  opening_ok : A.opening_ok s
  tearOld_ok : A.tearOld_ok s
  tearNew_ok : A.tearNew_ok s
  deliv_ok : A.deliv_ok s
  ret_ok : A.ret_ok s
  ret_err : A.ret_err s
  ret_rej : A.ret_rej s
  ret_can : A.ret_can s
  waiting_ok : A.waiting_ok s
  hist_claimed : A.hist_claimed s
  hist_nodup : A.hist_nodup s
  hist_last : A.hist_last s
  opened_claimed : A.opened_claimed s
  opened_nodup : A.opened_nodup s
  init_ok : A.init_ok s
  cur_opened : A.cur_opened s
  zero_hist : A.zero_hist s
  cur_hist : A.cur_hist s
  zero_idle : A.zero_idle s
  claimed_opened : A.claimed_opened s

theorem initA : InvA init := by
  constructor <;> simp [init, Pc.req, A.pend_ok, A.claimed_nodup, A.claimed_started, A.withdrawn_ok, A.done_claimed,
    A.done_res, A.req_ok, A.opening_ok, A.tearOld_ok, A.tearNew_ok, A.deliv_ok, A.ret_ok, A.ret_err, A.ret_rej,
    A.ret_can, A.waiting_ok, A.hist_claimed, A.hist_nodup, A.hist_last, A.opened_claimed, A.opened_nodup, A.init_ok,
    A.cur_opened, A.zero_hist, A.cur_hist, A.zero_idle, A.claimed_opened]

namespace A
variable {s s' : State} {e : Event}

theorem pend_ok_step (hi : InvA s) (h : Step s e s') : pend_ok s' := by
  have a1 := hi.pend_ok
  have caller {r v} := @forall_upd _ (fun x c => s.pending = some x →
    x ≠ 0 ∧ x ∉ s.claimed ∧ x ∉ s.withdrawn ∧ (c = .staged ∨ c = .waiting) ∧ s.done x = none) s.cst r v fun x _ => a1 x
  cases h with
  | withdraw | claim => exact nofun
  | stageBusy hc => exact caller fun hx => by rcases (a1 _ hx).2.2.2.1 with h | h <;> rw [hc] at h <;> cases h
  | wakeSend => exact caller fun hx => have h := a1 _ hx; ⟨h.1, h.2.1, h.2.2.1, .inr rfl, h.2.2.2.2⟩
  | cancel _ hp => exact caller fun hx => absurd hx hp
  | @stage r hc h0 =>
    intro x hx; cases hx
    have hcl : r ∉ s.claimed := fun hm => (hi.claimed_started r hm).1 hc
    exact ⟨h0, hcl, fun hm => (by rw [(hi.withdrawn_ok r hm).2] at hc; cases hc), .inl (upd_same ..),
      hi.done_claimed r hcl⟩
  | @doneRecv r _ _ hd =>
    -- the request in `n.pending` has an empty channel, so it is not the one whose answer is received
    intro x hx
    have h := a1 x hx
    have hne : x ≠ r := fun he => by rw [← he, h.2.2.2.2] at hd; cases hd
    exact ⟨h.1, h.2.1, h.2.2.1, by dsimp only; rw [upd_other _ _ hne]; exact h.2.2.2.1,
      (upd_other _ _ hne).trans h.2.2.2.2⟩
  | @deliver r _ hpc =>
    -- the request being answered is claimed, the one in `n.pending` is not
    intro x hx
    have h := a1 x hx
    have hr : r ∈ s.claimed := (hi.req_ok r (by rw [hpc]; rfl)).1
    exact ⟨h.1, h.2.1, h.2.2.1, h.2.2.2.1, (upd_other _ _ fun (he : x = r) => h.2.1 (he ▸ hr)).trans h.2.2.2.2⟩
  | _ => exact a1

theorem claimed_nodup_step (hi : InvA s) (h : Step s e s') : claimed_nodup s' := by
  cases h with
  | claim _ hp => exact List.nodup_cons.mpr ⟨(hi.pend_ok _ hp).2.1, hi.claimed_nodup⟩
  | _ => exact hi.claimed_nodup

theorem claimed_started_step (hi : InvA s) (h : Step s e s') : claimed_started s' := by
  have a1 := hi.pend_ok; have a2 := hi.claimed_started; clear hi
  cases h with
  | stageBusy | stage | wakeSend | doneRecv | withdraw | cancel =>
    exact forall_upd (P := fun x (c : CSt) => x ∈ s.claimed → c ≠ .idle ∧ x ≠ 0) (fun x _ => a2 x) fun hm =>
      ⟨nofun, (a2 _ hm).2⟩
  | claim _ hp =>
    unfold pend_ok claimed_started at *; dsimp only; grind
  | _ => exact a2

theorem withdrawn_ok_step (hi : InvA s) (h : Step s e s') : withdrawn_ok s' := by
  have a1 := hi.pend_ok; have a2 := hi.withdrawn_ok
  cases h with
  | stageBusy hc | stage hc | wakeSend hc | doneRecv hc | cancel hc =>
    -- a withdrawn request has returned, the caller that moves has not
    exact forall_upd (P := fun x (c : CSt) => x ∈ s.withdrawn → x ∉ s.claimed ∧ c = .returned .cancelled)
      (fun x _ => a2 x) fun hm => by rw [(a2 _ hm).2] at hc; cases hc
  | withdraw _ hp =>
    exact forall_upd (P := fun x (c : CSt) => x ∈ _ :: s.withdrawn → x ∉ s.claimed ∧ c = .returned .cancelled)
      (fun x hne hm => a2 x ((List.mem_cons.mp hm).resolve_left hne)) fun _ => ⟨(a1 _ hp).2.1, rfl⟩
  | claim _ hp =>
    exact fun x hm => ⟨fun hc => (List.mem_cons.mp hc).elim (fun he => (a1 _ hp).2.2.1 (he ▸ hm)) (a2 x hm).1,
      (a2 x hm).2⟩
  | _ => exact a2

theorem done_claimed_step (hi : InvA s) (h : Step s e s') : done_claimed s' := by
  have a1 := hi.done_claimed; have a2 := hi.req_ok; clear hi
  unfold done_claimed req_ok at *
  cases h with
  | doneRecv | deliver => dsimp only; grind [Pc.req]
  | claim => exact fun x hx => a1 x fun hm => hx (List.mem_cons_of_mem _ hm)
  | _ => exact a1

theorem done_res_step (hi : InvA s) (h : Step s e s') : done_res s' := by
  have a1 := hi.done_res; have a2 := hi.req_ok; have a3 := hi.deliv_ok; clear hi
  unfold done_res req_ok deliv_ok at *
  cases h with
  | doneRecv | deliver | openNew => dsimp only; grind [Pc.req]
  | _ => exact a1

theorem req_ok_step (hi : InvA s) (h : Step s e s') : req_ok s' := by
  have a1 := hi.pend_ok; have a2 := hi.done_claimed; have a3 := hi.req_ok; clear hi
  unfold pend_ok done_claimed req_ok at *
  cases h with
  | stageBusy | stage | wakeSend | withdraw | cancel => exact a3
  | doneRecv | claim => dsimp only; grind [Pc.req]
  | openNew hpc | openNewFail hpc | teardownOld hpc | teardownNew hpc => exact fun r hr => a3 r (by rw [hpc]; exact hr)
  | _ => exact nofun

/-- the clauses about one program point of `applyPendingSwap` (or of `init`): each is established by the one
step that leads there and is void at every other pc. -/
theorem swap_pc_step (hi : InvA s) (h : Step s e s') :
    opening_ok s' ∧ tearOld_ok s' ∧ tearNew_ok s' ∧ deliv_ok s' ∧ init_ok s' := by
  cases h with
  | stageBusy | stage | wakeSend | doneRecv | withdraw | cancel =>
    exact ⟨hi.opening_ok, hi.tearOld_ok, hi.tearNew_ok, hi.deliv_ok, hi.init_ok⟩
  | claim _ hp =>
    obtain ⟨h0, hc, -⟩ := hi.pend_ok _ hp
    exact ⟨fun r hr => by cases hr; exact ⟨fun hh => (hi.hist_claimed _ hh).elim h0 hc,
      fun ho => (hi.opened_claimed _ ho).elim h0 hc⟩, nofun, nofun, nofun, nofun⟩
  | openNew hpc =>
    have hc := hi.cur_opened (by rw [hpc]; nofun)
    exact ⟨nofun, fun old r hr => by cases hr; exact ⟨rfl, List.mem_append_right _ (List.mem_singleton_self _),
      fun he => (hi.opening_ok _ hpc).2 (he ▸ hc), List.mem_cons_of_mem _ hc⟩, nofun, nofun, nofun⟩
  | openNewFail hpc =>
    exact ⟨nofun, nofun, fun r hr => by cases hr; exact ⟨(hi.opening_ok _ hpc).1, List.mem_cons_self⟩, nofun, nofun⟩
  | teardownOld hpc =>
    exact ⟨nofun, nofun, nofun, fun r res hr => by cases hr; exact .inl ⟨rfl, (hi.tearOld_ok _ _ hpc).2.1⟩, nofun⟩
  | teardownNew hpc =>
    exact ⟨nofun, nofun, nofun, fun r res hr => by cases hr; exact .inr ⟨rfl, (hi.tearNew_ok _ hpc).1⟩, nofun⟩
  | _ => exact ⟨nofun, nofun, nofun, nofun, nofun⟩

theorem ret_ok_step (hi : InvA s) (h : Step s e s') : ret_ok s' := by
  have a1 := hi.ret_ok; have a2 := hi.done_res; clear hi
  cases h with
  | stageBusy | stage | wakeSend | withdraw | cancel =>
    exact forall_upd (P := fun x (c : CSt) => c = .returned .ok → x ∈ s.hist) (fun x _ => a1 x) nofun
  | doneRecv _ hd =>
    exact forall_upd (P := fun x (c : CSt) => c = .returned .ok → x ∈ s.hist) (fun x _ => a1 x) fun hv => by
      cases hv; exact ((a2 _ _ hd).resolve_right nofun).2
  | openNew => exact fun x hx => List.mem_append_left _ (a1 x hx)
  | _ => exact a1

theorem ret_err_step (hi : InvA s) (h : Step s e s') : ret_err s' := by
  have a1 := hi.ret_err
  have caller {r v} := @forall_upd _ (fun x c =>
    c = .returned .openErr → x ∉ s.hist ∧ x ∈ s.claimed ∧ s.pc.req ≠ some x) s.cst r v fun x _ => a1 x
  cases h with
  | stageBusy | stage | wakeSend | withdraw | cancel => exact caller nofun
  | doneRecv _ hd =>
    -- the answer was still in the channel: its request is claimed and the loop is done with it
    refine caller fun hv => ?_
    cases hv
    exact ⟨((hi.done_res _ _ hd).resolve_left nofun).2,
      Classical.byContradiction fun hn => (by rw [hi.done_claimed _ hn] at hd; cases hd),
      fun hq => by rw [(hi.req_ok _ hq).2.1] at hd; cases hd⟩
  | claim _ hp =>
    exact fun x hx => ⟨(a1 x hx).1, List.mem_cons_of_mem _ (a1 x hx).2.1, fun hq => by
      cases hq; exact (hi.pend_ok _ hp).2.1 (a1 _ hx).2.1⟩
  | openNew hpc =>
    intro x hx
    obtain ⟨h1, h2, h3⟩ := a1 x hx
    rw [hpc] at h3
    exact ⟨fun hm => (List.mem_append.mp hm).elim h1 fun hg => h3 (List.mem_singleton.mp hg ▸ rfl), h2, h3⟩
  | openNewFail hpc | teardownOld hpc | teardownNew hpc =>
    exact fun r hr => ⟨(a1 r hr).1, (a1 r hr).2.1, fun hq => (a1 r hr).2.2 (by rw [hpc]; exact hq)⟩
  | _ => exact fun r hr => ⟨(a1 r hr).1, (a1 r hr).2.1, nofun⟩

theorem ret_rej_step (hi : InvA s) (h : Step s e s') : ret_rej s' := by
  have a1 := hi.ret_rej
  have caller {r v} := @forall_upd _ (fun x c =>
    c = .returned .rejected → x ∉ s.claimed ∧ x ∉ s.withdrawn) s.cst r v fun x _ => a1 x
  cases h with
  | stage | wakeSend | cancel => exact caller nofun
  | stageBusy hc =>
    exact caller fun _ => ⟨fun hm => (hi.claimed_started _ hm).1 hc, fun hm => by
      rw [(hi.withdrawn_ok _ hm).2] at hc; cases hc⟩
  | doneRecv _ hd =>
    exact caller fun hv => by cases hv; rcases hi.done_res _ _ hd with ⟨h, -⟩ | ⟨h, -⟩ <;> cases h
  | withdraw =>
    exact forall_upd (P := fun x (c : CSt) => c = .returned .rejected → x ∉ s.claimed ∧ x ∉ _ :: s.withdrawn)
      (fun x hne hx => ⟨(a1 x hx).1, fun hm => (List.mem_cons.mp hm).elim hne (a1 x hx).2⟩) nofun
  | claim _ hp =>
    -- the claimed request is staged or waiting, not rejected
    exact fun x hx => ⟨fun hm => (List.mem_cons.mp hm).elim
      (fun he => by rcases (hi.pend_ok _ hp).2.2.2.1 with h | h <;> rw [← he, hx] at h <;> cases h) (a1 x hx).1,
      (a1 x hx).2⟩
  | _ => exact a1

theorem ret_can_step (hi : InvA s) (h : Step s e s') : ret_can s' := by
  have a1 := hi.ret_can; have a2 := hi.waiting_ok; have a3 := hi.done_res; clear hi
  unfold ret_can waiting_ok done_res at *
  cases h with
  | stageBusy | stage | wakeSend | doneRecv | withdraw | cancel | claim => dsimp only; grind
  | _ => exact a1

theorem waiting_ok_step (hi : InvA s) (h : Step s e s') : waiting_ok s' := by
  have a1 := hi.waiting_ok
  have caller {r v} := @forall_upd _ (fun x c =>
    c = .staged ∨ c = .waiting → s.pending = some x ∨ x ∈ s.claimed) s.cst r v fun x _ => a1 x
  cases h with
  | stageBusy | doneRecv | cancel => exact caller fun h => h.elim nofun nofun
  | wakeSend hc => exact caller fun _ => a1 _ (.inl hc)
  | stage _ _ hp =>
    exact forall_upd (P := fun x (c : CSt) => c = .staged ∨ c = .waiting → some _ = some x ∨ x ∈ s.claimed)
      (fun x _ hx => (a1 x hx).imp_left fun h => by rw [hp] at h; cases h) fun _ => .inl rfl
  | withdraw _ hp =>
    exact forall_upd (P := fun x (c : CSt) => c = .staged ∨ c = .waiting → none = some x ∨ x ∈ s.claimed)
      (fun x hne hx => (a1 x hx).imp_left fun h => absurd (Option.some.inj (h.symm.trans hp)) hne)
      fun h => h.elim nofun nofun
  | claim _ hp =>
    exact fun x hx => .inr ((a1 x hx).elim (fun h => by rw [hp] at h; cases h; exact List.mem_cons_self)
      (List.mem_cons_of_mem _))
  | _ => exact a1

theorem hist_claimed_step (hi : InvA s) (h : Step s e s') : hist_claimed s' := by
  have a1 := hi.hist_claimed
  cases h with
  | claim => exact fun g hg => (a1 g hg).imp_right (List.mem_cons_of_mem _)
  | openNew hpc =>
    intro x hx
    rcases List.mem_append.mp hx with hx | hx
    · exact a1 x hx
    · cases List.mem_singleton.mp hx; exact .inr (hi.req_ok _ (by rw [hpc]; rfl)).1
  | _ => exact a1

theorem hist_step (hi : InvA s) (h : Step s e s') : hist_nodup s' ∧ hist_last s' ∧ zero_hist s' ∧ cur_hist s' := by
  cases h with
  | openNew hpc =>
    exact ⟨List.nodup_append.mpr ⟨hi.hist_nodup, List.pairwise_singleton _ _, fun a ha b hb => by
        cases List.mem_singleton.mp hb; exact fun hab => (hi.opening_ok _ hpc).1 (hab ▸ ha)⟩,
      List.getLast?_concat .., List.mem_append_left _ hi.zero_hist, List.mem_append_right _ (List.mem_singleton_self _)⟩
  | _ => exact ⟨hi.hist_nodup, hi.hist_last, hi.zero_hist, hi.cur_hist⟩

theorem opened_step (hi : InvA s) (h : Step s e s') : opened_claimed s' ∧ opened_nodup s' := by
  have a1 := hi.opened_claimed
  cases h with
  | claim => exact ⟨fun g hg => (a1 g hg).imp_right (List.mem_cons_of_mem _), hi.opened_nodup⟩
  | runOpen hpc | runOpenFail hpc =>
    exact ⟨List.forall_mem_cons.mpr ⟨.inl (hi.init_ok hpc).2, a1⟩,
      List.nodup_cons.mpr ⟨by rw [(hi.init_ok hpc).1]; exact List.not_mem_nil, hi.opened_nodup⟩⟩
  | openNew hpc | openNewFail hpc =>
    exact ⟨List.forall_mem_cons.mpr ⟨.inr (hi.req_ok _ (by rw [hpc]; rfl)).1, a1⟩,
      List.nodup_cons.mpr ⟨(hi.opening_ok _ hpc).2, hi.opened_nodup⟩⟩
  | _ => exact ⟨a1, hi.opened_nodup⟩

theorem cur_opened_step (hi : InvA s) (h : Step s e s') : cur_opened s' := by
  have a1 := hi.cur_opened
  cases h with
  | stageBusy | stage | wakeSend | doneRecv | withdraw | cancel => exact a1
  | runOpen | runOpenFail | openNew => exact fun _ => List.mem_cons_self
  | openNewFail hpc => exact fun _ => List.mem_cons_of_mem _ (a1 (by rw [hpc]; nofun))
  | _ => exact fun _ => a1 (by rw [‹s.pc = _›]; nofun)

theorem zero_idle_step (hi : InvA s) (h : Step s e s') : zero_idle s' := by
  have a1 := hi.zero_idle
  cases h with
  | stageBusy _ h0 | stage _ h0 => exact (upd_other _ _ h0.symm).trans a1
  | wakeSend hc | doneRecv hc | withdraw hc | cancel hc =>
    exact (upd_other _ _ fun h0 => by rw [← h0, a1] at hc; cases hc).trans a1
  | _ => exact a1

theorem claimed_opened_step (hi : InvA s) (h : Step s e s') : claimed_opened s' := by
  have a1 := hi.claimed_opened
  cases h with
  | stageBusy | stage | wakeSend | doneRecv | withdraw | cancel => exact a1
  | claim hpc =>
    exact List.forall_mem_cons.mpr ⟨.inl rfl, fun r hr => .inr ((a1 r hr).resolve_left (by rw [hpc]; nofun))⟩
  | runOpen hpc | runOpenFail hpc | openNew hpc | openNewFail hpc =>
    exact fun r hr => .inr ((a1 r hr).elim (fun hq => by rw [hpc] at hq; cases hq <;> exact List.mem_cons_self)
      (List.mem_cons_of_mem _))
  | _ => exact fun r hr => .inr ((a1 r hr).resolve_left (by rw [‹s.pc = _›]; nofun))

end A

theorem stepA {s s' : State} {e : Event} (hi : InvA s) (h : Step s e s') : InvA s' :=
  have ⟨p1, p2, p3, p4, p5⟩ := A.swap_pc_step hi h
  have ⟨h1, h2, h3, h4⟩ := A.hist_step hi h
  have ⟨o1, o2⟩ := A.opened_step hi h
  ⟨A.pend_ok_step hi h, A.claimed_nodup_step hi h, A.claimed_started_step hi h, A.withdrawn_ok_step hi h,
   A.done_claimed_step hi h, A.done_res_step hi h, A.req_ok_step hi h, p1, p2, p3, p4, A.ret_ok_step hi h,
   A.ret_err_step hi h, A.ret_rej_step hi h, A.ret_can_step hi h, A.waiting_ok_step hi h, A.hist_claimed_step hi h,
   h1, h2, o1, o2, p5, A.cur_opened_step hi h, h3, h4, A.zero_idle_step hi h, A.claimed_opened_step hi h⟩

end Conduit.Model.ProcNode
