import ConduitModel.Proofs.SrcAckStep

/-!
Read side of M3 (`rstep`): what `Source.Stop` returns and the v1 `SourceNode` stop protocol.
Invariant for the code shape `fallback = false` (Stop returns exactly the plugin's reply).
-/
namespace Conduit.SrcAck

structure RInv (s : RSt) : Prop where
  qLast : ∀ p, s.r.q.getLast? = some p → s.r.out = some p
  qNil : s.r.q = [] → s.r.nlast = s.r.out
  fet : ∀ r, s.r.fetched = some r → r = s.r.out
  outGt : ∀ p, s.r.out = some p → openPos s.m < p
  ctlNE : s.r.ctl = true → s.r.ended = false → ∃ r, s.r.fetched = some r ∧ r ≠ s.r.nlast

theorem rinv_init : RInv rinit := by
  constructor <;> simp [rinit]

/-- `tdBegin` also waits for the node to leave its loop; no clause of `RInv` needs that, and it is dropped here. -/
theorem rstep_m {c : Cfg} {fb : Bool} {s s' : RSt} {e : Ev} (h : rstep c fb s (.m e) = some s') :
    ∃ m', step c s.m e = some m' ∧
      (e = .restart ∧ s' = { m := m', r := {} } ∨ e ≠ .restart ∧ s' = { s with m := m' }) := by
  simp only [rstep] at h
  split at h
  · obtain ⟨m', hm, rfl⟩ := Option.map_eq_some_iff.mp h
    exact ⟨m', hm, .inl ⟨rfl, rfl⟩⟩
  · split at h
    · obtain ⟨m', hm, rfl⟩ := Option.map_eq_some_iff.mp h
      exact ⟨m', hm, .inr ⟨nofun, rfl⟩⟩
    · cases h
  · obtain ⟨m', hm, rfl⟩ := Option.map_eq_some_iff.mp h
    exact ⟨m', hm, .inr ⟨‹_›, rfl⟩⟩

theorem rinv_step {c : Cfg} {s s' : RSt} {e : REv} (hi : RInv s) (h : rstep c false s e = some s') : RInv s' := by
  obtain ⟨h1, h2, h3, h4, h5⟩ := hi
  cases e with
  | m e =>
    obtain ⟨m', hm, ⟨rfl, rfl⟩ | ⟨hr, rfl⟩⟩ := rstep_m h
    · constructor <;> simp
    · exact ⟨h1, h2, h3, fun p hp => by simp only [openPos, step_opened hm hr]; exact h4 p hp, h5⟩
  | emit p =>
    simp only [rstep] at h
    obtain ⟨⟨-, -, hnf, hop, -⟩, hs⟩ := Option.ite_none_right_eq_some.mp h
    cases hs
    refine ⟨?_, ?_, ?_, ?_, ?_⟩
    · intro x hx; simp at hx; simp [hx]
    · intro hq; simp at hq
    · intro r hr; simp only at hr; rw [hnf] at hr; simp at hr
    · intro x hx; simp only [Option.some.injEq] at hx; subst hx; exact hop
    · intro hcl hen
      obtain ⟨r, hr, _⟩ := h5 hcl hen
      rw [hnf] at hr; simp at hr
  | nodeRead =>
    simp only [rstep] at h
    split at h
    · rename_i p rest hq
      obtain ⟨hc, hs⟩ := Option.ite_none_right_eq_some.mp h
      cases hs
      refine ⟨?_, ?_, h3, h4, ?_⟩
      · intro x hx
        apply h1 x
        rw [hq]
        cases rest with
        | nil => simp at hx
        | cons y ys => simpa [List.getLast?_cons_cons] using hx
      · intro hrest
        simp only at hrest
        subst hrest
        exact (h1 p (by rw [hq]; rfl)).symm
      · intro hcl hen
        simp only at hcl hen
        have hold : s.r.ended = false := by simpa using hc.2
        obtain ⟨r, hr, _⟩ := h5 hcl hold
        refine ⟨r, hr, ?_⟩
        intro heq
        simp only [hcl, hr, Bool.true_and, heq] at hen
        simp at hen
    · cases h
  | stopRpc =>
    simp only [rstep] at h
    obtain ⟨⟨-, -, -, hnf⟩, hs⟩ := Option.ite_none_right_eq_some.mp h
    cases hs
    refine ⟨h1, h2, ?_, h4, ?_⟩
    · intro r hr; simpa [stopResult] using hr.symm
    · intro hcl hen
      obtain ⟨r, hr, _⟩ := h5 hcl hen
      rw [hnf] at hr; simp at hr
  | ctl =>
    simp only [rstep] at h
    split at h
    · rename_i pos hf
      obtain ⟨-, hs⟩ := Option.ite_none_right_eq_some.mp h
      cases hs
      refine ⟨h1, h2, h3, h4, fun _ hen => ⟨pos, hf, fun heq => ?_⟩⟩
      simp [heq] at hen
    · cases h

theorem rrun_eq (c : Cfg) (fb : Bool) (evs : List REv) (a : RSt) : rrun c fb a evs = evs.foldlM (rstep c fb) a :=
  EventSys.run_eq (fun _ => rfl) (fun s e _ => by cases h : rstep c fb s e <;> simp [rrun, h]) evs a

theorem rinv_run {c : Cfg} (evs : List REv) {a b : RSt} (hi : RInv a) (h : rrun c false a evs = some b) : RInv b :=
  EventSys.run_induct (fun _ _ _ hi => rinv_step hi) evs hi (rrun_eq .. ▸ h)

theorem rinv_reach {c : Cfg} {s : RSt} (h : RReach c false s) : RInv s := by
  obtain ⟨evs, h⟩ := h
  exact rinv_run evs rinv_init h

end Conduit.SrcAck
