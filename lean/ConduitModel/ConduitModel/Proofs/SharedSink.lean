import ConduitModel.Model.SharedSink
import ConduitModel.Proofs.EventSys

/-!
The shared-sink protocol (Model/SharedSink.lean), root by root. `Inv` (lock / program counters / poison /
ownership of the outstanding acks) and `LogInv` (the ghost log of every root is serial; entries of a worker are
in hand-off order) are the statements the properties read. Each of their clauses speaks of ONE root, so the
inductive invariant is `RootInv` of the `RootView` of every root (`Sys`). A statement of the branch of `w` into
`r` changes the view of `r` only (`Sys.branch`) and is judged by one rule, `RootInv.branch`; a statement of a
worker itself (`fanStart`, `join`, `fail`, `finish`) changes its own column of every view: `RootInv.worker`.
-/
namespace Conduit.SharedSink

structure Inv (R : Nat) (s : St) : Prop where
  holdsLock : ∀ w r, (s.bpc w r).holds = true → s.lock r = some w
  lockHolds : ∀ w r, s.lock r = some w → (s.bpc w r).holds = true
  runClean : ∀ w r, s.bpc w r = .running → s.poison r = false
  idleOut : ∀ w r, s.wpc w ≠ .fanned → s.bpc w r = .idle
  idleHigh : ∀ w r, R ≤ r → s.bpc w r = .idle
  pendOwn : ∀ r d t, t ∈ s.pend r d → s.poison r = true ∨
    (s.lock r ≠ none ∧ ∀ w, s.lock r = some w → (s.bpc w r = .running ∨ s.bpc w r = .failedSub) ∧ t = (w, s.seq w))
  pendLive : ∀ r d, s.poison r = false → s.pend r d ≠ [] →
    (s.lock r ≠ none ∧ ∀ w, s.lock r = some w → s.bpc w r = .failedSub) ∨ d ∈ s.live r
  noForeign : s.foreign = false
  latch : ∀ r, s.errEnded r = true → s.poison r = true ∨ (s.lock r ≠ none ∧ ∀ w, s.lock r = some w → s.bpc w r = .failedSub)

structure LogInv (s : St) : Prop where
  serial : ∀ r, Serial (s.rlog r) (openOn s r)
  entryBound : ∀ r e, e ∈ s.rlog r → e.tag.2 ≤ s.seq e.tag.1 ∧
    (s.wpc e.tag.1 = .fanned → (s.bpc e.tag.1 r).entered = false → e.tag.2 < s.seq e.tag.1)
  entrySorted : ∀ r w, ((s.rlog r).filterMap (REv.entryOf w)).Pairwise (· < ·)


inductive Step (R : Nat) (s : St) : Ev → St → Prop
  | fanStart w : s.wpc w = .between →
      Step R s (.fanStart w) { s with wpc := upd s.wpc w .fanned, seq := upd s.seq w (s.seq w + 1),
                                      bpc := fun a b => if a = w ∧ b < R then .want else s.bpc a b }
  | acquire w r : s.bpc w r = .want → s.lock r = none →
      Step R s (.acquire w r) { s with lock := upd s.lock r (some w), bpc := upd2 s.bpc w r .held }
  | refuse w r : s.bpc w r = .held → s.poison r = true →
      Step R s (.checkPoison w r) { s with bpc := upd2 s.bpc w r (.exiting .refused),
                                           rlog := upd s.rlog r (s.rlog r ++ [.refuse (w, s.seq w)]) }
  | enter w r : s.bpc w r = .held → s.poison r = false →
      Step R s (.checkPoison w r) { s with bpc := upd2 s.bpc w r .running, live := upd s.live r [],
                                           rlog := upd s.rlog r (s.rlog r ++ [.enter (w, s.seq w)]) }
  | procCall w r : s.bpc w r = .running →
      Step R s (.procCall w r) { s with rlog := upd s.rlog r (s.rlog r ++ [.proc (w, s.seq w)]) }
  | write w r d k ok : s.bpc w r = .running →
      Step R s (.write w r d k ok (s.poison r))
        { s with pend := if ok then upd2 s.pend r d (s.pend r d ++ List.replicate k (w, s.seq w)) else s.pend,
                 live := upd s.live r (d :: s.live r),
                 rlog := upd s.rlog r (s.rlog r ++ [.write (w, s.seq w) d k]) }
  | ackRead w r d n : s.bpc w r = .running → n ≤ (s.pend r d).length →
      Step R s (.ackRead w r d n)
        { s with pend := upd2 s.pend r d ((s.pend r d).drop n),
                 foreign := s.foreign || ((s.pend r d).take n).any (fun t => t != (w, s.seq w)),
                 rlog := upd s.rlog r (s.rlog r ++ [.ack (w, s.seq w) d n]) }
  | subEndOk w r : s.bpc w r = .running → (s.live r).all (fun d => (s.pend r d).isEmpty) = true →
      Step R s (.subEnd w r true) { s with bpc := upd2 s.bpc w r (.exiting .ok),
                                           rlog := upd s.rlog r (s.rlog r ++ [.exit (w, s.seq w) true]) }
  | subEndErr w r : s.bpc w r = .running →
      Step R s (.subEnd w r false) { s with bpc := upd2 s.bpc w r .failedSub, errEnded := upd s.errEnded r true,
                                            rlog := upd s.rlog r (s.rlog r ++ [.exit (w, s.seq w) false]) }
  | setPoison w r : s.bpc w r = .failedSub →
      Step R s (.setPoison w r) { s with poison := upd s.poison r true, bpc := upd2 s.bpc w r (.exiting .err) }
  | release w r res : s.bpc w r = .exiting res →
      Step R s (.release w r) { s with lock := upd s.lock r none, bpc := upd2 s.bpc w r (.done res) }
  | join w : s.wpc w = .fanned → (∀ r, r < R → (s.bpc w r).isDone = true) →
      Step R s (.join w)
        { s with wpc := upd s.wpc w (if (List.range R).all (fun r => (s.bpc w r).isOk) then .between else .failed),
                 bpc := fun a b => if a = w then .idle else s.bpc a b }
  | ownStep w : s.wpc w = .between ∨ s.wpc w = .fanned → Step R s (.ownStep w) s
  | fail w : s.wpc w = .between → Step R s (.fail w) { s with wpc := upd s.wpc w .failed }
  | finish w : s.wpc w = .between → Step R s (.finish w) { s with wpc := upd s.wpc w .finished }

theorem step_iff {R : Nat} {s s' : St} {e : Ev} : step R s e = some s' ↔ Step R s e s' := by
  constructor
  · intro hs
    cases e with
    | write w r d k ok pz =>
      simp only [step] at hs; split at hs <;> cases hs
      rename_i hc; rw [hc.2]; exact .write w r d k ok hc.1
    | subEnd w r ok =>
      cases ok <;> simp only [step] at hs <;> split at hs <;> cases hs <;> constructor <;> simp_all
    | join w =>
      simp only [step] at hs; split at hs <;> cases hs
      rename_i hc; exact .join w hc.1 (by simpa using hc.2)
    | _ =>
      simp only [step] at hs <;> (repeat' split at hs) <;> cases hs <;> constructor <;> first | assumption | simp_all
  · intro h
    cases h <;> simp [step, *] <;> assumption

theorem upd_same {α : Type} (f : Nat → α) (i : Nat) (v : α) : upd f i v i = v := if_pos rfl

theorem upd_other {α : Type} (f : Nat → α) {i j : Nat} (v : α) (h : j ≠ i) : upd f i v j = f j := if_neg h

theorem upd_self {α : Type} (f : Nat → α) (i : Nat) : upd f i (f i) = f := by
  funext j; unfold upd; split
  · rename_i h; rw [h]
  · rfl

theorem upd2_same {α : Type} (f : Nat → Nat → α) (i j : Nat) (v : α) : upd2 f i j v i j = v := if_pos ⟨rfl, rfl⟩

theorem upd2_row {α : Type} (f : Nat → Nat → α) (i j : Nat) (v : α) : upd2 f i j v i = upd (f i) j v := by
  funext b; simp [upd, upd2]

theorem upd2_col {α : Type} (f : Nat → Nat → α) (i j : Nat) (v : α) :
    (fun a => upd2 f i j v a j) = upd (fun a => f a j) i v := by
  funext a; simp [upd, upd2]

theorem upd2_other_row {α : Type} (f : Nat → Nat → α) {i a : Nat} (j : Nat) (v : α) (h : a ≠ i) :
    upd2 f i j v a = f a := by
  funext b; simp [upd2, h]

theorem upd2_other_col {α : Type} (f : Nat → Nat → α) (i : Nat) {j b : Nat} (v : α) (h : b ≠ j) (a : Nat) :
    upd2 f i j v a b = f a b := by
  simp [upd2, h]

/-- What the state shows of ONE root: its own fields, the pcs of the branches into it, and the workers'
hand-off counters and pcs. -/
structure RootView where
  lock : Option Nat
  poison : Bool
  bpc : Nat → BPc
  pend : Nat → List Tag
  live : List Nat
  errEnded : Bool
  rlog : List REv
  seq : Nat → Nat
  wpc : Nat → WPc

def St.root (s : St) (r : Nat) : RootView :=
  { lock := s.lock r, poison := s.poison r, bpc := fun w => s.bpc w r, pend := s.pend r, live := s.live r,
    errEnded := s.errEnded r, rlog := s.rlog r, seq := s.seq, wpc := s.wpc }

def RootView.Quiet (v : RootView) : Prop :=
  v.poison = false → v.errEnded = false ∧ ∀ d, v.pend d = []

structure RootView.Running (v : RootView) (w : Nat) : Prop where
  clean : v.poison = false
  noErr : v.errEnded = false
  own : ∀ d, ∀ t ∈ v.pend d, t = (w, v.seq w)
  live : ∀ d, v.pend d ≠ [] → d ∈ v.live

/-- what holds of a root while worker `w`'s branch holds its lock at a given pc: inside the sub-pass
the root is not poisoned, every outstanding ack is the sub-pass's own and sits on a stream it wrote
to (`Running`); between a failed sub-pass and `poisoned.Store(true)` the leftover acks are still that
sub-pass's; at every other pc the root is quiet -/
def BPc.guards (v : RootView) (w : Nat) : BPc → Prop
  | .running => v.Running w
  | .failedSub => v.poison = false → ∀ d, ∀ t ∈ v.pend d, t = (w, v.seq w)
  | _ => v.Quiet

/-- `openOn` of the root -/
def RootView.openTag (v : RootView) : Option Tag :=
  match v.lock with
  | some w => if v.bpc w = .running then some (w, v.seq w) else none
  | none => none

/-- strict bound on the hand-off numbers under which `w` is in the root's log: the current hand-off is
there only once the branch has `entered` -/
def RootView.cap (v : RootView) (w : Nat) : Nat :=
  if v.wpc w = .fanned ∧ (v.bpc w).entered = false then v.seq w else v.seq w + 1

/-- The invariant of one root (`inR`: the root exists). Lock and ownership, arranged by who holds the
lock; then the log. -/
structure RootInv (inR : Prop) (v : RootView) : Prop where
  holder : ∀ w, v.lock = some w ↔ (v.bpc w).holds = true
  free : v.lock = none → v.Quiet
  held : ∀ w, v.lock = some w → (v.bpc w).guards v w
  fanned : ∀ w, v.bpc w ≠ .idle → v.wpc w = .fanned ∧ inR
  serial : Serial v.rlog v.openTag
  bound : ∀ e ∈ v.rlog, e.tag.2 < v.cap e.tag.1
  sorted : ∀ w, (v.rlog.filterMap (REv.entryOf w)).Pairwise (· < ·)

theorem entryOf_some {w a : Nat} {e : REv} (h : e.entryOf w = some a) : e.tag.1 = w ∧ e.tag.2 = a := by
  cases e <;> simp [REv.entryOf] at h <;> (obtain ⟨h1, h2⟩ := h; exact ⟨h1, h2⟩)

/-- a branch inside `Lock() … Unlock()` is the holder, and what it guards holds -/
theorem RootInv.at {inR : Prop} {v : RootView} {w : Nat} {p : BPc} (hv : RootInv inR v) (hb : v.bpc w = p)
    (hp : p.holds = true) : v.lock = some w ∧ p.guards v w := by
  have hl := (hv.holder w).mpr (by rw [hb]; exact hp)
  exact ⟨hl, hb ▸ hv.held w hl⟩

/-- `v'` is the view after the branch of `w` into the root went to pc `p'` -/
structure Moved (v : RootView) (w : Nat) (p' : BPc) (v' : RootView) : Prop where
  bpc : v'.bpc = upd v.bpc w p'
  seq : v'.seq = v.seq
  wpc : v'.wpc = v.wpc

theorem Moved.cap {v v' : RootView} {w : Nat} {p' : BPc} (m : Moved v w p' v')
    (hent : (v.bpc w).entered = true → p'.entered = true) (a : Nat) : v.cap a ≤ v'.cap a := by
  unfold RootView.cap
  rw [m.bpc, m.seq, m.wpc]
  by_cases ha : a = w
  · subst ha
    rw [upd_same]
    split
    · split <;> omega
    · rename_i h1
      rw [if_neg fun hc => h1 ⟨hc.1, Bool.eq_false_iff.mpr fun he => Bool.eq_false_iff.mp hc.2 (hent he)⟩]
      exact Nat.le_refl _
  · rw [upd_other _ _ ha]; exact Nat.le_refl _

/-- `openTag` where only `w` can hold the lock, read off the pc of its branch -/
theorem RootView.openTag_of {v : RootView} {w : Nat} {q : BPc} (hl : v.lock = none ∨ v.lock = some w)
    (hq : v.bpc w = q) (hr : q = .running → v.lock = some w) :
    v.openTag = if q = .running then some (w, v.seq w) else none := by
  subst hq
  unfold RootView.openTag
  rcases hl with hl | hl
  · rw [hl]; exact (if_neg fun h => nomatch (hr h).symm.trans hl).symm
  · rw [hl]

theorem Moved.of_same {v v' : RootView} {w : Nat} {p : BPc} (hb : v.bpc w = p) (h1 : v'.bpc = v.bpc)
    (h2 : v'.seq = v.seq) (h3 : v'.wpc = v.wpc) : Moved v w p v' :=
  ⟨by rw [h1, ← hb, upd_self], h2, h3⟩

/-- The rule for a statement of the branch of `w` into the root, from pc `p` to `p'`. It keeps the invariant
if the lock goes with `p'.holds`, the guards of `p'` hold afterwards, and the log either stays as it is outside
a sub-pass or grows by one event of the branch's current hand-off that continues the serial reading. -/
theorem RootInv.branch {inR : Prop} {v v' : RootView} {w : Nat} {p p' : BPc} (hv : RootInv inR v)
    (m : Moved v w p' v') (hb : v.bpc w = p) (hpi : p ≠ .idle) (hlk : v.lock = none ∨ v.lock = some w)
    (hl : v'.lock = if p'.holds then some w else none)
    (hg : if p'.holds then p'.guards v' w else v'.Quiet)
    (hent : p.entered = true → p'.entered = true)
    (hlog : v'.rlog = v.rlog ∧ p ≠ .running ∧ p' ≠ .running ∨
      ∃ x, v'.rlog = v.rlog ++ [x] ∧ x.tag = (w, v.seq w) ∧ p'.entered = true ∧
        (∀ a n, x.entryOf a = some n → p.entered = false) ∧
        (Serial v.rlog (if p = .running then some (w, v.seq w) else none) →
          Serial (v.rlog ++ [x]) (if p' = .running then some (w, v.seq w) else none))) : RootInv inR v' := by
  have hbw : v'.bpc w = p' := by rw [m.bpc]; exact upd_same ..
  have hoth : ∀ a, a ≠ w → v'.bpc a = v.bpc a := fun a ha => by rw [m.bpc]; exact upd_other _ _ ha
  have hcap := m.cap (hb ▸ hent)
  have hfan := (hv.fanned w (hb ▸ hpi)).1
  have hlk' : v'.lock = none ∨ v'.lock = some w := by rw [hl]; split; exact .inr rfl; exact .inl rfl
  -- the lock is free or `w`'s, before and after: never another worker's
  have hnot : ∀ {o : Option Nat} {a : Nat}, o = none ∨ o = some w → a ≠ w → o ≠ some a := fun ho ha h => by
    rcases ho with h0 | h0 <;> rw [h0] at h
    · cases h
    · exact ha (Option.some.inj h).symm
  have hopen := RootView.openTag_of hlk hb fun h => (hv.holder w).mpr (by rw [hb, h]; rfl)
  have hopen' := RootView.openTag_of hlk' hbw fun h => hl.trans (by rw [h]; rfl)
  rw [m.seq] at hopen'
  refine ⟨fun a => ?_, fun hn => ?_, fun a ha => ?_, fun a ha => ?_, ?_, ?_, ?_⟩
  · by_cases haw : a = w
    · rw [haw, hbw, hl]; cases p'.holds <;> simp
    · rw [hoth a haw, ← hv.holder a]
      exact iff_of_false (hnot hlk' haw) (hnot hlk haw)
  · rw [hl] at hn; split at hn
    · cases hn
    · rwa [if_neg ‹_›] at hg
  · rw [hl] at ha; split at ha
    · cases Option.some.inj ha
      rw [if_pos ‹_›] at hg; rwa [hbw]
    · cases ha
  · rw [m.wpc]
    by_cases haw : a = w
    · rw [haw]; exact hv.fanned w (hb ▸ hpi)
    · exact hv.fanned a (hoth a haw ▸ ha)
  · rcases hlog with ⟨hr, hp, hp'⟩ | ⟨x, hr, _, _, _, hser⟩
    · rw [hr, hopen', if_neg hp']; have := hv.serial; rwa [hopen, if_neg hp] at this
    · rw [hr, hopen']; exact hser (hopen ▸ hv.serial)
  · have hold : ∀ e ∈ v.rlog, e.tag.2 < v'.cap e.tag.1 := fun e he => Nat.lt_of_lt_of_le (hv.bound e he) (hcap _)
    rcases hlog with ⟨hr, -⟩ | ⟨x, hr, htag, hent', -⟩ <;> rw [hr]
    · exact hold
    · refine forall_mem_concat hold ?_
      rw [htag]
      show v.seq w < v'.cap w
      unfold RootView.cap
      rw [hbw, m.seq, if_neg fun hc => by rw [hent'] at hc; cases hc.2]
      exact Nat.lt_succ_self _
  · rcases hlog with ⟨hr, -⟩ | ⟨x, hr, htag, -, hnew, -⟩ <;> intro a <;> rw [hr]
    · exact hv.sorted a
    · rw [List.filterMap_append, List.pairwise_append]
      refine ⟨hv.sorted a, ?_, fun y hy n hn => ?_⟩
      · cases hx : x.entryOf a <;> simp [List.filterMap, hx]
      · -- an entry of the log so far is below `cap`, which is the hand-off number before the branch has entered
        have hn : x.entryOf a = some n := by
          cases hx : x.entryOf a <;> simp [List.filterMap, hx] at hn; rw [hn]
        obtain ⟨e, he, hey⟩ := List.mem_filterMap.mp hy
        obtain ⟨t1, t2⟩ := entryOf_some hey
        obtain ⟨x1, x2⟩ : w = a ∧ v.seq w = n := by have := entryOf_some hn; rwa [htag] at this
        have := hv.bound e he
        rw [t1, t2, ← x1] at this
        unfold RootView.cap at this
        rw [if_pos ⟨hfan, by rw [hb]; exact hnew a n hn⟩, x2] at this
        exact this

theorem RootView.cap_le (v : RootView) (a : Nat) : v.cap a ≤ v.seq a + 1 := by
  unfold RootView.cap; split <;> omega

theorem RootView.seq_le_cap (v : RootView) (a : Nat) : v.seq a ≤ v.cap a := by
  unfold RootView.cap; split <;> omega

theorem RootView.cap_of_not_fanned {v : RootView} {a : Nat} (h : v.wpc a ≠ .fanned) : v.cap a = v.seq a + 1 :=
  if_neg fun hc => h hc.1

/-- The rule for the statements of worker `w` itself (`fanStart`, `join`, `fail`, `finish`) at a root whose lock
it does not hold: they change the pc of its branch, its hand-off number and its own pc, nothing else, and leave
the branch idle or (`fanStart`) wanting the lock. -/
theorem RootInv.worker {inR : Prop} {v v' : RootView} {w : Nat} (hv : RootInv inR v)
    (hsame : v' = { v with bpc := v'.bpc, seq := v'.seq, wpc := v'.wpc })
    (hb : ∀ a, a ≠ w → v'.bpc a = v.bpc a) (hs : ∀ a, a ≠ w → v'.seq a = v.seq a)
    (hp : ∀ a, a ≠ w → v'.wpc a = v.wpc a) (hw : (v.bpc w).holds = false)
    (hnew : v'.bpc w = .idle ∨ v'.bpc w = .want ∧ v'.wpc w = .fanned ∧ inR)
    (hseq : v.seq w < v'.seq w ∨ v'.seq w = v.seq w ∧ v'.wpc w ≠ .fanned) : RootInv inR v' := by
  have hw' : (v'.bpc w).holds = false := by rcases hnew with h0 | ⟨h0, -⟩ <;> rw [h0] <;> rfl
  have hcap : v.cap w ≤ v'.cap w := by
    have := v.cap_le w
    rcases hseq with h1 | ⟨h1, h2⟩
    · have := v'.seq_le_cap w; omega
    · rw [RootView.cap_of_not_fanned h2, h1]; exact this
  have hl : v'.lock = v.lock := by rw [hsame]
  have hpo : v'.poison = v.poison := by rw [hsame]
  have hpe : v'.pend = v.pend := by rw [hsame]
  have hli : v'.live = v.live := by rw [hsame]
  have he : v'.errEnded = v.errEnded := by rw [hsame]
  have hlog : v'.rlog = v.rlog := by rw [hsame]
  have hne : ∀ a, v.lock = some a → a ≠ w := fun a hl' haw => by
    rw [haw, hv.holder, hw] at hl'; cases hl'
  have hq : v.Quiet → v'.Quiet := fun q => by unfold RootView.Quiet at q ⊢; rwa [hpo, he, hpe]
  refine ⟨fun a => ?_, fun hn => hq (hv.free (hl ▸ hn)), fun a ha => ?_, fun a ha => ?_, ?_, fun e he => ?_, ?_⟩
  · by_cases haw : a = w
    · rw [haw, hl, hw', ← hw]; exact hv.holder w
    · rw [hl, hb a haw]; exact hv.holder a
  · have haw := hne a (hl ▸ ha)
    have := hv.held a (hl ▸ ha)
    rw [hb a haw]
    cases hba : v.bpc a <;> rw [hba] at this
    case running => exact ⟨hpo ▸ this.clean, he ▸ this.noErr, hpe ▸ hs a haw ▸ this.own, hpe ▸ hli ▸ this.live⟩
    all_goals simp only [BPc.guards, RootView.Quiet, hpo, he, hpe, hs a haw]; exact this
  · by_cases haw : a = w
    · rw [haw] at ha ⊢; exact hnew.elim (absurd · ha) (·.2)
    · rw [hp a haw]; exact hv.fanned a (hb a haw ▸ ha)
  · have : v'.openTag = v.openTag := by
      unfold RootView.openTag
      rw [hl]
      cases hlk : v.lock with
      | none => rfl
      | some a => simp only [hb a (hne a hlk), hs a (hne a hlk)]
    rw [hlog, this]; exact hv.serial
  · rw [hlog] at he
    refine Nat.lt_of_lt_of_le (hv.bound e he) ?_
    by_cases haw : e.tag.1 = w
    · rw [haw]; exact hcap
    · unfold RootView.cap; rw [hb _ haw, hs _ haw, hp _ haw]; exact Nat.le_refl _
  · rw [hlog]; exact hv.sorted

/-- The invariant: `RootInv` of every root, and the ghost flag. `Inv` and `LogInv` are what it says clause by clause
(`Sys.inv`, `Sys.logInv`). -/
structure Sys (R : Nat) (s : St) : Prop where
  root : ∀ r, RootInv (r < R) (s.root r)
  noForeign : s.foreign = false

theorem Sys.branch {R : Nat} {s s' : St} (h : Sys R s) {r : Nat} (hother : ∀ r', r' ≠ r → s'.root r' = s.root r')
    (hfor : s'.foreign = false) (hroot : RootInv (r < R) (s'.root r)) : Sys R s' :=
  ⟨fun r' => if hr : r' = r then hr ▸ hroot else hother r' hr ▸ h.root r', hfor⟩

theorem Sys.idle {R : Nat} {s : St} (h : Sys R s) {w : Nat} (hw : s.wpc w ≠ .fanned) (r : Nat) : s.bpc w r = .idle :=
  Decidable.not_not.mp fun hne => hw ((h.root r).fanned w hne).1

theorem pend_nil_of_subEnd_ok {v : RootView} {w : Nat} (g : v.Running w)
    (hall : v.live.all (fun d => (v.pend d).isEmpty) = true) (d : Nat) : v.pend d = [] :=
  Decidable.not_not.mp fun hne => by
    have := List.all_eq_true.mp hall d (g.live d hne)
    exact hne (List.isEmpty_iff.mp this)

/-- a write or an ack read inside the sub-pass: every outstanding ack was outstanding before, or is the sub-pass's
own on a stream that is live afterwards -/
theorem RootView.Running.pend {v v' : RootView} {w : Nat} (g : v.Running w) (hpo : v'.poison = v.poison)
    (he : v'.errEnded = v.errEnded) (hs : v'.seq = v.seq)
    (hpend : ∀ d, ∀ t ∈ v'.pend d, t ∈ v.pend d ∨ d ∈ v'.live ∧ t = (w, v.seq w))
    (hlive : ∀ d, d ∈ v.live → d ∈ v'.live) : v'.Running w := by
  refine ⟨hpo ▸ g.clean, he ▸ g.noErr, fun d t ht => ?_, fun d hne => ?_⟩
  · rw [hs]; exact (hpend d t ht).elim (g.own d t) (·.2)
  · obtain ⟨t, ht⟩ := List.exists_mem_of_ne_nil _ hne
    exact (hpend d t ht).elim (fun h0 => hlive d (g.live d (List.ne_nil_of_mem h0))) (·.1)

attribute [local simp] upd_other upd2_other_row upd2_other_col in
theorem Step.sys {R : Nat} {s s' : St} {e : Ev} (h : Sys R s) (hs : Step R s e s') : Sys R s' := by
  cases hs with
  | fanStart w hw =>
    have hidle := h.idle (w := w) (by rw [hw]; nofun)
    refine ⟨fun r => (h.root r).worker (w := w) rfl (fun a ha => if_neg fun hc => ha hc.1) (fun a ha => upd_other _ _ ha)
      (fun a ha => upd_other _ _ ha) (by show (s.bpc w r).holds = false; rw [hidle]; rfl) ?_
      (.inl (by show s.seq w < upd s.seq w (s.seq w + 1) w; rw [upd_same]; exact Nat.lt_succ_self _)), h.noForeign⟩
    show (if w = w ∧ r < R then BPc.want else s.bpc w r) = .idle ∨ _
    by_cases hr : r < R
    · exact .inr ⟨if_pos ⟨rfl, hr⟩, upd_same .., hr⟩
    · exact .inl ((if_neg fun hc => hr hc.2).trans (hidle r))
  | acquire w r hb hl =>
    exact h.branch (fun r' hr => by simp [St.root, hr]) h.noForeign
      ((h.root r).branch ⟨upd2_col .., rfl, rfl⟩ hb nofun (.inl hl) (upd_same ..) ((h.root r).free hl) nofun
        (.inl ⟨rfl, nofun, nofun⟩))
  | refuse w r hb hp =>
    obtain ⟨hl, -⟩ := (h.root r).at hb rfl
    exact h.branch (fun r' hr => by simp [St.root, hr]) h.noForeign
      ((h.root r).branch ⟨upd2_col .., rfl, rfl⟩ hb nofun (.inr hl) hl (fun hp' => nomatch hp.symm.trans hp') nofun
        (.inr ⟨_, upd_same .., rfl, rfl, fun _ _ _ => rfl, .refuse⟩))
  | enter w r hb hp =>
    obtain ⟨hl, g⟩ := (h.root r).at hb rfl
    obtain ⟨he, hpe⟩ := g hp
    refine h.branch (fun r' hr => by simp [St.root, hr]) h.noForeign
      ((h.root r).branch ⟨upd2_col .., rfl, rfl⟩ hb nofun (.inr hl) hl ?_ nofun
        (.inr ⟨_, upd_same .., rfl, rfl, fun _ _ _ => rfl, .enter⟩))
    have hnil : ∀ d, s.pend r d = [] := hpe
    exact ⟨hp, he, fun d t (ht : t ∈ s.pend r d) => (by rw [hnil d] at ht; cases ht), fun d hne => absurd (hnil d) hne⟩
  | procCall w r hb =>
    obtain ⟨hl, g⟩ := (h.root r).at hb rfl
    exact h.branch (fun r' hr => by simp [St.root, hr]) h.noForeign
      ((h.root r).branch (.of_same hb rfl rfl rfl) hb nofun (.inr hl) hl ⟨g.clean, g.noErr, g.own, g.live⟩ id
        (.inr ⟨_, upd_same .., rfl, rfl, nofun, fun l => .body l rfl rfl⟩))
  | write w r d k ok hb =>
    obtain ⟨hl, g⟩ := (h.root r).at hb rfl
    have hlive : ∀ d', d' ∈ d :: s.live r → d' ∈ upd s.live r (d :: s.live r) r := fun d' hd => by rwa [upd_same]
    refine h.branch (fun r' hr => by cases ok <;> simp [St.root, hr]) h.noForeign
      ((h.root r).branch (.of_same hb rfl rfl rfl) hb nofun (.inr hl) hl ?_ id
        (.inr ⟨_, upd_same .., rfl, rfl, nofun, fun l => .body l rfl rfl⟩))
    refine g.pend rfl rfl rfl (fun d' t ht => ?_) fun d' hd => hlive d' (List.mem_cons_of_mem _ hd)
    replace ht : t ∈ (if ok = true then upd2 s.pend r d (s.pend r d ++ List.replicate k (w, s.seq w)) else s.pend) r d' := ht
    cases ok with
    | false => exact .inl ht
    | true =>
      rw [if_pos rfl] at ht
      by_cases hd : d' = d
      · subst hd; rw [upd2_same] at ht
        exact (List.mem_append.mp ht).imp id fun h0 => ⟨hlive _ List.mem_cons_self, List.eq_of_mem_replicate h0⟩
      · exact .inl (by rwa [upd2_other_col _ _ _ hd] at ht)
  | ackRead w r d n hb hn =>
    obtain ⟨hl, g⟩ := (h.root r).at hb rfl
    have hown : ((s.pend r d).take n).any (fun t => t != (w, s.seq w)) = false :=
      List.any_eq_false.mpr fun t ht => by
        rw [show t = (w, s.seq w) from g.own d t (List.mem_of_mem_take ht)]; simp
    refine h.branch (fun r' hr => by simp [St.root, hr])
      (by show (s.foreign || _) = false; rw [hown, h.noForeign]; rfl)
      ((h.root r).branch (.of_same hb rfl rfl rfl) hb nofun (.inr hl) hl ?_ id
        (.inr ⟨_, upd_same .., rfl, rfl, nofun, fun l => .body l rfl rfl⟩))
    refine g.pend rfl rfl rfl (fun d' t (ht : t ∈ upd2 s.pend r d ((s.pend r d).drop n) r d') => .inl ?_) fun _ => id
    by_cases hd : d' = d
    · subst hd; rw [upd2_same] at ht; exact List.mem_of_mem_drop ht
    · rwa [upd2_other_col _ _ _ hd] at ht
  | subEndOk w r hb hall =>
    obtain ⟨hl, g⟩ := (h.root r).at hb rfl
    exact h.branch (fun r' hr => by simp [St.root, hr]) h.noForeign
      ((h.root r).branch ⟨upd2_col .., rfl, rfl⟩ hb nofun (.inr hl) hl (fun _ => ⟨g.noErr, pend_nil_of_subEnd_ok (v := s.root r) g hall⟩) id
        (.inr ⟨_, upd_same .., rfl, rfl, nofun, .exit⟩))
  | subEndErr w r hb =>
    obtain ⟨hl, g⟩ := (h.root r).at hb rfl
    exact h.branch (fun r' hr => by simp [St.root, hr]) h.noForeign
      ((h.root r).branch ⟨upd2_col .., rfl, rfl⟩ hb nofun (.inr hl) hl (fun _ => g.own) id
        (.inr ⟨_, upd_same .., rfl, rfl, nofun, .exit⟩))
  | setPoison w r hb =>
    obtain ⟨hl, -⟩ := (h.root r).at hb rfl
    exact h.branch (fun r' hr => by simp [St.root, hr]) h.noForeign
      ((h.root r).branch ⟨upd2_col .., rfl, rfl⟩ hb nofun (.inr hl) hl
        (fun hp' => nomatch (upd_same s.poison r true).symm.trans hp') id (.inl ⟨rfl, nofun, nofun⟩))
  | release w r res hb =>
    obtain ⟨hl, g⟩ := (h.root r).at hb rfl
    exact h.branch (fun r' hr => by simp [St.root, hr]) h.noForeign
      ((h.root r).branch ⟨upd2_col .., rfl, rfl⟩ hb nofun (.inr hl) (upd_same ..) g id (.inl ⟨rfl, nofun, nofun⟩))
  | join w hw hdone =>
    refine ⟨fun r => (h.root r).worker (w := w) rfl (fun a ha => if_neg ha) (fun _ _ => rfl)
      (fun a ha => upd_other _ _ ha) ?_ (.inl (if_pos rfl)) ?_, h.noForeign⟩
    · -- a worker whose branches have all ended holds no root's lock
      show (s.bpc w r).holds = false
      by_cases hr : r < R
      · have := hdone r hr; revert this; cases s.bpc w r <;> simp [BPc.isDone, BPc.holds]
      · have : s.bpc w r = .idle := Decidable.not_not.mp fun hne => hr ((h.root r).fanned w hne).2
        rw [this]; rfl
    · exact .inr ⟨rfl, by show upd s.wpc w _ w ≠ .fanned; rw [upd_same]; split <;> nofun⟩
  | ownStep w _ => exact h
  | fail w hw | finish w hw =>
    have hidle := h.idle (w := w) (by rw [hw]; nofun)
    refine ⟨fun r => (h.root r).worker (w := w) rfl (fun _ _ => rfl) (fun _ _ => rfl) (fun a ha => upd_other _ _ ha)
      (by show (s.bpc w r).holds = false; rw [hidle]; rfl) (.inl (hidle r))
      (.inr ⟨rfl, by show upd s.wpc w _ w ≠ .fanned; rw [upd_same]; nofun⟩), h.noForeign⟩

theorem sys_init (R : Nat) : Sys R init :=
  ⟨fun _ => ⟨fun _ => iff_of_false nofun nofun, fun _ _ => ⟨rfl, fun _ => rfl⟩, nofun, fun _ hne => absurd rfl hne,
    Serial.nil, nofun, fun _ => List.Pairwise.nil⟩, rfl⟩

theorem RootInv.pend_cases {inR : Prop} {v : RootView} (hv : RootInv inR v) (hp : v.poison = false) {d : Nat} {t : Tag}
    (ht : t ∈ v.pend d) :
    ∃ w, v.lock = some w ∧ (v.bpc w = .running ∧ d ∈ v.live ∨ v.bpc w = .failedSub) ∧ t = (w, v.seq w) := by
  cases hl : v.lock with
  | none => rw [(hv.free hl hp).2 d] at ht; cases ht
  | some w =>
    have g := hv.held w hl
    refine ⟨w, rfl, ?_⟩
    cases hb : v.bpc w with
    | running =>
      rw [hb] at g
      exact ⟨.inl ⟨rfl, g.live d (List.ne_nil_of_mem ht)⟩, g.own d t ht⟩
    | failedSub => rw [hb] at g; exact ⟨.inr rfl, g hp d t ht⟩
    | _ => rw [hb] at g; rw [(g hp).2 d] at ht; cases ht

theorem RootInv.err_cases {inR : Prop} {v : RootView} (hv : RootInv inR v) (hp : v.poison = false)
    (he : v.errEnded = true) : ∃ w, v.lock = some w ∧ v.bpc w = .failedSub := by
  cases hl : v.lock with
  | none => rw [(hv.free hl hp).1] at he; cases he
  | some w =>
    have g := hv.held w hl
    cases hb : v.bpc w with
    | running => rw [hb] at g; rw [g.noErr] at he; cases he
    | failedSub => exact ⟨w, rfl, hb⟩
    | _ => rw [hb] at g; rw [(g hp).1] at he; cases he

/-- the form in which `Inv` speaks of the holder of a lock -/
theorem of_holder {o : Option Nat} {w : Nat} {P : Nat → Prop} (hl : o = some w) (hp : P w) :
    o ≠ none ∧ ∀ w', o = some w' → P w' :=
  ⟨fun h0 => (nomatch hl.symm.trans h0), fun _ hw' => Option.some.inj (hl.symm.trans hw') ▸ hp⟩

theorem Sys.inv {R : Nat} {s : St} (h : Sys R s) : Inv R s := by
  have poisoned : ∀ r, ¬ s.poison r = false → s.poison r = true := fun r hp => by
    cases hq : s.poison r with
    | true => rfl
    | false => exact absurd hq hp
  refine ⟨fun w r => ((h.root r).holder w).mpr, fun w r => ((h.root r).holder w).mp, fun w r hb => ?_,
    fun w r hw => h.idle hw r, fun w r hr => Decidable.not_not.mp fun hne => Nat.not_lt.mpr hr ((h.root r).fanned w hne).2,
    fun r d t ht => ?_, fun r d hp hne => ?_, h.noForeign, fun r he => ?_⟩
  · exact ((h.root r).at hb rfl).2.clean
  · by_cases hp : s.poison r = false
    · obtain ⟨w, hl, hb, ht⟩ := (h.root r).pend_cases hp ht
      exact .inr (of_holder hl ⟨hb.imp (·.1) id, ht⟩)
    · exact .inl (poisoned r hp)
  · obtain ⟨t, ht⟩ := List.exists_mem_of_ne_nil _ hne
    obtain ⟨w, hl, hb, _⟩ := (h.root r).pend_cases hp ht
    rcases hb with hb | hb
    · exact .inr hb.2
    · exact .inl (of_holder hl hb)
  · by_cases hp : s.poison r = false
    · obtain ⟨w, hl, hb⟩ := (h.root r).err_cases hp he
      exact .inr (of_holder hl hb)
    · exact .inl (poisoned r hp)

theorem Sys.logInv {R : Nat} {s : St} (h : Sys R s) : LogInv s where
  serial r := (h.root r).serial
  entryBound r e he := by
    have := (h.root r).bound e he
    unfold RootView.cap at this
    split at this
    · exact ⟨Nat.le_of_lt this, fun _ _ => this⟩
    · rename_i hn
      exact ⟨Nat.le_of_lt_succ this, fun hf hne => absurd ⟨hf, hne⟩ hn⟩
  entrySorted r := (h.root r).sorted

theorem step_sys {R s s'} (e : Ev) (h : Sys R s) (hs : step R s e = some s') : Sys R s' :=
  Step.sys h (step_iff.mp hs)

theorem Serial.blocks {l : List REv} {o : Option Tag} (h : Serial l o) :
    ∃ (blocks : List (List REv)) (tail : List REv), l = blocks.flatten ++ tail ∧ (∀ b ∈ blocks, Block b) ∧
      (o = none → tail = []) ∧
      (∀ t, o = some t → ∃ body, tail = .enter t :: body ∧ ∀ x ∈ body, x.isBody = true ∧ x.tag = t) := by
  induction h with
  | nil => exact ⟨[], [], rfl, by simp, fun _ => rfl, fun t h => (by cases h)⟩
  | @enter l t _ ih =>
    obtain ⟨bs, tl, e, hb, hn, _⟩ := ih
    have := hn rfl; subst this
    exact ⟨bs, [.enter t], by simp [e], hb, fun h => (by cases h),
      fun t' h => (by cases h; exact ⟨[], rfl, by simp⟩)⟩
  | @refuse l t _ ih =>
    obtain ⟨bs, tl, e, hb, hn, _⟩ := ih
    have := hn rfl; subst this
    exact ⟨bs ++ [[.refuse t]], [], by simp [e], forall_mem_concat hb (Block.refuse t), fun _ => rfl,
      fun t' h => (by cases h)⟩
  | @body l t x _ hbody htag ih =>
    obtain ⟨bs, tl, e, hb, _, hs⟩ := ih
    obtain ⟨body, ht, hall⟩ := hs t rfl
    refine ⟨bs, tl ++ [x], by simp [e], hb, fun h => (by cases h), fun t' h => ?_⟩
    cases h
    exact ⟨body ++ [x], by simp [ht], forall_mem_concat hall ⟨hbody, htag⟩⟩
  | @exit l t ok _ ih =>
    obtain ⟨bs, tl, e, hb, _, hs⟩ := ih
    obtain ⟨body, ht, hall⟩ := hs t rfl
    exact ⟨bs ++ [tl ++ [.exit t ok]], [], by simp [e], forall_mem_concat hb (ht ▸ Block.pass t body ok hall),
      fun _ => rfl, fun t' h => (by cases h)⟩

theorem latch_mono_step {R : Nat} {s s' : St} {e : Ev} (hs : step R s e = some s') (r : Nat) :
    (s.errEnded r = true → s'.errEnded r = true) ∧ (s.poison r = true → s'.poison r = true) := by
  have raise : ∀ (f : Nat → Bool) (i : Nat), f r = true → upd f i true r = true := fun f i hf => by
    unfold upd; split
    · rfl
    · exact hf
  cases step_iff.mp hs with
  | subEndErr w r' _ => exact ⟨raise _ r', id⟩
  | setPoison w r' _ => exact ⟨id, raise _ r'⟩
  | _ => exact ⟨id, id⟩

theorem run_eq (R : Nat) (evs : List Ev) (s : St) : run R s evs = evs.foldlM (step R) s :=
  EventSys.run_eq (fun _ => rfl) (fun _ _ _ => rfl) evs s

theorem latch_mono_run {R : Nat} {s s' : St} (evs : List Ev) (hr : run R s evs = some s') (r : Nat) :
    (s.errEnded r = true → s'.errEnded r = true) ∧ (s.poison r = true → s'.poison r = true) :=
  EventSys.run_induct (P := fun x => (s.errEnded r = true → x.errEnded r = true) ∧ (s.poison r = true → x.poison r = true))
    (fun _ _ _ b hs => have a := latch_mono_step hs r; ⟨a.1 ∘ b.1, a.2 ∘ b.2⟩) evs ⟨id, id⟩ (run_eq .. ▸ hr)

theorem reach_sys {R : Nat} {s : St} (h : Reach R s) : Sys R s := by
  obtain ⟨evs, he⟩ := h
  exact EventSys.run_induct (fun _ e _ h hs => step_sys e h hs) evs (sys_init R) (run_eq .. ▸ he)

theorem reach_inv {R : Nat} {s : St} (h : Reach R s) : Inv R s ∧ LogInv s :=
  ⟨(reach_sys h).inv, (reach_sys h).logInv⟩

theorem Reach.after {R : Nat} {s s' : St} (h : Reach R s) (evs : List Ev) (hr : run R s evs = some s') : Reach R s' := by
  obtain ⟨e0, he⟩ := h
  rw [run_eq] at he hr
  exact ⟨e0 ++ evs, run_eq .. ▸ EventSys.run_append.mpr ⟨s, he, hr⟩⟩

theorem Reach.step {R : Nat} {s s' : St} {e : Ev} (h : Reach R s) (hs : step R s e = some s') : Reach R s' :=
  h.after [e] (by rw [run_eq]; exact EventSys.run_cons.mpr ⟨s', hs, rfl⟩)

theorem Reach.root {R : Nat} {s : St} (h : Reach R s) (r : Nat) : RootInv (r < R) (s.root r) :=
  (reach_sys h).root r

theorem run_split {R : Nat} {s s' : St} {pre post : List Ev} {e : Ev} (h : run R s (pre ++ e :: post) = some s') :
    ∃ s₁ s₂, run R s pre = some s₁ ∧ step R s₁ e = some s₂ ∧ run R s₂ post = some s' := by
  simp only [run_eq] at h ⊢
  exact EventSys.run_split h

end Conduit.SharedSink
