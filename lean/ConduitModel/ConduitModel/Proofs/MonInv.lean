import ConduitModel.Proofs.MonAck

/-!
# The state invariant without a frontier, and the alignment of a batch with the source

* `GInv G s` — the monitor is silent so far, the scripts are consistent with the log, exactly the first
  `nAcked s` records read have been acknowledged, every root the DLQ has seen belongs to an acknowledged
  record, every `written` entry carries the root of its tag;
* `Align G n0 b` — the records of batch `b` are the records `n0, n0+1, …` read: positions match and
  the roots are the source roots (lineage).
-/
namespace Conduit.Funnel
open Conduit.Funnel.Mon

structure GInv (G : Ctx) (s : PS) : Prop where
  safe : (G.mu s).tv = []
  sc : SC G s
  acked : ackedKeys s.log = (G.all.take (nAcked s)).map keyR
  dlqAny : ∀ x ∈ (G.mu s).dlqAny, NonPend G (nAcked s) x
  dlqOk : ∀ x ∈ (G.mu s).dlqOk, NonPend G (nAcked s) x
  /-- the root booked with a written tag is `Mon.root` of the tag (`tag % 1000`) -/
  wr : ∀ e ∈ (G.mu s).written, e.2.1 = e.2.2.1 % 1000

theorem GInv.nAcked_le {G : Ctx} {s : PS} (h : GInv G s) : nAcked s ≤ G.all.length := by
  have := congrArg List.length h.acked
  simp only [List.length_map, List.length_take] at this
  unfold nAcked at *
  omega

structure Align (G : Ctx) (n0 : Nat) (b : Batch) : Prop where
  pos : ∀ (q : Nat) (p : PosV), b.pos[q]? = some p → ∃ src, G.all[n0 + q]? = some src ∧ keyOf p = keyR src
  lin : ∀ (q : Nat) (r src : Rec), b.recs[q]? = some r → G.all[n0 + q]? = some src → root r = root src

theorem Align.le {G : Ctx} {n0 : Nat} {b : Batch} (h : Align G n0 b) : n0 + b.pos.length ≤ G.all.length ∨ b.pos.length = 0 := by
  by_cases h0 : b.pos.length = 0
  · exact Or.inr h0
  · left
    have hlt : b.pos.length - 1 < b.pos.length := by omega
    obtain ⟨src, hsrc, _⟩ := h.pos (b.pos.length - 1) _ (List.getElem?_eq_getElem hlt)
    have := (List.getElem?_eq_some_iff.mp hsrc).1
    omega

theorem Align.keys {G : Ctx} {n0 : Nat} {b : Batch} (h : Align G n0 b) :
    keys b.pos = ((G.all.drop n0).take b.pos.length).map keyR := by
  apply List.ext_getElem?
  intro q
  simp only [List.getElem?_map, List.getElem?_take, List.getElem?_drop]
  by_cases hq : q < b.pos.length
  · obtain ⟨src, hsrc, hk⟩ := h.pos q _ (List.getElem?_eq_getElem hq)
    simp only [hq, if_true, hsrc, List.getElem?_eq_getElem hq, Option.map_some, hk]
  · simp only [hq, if_false, List.getElem?_eq_none_iff.mpr (Nat.le_of_not_lt hq), Option.map_none]

theorem take_add_map {α β} (f : α → β) (l : List α) (a c : Nat) :
    (l.take a).map f ++ ((l.drop a).take c).map f = (l.take (a + c)).map f := by
  rw [← List.map_append, List.take_add]

theorem Align.src {G : Ctx} {n0 : Nat} {b : Batch} (h : Align G n0 b) {q : Nat} (hq : q < b.pos.length) :
    ∃ src, G.all[n0 + q]? = some src := by
  obtain ⟨src, hsrc, _⟩ := h.pos q _ (List.getElem?_eq_getElem hq)
  exact ⟨src, hsrc⟩

/-- a batch of the one record read as source `n0` -/
theorem Align.single {G : Ctx} {n0 : Nat} {b : Batch} {p : PosV} {r src : Rec} (hpos : b.pos = [p]) (hrecs : b.recs = [r])
    (hsrc : G.all[n0]? = some src) (hkey : keyOf p = keyR src) (hroot : root r = root src) : Align G n0 b := by
  constructor
  · intro k p' hk
    rw [hpos] at hk
    cases k with
    | zero => cases hk; exact ⟨src, hsrc, hkey⟩
    | succ k => simp at hk
  · intro k r' src' hk hsrc'
    rw [hrecs] at hk
    cases k with
    | zero =>
      cases hk
      rw [Nat.add_zero, hsrc] at hsrc'; cases hsrc'
      exact hroot
    | succ k => simp at hk

end Conduit.Funnel
