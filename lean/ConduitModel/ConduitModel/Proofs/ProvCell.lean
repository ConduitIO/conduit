import ConduitModel.Proofs.ProvEff

/-!
An action list is the product of its per-cell sublists. Every import action reads and writes one
*cell* of memory — the pipeline table with the name index, one connector entry, or one processor
entry (`Act.local`, `Act.frame`) — so the actions of one cell run as if the others were not there:
their preconditions hold along the whole list if they hold along each cell's sublist run from
the initial memory (`preAll_cells`), and the cell ends as that sublist alone leaves it
(`effAll_cell`).
-/
namespace Conduit.Ctl

inductive Cell where
  | pls
  | cn (x : Id)
  | pr (y : Id)
deriving DecidableEq

def Act.cell : Act → Cell
  | .createPl .. | .deletePl .. | .updatePl .. => .pls
  | .createCn c _ | .deleteCn c _ => .cn c.id
  | .updateCn _ n => .cn n.id
  | .createPr c _ _ | .deletePr c _ _ => .pr c.id
  | .updatePr _ n => .pr n.id

/-- `m'` holds at the cell what `m` holds. -/
def Cell.Same : Cell → Mem → Mem → Prop
  | .pls, m, m' => m'.pls = m.pls ∧ m'.names = m.names
  | .cn x, m, m' => m'.cns x = m.cns x
  | .pr y, m, m' => m'.prs y = m.prs y

theorem Cell.Same.refl (c : Cell) (m : Mem) : c.Same m m := by
  cases c <;> simp [Cell.Same]

theorem Cell.Same.trans {c : Cell} {m m' m'' : Mem} (h : c.Same m m') (h' : c.Same m' m'') : c.Same m m'' := by
  cases c
  · exact ⟨h'.1.trans h.1, h'.2.trans h.2⟩
  · exact Eq.trans h' h
  · exact Eq.trans h' h

theorem updPr_other (m : Mem) (id j : Id) (f : Pr → Pr) (h : j ≠ id) : (m.updPr id f).prs j = m.prs j := by
  unfold Mem.updPr; split
  · exact Map.set_other _ _ _ _ h
  · rfl
theorem updCn_other (m : Mem) (id j : Id) (f : Cn → Cn) (h : j ≠ id) : (m.updCn id f).cns j = m.cns j := by
  unfold Mem.updCn; split
  · exact Map.set_other _ _ _ _ h
  · rfl
theorem updPr_rest (m : Mem) (id : Id) (f : Pr → Pr) :
    (m.updPr id f).pls = m.pls ∧ (m.updPr id f).cns = m.cns ∧ (m.updPr id f).names = m.names := by
  unfold Mem.updPr; split <;> exact ⟨rfl, rfl, rfl⟩
theorem updCn_rest (m : Mem) (id : Id) (f : Cn → Cn) :
    (m.updCn id f).pls = m.pls ∧ (m.updCn id f).prs = m.prs ∧ (m.updCn id f).names = m.names := by
  unfold Mem.updCn; split <;> exact ⟨rfl, rfl, rfl⟩
theorem updPr_prs (m : Mem) (id : Id) (f : Pr → Pr) : (m.updPr id f).prs id = (m.prs id).map f := by
  cases hr : m.prs id <;> simp [Mem.updPr, hr]

theorem Act.frame (v : Variant) (a : Act) (m : Mem) {c : Cell} (hc : a.cell ≠ c) : c.Same m (a.eff v m) := by
  have cn : ∀ {i j : Id}, Cell.cn i ≠ .cn j → j ≠ i := fun h e => h (by rw [e])
  have pr : ∀ {i j : Id}, Cell.pr i ≠ .pr j → j ≠ i := fun h e => h (by rw [e])
  cases a with
  | createPl o p =>
    cases c with
    | pls => exact absurd rfl hc
    | cn x => rfl
    | pr y => rfl
  | deletePl o p =>
    cases c with
    | pls => exact absurd rfl hc
    | cn x => show ((svcPlDelete o.id).upd m).cns x = m.cns x; simp only [svcPlDelete]; split <;> rfl
    | pr y => show ((svcPlDelete o.id).upd m).prs y = m.prs y; simp only [svcPlDelete]; split <;> rfl
  | updatePl o n =>
    cases c with
    | pls => exact absurd rfl hc
    | cn x => show (Act.eff v (.updatePl o n) m).cns x = m.cns x; simp only [Act.eff]; split <;> rfl
    | pr y => show (Act.eff v (.updatePl o n) m).prs y = m.prs y; simp only [Act.eff]; split <;> rfl
  | createCn o pid =>
    cases c with
    | pls => exact ⟨rfl, rfl⟩
    | cn x => exact Map.set_other _ _ _ _ (cn hc)
    | pr y => rfl
  | deleteCn o pid =>
    cases c with
    | pls => exact ⟨rfl, rfl⟩
    | cn x => exact Map.del_other _ _ _ (cn hc)
    | pr y => rfl
  | updateCn o n =>
    obtain ⟨e1, e2, e3⟩ := updCn_rest m n.id fun r =>
      { r with plugin := n.plugin, name := n.name, settings := n.settings, procs := ids n.procs }
    cases c with
    | pls => exact ⟨e1, e3⟩
    | cn x => exact updCn_other _ _ _ _ (cn hc)
    | pr y => exact congrFun e2 y
  | createPr o pt par =>
    cases c with
    | pls => exact ⟨rfl, rfl⟩
    | cn x => rfl
    | pr y => exact Map.set_other _ _ _ _ (pr hc)
  | deletePr o pt par =>
    cases c with
    | pls => exact ⟨rfl, rfl⟩
    | cn x => rfl
    | pr y => exact Map.del_other _ _ _ (pr hc)
  | updatePr o n =>
    obtain ⟨e1, e2, e3⟩ := updPr_rest m n.id fun r =>
      { r with plugin := n.plugin, settings := n.settings, workers := n.workers,
               cond := if v.condUpdated then n.cond else r.cond }
    cases c with
    | pls => exact ⟨e1, e3⟩
    | cn x => exact congrFun e2 x
    | pr y => exact updPr_other _ _ _ _ (pr hc)

theorem Act.local (v : Variant) (a : Act) {m m' : Mem} (h : a.cell.Same m m') :
    (a.pre v m ↔ a.pre v m') ∧ a.cell.Same (a.eff v m) (a.eff v m') := by
  cases a with
  | createPl c p => obtain ⟨h1, h2⟩ := h; simp [Act.pre, Act.eff, Act.cell, Cell.Same, h1, h2]
  | deletePl c p =>
    obtain ⟨h1, h2⟩ := h
    refine ⟨Iff.rfl, ?_⟩
    cases hp : m.pls c.id <;> simp [Act.eff, svcPlDelete, Act.cell, Cell.Same, h1, h2, hp]
  | updatePl o n =>
    obtain ⟨h1, h2⟩ := h
    constructor
    · simp only [Act.pre, h1, h2]
    · cases hp : m.pls n.id <;> simp [Act.eff, Act.cell, Cell.Same, h1, h2, hp]
  | createCn c pid => exact ⟨Iff.rfl, by simp [Act.cell, Cell.Same, Act.eff]⟩
  | deleteCn c pid => exact ⟨Iff.rfl, by simp [Act.cell, Cell.Same, Act.eff]⟩
  | updateCn o n =>
    have h : m'.cns n.id = m.cns n.id := h
    exact ⟨by simp only [Act.pre, h], by simp only [Act.cell, Cell.Same, Act.eff, updCn_cns, h]⟩
  | createPr c pt par => exact ⟨Iff.rfl, by simp [Act.cell, Cell.Same, Act.eff]⟩
  | deletePr c pt par => exact ⟨Iff.rfl, by simp [Act.cell, Cell.Same, Act.eff]⟩
  | updatePr o n =>
    have h : m'.prs n.id = m.prs n.id := h
    exact ⟨by simp only [Act.pre, h], by simp only [Act.cell, Cell.Same, Act.eff, updPr_prs, h]⟩

theorem effAll_skip (v : Variant) (c : Cell) (L : List Act) (hL : ∀ a ∈ L, a.cell ≠ c) (m : Mem) :
    c.Same m (effAll v m L) := by
  induction L generalizing m with
  | nil => exact .refl c m
  | cons a r ih =>
    exact (a.frame v m (hL a List.mem_cons_self)).trans (ih (fun b hb => hL b (List.mem_cons_of_mem _ hb)) _)

theorem effAll_same (v : Variant) (c : Cell) (L : List Act) (hL : ∀ a ∈ L, a.cell = c) {m m' : Mem} (h : c.Same m m') :
    (PreAll v m L ↔ PreAll v m' L) ∧ c.Same (effAll v m L) (effAll v m' L) := by
  induction L generalizing m m' with
  | nil => exact ⟨Iff.rfl, h⟩
  | cons a r ih =>
    obtain ⟨h1, h2⟩ := a.local v (hL a List.mem_cons_self ▸ h)
    obtain ⟨i1, i2⟩ := ih (fun b hb => hL b (List.mem_cons_of_mem _ hb)) (hL a List.mem_cons_self ▸ h2)
    exact ⟨and_congr h1 i1, i2⟩

theorem effAll_cell (v : Variant) (c : Cell) (L : List Act) (m : Mem) :
    c.Same (effAll v m (L.filter (·.cell = c))) (effAll v m L) := by
  induction L generalizing m with
  | nil => exact .refl c m
  | cons a r ih =>
    by_cases ha : a.cell = c
    · simpa only [List.filter_cons, ha, decide_true, if_true, effAll] using ih (a.eff v m)
    · simp only [List.filter_cons, ha, decide_false, Bool.false_eq_true, if_false]
      exact (effAll_same v c _ (fun b hb => by simpa using (List.mem_filter.1 hb).2) (a.frame v m ha)).2.trans (ih _)

theorem preAll_cells (v : Variant) (L : List Act) (m : Mem)
    (h : ∀ a ∈ L, PreAll v m (L.filter (·.cell = a.cell))) : PreAll v m L := by
  induction L generalizing m with
  | nil => trivial
  | cons a r ih =>
    have ha := h a List.mem_cons_self
    simp only [List.filter_cons, decide_true, if_true] at ha
    refine ⟨ha.1, ih _ fun b hb => ?_⟩
    have hb' := h b (List.mem_cons_of_mem _ hb)
    by_cases hab : a.cell = b.cell
    · simp only [List.filter_cons, hab, decide_true, if_true] at hb'
      exact hb'.2
    · simp only [List.filter_cons, hab, decide_false, Bool.false_eq_true, if_false] at hb'
      exact (effAll_same v b.cell _ (fun x hx => by simpa using (List.mem_filter.1 hx).2) (a.frame v m hab)).1.1 hb'

end Conduit.Ctl
