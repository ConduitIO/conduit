import ConduitModel.Proofs.MonSTop
import ConduitModel.Proofs.MonSProc
import ConduitModel.Proofs.MonSDest
import ConduitModel.Proofs.MonSProcEffect
import ConduitModel.Proofs.MonFFan
import ConduitModel.Proofs.MonRun

/-!
# Monitor soundness with record splitting AND fan-out: definitions

The split-run machinery of Proofs/MonS*.lean restated against an abstract handler contract
(`MC`, Proofs/MonFInv.lean): the handler chain of a batch in flight is `runAckNacker(X)`, `X` is the
Worker (root chain) or a fan-out tally (`multiAckNacker`, chain of a branch), `C0 : MC G X` is the
contract of `X` on batches without split runs; the run ledger decides when `X` is called.

* `FlightG C0 …` — a batch in flight (`Flight` with the contract's invariant at the read frontier,
  facts relative to the contract's tasks `C0.T` and destinations `C0.D`);
* `OutG C0 …` — outcome of a computation responsible for the rows `k ≥ i` of a batch: the
  attributed frame (always), the contract's invariant at the new frontier (success) or its error
  invariant (failure);
* `StepRelG` — what a task does, as far as the caller's frame is concerned.

The task recursion states them with the tags read through a key: Proofs/MonGKey.lean.
-/
namespace Conduit.Funnel
open Conduit.Funnel.Mon

/-- the run has a piece still to vote: in the rows `≥ i` of the batch, or outside the batch -/
def LiveRun (rest : Nat → Nat) (b : Batch) (i : Nat) (rid : Nat) : Prop := 0 < cnt rid (b.view.drop i) ∨ 0 < rest rid

/-- lineage of the runs still alive -/
def HLinG (G : Ctx) (h : Heap) (rest : Nat → Nat) (b : Batch) (i : Nat) : Prop :=
  ∀ rid : Nat, LiveRun rest b i rid →
    ∃ src ∈ G.all, keyR src = keyOf (h[rid]!).origPos ∧ root (h[rid]!).origRec = root src

/-- a live run that got an ack vote and no nack vote: every destination of `D` saw a piece, or a
piece was filtered -/
def HTouchG (v : MV) (D : List Nat) (h : Heap) (rest : Nat → Nat) (b : Batch) (i : Nat) : Prop :=
  ∀ rid : Nat, LiveRun rest b i rid → 0 < (h[rid]!).terminal → (h[rid]!).nacked = false →
    Cover v D (root (h[rid]!).origRec)

/-- a live run with a nack vote has a vote -/
def NackT (h : Heap) (rest : Nat → Nat) (b : Batch) (i : Nat) : Prop :=
  ∀ rid : Nat, LiveRun rest b i rid → (h[rid]!).nacked = true → 0 < (h[rid]!).terminal

/-- a run one of whose pieces failed for a task of `T` / destination of `D` has a nack vote already,
or one of its pieces still to vote is flagged nack — in the batch (rows `≥ i`) or outside (`doom`) -/
def CIG (v : MV) (T D : List Nat) (h : Heap) (doom : Nat → Prop) (b : Batch) (i : Nat) : Prop :=
  ∀ rid : Nat, 0 < cnt rid (b.view.drop i) → ¬ CleanT v T D (root (h[rid]!).origRec) →
    (h[rid]!).nacked = true ∨ doom rid ∨
      ∃ (k : Nat) (row : Row), i ≤ k ∧ b.rows[k]? = some row ∧ row.run = some rid ∧ row.st.flag = .nack

/-- what the view knows about the rows `k ≥ i` once the task of a node has run: `pre` / `pre'` =
destinations passed before / including the node; cleanliness is relative to ALL tasks `T` and
destinations `D` of the handler chain -/
structure FactsG (G : Ctx) (v : MV) (T D : List Nat) (pre pre' : List Nat) (nd : Prop) (b : Batch) (sm : List Nat) (i : Nat) :
    Prop where
  ack : ∀ (k : Nat) (row : Row) (q : Nat) (src : Rec), i ≤ k → b.rows[k]? = some row → sm[k]? = some q →
    G.all[q]? = some src → row.st.flag = .ack → Reach v.μ pre' (root src)
  fil : ∀ (k : Nat) (row : Row) (q : Nat) (src : Rec), i ≤ k → b.rows[k]? = some row → sm[k]? = some q →
    G.all[q]? = some src → row.st.flag = .filter → root src ∈ v.μ.filtered
  retry : ∀ (k : Nat) (row : Row) (q : Nat) (src : Rec), i ≤ k → b.rows[k]? = some row → sm[k]? = some q →
    G.all[q]? = some src → row.st.flag = .retry → Reach v.μ pre (root src) ∧ nd
  clean : ∀ (k : Nat) (row : Row) (q : Nat) (src : Rec), i ≤ k → b.rows[k]? = some row → sm[k]? = some q →
    G.all[q]? = some src → row.run = none → row.st.flag ≠ .nack → CleanT v T D (root src)

/-- what was written to the destinations `sub` (those still ahead) belongs to records up to the
frontier `p` -/
def WBelowG (G : Ctx) (p : Nat) (μ : TSt) (sub : List Nat) : Prop :=
  ∀ e ∈ μ.written, e.1 ∈ sub → NonPend G (p + 1) e.2.1

/-- A batch in flight under the handler chain `runAckNacker(X)`, `C0` the contract of `X`: as
`Flight`, with the contract's invariant at the read frontier `nxJ sm nx i` (= source of row `i`, or
`nx` when no row is left). -/
structure FlightG {G : Ctx} {X : Acker} (C0 : MC G X) (s : PS) (pre pre' : List Nat) (nd : Prop) (sub : List Nat)
    (rest : Nat → Nat) (doom : Nat → Prop) (nx : Nat) (b : Batch) (sm : List Nat) (i : Nat) : Prop where
  inv : C0.Inv (nxJ sm nx i) s
  wseen : WSeen G s
  tinv : TInv s.heap rest b i
  srcmap : SrcMap G s.heap b sm
  nextok : NextOK rest b sm nx
  restlast : RestLast rest b
  hdoom : ∀ rid : Nat, doom rid → 0 < rest rid
  hlin : HLinG G s.heap rest b i
  htouch : HTouchG (G.view s) C0.D s.heap rest b i
  ci : CIG (G.view s) C0.T C0.D s.heap doom b i
  splitlin : SplitLin G b
  nosplit : NoSplitKey b
  facts : FactsG G (G.view s) C0.T C0.D pre pre' nd b sm i
  tags : TagsF G s sub b i
  below : WBelowG G (nxJ sm nx i) (G.mu s) sub
  nackt : NackT s.heap rest b i

/-- outcome of a computation responsible for the rows `k ≥ i` of batch `b`, under the chain
`runAckNacker(X)`; `Ts` / `Ds` = the tasks / destinations that may have added facts -/
structure OutG {G : Ctx} {X : Acker} (C0 : MC G X) (Ts Ds : List Nat) (rest : Nat → Nat) (doom : Nat → Prop)
    (b : Batch) (sm : List Nat) (i nx : Nat) (s s' : PS) (r : Except Stop Unit) : Prop where
  ext : ExtT Ts Ds (RootsOf G sm i) (G.view s) (G.view s')
  wseen : WSeen G s'
  err : r ≠ .ok () → C0.Err s'
  inv : r = .ok () → C0.Inv nx s'
  /-- every new `written` entry carries the tag of a row of the batch or a tag new at entry -/
  wtag : r = .ok () → ∀ e ∈ (G.mu s').written, e ∈ (G.mu s).written ∨
    (∃ (k : Nat) (row : Row), i ≤ k ∧ b.rows[k]? = some row ∧ row.r.tag = e.2.2.1) ∨ e.2.2.1 ∉ Seen G s
  hsize : r = .ok () → s.heap.size ≤ s'.heap.size
  hframe : r = .ok () → ∀ rid : Nat, rid < s.heap.size → cnt rid (b.view.drop i) = 0 → s'.heap[rid]! = s.heap[rid]!
  horig : r = .ok () → ∀ rid : Nat, rid < s.heap.size →
    (s'.heap[rid]!).origPos = (s.heap[rid]!).origPos ∧ (s'.heap[rid]!).origRec = (s.heap[rid]!).origRec
  lpost : r = .ok () → ∀ rid : Nat, 0 < cnt rid (b.view.drop i) → 0 < rest rid →
    RunOK (s'.heap[rid]!) (rest rid) ∧ 0 < (s'.heap[rid]!).terminal
  htouch : r = .ok () → ∀ rid : Nat, 0 < cnt rid (b.view.drop i) → 0 < rest rid →
    (s'.heap[rid]!).nacked = false → Cover (G.view s') C0.D (root (s'.heap[rid]!).origRec)
  ci : r = .ok () → ∀ rid : Nat, 0 < cnt rid (b.view.drop i) → 0 < rest rid →
    ¬ CleanT (G.view s') C0.T C0.D (root (s'.heap[rid]!).origRec) → (s'.heap[rid]!).nacked = true ∨ doom rid

/-- what a task (`ProcessorTask.Do` / `DestinationTask.Do` of task `t`) does on success, as far as
the caller's frame is concerned: `(s, b, sm)` before, `(s', b', sm')` after -/
structure StepRelG (G : Ctx) (s : PS) (b : Batch) (sm : List Nat) (s' : PS) (b' : Batch) (sm' : List Nat) : Prop where
  roots : ∀ ρ, RootsOf G sm' 0 ρ → RootsOf G sm 0 ρ
  empty : sm'.length = 0 ↔ sm.length = 0
  first : sm'[0]? = sm[0]?
  /-- the tag of a row of the new batch is the tag of a row of the old batch, or new -/
  tagsub : ∀ row' ∈ b'.rows, (∃ row ∈ b.rows, row.r.tag = row'.r.tag) ∨ row'.r.tag ∉ Seen G s
  /-- a new `written` entry carries the tag of a row of the old batch -/
  wtag : ∀ e ∈ (G.mu s').written, e ∈ (G.mu s).written ∨ ∃ row ∈ b.rows, row.r.tag = e.2.2.1
  seen : ∀ x ∈ Seen G s, x ∈ Seen G s'
  hsize : s.heap.size ≤ s'.heap.size
  hframe : ∀ rid : Nat, rid < s.heap.size → cnt rid b.view = 0 → s'.heap[rid]! = s.heap[rid]! ∧ cnt rid b'.view = 0
  horig : ∀ rid : Nat, rid < s.heap.size →
    (s'.heap[rid]!).origPos = (s.heap[rid]!).origPos ∧ (s'.heap[rid]!).origRec = (s.heap[rid]!).origRec
  mono : ∀ rid : Nat, cnt rid b.view ≤ cnt rid b'.view

end Conduit.Funnel
