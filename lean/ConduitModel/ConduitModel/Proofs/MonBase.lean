import ConduitModel.Spec.FunnelMon

/-!
# The trace monitor with tagged violations

`Mon.step` (Spec/FunnelMon.lean) collects its violations as strings whose first word names the
property (`C01 …`, `C04 …`, `C05 …`, `C07 …`, `C08 …`). To state soundness clause by clause without
reasoning about string prefixes, `stepT` is the same monitor with every violation carrying its
property as a `Clause`; `step_erase` / `run_eq_runT` show that forgetting the tags gives back
`Mon.step` / `Mon.run` exactly. Core-only.
-/
namespace Conduit.Funnel.Mon
open Conduit.Funnel

inductive Clause | c01 | c04 | c05 | c07 | c08
deriving DecidableEq, Repr

/-- the monitor state with tagged violations -/
structure TSt where
  calls : List (Nat × Nat) := []
  filtered : List Nat := []
  errored : List Nat := []
  written : List (Nat × Nat × Nat × Bool) := []
  dlqOk : List Nat := []
  dlqAny : List Nat := []
  pending : List Rec := []
  tv : List (Clause × String) := []

def TSt.erase (s : TSt) : St :=
  { calls := s.calls, filtered := s.filtered, errored := s.errored, written := s.written,
    dlqOk := s.dlqOk, dlqAny := s.dlqAny, pending := s.pending, violations := s.tv.map (·.2) }

def callNoL (calls : List (Nat × Nat)) (task : Nat) : Nat := ((calls.find? (·.1 == task)).map (·.2)).getD 0

def bumpL (calls : List (Nat × Nat)) (task : Nat) : List (Nat × Nat) :=
  if (calls.find? (·.1 == task)).isSome then
    calls.map fun (t, n) => if t == task then (t, n+1) else (t, n)
  else calls ++ [(task, 1)]

def violT (s : TSt) (c : Clause) (m : String) : TSt := { s with tv := s.tv ++ [(c, m)] }

/-- roots filtered / errored by one processor call -/
def filteredBy (recs : List Rec) (out : List PR) : List Nat :=
  (recs.zip out).filterMap fun (r, o) => match o with
    | .filter => some (root r)
    | .multi [] => some (root r)
    | _ => none

def erroredBy (recs : List Rec) (out : List PR) : List Nat :=
  (recs.zip out).filterMap fun (r, o) => match o with
    | .error _ => some (root r)
    | _ => none

def pcallT (scripts : List (Nat × List Reply)) (s : TSt) (task : Nat) (recs : List Rec) : TSt :=
  let call := callNoL s.calls task
  let s := { s with calls := bumpL s.calls task }
  match replyOfCall scripts task call with
  | some (.proc out) =>
    { s with filtered := s.filtered ++ filteredBy recs out, errored := s.errored ++ erroredBy recs out }
  | _ => s

/-- earlier writes to the same destination from the same source as `recs` -/
def prevW (s : TSt) (task : Nat) (recs : List Rec) : List (Nat × Nat × Nat × Bool) :=
  s.written.filter fun w => w.1 == task && w.2.1 / 100 == (recs.head?.map fun r => root r / 100).getD 0

def dupW (s : TSt) (task : Nat) (recs : List Rec) : Bool :=
  recs.any (fun r => (prevW s task recs).any (fun w => w.2.2.1 == r.tag))

def lastRootW (s : TSt) (task : Nat) (recs : List Rec) : Nat :=
  ((prevW s task recs).getLast?.map (·.2.1)).getD 0

def entriesW (scripts : List (Nat × List Reply)) (task call : Nat) (recs : List Rec) : List (Nat × Nat × Nat × Bool) :=
  (List.range recs.length).filterMap fun j => recs[j]?.map fun r =>
    (task, root r, r.tag, confirmed scripts task call j (recs.map (·.pos)))

def writeT (scripts : List (Nat × List Reply)) (s : TSt) (task : Nat) (recs : List Rec) : TSt :=
  let call := callNoL s.calls task
  { s with
    calls := bumpL s.calls task
    written := s.written ++ entriesW scripts task call recs
    tv := s.tv ++ (if dupW s task recs then [(.c05, s!"C05 duplicate write to t{task}")] else [])
               ++ (if step.mono (lastRootW s task recs) recs then [] else [(.c05, s!"C05 out-of-order write to t{task}")]) }

def dlqLast (s : TSt) (rs : List Rec) : Nat :=
  ((s.dlqAny.filter (· / 100 == (rs.head?.map fun r => root r / 100).getD 0)).getLast?).getD 0

/-- leading confirmed records of one DLQ write -/
def oksQ (scripts : List (Nat × List Reply)) (task call : Nat) (rs : List Rec) : List Bool :=
  ((List.range rs.length).map fun j => match rs[j]? with
    | some _ => confirmed scripts task call j (rs.map (·.pos))
    | none => false).takeWhile id

def dlqDup (s : TSt) (rs : List Rec) : Bool := rs.any (fun r => s.dlqOk.contains (root r))

def dlqOrd (s : TSt) (rs : List Rec) : Bool := (rs.map root).all (fun x => decide (dlqLast s rs ≤ x))

def dlqwT (scripts : List (Nat × List Reply)) (s : TSt) (task : Nat) (recs : List (Rec × Option Err × Nat)) : TSt :=
  let call := callNoL s.calls task
  let rs := recs.map (·.1)
  { s with
    calls := bumpL s.calls task
    dlqAny := s.dlqAny ++ rs.map root
    dlqOk := s.dlqOk ++ (rs.take (oksQ scripts task call rs).length).map root
    tv := s.tv ++ (if dlqDup s rs then [(.c07, "C07 record written to the DLQ twice")] else [])
               ++ (if dlqOrd s rs then [] else [(.c07, "C07 DLQ writes out of source order")]) }

def viaDestsT (tree : TaskNode) (s : TSt) (ρ : Nat) : Bool :=
  (dests tree).all fun d =>
    let ws := s.written.filter fun w => w.1 == d && w.2.1 == ρ
    ws.all (·.2.2.2) && (!ws.isEmpty || s.filtered.contains ρ)

def failedPieceT (s : TSt) (ρ : Nat) : Bool := s.written.any fun w => w.2.1 == ρ && !w.2.2.2

def ackT (tree : TaskNode) (s : TSt) (p : PosV) : TSt :=
  match s.pending with
  | [] => violT s .c04 "C04 ack beyond the records read"
  | r :: rest =>
    let viaDlq := s.dlqOk.contains (root r)
    let c8 := (s.errored.contains (root r) || failedPieceT s (root r)) && !viaDlq
    let c7 := s.dlqAny.contains (root r) && !viaDlq
    let c1 := viaDlq || viaDestsT tree s (root r)
    let s := { s with pending := rest }
    let s := if keyOf r.pos == keyOf p then s else violT s .c04 s!"C04 ack out of order (expected {keyOf r.pos}, got {keyOf p})"
    let s := if c8 then
        violT s .c08 s!"C08 record {root r} failed (processor error / rejected piece) but was acked without being dead-lettered" else s
    let s := if c7 then violT s .c07 s!"C07 record {root r} acked after an unconfirmed DLQ write" else s
    if c1 then s else violT s .c01 s!"C01 unjustified ack of record {root r}"

def stepT (tree : TaskNode) (scripts : List (Nat × List Reply)) (s : TSt) : Ev → TSt
  | .pcall task recs => pcallT scripts s task recs
  | .write task recs => writeT scripts s task recs
  | .dlqw task recs => dlqwT scripts s task recs
  | .sack ps => ps.foldl (ackT tree) s

/-- the tagged monitor state after a log -/
def runStT (tree : TaskNode) (scripts : List (Nat × List Reply)) (batches : List (List Rec)) (log : List Ev) : TSt :=
  log.foldl (stepT tree scripts) { pending := batches.flatten }

/-- the tagged violations of a log (`[]` when the source hypothesis does not hold, as `Mon.run`) -/
def runT (tree : TaskNode) (scripts : List (Nat × List Reply)) (batches : List (List Rec)) (log : List Ev) :
    List (Clause × String) :=
  if !sourceWellFormed batches then [] else (runStT tree scripts batches log).tv

/-- the violations of one property -/
def runTagged (c : Clause) (tree : TaskNode) (scripts : List (Nat × List Reply)) (batches : List (List Rec))
    (log : List Ev) : List String :=
  ((runT tree scripts batches log).filter (·.1 == c)).map (·.2)


theorem erase_callNo (s : TSt) (task : Nat) : callNo s.erase task = callNoL s.calls task := rfl

theorem erase_bump (s : TSt) (task : Nat) : bump s.erase task = ({ s with calls := bumpL s.calls task } : TSt).erase := by
  unfold bump bumpL TSt.erase
  dsimp only
  split <;> rfl

theorem erase_viol (s : TSt) (c : Clause) (m : String) : viol s.erase m = (violT s c m).erase := by
  unfold viol violT TSt.erase
  simp

theorem ackT_nil (tree : TaskNode) (s : TSt) (p : PosV) (h : s.pending = []) :
    ackT tree s p = violT s .c04 "C04 ack beyond the records read" := by
  unfold ackT; rw [h]

theorem ackT_cons (tree : TaskNode) (s : TSt) (p : PosV) (r : Rec) (rest : List Rec) (h : s.pending = r :: rest) :
    ackT tree s p =
      (let viaDlq := s.dlqOk.contains (root r)
       let c8 := (s.errored.contains (root r) || failedPieceT s (root r)) && !viaDlq
       let c7 := s.dlqAny.contains (root r) && !viaDlq
       let c1 := viaDlq || viaDestsT tree s (root r)
       let s := { s with pending := rest }
       let s := if keyOf r.pos == keyOf p then s else violT s .c04 s!"C04 ack out of order (expected {keyOf r.pos}, got {keyOf p})"
       let s := if c8 then
          violT s .c08 s!"C08 record {root r} failed (processor error / rejected piece) but was acked without being dead-lettered" else s
       let s := if c7 then violT s .c07 s!"C07 record {root r} acked after an unconfirmed DLQ write" else s
       if c1 then s else violT s .c01 s!"C01 unjustified ack of record {root r}") := by
  unfold ackT; rw [h]

theorem erase_ite (c : Prop) [Decidable c] (s t : TSt) :
    (if c then s else t).erase = if c then s.erase else t.erase :=
  apply_ite TSt.erase c s t

theorem dlqAny_ite_viol (c : Prop) [Decidable c] (σ : St) (m : String) :
    (if c then viol σ m else σ).dlqAny = σ.dlqAny := by split <;> rfl

theorem ack1_erase (tree : TaskNode) (scripts : List (Nat × List Reply)) (s : TSt) (p : PosV) :
    step tree scripts s.erase (.sack [p]) = (ackT tree s p).erase := by
  show (match s.erase.pending with | [] => _ | r :: rest => _) = _
  cases hp : s.pending with
  | nil =>
    have : s.erase.pending = [] := hp
    rw [ackT_nil tree s p hp, ← erase_viol, this]
  | cons r rest =>
    have : s.erase.pending = r :: rest := hp
    rw [ackT_cons tree s p r rest hp, this]
    -- `step` checks the order before it drops the head of `pending`, and reads `dlqAny` after the
    -- conditional C08 violation; apart from that the two are the same chain of conditionals
    simp only [erase_ite, ← erase_viol, dlqAny_ite_viol]
    cases hk : keyOf r.pos == keyOf p <;> rfl

theorem sack_cons (tree : TaskNode) (scripts : List (Nat × List Reply)) (σ : St) (p : PosV) (ps : List PosV) :
    step tree scripts σ (.sack (p :: ps)) = step tree scripts (step tree scripts σ (.sack [p])) (.sack ps) := rfl

theorem sack_erase (tree : TaskNode) (scripts : List (Nat × List Reply)) : ∀ (ps : List PosV) (s : TSt),
    step tree scripts s.erase (.sack ps) = (ps.foldl (ackT tree) s).erase := by
  intro ps
  induction ps with
  | nil => intro s; rfl
  | cons p ps ih =>
    intro s
    rw [sack_cons, ack1_erase, ih, List.foldl_cons]

theorem pcall_erase (tree : TaskNode) (scripts : List (Nat × List Reply)) (s : TSt) (task : Nat) (recs : List Rec) :
    step tree scripts s.erase (.pcall task recs) = (pcallT scripts s task recs).erase := by
  unfold step pcallT
  simp only [erase_callNo, erase_bump]
  cases replyOfCall scripts task (callNoL s.calls task) with
  | none => rfl
  | some rp =>
    cases rp with
    | proc out => rfl
    | dest _ _ => rfl

theorem erase_viol2 (s : TSt) (d o : Bool) (c c' : Clause) (m m' : String) :
    (let σ := if d = true then viol s.erase m else s.erase
     if o = true then σ else viol σ m') =
    ({ s with tv := s.tv ++ (if d = true then [(c, m)] else []) ++ (if o = true then [] else [(c', m')]) } : TSt).erase := by
  cases d <;> cases o <;> simp [viol, TSt.erase]

theorem write_erase (tree : TaskNode) (scripts : List (Nat × List Reply)) (s : TSt) (task : Nat) (recs : List Rec) :
    step tree scripts s.erase (.write task recs) = (writeT scripts s task recs).erase := by
  unfold step writeT
  simp only [erase_callNo, erase_bump]
  exact congrArg (fun σ : St => { σ with written := σ.written ++ entriesW scripts task (callNoL s.calls task) recs })
    (erase_viol2 { s with calls := bumpL s.calls task } (dupW s task recs) (step.mono (lastRootW s task recs) recs)
      .c05 .c05 _ _)

theorem dlqw_erase (tree : TaskNode) (scripts : List (Nat × List Reply)) (s : TSt) (task : Nat)
    (recs : List (Rec × Option Err × Nat)) :
    step tree scripts s.erase (.dlqw task recs) = (dlqwT scripts s task recs).erase := by
  unfold step dlqwT
  simp only [erase_callNo, erase_bump, dlqAny_ite_viol]
  exact congrArg (fun σ : St => { σ with
      dlqAny := σ.dlqAny ++ (recs.map Prod.fst).map root
      dlqOk := σ.dlqOk ++
        ((recs.map Prod.fst).take (oksQ scripts task (callNoL s.calls task) (recs.map Prod.fst)).length).map root })
    (erase_viol2 { s with calls := bumpL s.calls task } (dlqDup s (recs.map Prod.fst)) (dlqOrd s (recs.map Prod.fst))
      .c07 .c07 _ _)

theorem step_erase (tree : TaskNode) (scripts : List (Nat × List Reply)) (s : TSt) (e : Ev) :
    step tree scripts s.erase e = (stepT tree scripts s e).erase := by
  cases e with
  | pcall t r => exact pcall_erase tree scripts s t r
  | write t r => exact write_erase tree scripts s t r
  | dlqw t r => exact dlqw_erase tree scripts s t r
  | sack ps => exact sack_erase tree scripts ps s

theorem foldl_erase (tree : TaskNode) (scripts : List (Nat × List Reply)) : ∀ (log : List Ev) (s : TSt),
    log.foldl (step tree scripts) s.erase = (log.foldl (stepT tree scripts) s).erase := by
  intro log
  induction log with
  | nil => intro s; rfl
  | cons e log ih => intro s; rw [List.foldl_cons, List.foldl_cons, step_erase, ih]

theorem runSt_eq (tree : TaskNode) (scripts : List (Nat × List Reply)) (batches : List (List Rec)) (log : List Ev) :
    runSt tree scripts batches log = (runStT tree scripts batches log).erase :=
  foldl_erase tree scripts log { pending := batches.flatten }

/-- `Mon.run` is the tagged monitor with the tags forgotten -/
theorem run_eq_runT (tree : TaskNode) (scripts : List (Nat × List Reply)) (batches : List (List Rec)) (log : List Ev) :
    run tree scripts batches log = (runT tree scripts batches log).map (·.2) := by
  unfold run runT
  split
  · rfl
  · exact congrArg St.violations (runSt_eq tree scripts batches log)

theorem run_nil_iff (tree : TaskNode) (scripts : List (Nat × List Reply)) (batches : List (List Rec)) (log : List Ev) :
    run tree scripts batches log = [] ↔ runT tree scripts batches log = [] := by
  rw [run_eq_runT]; simp

/-- the monitor only speaks about a well-formed source -/
theorem run_nil_of_wf {tree : TaskNode} {scripts : List (Nat × List Reply)} {batches : List (List Rec)} {log : List Ev}
    (h : sourceWellFormed batches = true → (runStT tree scripts batches log).tv = []) :
    run tree scripts batches log = [] := by
  rw [run_nil_iff]
  unfold runT
  by_cases hwf : sourceWellFormed batches = true
  · rw [hwf]; exact h hwf
  · simp [hwf]

theorem runTagged_nil_of_run {tree : TaskNode} {scripts : List (Nat × List Reply)} {batches : List (List Rec)}
    {log : List Ev} (h : run tree scripts batches log = []) (c : Clause) :
    runTagged c tree scripts batches log = [] := by
  unfold runTagged
  rw [(run_nil_iff _ _ _ _).mp h]
  rfl

theorem runT_nil_of_tagged (tree : TaskNode) (scripts : List (Nat × List Reply)) (batches : List (List Rec))
    (log : List Ev) (h : ∀ c, runTagged c tree scripts batches log = []) : runT tree scripts batches log = [] := by
  cases hl : runT tree scripts batches log with
  | nil => rfl
  | cons v vs =>
    have := h v.1
    unfold runTagged at this
    rw [hl] at this
    simp at this

end Conduit.Funnel.Mon
