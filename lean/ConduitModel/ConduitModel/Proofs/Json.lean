import ConduitModel.Model.Json
import ConduitModel.Proofs.JsonStr

/-! Helper lemmas: integer literals, and the parser inverts the compact printer. -/
namespace Conduit.Codec

theorem digit_facts : ∀ k, k < 10 → isDigit (Char.ofNat (48 + k)) = true ∧ digitVal (Char.ofNat (48 + k)) = k := by
  decide

theorem isDigit_digitChar (n : Nat) : isDigit (digitChar n) = true :=
  (digit_facts (n % 10) (Nat.mod_lt _ (by decide))).1

theorem digitVal_digitChar (n : Nat) : digitVal (digitChar n) = n % 10 :=
  (digit_facts (n % 10) (Nat.mod_lt _ (by decide))).2

theorem digitChar_ne_zero : ∀ k, k < 10 → 0 < k → digitChar k ≠ '0' := by decide

theorem printNatF_digits : ∀ (f n : Nat), ∀ c ∈ printNatF f n, isDigit c = true
  | 0, _, c, h => by simp [printNatF] at h
  | f + 1, n, c, h => by
    unfold printNatF at h
    by_cases h10 : n < 10
    · simp only [h10, if_true, List.mem_singleton] at h
      subst h; exact isDigit_digitChar n
    · simp only [h10, if_false, List.mem_append, List.mem_singleton] at h
      rcases h with h | h
      · exact printNatF_digits f (n / 10) c h
      · subst h; exact isDigit_digitChar _

theorem digitsVal_snoc (xs : List Char) (c : Char) : digitsVal (xs ++ [c]) = digitsVal xs * 10 + digitVal c := by
  simp [digitsVal, List.foldl_append]

theorem digitsVal_printNatF : ∀ (f n : Nat), n < f → digitsVal (printNatF f n) = n
  | 0, _, h => absurd h (Nat.not_lt_zero _)
  | f + 1, n, h => by
    unfold printNatF
    by_cases h10 : n < 10
    · simp only [h10, if_true]
      simp only [digitsVal, List.foldl, digitVal_digitChar]
      omega
    · simp only [h10, if_false]
      rw [digitsVal_snoc, digitsVal_printNatF f (n / 10) (by omega), digitVal_digitChar]
      omega

theorem printNatF_pos : ∀ (f n : Nat), 0 < n → n < f → ∃ d ds, printNatF f n = d :: ds ∧ d ≠ '0'
  | 0, _, _, h => absurd h (Nat.not_lt_zero _)
  | f + 1, n, hp, h => by
    unfold printNatF
    by_cases h10 : n < 10
    · exact ⟨digitChar n, [], by simp [h10], digitChar_ne_zero n h10 hp⟩
    · obtain ⟨d, ds, e, hd⟩ := printNatF_pos f (n / 10) (by omega) (by omega)
      exact ⟨d, ds ++ [digitChar (n % 10)], by simp [h10, e], hd⟩

/-- shape of a printed natural: non-empty, and a leading `0` only for zero itself. -/
theorem printNat_shape (n : Nat) : ∃ d ds, printNat n = d :: ds ∧ ¬ (d = '0' ∧ ds ≠ []) := by
  unfold printNat
  by_cases h0 : n = 0
  · subst h0; exact ⟨'0', [], by decide, by simp⟩
  · obtain ⟨d, ds, e, hd⟩ := printNatF_pos (n + 1) n (by omega) (by omega)
    exact ⟨d, ds, e, fun h => hd h.1⟩

/-- what may follow a number: not a digit, no fraction, no exponent. -/
def Delim : List Char → Prop
  | [] => True
  | c :: _ => isDigit c = false ∧ c ≠ '.' ∧ c ≠ 'e' ∧ c ≠ 'E'

theorem spanDigits_append (ds rest : List Char) (h : ∀ c ∈ ds, isDigit c = true) (hr : Delim rest) :
    spanDigits (ds ++ rest) = (ds, rest) := by
  induction ds with
  | nil =>
    cases rest with
    | nil => rfl
    | cons c r => simp [spanDigits, hr.1]
  | cons d ds ih =>
    have hd := h d (by simp)
    have := ih (fun c hc => h c (by simp [hc]))
    simp [spanDigits, hd, this]

theorem parseNatLit_print (n : Nat) (rest : List Char) (hr : Delim rest) :
    parseNatLit (printNat n ++ rest) = some (n, rest) := by
  have hs := spanDigits_append (printNat n) rest (printNatF_digits _ _) hr
  have hv : digitsVal (printNat n) = n := digitsVal_printNatF (n + 1) n (by omega)
  obtain ⟨d, ds, e, hz⟩ := printNat_shape n
  unfold parseNatLit
  rw [hs]; rw [e] at hv ⊢
  cases rest with
  | nil => simp [hz, hv]
  | cons c r =>
    have := hr
    simp only [Delim] at this
    simp [hz, hv, this.2.1, this.2.2.1, this.2.2.2]

theorem isWs_false_of_isDigit (d : Char) (h : isDigit d = true) : isWs d = false := by
  simp only [isWs, Bool.or_eq_false_iff, decide_eq_false_iff_not]
  refine ⟨⟨⟨?_, ?_⟩, ?_⟩, ?_⟩ <;> (intro h'; subst h'; revert h; decide)

theorem isDigit_ne {d c : Char} (h : isDigit d = true) (hc : isDigit c = false) : d ≠ c := by
  rintro rfl
  rw [h] at hc; cases hc

theorem skipWs_cons (c : Char) (r : List Char) (h : isWs c = false) : skipWs (c :: r) = c :: r := by
  simp [skipWs, h]

/-- a printed value starts with a character that is neither white space nor a closing bracket. -/
theorem print_head (j : Json) : ∃ c r, j.print = c :: r ∧ isWs c = false ∧ c ≠ ']' ∧ c ≠ '}' := by
  cases j with
  | null => exact ⟨'n', _, rfl, by decide, by decide, by decide⟩
  | bool b => cases b <;> exact ⟨_, _, rfl, by decide, by decide, by decide⟩
  | num n =>
    simp only [Json.print, printInt]
    by_cases hn : n < 0
    · exact ⟨'-', printNat n.natAbs, by simp [hn], by decide, by decide, by decide⟩
    · obtain ⟨d, ds, e, _⟩ := printNat_shape n.toNat
      have hd : isDigit d = true := printNatF_digits _ _ d (by rw [← printNat, e]; simp)
      exact ⟨d, ds, by simp [hn, e], isWs_false_of_isDigit d hd, isDigit_ne hd rfl, isDigit_ne hd rfl⟩
  | str s => exact ⟨'"', _, rfl, by decide, by decide, by decide⟩
  | arr l => cases l <;> exact ⟨'[', _, rfl, by decide, by decide, by decide⟩
  | obj l =>
    cases l with
    | nil => exact ⟨'{', _, rfl, by decide, by decide, by decide⟩
    | cons kv t => cases kv; exact ⟨'{', _, rfl, by decide, by decide, by decide⟩

theorem delim_printRest (xs : List Json) (rest : List Char) : Delim (Json.printRest xs ++ rest) := by
  cases xs <;> simp [Json.printRest, Delim] <;> decide

theorem delim_printMembers (kvs : List (Str × Json)) (rest : List Char) : Delim (Json.printMembers kvs ++ rest) := by
  cases kvs with
  | nil => simp [Json.printMembers, Delim]; decide
  | cons kv t => cases kv; simp [Json.printMembers, Delim]; decide

/-- The fuel of a non-empty list: one unit for the list step, one for parsing its head (size `a`);
the tail (size `b`) is parsed with what the list step passes on. -/
theorem fuel_cons {a b fuel : Nat} (h : 1 + a + b < fuel) : ∃ f, fuel = f + 2 ∧ a ≤ f ∧ b < f + 1 :=
  ⟨fuel - 2, by omega, by omega, by omega⟩

mutual
theorem parseVal_print : (j : Json) → (f : Nat) → (rest : List Char) → Delim rest → j.size ≤ f →
    parseVal (f + 1) (j.print ++ rest) = some (j, rest)
  | .null, f, rest, _, _ => by
    simp only [parseVal, Json.print, List.cons_append, List.nil_append, skipWs_cons 'n' _ (by decide), ↓reduceIte]
  | .bool true, f, rest, _, _ => by
    simp only [parseVal, Json.print, List.cons_append, List.nil_append, skipWs_cons 't' _ (by decide),
      Char.reduceEq, ↓reduceIte]
  | .bool false, f, rest, _, _ => by
    simp only [parseVal, Json.print, List.cons_append, List.nil_append, skipWs_cons 'f' _ (by decide),
      Char.reduceEq, ↓reduceIte]
  | .str s, f, rest, _, _ => by
    simp only [parseVal, Json.print, quote, List.cons_append, List.append_assoc, List.nil_append,
      skipWs_cons '"' _ (by decide), Char.reduceEq, ↓reduceIte, unescape_escape]
  | .num n, f, rest, hd, _ => by
    simp only [Json.print, printInt]
    by_cases hn : n < 0
    · simp only [hn, ↓reduceIte, List.cons_append, parseVal, skipWs_cons '-' _ (by decide), Char.reduceEq,
        ↓reduceIte, parseNatLit_print _ _ hd]
      rw [show -(n.natAbs : Int) = n by omega]
    · obtain ⟨d, ds, e, _⟩ := printNat_shape n.toNat
      have hdg : isDigit d = true := printNatF_digits _ _ d (by rw [← printNat, e]; simp)
      have hne : ∀ c, isDigit c = false → d ≠ c := fun _ => isDigit_ne hdg
      have hp := parseNatLit_print n.toNat rest hd
      simp only [e, List.cons_append] at hp
      simp only [hn, ↓reduceIte, e, List.cons_append, parseVal, skipWs_cons d _ (isWs_false_of_isDigit d hdg),
        hne 'n' rfl, hne 't' rfl, hne 'f' rfl, hne '"' rfl, hne '[' rfl, hne '{' rfl, hne '-' rfl, hp]
      rw [Int.toNat_of_nonneg (Int.not_lt.mp hn)]
  | .arr [], f, rest, _, _ => by
    simp only [parseVal, Json.print, List.cons_append, List.nil_append, skipWs_cons '[' _ (by decide),
      skipWs_cons ']' _ (by decide), Char.reduceEq, ↓reduceIte]
  | .arr (x :: xs), f, rest, hd, hf => by
    have ih := parseElems_print (x :: xs) f rest (List.cons_ne_nil _ _) (Nat.one_add_le_iff.mp hf)
    obtain ⟨c, r, e, hw, hb, _⟩ := print_head x
    simp only [Json.print, List.cons_append, List.append_assoc, e] at ih ⊢
    simp only [parseVal, skipWs_cons '[' _ (by decide), skipWs_cons c _ hw, Char.reduceEq, ↓reduceIte, hb, ih]
  | .obj [], f, rest, _, _ => by
    simp only [parseVal, Json.print, List.cons_append, List.nil_append, skipWs_cons '{' _ (by decide),
      skipWs_cons '}' _ (by decide), Char.reduceEq, ↓reduceIte]
  | .obj ((k, v) :: kvs), f, rest, hd, hf => by
    have ih := parseMembers_print ((k, v) :: kvs) f rest (List.cons_ne_nil _ _) (Nat.one_add_le_iff.mp hf)
    simp only [Json.print, quote, List.cons_append, List.append_assoc, List.nil_append] at ih ⊢
    simp only [parseVal, skipWs_cons '{' _ (by decide), skipWs_cons '"' _ (by decide), Char.reduceEq, ↓reduceIte, ih]
theorem parseElems_print : (l : List Json) → (fuel : Nat) → (rest : List Char) → l ≠ [] → Json.sizeL l < fuel →
    parseElems fuel (match l with | [] => [] | x :: xs => x.print ++ (Json.printRest xs ++ rest)) = some (l, rest)
  | [], _, _, h, _ => absurd rfl h
  | [x], fuel, rest, _, hf => by
    obtain ⟨f, rfl, hx, _⟩ := fuel_cons hf
    have ih := parseVal_print x f (Json.printRest [] ++ rest) (delim_printRest _ _) hx
    simp only [Json.printRest, List.cons_append, List.nil_append] at ih ⊢
    rw [parseElems]
    simp only [ih, skipWs_cons ']' _ (by decide), ↓reduceIte]
  | x :: y :: ys, fuel, rest, _, hf => by
    obtain ⟨f, rfl, hx, ht⟩ := fuel_cons hf
    have ih := parseVal_print x f (Json.printRest (y :: ys) ++ rest) (delim_printRest _ _) hx
    have ih2 := parseElems_print (y :: ys) (f + 1) rest (List.cons_ne_nil _ _) ht
    simp only [Json.printRest, List.cons_append, List.append_assoc] at ih ih2 ⊢
    rw [parseElems]
    simp only [ih, skipWs_cons ',' _ (by decide), Char.reduceEq, ↓reduceIte, ih2]
theorem parseMembers_print : (l : List (Str × Json)) → (fuel : Nat) → (rest : List Char) → l ≠ [] → Json.sizeM l < fuel →
    parseMembers fuel (match l with | [] => [] | (k, v) :: t => quote k ++ ':' :: (v.print ++ (Json.printMembers t ++ rest))) = some (l, rest)
  | [], _, _, h, _ => absurd rfl h
  | [(k, v)], fuel, rest, _, hf => by
    obtain ⟨f, rfl, hv, _⟩ := fuel_cons hf
    have ih := parseVal_print v f (Json.printMembers [] ++ rest) (delim_printMembers _ _) hv
    simp only [Json.printMembers, quote, List.cons_append, List.append_assoc, List.nil_append] at ih ⊢
    rw [parseMembers]
    simp only [skipWs_cons '"' _ (by decide), ↓reduceIte, unescape_escape, skipWs_cons ':' _ (by decide), ih,
      skipWs_cons '}' _ (by decide)]
  | (k, v) :: (k2, v2) :: t, fuel, rest, _, hf => by
    obtain ⟨f, rfl, hv, ht⟩ := fuel_cons hf
    have ih := parseVal_print v f (Json.printMembers ((k2, v2) :: t) ++ rest) (delim_printMembers _ _) hv
    have ih2 := parseMembers_print ((k2, v2) :: t) (f + 1) rest (List.cons_ne_nil _ _) ht
    simp only [Json.printMembers, quote, List.cons_append, List.append_assoc, List.nil_append] at ih ih2 ⊢
    rw [parseMembers]
    simp only [skipWs_cons '"' _ (by decide), ↓reduceIte, unescape_escape, skipWs_cons ':' _ (by decide), ih,
      skipWs_cons ',' _ (by decide), Char.reduceEq, ih2]
end

mutual
/-- `parse` takes the length of its input as fuel; a printed value is at least as long as its size,
which is the fuel `parseVal_print` asks for. -/
theorem size_le_length : (j : Json) → j.size ≤ j.print.length
  | .null => by simp [Json.size, Json.print]
  | .bool true => by simp [Json.size, Json.print]
  | .bool false => by simp [Json.size, Json.print]
  | .num n => by
    obtain ⟨c, r, e, _⟩ := print_head (.num n)
    simp [Json.size, e]
  | .str s => by simp [Json.size, Json.print, quote]
  | .arr [] => by simp [Json.size, Json.sizeL, Json.print]
  | .arr (x :: xs) => by
    have h1 := size_le_length x
    have h2 := sizeL_le_length xs
    simp [Json.size, Json.sizeL, Json.print]; omega
  | .obj [] => by simp [Json.size, Json.sizeM, Json.print]
  | .obj ((k, v) :: kvs) => by
    have h1 := size_le_length v
    have h2 := sizeM_le_length kvs
    simp [Json.size, Json.sizeM, Json.print]; omega
theorem sizeL_le_length : (xs : List Json) → Json.sizeL xs + 1 ≤ (Json.printRest xs).length
  | [] => by simp [Json.sizeL, Json.printRest]
  | x :: xs => by
    have h1 := size_le_length x
    have h2 := sizeL_le_length xs
    simp [Json.sizeL, Json.printRest]; omega
theorem sizeM_le_length : (kvs : List (Str × Json)) → Json.sizeM kvs + 1 ≤ (Json.printMembers kvs).length
  | [] => by simp [Json.sizeM, Json.printMembers]
  | (k, v) :: kvs => by
    have h1 := size_le_length v
    have h2 := sizeM_le_length kvs
    simp [Json.sizeM, Json.printMembers]; omega
end

/-- the parser inverts the printer, also when white space follows (the newline `Encoder.Encode`
appends). -/
theorem parse_print_ws (j : Json) (ws : List Char) (hd : Delim ws) (hw : skipWs ws = []) :
    parse (j.print ++ ws) = some j := by
  have h := parseVal_print j (j.print ++ ws).length ws hd (by
    rw [List.length_append]; exact Nat.le_trans (size_le_length j) (Nat.le_add_right _ _))
  unfold parse
  rw [h]
  simp [hw]

theorem parse_print (j : Json) : parse j.print = some j := by
  have := parse_print_ws j [] trivial rfl
  simpa using this

theorem parse_print_newline (j : Json) : parse (j.print ++ ['\n']) = some j :=
  parse_print_ws j ['\n'] (by simp [Delim]; decide) (by decide)

end Conduit.Codec
