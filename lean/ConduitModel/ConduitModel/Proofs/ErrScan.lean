import ConduitModel.Spec.Errs

/-!
`factgen` ships the format of every call site as its length and the little-endian base-256 number of
its bytes. The scanner of `Model/Errs` reads a byte list; here it is run on the number itself, with
the tests the kernel evaluates at once (`Nat.beq`, `Nat.ble`), and the two are proved equal once, so
that the sweeps of `Facts/C20Sites` and `Facts/C20Prop` cost the kernel a few steps per byte.
-/
namespace Conduit.Errs

theorem beq_decide (a b : Nat) : a.beq b = decide (a = b) := by
  cases h : a.beq b
  · exact (decide_eq_false (Nat.ne_of_beq_eq_false h)).symm
  · exact (decide_eq_true (Nat.eq_of_beq_eq_true h)).symm

theorem ble_decide (a b : Nat) : a.ble b = decide (a ≤ b) := by
  cases h : a.ble b
  · exact (decide_eq_false (Nat.not_le_of_not_ble_eq_true (by simp [h]))).symm
  · exact (decide_eq_true (Nat.le_of_ble_eq_true h)).symm

def letterN (c : Nat) : Bool := (Nat.ble 65 c && Nat.ble c 90) || (Nat.ble 97 c && Nat.ble c 122)

theorem letterN_eq (c : Nat) : letterN c = isLetter c := by simp only [letterN, isLetter, ble_decide]

/-- `pwStep` inside a directive, handing the new state to `k`. -/
def dirN (k : Mode → PW → Mode × PW) (c : Nat) (st : PW) : Mode × PW :=
  bif letterN c then k .out (st.verb (c.beq 119))
  else k .dir { st with exotic := st.exotic || c.beq 42 || c.beq 91 || Nat.ble 128 c }

/-- `pwStep` on byte `c`, handing the new state to `k`. -/
def stepN (k : Mode → PW → Mode × PW) (c : Nat) : Mode → PW → Mode × PW
  | .out, st => k (bif c.beq 37 then .pct else .out) st
  | .pct, st => bif c.beq 37 then k .out st else dirN k c st
  | .dir, st => dirN k c st

theorem stepN_eq (k : Mode → PW → Mode × PW) (c : Nat) (m : Mode) (st : PW) :
    stepN k c m st = k (pwStep (m, st) c).1 (pwStep (m, st) c).2 := by
  cases m with
  | out => by_cases h : c = 37 <;> simp [stepN, pwStep, beq_decide, h]
  | pct => by_cases h : c = 37 <;> cases h' : isLetter c <;> simp [stepN, dirN, pwStep, letterN_eq, beq_decide, ble_decide, h, h']
  | dir => cases h' : isLetter c <;> simp [stepN, dirN, pwStep, letterN_eq, beq_decide, ble_decide, h']

/-- the scan of `parsePercentW` over the `len` low bytes of `n`, lowest first (`Nat.rec`, `Nat.div`
and `Nat.mod` written out: the kernel then has no recursor of a compiled definition and no instance
to unfold at every byte). -/
def scanN (len : Nat) : Nat → Mode → PW → Mode × PW :=
  Nat.rec (fun _ m st => (m, st)) (fun _ ih n => stepN (ih (Nat.div n 256)) (Nat.mod n 256)) len

theorem scanN_eq : ∀ (len n : Nat) (m : Mode) (st : PW), scanN len n m st = (bytesOf len n).foldl pwStep (m, st)
  | 0, _, _, _ => rfl
  | len + 1, n, m, st => by
    show stepN (scanN len (n / 256)) (n % 256) m st = _
    rw [stepN_eq, scanN_eq len]; rfl

def parseN (len n : Nat) : PW :=
  match scanN len n .out {} with
  | (.out, st) => st
  | (_, st) => st.verb false

theorem parsePercentW_bytesOf (len n : Nat) : parsePercentW (bytesOf len n) = parseN len n := by
  rw [parsePercentW, parseN, scanN_eq]; rfl

/-- the window of `last4` as one number, the most recent byte its highest. -/
def pack4 (w : Nat × Nat × Nat × Nat) : Nat := w.2.2.2 + 256 * w.2.2.1 + 65536 * w.2.1 + 16777216 * w.1

def Bytes4 (w : Nat × Nat × Nat × Nat) : Prop := w.1 < 256 ∧ w.2.1 < 256 ∧ w.2.2.1 < 256 ∧ w.2.2.2 < 256

/-- the last four bytes of a format (zeros in front of a shorter one), packed. -/
def last4N (len n : Nat) : Nat := 4294967296 * (n % 256 ^ len) / 256 ^ len

/-- each byte enters the packed window at the top and the lowest one drops out. -/
theorem last4_foldl : ∀ (len n : Nat) (w : Nat × Nat × Nat × Nat), Bytes4 w →
    Bytes4 ((bytesOf len n).foldl (fun w c => (c, w.1, w.2.1, w.2.2.1)) w) ∧
      pack4 ((bytesOf len n).foldl (fun w c => (c, w.1, w.2.1, w.2.2.1)) w) =
        (pack4 w + 4294967296 * (n % 256 ^ len)) / 256 ^ len
  | 0, n, w, h => ⟨h, by simp [bytesOf, Nat.mod_one]⟩
  | len + 1, n, w, h => by
    have ih := last4_foldl len (n / 256) (n % 256, w.1, w.2.1, w.2.2.1) ⟨Nat.mod_lt _ (by decide), h.1, h.2.1, h.2.2.1⟩
    refine ⟨ih.1, ih.2.trans ?_⟩
    rw [Nat.pow_succ, Nat.mul_comm (256 ^ len) 256, Nat.mod_mul, ← Nat.div_div_eq_div_mul]
    congr 1
    simp only [pack4, Bytes4] at h ⊢
    omega

theorem hasSuffix_bytesOf (len n a b c d : Nat) (ha : a < 256) (hb : b < 256) (hc : c < 256) :
    hasSuffix (bytesOf len n) [a, b, c, d] = (last4N len n).beq (a + 256 * b + 65536 * c + 16777216 * d) := by
  obtain ⟨ht, hp⟩ := last4_foldl len n (0, 0, 0, 0) ⟨by decide, by decide, by decide, by decide⟩
  rw [show pack4 (0, 0, 0, 0) = 0 from rfl, Nat.zero_add] at hp
  rw [beq_decide, hasSuffix, last4, last4N, ← hp]
  generalize (bytesOf len n).foldl _ _ = t at ht
  obtain ⟨t1, t2, t3, t4⟩ := t
  rw [Bool.eq_iff_iff, beq_iff_eq, decide_eq_true_eq, Prod.mk.injEq, Prod.mk.injEq, Prod.mk.injEq]
  simp only [pack4, Bytes4] at ht ⊢
  omega

end Conduit.Errs
