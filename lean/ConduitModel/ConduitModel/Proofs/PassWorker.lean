import ConduitModel.Proofs.PassBase
import ConduitModel.Proofs.WorkerAcker

/-!
# The root ack/nack handler `Worker` (with its DLQ) and `runAckNacker(Worker)` without runs

`workerAck` / `workerNack` only ever append `.sack` events for a prefix of the batch's positions;
a successful call acknowledges exactly the batch; a failed all-or-nothing call acknowledges
nothing. `workerContract` packages this as the `Contract` of the chain `.run .worker`. Before that, what the
pass level reads of the scripts: `NS` survives popping a reply, `destDo` acknowledges nothing
(`destDo_quiet`).
-/
namespace Conduit.Funnel
open Conduit.Dlq

theorem NS.pop {scr : List (Nat × List Reply)} (h : NS scr) (t : Nat) : NS (popScripts scr t) := by
  unfold popScripts
  cases hf : scr.find? (·.1 == t) with
  | none => exact h
  | some kv =>
    obtain ⟨k, l⟩ := kv
    cases l with
    | nil => exact h
    | cons r rest =>
      have hmem := List.mem_of_find?_eq_some hf
      intro kv' hkv' rp hrp
      simp only [List.mem_map] at hkv'
      obtain ⟨⟨t', l'⟩, hm, he⟩ := hkv'
      by_cases ht : (t' == t) = true
      · simp only [ht, if_true] at he
        subst he
        exact h _ hmem rp (List.mem_cons_of_mem _ hrp)
      · simp only [ht] at he
        subst he
        exact h _ hm rp hrp

theorem NS.next {scr : List (Nat × List Reply)} (h : NS scr) {t : Nat} {r : Reply} (hr : nextReply scr t = some r) :
    NoSplitReply r := by
  unfold nextReply at hr
  split at hr
  · rename_i hf; cases hr; exact h _ (List.mem_of_find?_eq_some hf) _ List.mem_cons_self
  · cases hr

theorem popReplyP_log (s : PS) (task : Nat) : (popReplyP s task).2.log = s.log := by
  unfold popReplyP; split <;> rfl
theorem popReplyP_mas (s : PS) (task : Nat) : (popReplyP s task).2.mas = s.mas := by
  unfold popReplyP; split <;> rfl

theorem Q.push {σ t : PS} (h : Q σ t) (e : Ev) (he : evKeys e = []) : Q σ { t with log := t.log.push e } :=
  ⟨by show ackedKeys (t.log.push e) = _; rw [ackedKeys_push, he, List.append_nil, h.acked], h.mas, h.ns⟩

theorem Q.pop {σ t : PS} (h : Q σ t) (task : Nat) : Q σ (popReplyP t task).2 :=
  ⟨by rw [popReplyP_log]; exact h.acked, by rw [popReplyP_mas]; exact h.mas,
   fun hn => by rw [popReplyP_eq]; exact (h.ns hn).pop task⟩

structure Qh (σ t : PS) : Prop extends Q σ t where
  heap : t.heap = σ.heap

theorem Qh.refl (s : PS) : Qh s s := ⟨Q.refl s, rfl⟩

theorem destDo_quiet (σ : PS) (task : Nat) (b : Batch) (info : Option (List (Rec × Option Err × Nat))) :
    Spec (Qh σ) (destDo task b info) (fun _ => True) := by
  intro t ht
  refine ⟨?_, fun _ _ => trivial⟩
  show Qh σ ((destDo task b info).run.run t).2
  rw [destDo_eq_model]
  dsimp only
  refine ⟨?_, ?_⟩
  · apply Q.pop
    apply Q.push ht.toQ
    cases info <;> rfl
  · rw [popReplyP_heap]; exact ht.heap

/-- outcome of a call of the root handler: what was acknowledged is `k'`. -/
structure WRes (b : Batch) (isAck : Bool) (s s' : PS) (r : Except Stop Unit) (k' : List Nat) : Prop where
  pre : k' <+: keys b.pos
  acked : ackedKeys s'.log = ackedKeys s.log ++ k'
  mas : s'.mas = s.mas
  ns : NS s.scripts → NS s'.scripts
  heap : s'.heap = s.heap
  ok : r = .ok () → k' = keys b.pos
  atomic : (isAck = true ∨ b.recs.length ≤ 1) → r ≠ .ok () → k' = []

/-- `Worker.Nack` on a batch as the engine hands it to the root handler — parallel slices, no split record
left (`BOK`), every status with its error (`NackOK`) —, by what it leaves behind (`workerNack_cases` with the
failures that cannot happen here struck out): it succeeds exactly when the whole batch was dead-lettered,
confirmed and acknowledged; after the DLQ write alone it has failed, which for a single record means that the
DLQ confirmed nothing or that the position is nil. -/
theorem workerNack_wf {b : Batch} (hb : BOK b) (hn : NackOK b) (s : PS) (task : Nat) :
    (∃ r, exec (workerNack b task) s = (r, stNack s b) ∧ (r = .ok () → b.recs.length = 0)) ∨
    (∃ r, exec (workerNack b task) s = (r, stWrite s b task) ∧ r ≠ .ok () ∧ 0 < accepted s b ∧
      (b.recs.length ≤ 1 → dlqConfirmed s b = 0 ∨ ∃ n, validateAckPositions (b.pos.take n) = false)) ∨
    (∃ n r, exec (workerNack b task) s = (r, stAck s b task n) ∧ 1 ≤ n ∧ n ≤ accepted s b ∧ n ≤ dlqConfirmed s b ∧
      accepted s b ≤ b.recs.length ∧ (r = .ok () ↔ n = b.recs.length)) := by
  obtain ⟨o1, o2, o3⟩ := orig_ok hb
  have hacc := accepted_le s b
  have hpl := hb.pos_len
  have herr : ∀ st ∈ b.st, st.err ≠ none := fun st hst he => by have := hn st hst; rw [he] at this; cases this
  have hrefused : ∀ {r}, Refused s b r → r ≠ .ok () := by
    rintro _ ⟨_, st, hst, rfl⟩
    rw [o2] at hst
    cases he : st.err with
    | none => exact absurd he (herr st (List.mem_of_getElem? hst))
    | some e => exact fun h => nomatch h
  have hfatal : ∀ {r}, IsFatal r → r ≠ .ok () := by rintro _ ⟨e, rfl, _⟩ h; cases h
  have hpanic : ∀ {r}, Panics s b r → r ≠ .ok () := by rintro _ ⟨⟨m, rfl⟩, _⟩ h; cases h
  -- when the window accepted all of the batch there is nothing to slice and nothing out of range
  have hfull : accepted s b = b.recs.length → ¬ PanicCause s b := by
    intro hf
    unfold PanicCause
    rw [o1, o2, o3]
    rintro (⟨h, _⟩ | h | ⟨h, _⟩ | h | h)
    · omega
    · obtain ⟨st, hst, hnone⟩ := List.any_eq_true.mp h
      cases he : st.err with
      | none => exact herr st (List.mem_of_mem_take hst) he
      | some e => rw [he] at hnone; cases hnone
    · omega
    · omega
    · omega
  rcases workerNack_cases s b task with ⟨r, h, hc⟩ | ⟨r, h, hk, hc⟩ | ⟨n, r, h, h1, h2, h3, h4, h5, hc⟩
  · refine .inl ⟨r, h, fun hr => ?_⟩
    rcases hc with ⟨hl, _⟩ | ⟨_, _, hp | hf | hrf⟩ | ⟨_, hp⟩
    · omega
    · exact absurd hr (hpanic hp)
    · exact absurd hr (hfatal hf)
    · exact absurd hr (hrefused hrf)
    · exact absurd hr (hpanic hp)
  · refine .inr (.inl ⟨r, h, hc.elim (fun hf => hfatal hf.1) (fun hp => hpanic hp.1), hk, fun hle => ?_⟩)
    rcases hc with ⟨_, hc | ⟨m, _, _, hv⟩⟩ | ⟨hp, _⟩
    · exact .inl hc
    · exact .inr ⟨m, o1 ▸ hv⟩
    · exact absurd hp.2 (hfull (by omega))
  · refine .inr (.inr ⟨n, r, h, h1, h2, h3, by omega, fun hr => ?_, fun hnl => ?_⟩)
    · rcases hc with hp | hf | hrf | ⟨e1, e2, _⟩
      · exact absurd hr (hpanic hp)
      · exact absurd hr (hfatal hf.1)
      · exact absurd hr (hrefused hrf.2.2)
      · omega
    · rcases hc with hp | hf | hrf | ⟨_, _, hr⟩
      · exact absurd hp.2 (hfull (by omega))
      · omega
      · omega
      · exact hr

theorem workerNack_spec (b : Batch) (task : Nat) (s s' : PS) (r : Except Stop Unit) (hb : BOK b) (hn : NackOK b)
    (h : exec (workerNack b task) s = (r, s')) : ∃ k', WRes b false s s' r k' := by
  have o1 := (orig_ok hb).1
  have hpl := hb.pos_len
  rcases workerNack_wf hb hn s task with ⟨r0, h0, hc⟩ | ⟨r0, h0, hne, _⟩ | ⟨n, r0, h0, h1, h2, _, h4, hc⟩ <;>
    rw [h] at h0 <;> obtain ⟨rfl, rfl⟩ := Prod.mk.inj h0
  · exact ⟨[], List.nil_prefix, by rw [List.append_nil]; rfl, rfl, id, rfl,
      fun hr => by rw [List.length_eq_zero_iff.mp (hpl.trans (hc hr))]; rfl, fun _ _ => rfl⟩
  · refine ⟨[], List.nil_prefix, ?_, rfl, (·.pop _), rfl, fun hr => absurd hr hne, fun _ _ => rfl⟩
    show ackedKeys (s.log.push _) = _
    rw [ackedKeys_push]; rfl
  · refine ⟨keys (b.pos.take n), List.IsPrefix.map _ (List.take_prefix _ _), ?_, rfl, (·.pop _), rfl,
      fun hr => by rw [List.take_of_length_le (by have := hc.mp hr; omega)], fun ha hne => ?_⟩
    · show ackedKeys ((s.log.push _).push _) = _
      rw [ackedKeys_push, ackedKeys_push, o1]; simp [evKeys]
    · -- one record at most, and it was acknowledged: then the call has succeeded
      exact absurd (hc.mpr (by have : b.recs.length ≤ 1 := by simpa using ha
                               omega)) hne

theorem workerAck_spec (b : Batch) (s s' : PS) (r : Except Stop Unit) (hb : BOK b)
    (h : exec (workerAck b) s = (r, s')) : ∃ k', WRes b true s s' r k' := by
  rw [workerAck_exec, (orig_ok hb).1] at h
  split at h <;> cases h
  · -- besides the `.sack` event only the DLQ window changes, of which `WRes` does not speak
    exact ⟨keys b.pos, List.prefix_refl _, by show ackedKeys (s.log.push _) = _; rw [ackedKeys_push]; rfl, rfl, id, rfl,
      fun _ => rfl, fun _ hne => absurd rfl hne⟩
  · exact ⟨[], List.nil_prefix, by simp, rfl, id, rfl, (fun h => nomatch h), fun _ _ => rfl⟩

theorem run_exec (X : Acker) (fuel : Nat) (b : Batch) (isAck : Bool) (task : Nat) (s s' : PS) (r : Except Stop Unit)
    (hb : BOK b) (h : exec (ackerCall fuel (.run X) b isAck task) s = (r, s')) :
    (∃ e, r = .error e ∧ s' = s) ∨
    (b.recs.length = 0 ∧ r = .ok () ∧ s' = s) ∨
    (0 < b.recs.length ∧ ∃ (f : Nat) (sb : Batch), sb.recs = b.recs ∧ sb.st = b.st ∧ sb.pos = b.pos ∧ BOK sb ∧
      (b.split = [] → sb.split = []) ∧
      exec (ackerCall f X sb isAck task) s = (r, s')) := by
  cases fuel with
  | zero => rw [ackerCall_zero] at h; cases h; exact Or.inl ⟨_, rfl, rfl⟩
  | succ fuel =>
    rw [ackerCall_run] at h
    cases fuel with
    | zero => rw [voteLoop_zero] at h; cases h; exact Or.inl ⟨_, rfl, rfl⟩
    | succ f =>
      by_cases hlen : 0 < b.recs.length
      · have hruns : ∀ k : Nat, 0 ≤ k → k < b.recs.length → runAt b k = .ok none := by
          intro k _ hk
          unfold runAt
          cases hr : b.runs with
          | none => rfl
          | some rs =>
            rw [hb.runs rs hr]
            dsimp only
            rw [idx_ok _ (by simpa using hk)]
            simp
        rw [voteLoop_norun_sim f X b isAck task 0 s hlen hruns, exec_bind] at h
        rcases hs : b.sub 0 b.recs.length with e | sb
        · rw [hs, exec_liftR_err] at h
          cases h
          exact Or.inl ⟨_, rfl, rfl⟩
        · rw [hs, exec_liftR_ok] at h
          dsimp only at h
          have hf := sub_ok_fields hs
          have e1 : sb.recs = b.recs := by rw [hf.recs]; simp
          have e2 : sb.st = b.st := by rw [hf.st, List.drop_zero, ← hb.st_len, List.take_length]
          have e3 : sb.pos = b.pos := by rw [hf.pos, List.drop_zero, ← hb.pos_len, List.take_length]
          have hsb : BOK sb := by
            refine ⟨?_, ?_, by rw [e1, e2]; exact hb.st_len, by rw [e1, e3]; exact hb.pos_len⟩
            · rcases hb.split with h | h
              · exact Or.inl (hf.split_nil h)
              · exact Or.inr (by rw [e3]; exact h)
            intro rs hrs
            rw [hf.runs] at hrs
            cases hr : b.runs with
            | none => rw [hr] at hrs; cases hrs
            | some rs0 =>
              rw [hr] at hrs
              simp only [Option.map_some, Option.some.injEq] at hrs
              rw [← hrs, hb.runs rs0 hr, e1]
              simp
          rw [exec_bind] at h
          rcases hc : exec (ackerCall f X sb isAck task) s with ⟨r1, s1⟩
          rw [hc] at h
          refine Or.inr (Or.inr ⟨hlen, f, sb, e1, e2, e3, hsb, hf.split_nil, ?_⟩)
          rw [hc]
          cases r1 with
          | error e =>
            dsimp only at h
            cases h
            rfl
          | ok u =>
            dsimp only at h
            cases f with
            | zero =>
              rw [ackerCall_zero] at hc
              cases hc
            | succ g =>
              rw [voteLoop_end g X b isAck task b.recs.length (by omega)] at h
              cases h
              rfl
      · rw [voteLoop_end f X b isAck task 0 hlen] at h
        cases h
        exact Or.inr (Or.inl ⟨by omega, rfl, rfl⟩)

def runContract {p : Acker} (C : Contract p) : Contract (.run p) :=
  { C with
    call := fun fuel b isAck task s r s' hv hb hn h => by
      rcases run_exec p fuel b isAck task s s' r hb h with ⟨e, rfl, rfl⟩ | ⟨h0, rfl, rfl⟩ | ⟨_, f, sb, e1, e2, e3, hsb, _, hc⟩
      · exact ⟨C.partial_mono _ (C.done_partial (C.done_refl hv)), (fun h => nomatch h),
          fun _ _ => C.quiet_stutter hv (Quiet.refl _ _), rfl, fun _ _ => rfl, rfl⟩
      · rw [List.length_eq_zero_iff.mp (hb.pos_len.trans h0)]
        exact ⟨C.done_partial (C.done_refl hv), fun _ => C.done_refl hv,
          fun _ _ => C.quiet_stutter hv (Quiet.refl _ _), rfl, fun _ _ => rfl, rfl⟩
      · obtain ⟨p1, p2, p3, p4, p5, p6⟩ := C.call f sb isAck task s r s' hv hsb
          (fun hi => by unfold NackOK; rw [e2]; exact hn hi) hc
        rw [e3] at p1 p2
        exact ⟨p1, p2, fun ha => p3 (by rw [e1]; exact ha), p4, p5, p6⟩ }

def WDone (ks : List Nat) (s s' : PS) : Prop :=
  ackedKeys s'.log = ackedKeys s.log ++ ks ∧ (NS s.scripts → NS s'.scripts)

def WPartial (ks : List Nat) (s s' : PS) : Prop := ∃ k', k' <+: ks ∧ WDone k' s s'

def wContract : Contract .worker where
  top := 0
  Valid := fun _ => True
  Partial := WPartial
  Done := WDone
  Stutter := WDone []
  valid_top := fun _ => Nat.zero_le _
  done_partial := fun h => ⟨_, List.prefix_refl _, h⟩
  done_done := fun h1 h2 => ⟨by rw [h2.1, h1.1, List.append_assoc], fun h => h2.2 (h1.2 h)⟩
  done_partial_trans := fun {k1 k2 s s1 s2} h1 h2 => by
    obtain ⟨k', hp, hd⟩ := h2
    exact ⟨k1 ++ k', (List.prefix_append_right_inj k1).mpr hp,
      by rw [hd.1, h1.1, List.append_assoc], fun h => hd.2 (h1.2 h)⟩
  partial_mono := fun {k1 s s'} k2 h => by
    obtain ⟨k', hp, hd⟩ := h
    exact ⟨k', List.IsPrefix.trans hp (List.prefix_append _ _), hd⟩
  quiet_done := fun _ hq => ⟨by rw [hq.acked]; simp, hq.ns⟩
  quiet_stutter := fun _ hq => ⟨by rw [hq.acked]; simp, hq.ns⟩
  stutter_partial := fun {ks s s1 s2} h1 h2 => by
    obtain ⟨k', hp, hd⟩ := h2
    exact ⟨k', hp, by rw [hd.1, h1.1]; simp, fun h => hd.2 (h1.2 h)⟩
  stutter_trans := fun h1 h2 => ⟨by rw [h2.1, h1.1]; simp, fun h => h2.2 (h1.2 h)⟩
  partial_valid := fun _ _ => trivial
  stutter_valid := fun _ _ => trivial
  partial_ns := fun ⟨_, _, hd⟩ => hd.2
  stutter_ns := fun h => h.2
  call := fun fuel b isAck task s r s' _ hb hn h => by
    have hw : ∃ k', WRes b isAck s s' r k' := by
      cases fuel with
      | zero =>
        rw [ackerCall_zero] at h; cases h
        exact ⟨[], List.nil_prefix, by simp, rfl, id, rfl, (fun h => nomatch h), fun _ _ => rfl⟩
      | succ g =>
        rw [ackerCall_worker] at h
        cases isAck with
        | true => simp only [if_true] at h; exact workerAck_spec b s s' r hb h
        | false =>
          simp only [Bool.false_eq_true, if_false] at h
          exact workerNack_spec b task s s' r hb (hn rfl) h
    obtain ⟨k', hw⟩ := hw
    refine ⟨⟨k', hw.pre, hw.acked, hw.ns⟩, ?_, ?_, by rw [hw.mas], fun i _ => by rw [hw.mas], hw.heap⟩
    · intro hr; rw [← hw.ok hr]; exact ⟨hw.acked, hw.ns⟩
    · intro ha hne
      have := hw.atomic ha hne
      subst this
      exact ⟨hw.acked, hw.ns⟩

def workerContract : Contract (.run .worker) := runContract wContract

end Conduit.Funnel
