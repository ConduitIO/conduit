import ConduitModel.Proofs.ProvConv

/-!
C15 convergence, frame: what a successful import leaves alone (every entity whose id is neither
in the exported old configuration nor in the new one, `build_frame`) and what it removes (every entity
of the old configuration whose id the new one does not mention, `build_gone`). Then: a plan has no
action on a connector that persists with its type (`build_no_touch`, for the position clause); `Export`
is total where the references below the pipeline are intact (`exportPl_total`); and an import keeps
those references for every pipeline (`DownRefs`, `plRefs_other`, `downRefs_import`).
-/
namespace Conduit.Ctl

def oldProcIds (old : Option PipeCfg) : List Id := (old.map (·.procIds)).getD []

/-- the cell is the pipeline table or that of a connector or processor id of the configuration. -/
def Cell.In (c : PipeCfg) : Cell → Prop
  | .pls => True
  | .cn x => x ∈ cids c.conns
  | .pr y => y ∈ c.procIds

theorem slots_cell_in {c : PipeCfg} {s : Slot} (hs : s ∈ slots c) : s.cell.In c := by
  rcases mem_slots.1 hs with rfl | ⟨cn, hcn, rfl | ⟨pn, hpn, rfl⟩⟩ | ⟨pn, hpn, rfl⟩
  · trivial
  · exact List.mem_map_of_mem hcn
  · exact List.mem_append.2 (.inl (List.mem_flatMap.2 ⟨cn, hcn, List.mem_map_of_mem hpn⟩))
  · exact List.mem_append.2 (.inr (List.mem_map_of_mem hpn))

theorem procIds_slot {c : PipeCfg} {y : Id} (hy : y ∈ c.procIds) : ∃ pn pt par, .pr pn pt par ∈ slots c ∧ pn.id = y ∧
    ((pt = 2 ∧ par = c.id) ∨ (pt = 1 ∧ par ∈ cids c.conns)) := by
  rcases List.mem_append.1 hy with hy | hy
  · obtain ⟨cn, hcn, hy⟩ := List.mem_flatMap.1 hy
    obtain ⟨pn, hpn, rfl⟩ := List.mem_map.1 hy
    exact ⟨pn, 1, cn.id, mem_slots.2 (.inr (.inl ⟨cn, hcn, .inr ⟨pn, hpn, rfl⟩⟩)), rfl, .inr ⟨rfl, List.mem_map_of_mem hcn⟩⟩
  · obtain ⟨pn, hpn, rfl⟩ := List.mem_map.1 hy
    exact ⟨pn, 2, c.id, mem_slots.2 (.inr (.inr ⟨pn, hpn, rfl⟩)), rfl, .inl ⟨rfl, rfl⟩⟩

theorem build_cell (v : Variant) (prov : Nat) (old : Option PipeCfg) (c : PipeCfg) : ∀ a ∈ build v prov old c,
    (a.deletes = true ∧ ∃ o, old = some o ∧ a.cell.In o) ∨ (a ∈ (slots c).flatMap (Slot.acts v prov old c.id) ∧ a.cell.In c) := by
  intro a ha
  rw [build_split] at ha
  rcases List.mem_append.1 ha with ha | ha
  · obtain ⟨_, hd, so, hso, e, _⟩ := delActs_mem v old c a ha
    cases old with
    | none => cases hso
    | some o => exact .inl ⟨hd, o, rfl, e ▸ slots_cell_in hso⟩
  · obtain ⟨s, hs, h⟩ := List.mem_flatMap.1 ha
    exact .inr ⟨ha, s.acts_cell v prov old c.id a h ▸ slots_cell_in hs⟩

/-- a connector or processor that is deleted, with only deletions of it afterwards, is gone. -/
theorem effAll_deleted (v : Variant) (c : Cell) : ∀ (L : List Act) (m : Mem), (∀ a ∈ L, a.cell = c → a.deletes = true) →
    (c.Same Mem.empty m ∨ ∃ a ∈ L, a.cell = c) → c.Same Mem.empty (effAll v m L) := by
  intro L
  induction L with
  | nil => exact fun m _ h => h.resolve_right nofun
  | cons a r ih =>
    intro m hdel h
    refine ih _ (fun b hb => hdel b (List.mem_cons_of_mem _ hb)) ?_
    by_cases hc : a.cell = c
    · have hd := hdel a List.mem_cons_self hc
      subst hc
      cases a with
      | deleteCn o pid => exact .inl (Map.del_same _ _)
      | deletePr o pt par => exact .inl (Map.del_same _ _)
      | _ => cases hd
    · rcases h with h | ⟨b, hb, hbc⟩
      · exact .inl (h.trans (a.frame v m hc))
      · rcases List.mem_cons.1 hb with rfl | hb
        · exact absurd hbc hc
        · exact .inr ⟨b, hb, hbc⟩

theorem preparePl_pls_other (v : Variant) (prov : Nat) (old : Option PipeCfg) (c : PipeCfg) (j : Id) (hj : j ≠ c.id) :
    ∀ a ∈ preparePl prov old (some c), ∀ μ, (a.eff v μ).pls j = μ.pls j := by
  intro a ha μ
  unfold preparePl at ha
  split at ha
  · rename_i heq; cases heq; cases List.mem_singleton.1 ha; exact Map.set_other _ _ _ _ hj
  · rename_i heq; cases heq
  · rename_i heq; cases heq
    split at ha
    · cases ha
    · cases List.mem_singleton.1 ha
      simp only [Act.eff]
      split
      · rfl
      · exact Map.set_other _ _ _ _ hj
  · cases ha

theorem effAll_pls_other (v : Variant) (j : Id) (L : List Act) (hL : ∀ a ∈ L, ∀ μ, (a.eff v μ).pls j = μ.pls j) (m : Mem) :
    (effAll v m L).pls j = m.pls j := by
  induction L generalizing m with
  | nil => rfl
  | cons a r ih => exact (ih (fun b hb => hL b (List.mem_cons_of_mem _ hb)) _).trans (hL a List.mem_cons_self m)

theorem build_frame (v : Variant) (prov : Nat) (m : Mem) (c : PipeCfg) (old : Option PipeCfg) :
    (∀ j, j ≠ c.id → (effAll v m (build v prov old c)).pls j = m.pls j) ∧
    (∀ x, x ∉ cids (oldConns old) → x ∉ cids c.conns → (effAll v m (build v prov old c)).cns x = m.cns x) ∧
    (∀ y, y ∉ oldProcIds old → y ∉ c.procIds → (effAll v m (build v prov old c)).prs y = m.prs y) := by
  have hB := build_cell v prov old c
  refine ⟨fun j hj => effAll_pls_other v j _ (fun a ha μ => ?_) m, fun x h1 h2 => effAll_skip v (.cn x) _ (fun a ha e => ?_) m,
    fun y h1 h2 => effAll_skip v (.pr y) _ (fun a ha e => ?_) m⟩
  · -- the only actions on the pipeline table are those prepared for the record of `c`
    by_cases hc : a.cell = .pls
    · rcases hB a ha with ⟨hd, _⟩ | ⟨ha, _⟩
      · exact absurd hc (Act.deletes_cell hd)
      · obtain ⟨s, hs, ha⟩ := List.mem_flatMap.1 ha
        have e := (s.acts_cell v prov old c.id a ha).symm.trans hc
        rcases mem_slots.1 hs with rfl | ⟨_, _, rfl | ⟨_, _, rfl⟩⟩ | ⟨_, _, rfl⟩ <;> first | cases e | skip
        exact preparePl_pls_other v prov old c j hj a ha μ
    · exact congrFun (a.frame v μ hc).1 j
  · rcases hB a ha with ⟨_, o, rfl, h⟩ | ⟨_, h⟩ <;> rw [e] at h
    · exact h1 h
    · exact h2 h
  · rcases hB a ha with ⟨_, o, rfl, h⟩ | ⟨_, h⟩ <;> rw [e] at h
    · exact h1 h
    · exact h2 h

theorem findConn_none_of_not_mem (l : List ConnCfg) (i : Id) (h : i ∉ cids l) : findConn l i = none :=
  (find?_key_none ConnCfg.id).2 fun _ hz e => h (e ▸ List.mem_map_of_mem hz)

theorem findProc_none_of_not_mem (l : List ProcCfg) (i : Id) (h : i ∉ ids l) : findProc l i = none :=
  (find?_key_none ProcCfg.id).2 fun _ hz e => h (e ▸ List.mem_map_of_mem hz)

theorem procsAt_sub (c : PipeCfg) (pt : Nat) (par : Id) : ∀ y ∈ ids (procsAt (some c) pt par), y ∈ c.procIds := by
  intro y hy
  unfold procsAt at hy
  split at hy
  · unfold oldProcsOf at hy
    cases hf : findConn c.conns par with
    | none => simp [oldConns, hf, ids] at hy
    | some co =>
      simp only [oldConns, Option.map_some, Option.getD_some, hf] at hy
      exact List.mem_append.2 (.inl (List.mem_flatMap.2 ⟨co, (find?_key_some ConnCfg.id hf).2, hy⟩))
  · exact List.mem_append.2 (.inr hy)

theorem build_gone (v : Variant) (prov : Nat) (m : Mem) (c o : PipeCfg) :
    (∀ co ∈ o.conns, co.id ∉ cids c.conns → (effAll v m (build v prov (some o) c)).cns co.id = none) ∧
    (∀ y ∈ o.procIds, y ∉ c.procIds → (effAll v m (build v prov (some o) c)).prs y = none) := by
  -- a cell in which the deletion pass has an action and `c` has nothing
  have gone : ∀ cl, ¬ cl.In c → (∃ so ∈ slots o, so.cell = cl ∧ so.del c o.id ≠ []) →
      cl.Same Mem.empty (effAll v m (build v prov (some o) c)) := fun cl hn ⟨so, hso, e, hne⟩ => by
    refine effAll_deleted v cl _ m (fun b hb e' => ?_) (.inr ?_)
    · rcases build_cell v prov (some o) c b hb with ⟨hd, _⟩ | ⟨_, h⟩
      · exact hd
      · exact absurd (e' ▸ h) hn
    · obtain ⟨a, ha⟩ := List.exists_mem_of_ne_nil _ hne
      refine ⟨a, ?_, ?_⟩
      · rw [build_split]; exact List.mem_append_left _ (List.mem_reverse.2 (List.mem_flatMap.2 ⟨so, hso, ha⟩))
      · cases so <;> simp only [Slot.del] at ha
        · cases ha
        · split at ha
          · cases List.mem_singleton.1 ha; exact e
          · cases ha
        · split at ha
          · cases List.mem_singleton.1 ha; exact e
          · cases ha
  constructor
  · intro co hco hnot
    exact gone (.cn co.id) hnot ⟨.cn co, mem_slots.2 (.inr (.inl ⟨co, hco, .inl rfl⟩)), rfl,
      by simp [Slot.del, findConn_none_of_not_mem c.conns co.id hnot]⟩
  · intro y hy hnot
    obtain ⟨po, pt, par, hs, rfl, _⟩ := procIds_slot hy
    exact gone (.pr po.id) hnot ⟨_, hs, rfl,
      by simp [Slot.del, findProc_none_of_not_mem _ po.id fun h => hnot (procsAt_sub c pt par _ h)]⟩

theorem touches_cell {a : Act} {x : Id} (h : a.touches x = true) : a.cell = .cn x := by
  cases a with
  | createCn c _ | deleteCn c _ => exact congrArg Cell.cn (of_decide_eq_true h)
  | _ => cases h

/-- a connector that both configurations have, with the same type, is neither deleted nor created:
the plan's actions on it are what `prepareCn` returns for the two. -/
theorem build_no_touch (v : Variant) (prov : Nat) (old new : PipeCfg) (x : Id) (xo xn : ConnCfg)
    (ho : xo ∈ old.conns) (hn : xn ∈ new.conns) (hxo : xo.id = x) (hxn : xn.id = x) (htyp : xo.typ = xn.typ)
    (hno : (old.conns.map (·.id)).Nodup) (hnn : (new.conns.map (·.id)).Nodup) :
    ∀ a ∈ build v prov (some old) new, a.touches x = false := by
  intro a ha
  cases ht : a.touches x with
  | false => rfl
  | true =>
    subst hxn
    have hc := touches_cell ht
    have hxs : Slot.cn xn ∈ slots new := mem_slots.2 (.inr (.inl ⟨xn, hn, .inl rfl⟩))
    rw [build_split] at ha
    rcases List.mem_append.1 ha with ha | ha
    · -- the deletion would be of a connector `new` does not have
      obtain ⟨_, _, so, _, e, hno'⟩ := delActs_mem v (some old) new a ha
      refine absurd ?_ (hno' hnn _ hxs (hc.symm.trans e))
      cases so <;> first | rfl | cases hc.symm.trans e
    · obtain ⟨s, hs, ha⟩ := List.mem_flatMap.1 ha
      have e := (s.acts_cell v prov (some old) new.id a ha).symm.trans hc
      rcases mem_slots.1 hs with rfl | ⟨cn, hcn, rfl | ⟨_, _, rfl⟩⟩ | ⟨_, _, rfl⟩ <;> first | cases e | skip
      -- ids are unique: the slot is that of `xn`, and what `old` has under that id is `xo`
      have := find_self_conn _ hnn cn hcn
      rw [Cell.cn.inj e, find_self_conn _ hnn xn hn] at this; cases this
      rw [Slot.acts, show findConn (oldConns (some old)) xn.id = some xo from hxo ▸ find_self_conn _ hno xo ho] at ha
      exact nomatch (prepareCn_no_touch xn.id _ _ _ (fun c e _ => ⟨xo, xn, rfl, rfl, hxo, htyp⟩) a ha).symm.trans ht

theorem exportProcs_total (v : Variant) (m : Mem) : ∀ (idl : List Id), (∀ i ∈ idl, (m.prs i).isSome) →
    ∃ l, exportProcs v m idl = .ok l := by
  intro idl
  induction idl with
  | nil => intro _; exact ⟨[], rfl⟩
  | cons i rest ih =>
    intro h
    obtain ⟨l, hl⟩ := ih (fun j hj => h j (List.mem_cons_of_mem _ hj))
    have hi := h i List.mem_cons_self
    cases hr : m.prs i with
    | none => rw [hr] at hi; cases hi
    | some r => exact ⟨procToCfg v i r :: l, by simp only [exportProcs, hr, hl]⟩

theorem exportConns_total (v : Variant) (m : Mem) : ∀ (idl : List Id),
    (∀ i ∈ idl, ∃ r, m.cns i = some r ∧ ∀ y ∈ r.procs, (m.prs y).isSome) →
    ∃ l, exportConns v m idl = .ok l := by
  intro idl
  induction idl with
  | nil => intro _; exact ⟨[], rfl⟩
  | cons i rest ih =>
    intro h
    obtain ⟨l, hl⟩ := ih (fun j hj => h j (List.mem_cons_of_mem _ hj))
    obtain ⟨r, hr, hrp⟩ := h i List.mem_cons_self
    obtain ⟨ps, hps⟩ := exportProcs_total v m r.procs hrp
    exact ⟨{ id := i, typ := r.typ, plugin := r.plugin, name := r.name, settings := r.settings, procs := ps } :: l,
      by simp only [exportConns, hr, hps, hl]⟩

theorem exportPl_total (v : Variant) (m : Mem) (pid : Id) (hrefs : PlRefs m pid) : ∃ old, exportPl v m pid = .ok old := by
  unfold exportPl
  cases hp : m.pls pid with
  | none => exact ⟨none, rfl⟩
  | some p =>
    obtain ⟨cs, hcs⟩ := exportConns_total v m p.conns (fun x hx => by
      obtain ⟨r, hr, _, hrp⟩ := hrefs.conn p x hp hx
      exact ⟨r, hr, fun y hy => by obtain ⟨q, hq, _⟩ := hrp y hy; rw [hq]; rfl⟩)
    obtain ⟨ps, hps⟩ := exportProcs_total v m p.procs (fun y hy => by
      obtain ⟨q, hq, _⟩ := hrefs.proc p y hp hy; rw [hq]; rfl)
    exact ⟨some { id := pid, name := p.name, desc := p.desc, dlq := p.dlq, conns := cs, procs := ps }, by simp only [hcs, hps]⟩

def DownRefs (m : Mem) : Prop := ∀ pid, PlRefs m pid

theorem downRefs_of_refs (m : Mem) (h : Refs m) : DownRefs m := fun pid => plRefs_of_refs m h pid

/-- The ids of `c` are not in use under another pipeline: a connector id of `c` that exists
belongs to pipeline `c.id`, a processor id of `c` that exists hangs below pipeline `c.id`.
(The real service builds the entity ids from the pipeline id: `<pipeline>:<connector>`,
`<pipeline>:<connector>:<processor>`.) -/
structure CfgOwned (m : Mem) (c : PipeCfg) : Prop where
  cn : ∀ x ∈ cids c.conns, ∀ r, m.cns x = some r → r.pipeline = c.id
  pr : ∀ y ∈ c.procIds, ∀ q, m.prs y = some q →
    (q.ptype = 2 ∧ q.parent = c.id) ∨ (q.ptype = 1 ∧ ∃ r, m.cns q.parent = some r ∧ r.pipeline = c.id)

theorem plRefs_other (v : Variant) (hv : v.condExported = true) (prov : Nat) (m : Mem) (c : PipeCfg) (old : Option PipeCfg) (pid : Id)
    (hne : pid ≠ c.id) (hex : exportPl v m c.id = .ok old) (hc : PlRefs m c.id) (h : PlRefs m pid)
    (ho : CfgOwned m c) : PlRefs (effAll v m (build v prov old c)) pid := by
  obtain ⟨f1, f2, f3⟩ := build_frame v prov m c old
  obtain ⟨hid, hold⟩ := exported_holds v hv m c.id old hc hex
  have holdc : ∀ x ∈ cids (oldConns old), ∃ r, m.cns x = some r ∧ r.pipeline = c.id := by
    intro x hx
    cases old with
    | none => simp [oldConns, cids] at hx
    | some o =>
      obtain ⟨co, hco, rfl⟩ := List.mem_map.1 hx
      obtain ⟨r, hr, _, hpp⟩ := hold (.cn co) (mem_slots.2 (.inr (.inl ⟨co, hco, .inl rfl⟩)))
      exact ⟨r, hr, hpp⟩
  have holdp : ∀ y ∈ oldProcIds old, ∃ q, m.prs y = some q ∧
      ((q.ptype = 2 ∧ q.parent = c.id) ∨ (q.ptype = 1 ∧ q.parent ∈ cids (oldConns old))) := by
    intro y hy
    cases old with
    | none => simp [oldProcIds] at hy
    | some o =>
      obtain ⟨po, pt, par, hs, rfl, hpar⟩ := procIds_slot (c := o) hy
      obtain ⟨q, hq, _, rfl, rfl⟩ := hold _ hs
      exact ⟨q, hq, by rwa [hid o rfl] at hpar⟩
  -- a processor that does not hang below pipeline `c.id` is in neither configuration
  have away : ∀ rid q, m.prs rid = some q →
      ¬((q.ptype = 2 ∧ q.parent = c.id) ∨ (q.ptype = 1 ∧ ∃ r, m.cns q.parent = some r ∧ r.pipeline = c.id)) →
      rid ∉ oldProcIds old ∧ rid ∉ c.procIds := by
    intro rid q hq hno
    refine ⟨fun hin => hno ?_, fun hin => hno (ho.pr rid hin q hq)⟩
    obtain ⟨q', hq', hcase⟩ := holdp rid hin
    rw [hq] at hq'; cases hq'
    exact hcase.imp_right fun ⟨a, b⟩ => ⟨a, holdc _ b⟩
  constructor
  · intro p cid hp hcid
    rw [f1 pid hne] at hp
    obtain ⟨r, hr, hpp, hrp⟩ := h.conn p cid hp hcid
    have hc1 : cid ∉ cids (oldConns old) := by
      intro hin
      obtain ⟨r', hr', hpp'⟩ := holdc cid hin
      rw [hr] at hr'; cases hr'
      exact hne (hpp.symm.trans hpp')
    have hc2 : cid ∉ cids c.conns := fun hin => hne (hpp.symm.trans (ho.cn cid hin r hr))
    refine ⟨r, by rw [f2 cid hc1 hc2]; exact hr, hpp, ?_⟩
    intro rid hrid
    obtain ⟨q, hq, a, b⟩ := hrp rid hrid
    obtain ⟨hp1, hp2⟩ := away rid q hq (by
      rintro (⟨a', _⟩ | ⟨_, r', hr', hpp'⟩)
      · rw [a] at a'; cases a'
      · rw [b, hr] at hr'; cases hr'
        exact hne (hpp.symm.trans hpp'))
    exact ⟨q, by rw [f3 rid hp1 hp2]; exact hq, a, b⟩
  · intro p rid hp hrid
    rw [f1 pid hne] at hp
    obtain ⟨q, hq, a, b⟩ := h.proc p rid hp hrid
    obtain ⟨hp1, hp2⟩ := away rid q hq (by
      rintro (⟨_, b'⟩ | ⟨a', _⟩)
      · exact hne (b.symm.trans b')
      · rw [a] at a'; cases a')
    exact ⟨q, by rw [f3 rid hp1 hp2]; exact hq, a, b⟩

theorem downRefs_import (v : Variant) (prov : Nat) (m : Mem) (c : PipeCfg) (old : Option PipeCfg)
    (h : ConvReady v m c old) (hd : DownRefs m) (ho : CfgOwned m c) : DownRefs (effAll v m (build v prov old c)) := by
  intro pid
  by_cases hne : pid = c.id
  · subst hne
    obtain ⟨_, t1, t2⟩ := converge_mem v prov m c old h
    exact plRefs_of_target _ c t1 t2
  · exact plRefs_other v h.cond.exported prov m c old pid hne h.exp (hd c.id) (hd pid) ho

end Conduit.Ctl
