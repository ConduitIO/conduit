import ConduitModel.Proofs.MonFWorkerNack
import ConduitModel.Proofs.MonPipe

/-!
# The contracts of the root handler `Worker` and of its chain `runAckNacker(Worker)`
-/
namespace Conduit.Funnel
open Conduit.Funnel.Mon

/-- justified for all tasks and destinations of the tree ⇒ justified for the monitor -/
theorem ackJust_of_T {G : Ctx} {s : PS} (hB : Base G s) {ρ : Nat}
    (h : ActiveT (G.view s) (tasksS G.tree) (dests G.tree) ρ ∨ FilteredT (G.view s) (tasksS G.tree) (dests G.tree) ρ)
    (hany : ρ ∉ (G.mu s).dlqAny) : AckJust G.tree (G.mu s) ρ := by
  have hclean : ∀ (hc : CleanT (G.view s) (tasksS G.tree) (dests G.tree) ρ), Clean (G.mu s) ρ := by
    intro hc
    refine ⟨fun hx => ?_, fun e he hr => ?_⟩
    · obtain ⟨t, ht⟩ := (mem_errored_iff G s ρ).mp hx
      exact hc.1 t (hB.errIn _ ht) ht
    · exact hc.2 e he (hB.wrIn e he) hr
  right
  rcases h with h | h
  · have ha : Active (G.mu s) (dests G.tree) ρ := ⟨hclean h.1, h.2⟩
    exact ⟨ha.1, hany, viaDests_of_active ha (fun d hd => hd)⟩
  · have ha : Filtered (G.mu s) ρ := ⟨hclean h.1, h.2⟩
    exact ⟨ha.1, hany, viaDests_of_filtered ha⟩

theorem WInv.same {G : Ctx} {p : Nat} {s s' : PS} (h : WInv G p s) (hlog : s'.log = s.log) (hscr : s'.scripts = s.scripts) :
    WInv G p s' := by
  have hm := mu_same G s s' hlog
  exact ⟨h.toWInvW.same hlog hscr, by rw [hm]; exact h.dlqAnyS⟩

theorem WInvW.quiet {G : Ctx} {p : Nat} {s s' : PS} {t : Nat} {isDest : Bool} {R : Nat → Prop} (h : WInvW G p s)
    (hq : QStep G t isDest R s s') (hB : Base G s') : WInvW G p s' :=
  ⟨hB, by rw [hq.acked_eq]; exact h.acked, by rw [hq.nAcked_eq]; exact h.front, by rw [hq.dlqAny]; exact h.dlqAny,
    by rw [hq.dlqOk]; exact h.dlqOk⟩

theorem WInv.quiet {G : Ctx} {p : Nat} {s s' : PS} {t : Nat} {isDest : Bool} {R : Nat → Prop} (h : WInv G p s)
    (hq : QStep G t isDest R s s') (hB : Base G s') : WInv G p s' :=
  ⟨h.toWInvW.quiet hq hB, by rw [hq.dlqAny]; exact h.dlqAnyS⟩

theorem workerMC0_ack {G : Ctx} (hs : Src G) (fuel : Nat) (sb : Batch) (p : Nat) (s s' : PS) (r : Except Stop Unit)
    (hI : WInv G p s) (hb : BOK sb) (hal : Align G p sb)
    (hj : ∀ (q : Nat) (src : Rec), q < sb.pos.length → G.all[p + q]? = some src →
      ActiveT (G.view s) (tasksS G.tree) (dests G.tree) (root src) ∨ FilteredT (G.view s) (tasksS G.tree) (dests G.tree) (root src))
    (h : exec (ackerCall fuel .worker sb true 0) s = (r, s')) :
    CallOut G 0 (WInv G) (WInvW G) (fun s => (G.mu s).tv = []) (fun _ _ => True) p sb.pos.length False s s' r := by
  cases fuel with
  | zero =>
    rw [ackerCall_zero] at h; cases h
    exact ⟨(fun hh => nomatch hh), fun _ _ => trivial, fun hf => hf.elim, fun _ => hI.base.safe, ExtT.refl _ _ _ _, rfl, fun _ _ => rfl⟩
  | succ fuel =>
    have hx : exec (workerAck sb) s = (r, s') := by
      rw [ackerCall_worker] at h; simpa only [if_true] using h
    rcases workerAck_shape hb hx with ⟨hr, rfl⟩ | ⟨hr, hlog, hscr, hmas⟩
    · exact ⟨fun hh => absurd hh hr, fun _ _ => trivial, fun hf => hf.elim, fun _ => hI.base.safe, ExtT.refl _ _ _ _, rfl, fun _ _ => rfl⟩
    · have hmu := mu_sack_just (G := G) hlog hI.front (by
        intro q pp hq
        obtain ⟨src, hsrc, hk⟩ := hal.pos q pp hq
        have hql : q < sb.pos.length := (List.getElem?_eq_some_iff.mp hq).1
        have hin : InR G p sb.pos.length (root src) := ⟨q, src, hql, hsrc, rfl⟩
        have hany : root src ∉ (G.mu s).dlqAny := fun hm => hin.not_nonPend hs (hI.dlqAnyS _ hm)
        exact ⟨src, hsrc, hk.symm, ackJust_of_T hI.base (hj q src hql hsrc) hany⟩)
      obtain ⟨hI', hview⟩ := WInv.sack hI.base hI.acked hI.front hal hlog hscr hmu
        (fun x hx => (hI.dlqAnyS x hx).mono (by omega)) fun x hx => (hI.dlqOk x hx).mono (by omega)
      exact ⟨fun _ => hI', fun _ _ => trivial, fun hf => hf.elim, fun hh => absurd hr hh, hview, by rw [hmas], fun _ _ => by rw [hmas]⟩

theorem workerMC0_nack {G : Ctx} (hs : Src G) (fuel : Nat) (sb : Batch) (task p : Nat) (s s' : PS) (r : Except Stop Unit)
    (hI : WInvW G p s) (hb : BOK sb) (hsp : sb.split = []) (hn : NackOK sb) (hal : Align G p sb) (hpos : 0 < sb.pos.length)
    (h : exec (ackerCall fuel .worker sb false task) s = (r, s')) :
    CallOut G 0 (WInv G) (WInvW G) (fun s => (G.mu s).tv = []) (fun _ _ => True) p sb.pos.length (sb.pos.length ≤ 1) s s' r := by
  cases fuel with
  | zero =>
    rw [ackerCall_zero] at h; cases h
    exact ⟨(fun hh => nomatch hh), fun _ _ => trivial, fun _ _ => hI, fun _ => hI.base.safe, ExtT.refl _ _ _ _, rfl, fun _ _ => rfl⟩
  | succ fuel =>
    have hx : exec (workerNack sb task) s = (r, s') := by
      rw [ackerCall_worker] at h; simpa only [Bool.false_eq_true, if_false] using h
    obtain ⟨g1, g2, g3, g4, g5⟩ := workerNack_monW hs hI hb hsp hn hal hpos hx
    exact ⟨g1, fun _ _ => trivial, g2, fun _ => g3, g4, by rw [g5], fun _ _ => by rw [g5]⟩

/-- The contract of the bare root handler `Worker`: an acknowledgement must be justified for every
task and every destination of the tree. -/
def workerMC0 (G : Ctx) (hs : Src G) : MC G .worker where
  top := 0
  Inv := WInv G
  InvW := WInvW G
  Err := fun s => (G.mu s).tv = []
  T := tasksS G.tree
  D := dests G.tree
  Below := tasksS G.tree
  Dead := fun _ _ => True
  inv_w := fun h => h.toWInvW
  w_err := fun h => h.base.safe
  err_safe := fun h => h
  base := fun h => h.base
  baseW := fun h => h.base
  top_le := fun _ => Nat.zero_le _
  quiet := fun h hq _ _ hB => h.quiet hq hB
  quietW := fun h hq _ _ hB => h.quiet hq hB
  frame := fun h hsb => h.same hsb.log hsb.scripts
  frameW := fun h hsb => h.same hsb.log hsb.scripts
  dead_quiet := fun _ _ => trivial
  dead_frame := fun _ _ => trivial
  ack := fun fuel sb p s s' r hI hb _ hal hj h => workerMC0_ack hs fuel sb p s s' r hI hb hal hj h
  nack := fun fuel sb task p s s' r hI hb hsp hn hal hpos h =>
    ⟨workerMC0_nack hs fuel sb task p s s' r hI hb hsp hn hal hpos h, fun _ _ _ => trivial⟩

/-- On a batch without split runs the wrapper `runAckNacker(X)` is one call of `X` (`run_exec`): a
contract of the bare handler `X` is a contract of the chain. -/
def MC.run {G : Ctx} {X : Acker} (C0 : MC G X) : MC G (.run X) :=
  { C0 with
    ack := fun fuel sb p s s' r hI hb hsp hal hj h => by
      rcases run_exec X fuel sb true 0 s s' r hb h with ⟨e, rfl, rfl⟩ | ⟨h0, rfl, rfl⟩ | ⟨_, f, sb2, e1, _, e3, hb2, hsp2, hx⟩
      · exact ⟨(fun hh => nomatch hh), fun _ hd => hd, fun hf => hf.elim, fun _ => C0.w_err (C0.inv_w hI), ExtT.refl _ _ _ _, rfl,
          fun _ _ => rfl⟩
      · have hp : sb.pos.length = 0 := by rw [hb.pos_len]; exact h0
        exact ⟨fun _ => by rw [hp]; exact hI, fun _ hd => hd, fun hf => hf.elim, fun hh => absurd rfl hh, ExtT.refl _ _ _ _, rfl,
          fun _ _ => rfl⟩
      · rw [← e3]
        exact C0.ack f sb2 p s s' r hI hb2 (hsp2 hsp) (hal.congr e3 e1) (fun q src hq => hj q src (by rw [← e3]; exact hq)) hx
    nack := fun fuel sb task p s s' r hI hb hsp hn hal hpos h => by
      rcases run_exec X fuel sb false task s s' r hb h with ⟨e, rfl, rfl⟩ | ⟨h0, rfl, rfl⟩ | ⟨_, f, sb2, e1, e2, e3, hb2, hsp2, hx⟩
      · exact ⟨⟨(fun hh => nomatch hh), fun _ hd => hd, fun _ _ => hI, fun _ => C0.w_err hI, ExtT.refl _ _ _ _, rfl, fun _ _ => rfl⟩,
          fun hh => nomatch hh⟩
      · have := hb.pos_len; omega
      · rw [← e3]
        exact C0.nack f sb2 task p s s' r hI hb2 (hsp2 hsp) (by unfold NackOK; rw [e2]; exact hn) (hal.congr e3 e1)
          (by rw [e3]; exact hpos) hx }

def workerMC (G : Ctx) (hs : Src G) : MC G (.run .worker) := (workerMC0 G hs).run

end Conduit.Funnel
