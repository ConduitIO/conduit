import ConduitModel.Proofs.MonInv

/-!
# Definitions for the task-level monitor lemmas

* `pcallOK`, `rpRun`, `RP` — the lineage convention of the harness generators as a checkable
  condition on the event log of a run: every processor reply maps an input record to outputs with
  the same root (`root r = r.tag % 1000`);
* `destsS`, `destsL` — `Mon.dests`, `Mon.destsL` under the names the proofs use, with their equations;
* `own` — the destination id of a node, if it is one (`destsS_eq`);
* `FlagsAF` — every status of a batch is `ack` or `filter`.
-/
namespace Conduit.Funnel
open Conduit.Funnel.Mon

/-! ## root preservation -/

/-- one processor call keeps the roots: a `SingleRecord` has the root of its input record, all the
pieces of a `MultiRecord` have it -/
def pcallOK (recs : List Rec) (out : List PR) : Bool :=
  (recs.zip out).all fun (r, o) => match o with
    | .single r' => root r' == root r
    | .multi m => m.all (fun r' => root r' == root r)
    | _ => true

/-- every processor call of the log keeps the roots (`calls` = calls seen so far per task) -/
def rpRun (scripts : List (Nat × List Reply)) : List (Nat × Nat) → List Ev → Bool
  | _, [] => true
  | calls, .pcall t recs :: rest =>
    pcallOK recs (procOut (replyOfCall scripts t (callNoL calls t))) && rpRun scripts (bumpL calls t) rest
  | calls, .write t _ :: rest => rpRun scripts (bumpL calls t) rest
  | calls, .dlqw t _ :: rest => rpRun scripts (bumpL calls t) rest
  | calls, .sack _ :: rest => rpRun scripts calls rest

/-- the log of `s` obeys the lineage convention -/
def RP (G : Ctx) (s : PS) : Prop := rpRun G.scripts [] s.log.toList = true

/-- the call counters after a log -/
def callsAfter (calls : List (Nat × Nat)) (log : List Ev) : List (Nat × Nat) :=
  log.foldl (fun c e => match evTask e with | some t => bumpL c t | none => c) calls

theorem rpRun_append (scripts : List (Nat × List Reply)) : ∀ (l1 l2 : List Ev) (calls : List (Nat × Nat)),
    rpRun scripts calls (l1 ++ l2) = (rpRun scripts calls l1 && rpRun scripts (callsAfter calls l1) l2) := by
  intro l1
  induction l1 with
  | nil => intro l2 calls; simp [rpRun, callsAfter]
  | cons e l1 ih =>
    intro l2 calls
    cases e with
    | pcall t r => simp only [List.cons_append, rpRun, ih, callsAfter, List.foldl_cons, evTask, Bool.and_assoc]
    | write t r => simp only [List.cons_append, rpRun, ih, callsAfter, List.foldl_cons, evTask]
    | dlqw t r => simp only [List.cons_append, rpRun, ih, callsAfter, List.foldl_cons, evTask]
    | sack ps => simp only [List.cons_append, rpRun, ih, callsAfter, List.foldl_cons, evTask]

theorem calls_foldl (tree : TaskNode) (scripts : List (Nat × List Reply)) : ∀ (log : List Ev) (μ : TSt),
    (log.foldl (stepT tree scripts) μ).calls = callsAfter μ.calls log := by
  intro log
  induction log with
  | nil => intro μ; rfl
  | cons e log ih =>
    intro μ
    rw [List.foldl_cons, ih, calls_stepT]
    rfl

theorem calls_mu (G : Ctx) (s : PS) : (G.mu s).calls = callsAfter [] s.log.toList :=
  calls_foldl G.tree G.scripts s.log.toList _

theorem RP.prefix {G : Ctx} {s s' : PS} (h : RP G s') (hp : s.log.toList <+: s'.log.toList) : RP G s := by
  obtain ⟨t, ht⟩ := hp
  unfold RP at h ⊢
  rw [← ht, rpRun_append] at h
  simp only [Bool.and_eq_true] at h
  exact h.1

theorem pcallT_eq (scr : List (Nat × List Reply)) (μ : TSt) (t : Nat) (recs : List Rec) :
    pcallT scr μ t recs =
      { μ with
        calls := bumpL μ.calls t
        filtered := μ.filtered ++ filteredBy recs (procOut (replyOfCall scr t (callNoL μ.calls t)))
        errored := μ.errored ++ erroredBy recs (procOut (replyOfCall scr t (callNoL μ.calls t))) } := by
  unfold pcallT
  dsimp only
  generalize replyOfCall scr t (callNoL μ.calls t) = rp
  cases rp with
  | none => simp [procOut, filteredBy, erroredBy]
  | some rp =>
    cases rp with
    | proc out => rfl
    | dest _ _ => simp [procOut, filteredBy, erroredBy]

/-- the processor call just logged keeps the roots -/
theorem RP.pcall {G : Ctx} {s s' : PS} (h : RP G s') (t : Nat) (recs : List Rec) (hlog : s'.log = s.log.push (.pcall t recs)) :
    pcallOK recs (procOut (replyOfCall G.scripts t (callNoL (G.mu s).calls t))) = true := by
  unfold RP at h
  rw [hlog, Array.toList_push, rpRun_append] at h
  simp only [Bool.and_eq_true] at h
  have h2 := h.2
  rw [← calls_mu] at h2
  simp only [rpRun, Bool.and_eq_true] at h2
  exact h2.1

/-- the destinations of a tree (`Mon.dests`) -/
abbrev destsS : TaskNode → List Nat := Mon.dests
abbrev destsL : List TaskNode → List Nat := Mon.destsL

def own (node : TaskNode) : List Nat := if node.kind == .dest then [node.id] else []

theorem destsS_eq (node : TaskNode) : destsS node = own node ++ destsL node.next := by
  cases node with
  | mk id k next => show Mon.dests _ = _; rw [Mon.dests]; rfl

theorem own_sub_destsS (node : TaskNode) : ∀ x ∈ own node, x ∈ destsS node :=
  fun x hx => by rw [destsS_eq]; exact List.mem_append_left _ hx

theorem destsL_sub (node : TaskNode) : ∀ x ∈ destsL node.next, x ∈ destsS node :=
  fun x hx => by rw [destsS_eq]; exact List.mem_append_right _ hx

theorem destsL_nil : destsL [] = [] := by show Mon.destsL [] = []; rw [Mon.destsL]
theorem destsL_cons (n : TaskNode) (ns : List TaskNode) : destsL (n :: ns) = destsS n ++ destsL ns := by
  show Mon.destsL (n :: ns) = _; rw [Mon.destsL]

/-! ## records in flight -/

/-- every status is `ack` or `filter` -/
def FlagsAF (b : Batch) : Prop := ∀ (q : Nat) (st : Status), b.st[q]? = some st → st.flag = .ack ∨ st.flag = .filter

theorem active_phys {h : Heap} {b : Batch} (hwf : b.WF h) {k : Nat} {r : Rec} (hk : b.active[k]? = some r) :
    ∃ p : Nat, (actList b.st)[k]? = some p ∧ b.recs[p]? = some r := by
  have hactl : b.active.length = b.nAct := active_length hwf.1.st_len hwf.2
  have hkl : k < (actList b.st).length := by
    have := (List.getElem?_eq_some_iff.mp hk).1
    rw [hactl] at this; exact this
  have hkp := List.getElem?_eq_getElem hkl
  refine ⟨_, hkp, ?_⟩
  rw [← active_getElem? hwf hkp]; exact hk

end Conduit.Funnel
