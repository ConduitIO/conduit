import ConduitModel.Proofs.MonGProc
import ConduitModel.Proofs.MonGDest
import ConduitModel.Proofs.MonGVote

/-!
# The task recursion against a handler contract: any tree, record splitting included

`pipeG_all`, for an arbitrary handler chain `runAckNacker(X)` with contract `C0 : MC G X` and any key `κ`
the run obeys the key discipline for (`Disc κ`, Proofs/MonKey.lean): a batch in flight (`FlightGK`) is
processed without the monitor ever firing; when the recursion returns `.ok` the contract's invariant
holds at the frontier after the batch (`OutGK.inv`), when it fails the contract's error invariant holds
(`OutGK.err`); in both cases the only new facts are by tasks of the subtree about roots of the batch
(`OutGK.ext`). The class of trees (`Good`) and the fan-out case (`FanG`) are parameters; `pipeG_linear` is
the instance without fan-out, under any contract.
-/
namespace Conduit.Funnel
open Conduit.Funnel.Mon

variable {κ : Nat → Nat}

/-- the position of `node` relative to the contract `C0`: `pre` = destinations passed -/
structure PathG {G : Ctx} {X : Acker} (C0 : MC G X) (pre : List Nat) (node : TaskNode) : Prop where
  coverD : ∀ x ∈ C0.D, x ∈ pre ∨ x ∈ destsS node
  nodup : (destsS node).Nodup
  inT : ∀ x ∈ tasksS node, x ∈ tasksS G.tree
  inD : ∀ x ∈ destsS node, x ∈ dests G.tree
  below : ∀ x ∈ tasksS node, x ∈ C0.Below

theorem PathG.child {G : Ctx} {X : Acker} {C0 : MC G X} {pre : List Nat} {node n : TaskNode} (hp : PathG C0 pre node)
    (hnx : node.next = [n]) : PathG C0 (pre ++ own node) n := by
  have hT : ∀ x ∈ tasksS n, x ∈ tasksS node := fun x hx => tasksL_sub node x (by rw [hnx, tasksL_single]; exact hx)
  have hD : ∀ x ∈ destsS n, x ∈ destsS node := fun x hx => destsL_sub node x (by rw [hnx, destsL_single]; exact hx)
  refine ⟨fun d hd => cover_child hnx (hp.coverD d hd), ?_, fun x hx => hp.inT x (hT x hx), fun x hx => hp.inD x (hD x hx),
    fun x hx => hp.below x (hT x hx)⟩
  have := hp.nodup
  rw [destsS_single hnx] at this
  exact (List.nodup_append.mp this).2.1

def PipeG (κ : Nat → Nat) (G : Ctx) (Good : TaskNode → Prop) (P : ∀ X, MC G X → Prop) (fuel : Nat) : Prop :=
  ∀ (X : Acker) (C0 : MC G X) (node : TaskNode) (pre : List Nat) (nx : Nat) (b : Batch) (sm : List Nat) (rest : Nat → Nat)
    (doom : Nat → Prop) (retry : Option RetryAttempt) (skipDo : Bool) (s s' : PS) (r : Except Stop Unit),
    Good node → P X C0 → PathG C0 pre node → (skipDo = true → node.kind = .source) →
    FlightGK κ C0 s pre pre True (destsS node) rest doom nx b sm 0 → b.tainted = false → FlagsAF b →
    exec (doTaskAttempt fuel node b (.run X) retry skipDo) s = (r, s') → RP G s' → Disc κ G s' →
    OutGK κ C0 (tasksS node) (destsS node) rest doom b sm 0 nx s s' r

def TaintG (κ : Nat → Nat) (G : Ctx) (Good : TaskNode → Prop) (P : ∀ X, MC G X → Prop) (fuel : Nat) : Prop :=
  ∀ (X : Acker) (C0 : MC G X) (node : TaskNode) (pre : List Nat) (nx : Nat) (b : Batch) (sm : List Nat) (rest : Nat → Nat)
    (doom : Nat → Prop) (retry : Option RetryAttempt) (i : Nat) (s s' : PS) (r : Except Stop Unit),
    Good node → P X C0 → PathG C0 pre node →
    FlightGK κ C0 s pre (pre ++ own node) (node.kind ≠ .dest) (destsL node.next) rest doom nx b sm i →
    exec (taintedLoop fuel node b (.run X) retry i) s = (r, s') → RP G s' → Disc κ G s' →
    OutGK κ C0 (tasksS node) (destsS node) rest doom b sm i nx s s' r

/-- `doNextTask` at the nodes `c` holds of -/
def NextOn (c : TaskNode → Prop) (κ : Nat → Nat) (G : Ctx) (Good : TaskNode → Prop) (P : ∀ X, MC G X → Prop) (fuel : Nat) : Prop :=
  ∀ (X : Acker) (C0 : MC G X) (node : TaskNode) (pre : List Nat) (nx : Nat) (sb : Batch) (sm : List Nat) (rest : Nat → Nat)
    (doom : Nat → Prop) (s s' : PS) (r : Except Stop Unit),
    Good node → P X C0 → PathG C0 pre node → c node →
    FlightGK κ C0 s pre (pre ++ own node) (node.kind ≠ .dest) (destsL node.next) rest doom nx sb sm 0 →
    sb.tainted = false → FlagsAF sb →
    exec (doNextTask fuel node sb (.run X)) s = (r, s') → RP G s' → Disc κ G s' →
    OutGK κ C0 (tasksL node.next) (destsL node.next) rest doom sb sm 0 nx s s' r

abbrev NextG := NextOn (·.next ≠ [])

/-- the fan-out case of `NextG` -/
abbrev FanG := NextOn (2 ≤ ·.next.length)

theorem OutGK.mono_frame {G : Ctx} {X : Acker} {C0 : MC G X} {Ts Ds Ts2 Ds2 : List Nat} {rest : Nat → Nat} {doom : Nat → Prop}
    {b : Batch} {sm : List Nat} {i nx : Nat} {s s' : PS} {r : Except Stop Unit}
    (h : OutGK κ C0 Ts2 Ds2 rest doom b sm i nx s s' r) (h3 : ∀ x ∈ Ts2, x ∈ Ts) (h4 : ∀ x ∈ Ds2, x ∈ Ds) :
    OutGK κ C0 Ts Ds rest doom b sm i nx s s' r :=
  ⟨h.ext.mono h3 h4 (fun _ hx => hx), h.wseen, h.err, h.inv, h.ledger, h.htouch, h.ci, h.seen⟩

theorem OutGK.trans_pre {G : Ctx} {X : Acker} {C0 : MC G X} {Ts Ds : List Nat} {rest : Nat → Nat} {doom : Nat → Prop}
    {b b1 : Batch} {sm sm1 : List Nat} {nx : Nat} {s s1 s' : PS} {r : Except Stop Unit}
    (hext : ExtT Ts Ds (RootsOf G sm 0) (G.view s) (G.view s1)) (hst : StepRelGK κ G s b sm s1 b1 sm1)
    (ho : OutGK κ C0 Ts Ds rest doom b1 sm1 0 nx s1 s' r) : OutGK κ C0 Ts Ds rest doom b sm 0 nx s s' r := by
  exact ⟨hext.trans (ho.ext.mono (fun _ hx => hx) (fun _ hx => hx) (fun x hx => hst.roots x hx)), ho.wseen, ho.err, ho.inv,
    fun hr => (ho.ledger hr).trans_pre hst.batch,
    fun hr rid hc hrest => ho.htouch hr rid (Nat.lt_of_lt_of_le hc (hst.batch.mono rid)) hrest,
    fun hr rid hc hrest => ho.ci hr rid (Nat.lt_of_lt_of_le hc (hst.batch.mono rid)) hrest,
    fun hr x hx => ho.seen hr x (hst.batch.seen x hx)⟩

theorem FactsG.imp_nd {G : Ctx} {v : MV} {T D : List Nat} {pre pre' : List Nat} {nd nd' : Prop} {b : Batch} {sm : List Nat} {i : Nat}
    (h : FactsG G v T D pre pre' nd b sm i) (hi : nd → nd') : FactsG G v T D pre pre' nd' b sm i :=
  ⟨h.ack, h.fil, fun k row q src hk hr hq hsrc hf => ⟨(h.retry k row q src hk hr hq hsrc hf).1,
    hi (h.retry k row q src hk hr hq hsrc hf).2⟩, h.clean⟩

theorem FactsG.arrive {G : Ctx} {v : MV} {T D : List Nat} {pre pre' : List Nat} {nd : Prop} {b : Batch} {sm : List Nat}
    {rs : List (Option Nat)} (hb : VB b rs) (h : FactsG G v T D pre pre' nd b sm 0) (haf : FlagsAF b) :
    FactsG G v T D pre' pre' True b sm 0 :=
  ⟨h.ack, h.fil, (fun k row _ _ _ hr _ _ hf => by
    rcases flagsAF_row hb haf hr with h1 | h1 <;> rw [h1] at hf <;> cases hf), h.clean⟩

theorem FlightGK.remap {G : Ctx} {X : Acker} {C0 : MC G X} {s : PS} {pre pre' : List Nat} {nd : Prop} {sub : List Nat}
    {rest : Nat → Nat} {doom : Nat → Prop} {nx : Nat} {b : Batch} {sm : List Nat} {i : Nat} {p2 p2' : List Nat} {nd2 : Prop}
    {sub2 : List Nat}
    (hF : FlightGK κ C0 s pre pre' nd sub rest doom nx b sm i) (hf : FactsG G (G.view s) C0.T C0.D p2 p2' nd2 b sm i)
    (ht : TagsK κ G s sub2 b i) (hb : WBelowG G (nxJ sm nx i) (G.mu s) sub2) :
    FlightGK κ C0 s p2 p2' nd2 sub2 rest doom nx b sm i :=
  ⟨⟨{ hF.toFlightB with tags := ht }, hF.wseen, hF.hlin, hF.htouch, hF.ci, hf, hb, hF.nackt⟩, hF.inv⟩

/-- a group of kept / filtered records: ack it, or hand it to the next task -/
theorem grp_stepG {G : Ctx} (hs : Src G) {Good : TaskNode → Prop} {P : ∀ X, MC G X → Prop} (fuel : Nat)
    (hN : NextG κ G Good P fuel) {X : Acker} {C0 : MC G X} {node : TaskNode} {pre : List Nat} {nx : Nat}
    {sb : Batch} {sm : List Nat} {rest : Nat → Nat} {doom : Nat → Prop} {s s' : PS} {r : Except Stop Unit}
    (hg : Good node) (hpc : P X C0) (hpath : PathG C0 pre node)
    (hF : FlightGK κ C0 s pre (pre ++ own node) (node.kind ≠ .dest) (destsL node.next) rest doom nx sb sm 0)
    (hcl : sb.tainted = false) (haf : FlagsAF sb)
    (h : exec (ackOrNext fuel node (.run X) sb) s = (r, s')) (hrp : RP G s') (hft : Disc κ G s') :
    OutGK κ C0 (tasksL node.next) (destsL node.next) rest doom sb sm 0 nx s s' r := by
  unfold ackOrNext at h
  by_cases hc : (node.next.isEmpty || !sb.hasActive) = true
  · simp only [hc, if_true] at h
    obtain ⟨rs, hvb⟩ := hF.tinv.vb
    refine (ackCallG (isAck := true) hs hF (fun hh => Bool.noConfusion hh) (fun _ k row q src _ hr hq hsrc => ?_) h).mono_frame
      (fun _ hx => nomatch hx) (fun _ hx => nomatch hx)
    have hfl := flagsAF_row hvb haf hr
    have hnn := flagsAF_not_nack hvb haf hr
    refine ⟨hnn, ?_, fun hrun => hF.facts.clean k row q src (Nat.zero_le _) hr hq hsrc hrun hnn⟩
    rw [Bool.or_eq_true] at hc
    rcases hc with hc | hc
    · have hn : node.next = [] := by simpa using hc
      rcases hfl with h1 | h1
      · intro d hd
        refine Or.inl (hF.facts.ack k row q src (Nat.zero_le _) hr hq hsrc h1 d ?_)
        rcases hpath.coverD d hd with h2 | h2
        · exact List.mem_append_left _ h2
        · rw [destsS_eq, hn] at h2
          simp only [destsL_nil, List.append_nil] at h2
          exact List.mem_append_right _ h2
      · exact fun _ _ => Or.inr (hF.facts.fil k row q src (Nat.zero_le _) hr hq hsrc h1)
    · have := all_filter_of_not_hasActive' hF.tinv.wf (by simpa using hc) k row.st (rows_fields hvb hr).2.1
      exact fun _ _ => Or.inr (hF.facts.fil k row q src (Nat.zero_le _) hr hq hsrc this)
  · simp only [hc] at h
    have hne : node.next ≠ [] := by
      intro he; apply hc; rw [he]; rfl
    exact hN X C0 node pre nx sb sm rest doom s s' r hg hpc hpath hne hF hcl haf h hrp hft

theorem next_stepG {G : Ctx} {Good : TaskNode → Prop} {P : ∀ X, MC G X → Prop}
    (hchild : ∀ node, Good node → node.next.length = 1 → ∀ n ∈ node.next, Good n)
    (fuel : Nat) (hP : PipeG κ G Good P fuel) (hfan : FanG κ G Good P (fuel+1)) : NextG κ G Good P (fuel+1) := by
  intro X C0 node pre nx sb sm rest doom s s' r hg hpc hpath hne hF hcl haf h hrp hft
  cases hnx : node.next with
  | nil => exact absurd hnx hne
  | cons n rest' =>
    cases rest' with
    | cons n2 rest2 =>
      rw [← hnx]
      exact hfan X C0 node pre nx sb sm rest doom s s' r hg hpc hpath (by simp [hnx]) hF hcl haf h hrp hft
    | nil =>
      obtain ⟨n', he, h⟩ : ∃ n', node.next = [n'] ∧ exec (doTaskAttempt fuel n' sb (.run X) none false) s = (r, s') := by
        rcases doNextTask_step h with ⟨he, _⟩ | hh | ⟨h2, _⟩
        · rw [hnx] at he; cases he
        · exact hh
        · rw [hnx] at h2; simp at h2
      rw [hnx] at he; cases he
      obtain ⟨rs, hvb⟩ := hF.tinv.vb
      have hsubeq : destsL node.next = destsS n := by rw [hnx, destsL_single]
      have hF' : FlightGK κ C0 s (pre ++ own node) (pre ++ own node) True (destsS n) rest doom nx sb sm 0 :=
        hF.remap (hF.facts.arrive hvb haf) (by rw [← hsubeq]; exact hF.tags) (by rw [← hsubeq]; exact hF.below)
      rw [tasksL_single, destsL_single]
      exact hP X C0 n (pre ++ own node) nx sb sm rest doom none false s s' r
        (hchild node hg (by rw [hnx]; rfl) n (by rw [hnx]; simp)) hpc (hpath.child hnx)
        (fun hh => Bool.noConfusion hh) hF' hcl haf h hrp hft

theorem StepRelGK.refl (G : Ctx) (s : PS) (b : Batch) (sm : List Nat) : StepRelGK κ G s b sm s b sm :=
  ⟨fun _ h => h, fun row' hr => Or.inl ⟨row', hr, rfl⟩, fun _ he => Or.inl he,
    fun _ h => h, Nat.le_refl _, fun _ _ hc => ⟨rfl, hc⟩, fun _ _ => ⟨rfl, rfl⟩, fun _ => Nat.le_refl _⟩

theorem dta_stepG {G : Ctx} (hs : Src G) {Good : TaskNode → Prop} {P : ∀ X, MC G X → Prop} (fuel : Nat)
    (hN : NextG κ G Good P fuel) (hT : TaintG κ G Good P fuel) : PipeG κ G Good P (fuel+1) := by
  intro X C0 node pre nx b sm rest doom retry skipDo s s' r hg hpc hpath hskip hF hcl haf h hrp hft
  obtain ⟨r1, s1, ht, hmono, h⟩ := doTaskAttempt_succ hskip h
  have hrp1 : RP G s1 := hrp.prefix hmono
  have hft1 : Disc κ G s1 := hft.prefix hmono
  have hds := destsS_eq node
  have hidIn := mem_tasksS_self node
  have hD : WSeen G s1 ∧ C0.Inv (nxJ sm nx 0) s1 ∧ ExtT [node.id] (own node) (RootsOf G sm 0) (G.view s) (G.view s1) ∧
      ∀ b1, r1 = .ok b1 → ∃ sm1,
      FlightGK κ C0 s1 pre (pre ++ own node) (node.kind ≠ .dest) (destsL node.next) rest doom nx b1 sm1 0 ∧
      StepRelGK κ G s b sm s1 b1 sm1 ∧ (b1.tainted = false → FlagsAF b1) := by
    unfold taskDo at ht
    -- a node that is no destination passes its facts on
    have hpass : node.kind ≠ .dest → ∀ {nd : Prop}, nd → ∀ {s1 : PS} {b1 : Batch} {sm1 : List Nat},
        FlightGK κ C0 s1 pre pre True (destsS node) rest doom nx b1 sm1 0 →
        FlightGK κ C0 s1 pre (pre ++ own node) nd (destsL node.next) rest doom nx b1 sm1 0 := by
      intro hnd' nd hnd s1 b1 sm1 a1
      have hown := own_of_ne_dest hnd'
      have hsubeq : destsS node = destsL node.next := by rw [hds, hown, List.nil_append]
      refine a1.remap ?_ (by rw [← hsubeq]; exact a1.tags) (by rw [← hsubeq]; exact a1.below)
      rw [hown, List.append_nil]; exact a1.facts.imp_nd (fun _ => hnd)
    cases hk : node.kind with
    | proc =>
      rw [hk] at ht
      have hnd : node.kind ≠ .dest := by rw [hk]; exact fun hh => TaskKind.noConfusion hh
      obtain ⟨_, g1, g2, g3, g4⟩ := procDo_monG hs C0 hF haf (hpath.below _ hidIn) (hpath.inT _ hidIn) ht hrp1 hft1
      refine ⟨g1, g3, by rw [own_of_ne_dest hnd]; exact g2.ext, fun b1 hb1 => ?_⟩
      obtain ⟨sm1, a1, a2, a3⟩ := g4 b1 hb1
      exact ⟨sm1, hpass hnd (fun hh => TaskKind.noConfusion hh) a1, a2, a3⟩
    | dest =>
      rw [hk] at ht
      have hown : own node = [node.id] := by unfold own; rw [hk]; rfl
      have hsubeq : destsS node = node.id :: destsL node.next := by rw [hds, hown]; rfl
      have hni : node.id ∉ destsL node.next := by
        have hnd := hpath.nodup
        rw [hsubeq] at hnd
        exact (List.nodup_cons.mp hnd).1
      obtain ⟨_, g1, g2, g3, g4⟩ := destDo_monG hs C0 (by rw [← hsubeq]; exact hF) hni haf (hpath.below _ hidIn)
        (hpath.inD _ (by rw [hsubeq]; exact List.mem_cons_self)) ht
      refine ⟨g1, g3, by rw [hown]; exact g2.ext, fun b1 hb1 => ?_⟩
      obtain ⟨a1, a2, a3⟩ := g4 b1 hb1
      refine ⟨sm, ?_, a2, a3⟩
      rw [hown]
      exact a1.remap (a1.facts.imp_nd (fun hh => hh.elim)) a1.tags a1.below
    | source =>
      rw [hk] at ht
      cases ht
      refine ⟨hF.wseen, hF.inv, ExtT.refl _ _ _ _, fun b1 hb1 => ?_⟩
      cases hb1
      exact ⟨sm, hpass (by rw [hk]; exact fun hh => TaskKind.noConfusion hh) (fun hh => TaskKind.noConfusion hh) hF, StepRelGK.refl G _ _ _, fun _ => haf⟩
  obtain ⟨hw1, hI1, hext, hD4⟩ := hD
  have hext' : ExtT (tasksS node) (destsS node) (RootsOf G sm 0) (G.view s) (G.view s1) :=
    hext.mono (fun x hx => List.mem_singleton.mp hx ▸ hidIn) (own_sub_destsS node) (fun _ hx => hx)
  cases r1 with
  | error e =>
    obtain ⟨⟨e', rfl⟩, rfl⟩ := h
    exact OutGK.fail_ext hext' (C0.w_err (C0.inv_w hI1)) hw1
  | ok b1 =>
    obtain ⟨sm1, hF1, hst, haf1⟩ := hD4 b1 rfl
    refine OutGK.trans_pre hext' hst ?_
    by_cases ht : (!b1.tainted) = true
    · simp only [ht, if_true] at h
      have hcl1 : b1.tainted = false := by simpa using ht
      exact (grp_stepG hs fuel hN hg hpc hpath hF1 hcl1 (haf1 hcl1) h hrp hft).mono_frame (tasksL_sub node) (destsL_sub node)
    · simp only [ht] at h
      exact hT X C0 node pre nx b1 sm1 rest doom retry 0 s1 s' r hg hpc hpath hF1 h hrp hft

theorem OutGK.congr_batch {G : Ctx} {X : Acker} {C0 : MC G X} {Ts Ds : List Nat} {rest : Nat → Nat} {doom : Nat → Prop}
    {b b2 : Batch} {sm : List Nat} {i nx : Nat}
    {s s' : PS} {r : Except Stop Unit} (hview : b2.view = b.view)
    (hrows : ∀ (k : Nat) (row2 : Row), b2.rows[k]? = some row2 → ∃ row, b.rows[k]? = some row ∧ row.r.tag = row2.r.tag)
    (ho : OutGK κ C0 Ts Ds rest doom b2 sm i nx s s' r) : OutGK κ C0 Ts Ds rest doom b sm i nx s s' r := by
  refine ⟨ho.ext, ho.wseen, ho.err, ho.inv, fun hr => ?_, ?_, ?_, ?_⟩
  · have H := ho.ledger hr
    refine ⟨fun e he => ?_, H.hsize, by rw [← hview]; exact H.hframe, H.horig, by rw [← hview]; exact H.lpost⟩
    rcases H.wtag e he with g | ⟨k, row2, hk, hrow, ht⟩ | g
    · exact Or.inl g
    · obtain ⟨row, g1, g2⟩ := hrows k row2 hrow
      exact Or.inr (Or.inl ⟨k, row, hk, g1, (congrArg κ g2).trans ht⟩)
    · exact Or.inr (Or.inr g)
  · rw [← hview]; exact ho.htouch
  · rw [← hview]; exact ho.ci
  · exact ho.seen

theorem FlightGK.reflag {G : Ctx} {X : Acker} {C0 : MC G X} {s : PS} {pre pre2 : List Nat} {nd : Prop} {sub : List Nat}
    {rest : Nat → Nat} {doom : Nat → Prop} {nx : Nat} {sb sb' : Batch} {sm : List Nat} {rs : List (Option Nat)}
    (hF : FlightGK κ C0 s pre pre2 nd sub rest doom nx sb sm 0) (hsi : SInv s.heap rest sb) (hvb : VB sb rs)
    (hret : ∀ (q : Nat) (st : Status), sb.st[q]? = some st → st.flag = .retry)
    (hsf : sb.setFlagRange .ack 0 sb.recs.length = .ok sb') :
    FlightGK κ C0 s pre pre True sub rest doom nx { sb' with tainted := false } sm 0 := by
  have f := reflag_batch hsi hvb hret hsf
  have hretr : ∀ (k : Nat) (row : Row), sb.rows[k]? = some row → row.st.flag = .retry :=
    fun k row hr => hret k row.st (rows_fields hvb hr).2.1
  have c := hF.toFlightB.restatus hvb f.vb f.recs f.pos f.split f.sinv (fun k row hr => Or.inr (hretr k row hr))
  have hc := fun (k : Nat) (row2 : Row) (h : ({ sb' with tainted := false } : Batch).rows[k]? = some row2) => rows_congr hvb f.vb f.recs f.pos h
  have hlive : ∀ rid, LiveRun rest { sb' with tainted := false } 0 rid → LiveRun rest sb 0 rid := by
    intro rid h; unfold LiveRun at h ⊢; rw [f.view] at h; exact h
  refine ⟨⟨c, hF.wseen, fun rid h => hF.hlin rid (hlive rid h), fun rid h => hF.htouch rid (hlive rid h), ?_, ?_, hF.below,
    fun rid h => hF.nackt rid (hlive rid h)⟩, hF.inv⟩
  · intro rid hcn hncl
    rw [f.view] at hcn
    rcases hF.ci rid hcn hncl with g | g | ⟨k, row, _, hr, _, hfl⟩
    · exact Or.inl g
    · exact Or.inr (Or.inl g)
    · have := hretr k row hr
      rw [hfl] at this; cases this
  · refine ⟨?_, ?_, ?_, ?_⟩
    · intro k row2 q src _ hr hq hsrc _
      obtain ⟨row, g1, _⟩ := hc k row2 hr
      exact (hF.facts.retry k row q src (Nat.zero_le _) g1 hq hsrc (hretr k row g1)).1
    · intro k row2 q src _ hr hq hsrc hf
      have := f.ack k row2.st (rows_fields f.vb hr).2.1
      rw [hf] at this; cases this
    · intro k row2 q src _ hr hq hsrc hf
      have := f.ack k row2.st (rows_fields f.vb hr).2.1
      rw [hf] at this; cases this
    · intro k row2 q src _ hr hq hsrc hrun _
      obtain ⟨row, g1, _, _, g4, _, _⟩ := hc k row2 hr
      exact hF.facts.clean k row q src (Nat.zero_le _) g1 hq hsrc (by rw [g4]; exact hrun)
        (by rw [hretr k row g1]; exact fun hh => Flag.noConfusion hh)

theorem taint_stepG {G : Ctx} (hs : Src G) {Good : TaskNode → Prop} {P : ∀ X, MC G X → Prop} (fuel : Nat)
    (hP : PipeG κ G Good P fuel) (hN : NextG κ G Good P fuel) (hT : TaintG κ G Good P fuel) : TaintG κ G Good P (fuel+1) := by
  intro X C0 node pre nx b sm rest doom retry i s s' r hg hpc hpath hF h hrp hft
  obtain ⟨rs, hvb⟩ := hF.tinv.vb
  have hlen : sm.length = b.st.length := by rw [hF.srcmap.len, rows_length, hvb.slen]
  rcases taintedLoop_step h with ⟨hi, rfl, rfl⟩ | ⟨hlt, ⟨e, rfl, rfl⟩ | ⟨sb, s0, Y, hsub, h00, hY, h⟩⟩
  · exact OutGK.nil hF.inv hF.wseen (by omega) (by rw [hvb.view_len, ← hvb.slen]; omega)
  · exact hF.fail
  · have hg1 := groupEnd_gt b.st i hlt
    have hsi := (sub_SInv hF.tinv hsub).2
    have hcl := (sub_ok_fields hsub).tainted
    have hFs := hF.sub hs hsub hg1
    obtain ⟨rss, hvbs⟩ := hFs.tinv.vb
    refine hF.walk hs hsub hg1 (Q := fun s1 => RP G s1 ∧ Disc κ G s1) ?_
      (fun r1 s1 hx ⟨hrp1, hft1⟩ => ?_)
      (fun s1 _ hF1 hx => hT X C0 node pre nx b sm rest doom retry _ s1 s' r hg hpc hpath hF1 hx hrp hft) h
    · rintro s1 (rfl | hx)
      · exact ⟨hrp, hft⟩
      · exact ⟨hrp.prefix (log_mono_taint hx), hft.prefix (log_mono_taint hx)⟩
    cases hY with
    | keep hfl =>
      exact (grp_stepG hs fuel hN hg hpc hpath hFs hcl (fun _ _ hq => hfl _ (List.mem_of_getElem? hq)) hx hrp1 hft1).mono_frame (tasksL_sub node) (destsL_sub node)
    | nack hfl =>
      exact (ackCallG (isAck := false) hs hFs (fun _ x hx => hsi.ne x hx (hfl x hx)) (fun hh => Bool.noConfusion hh)
        hx).mono_frame (fun _ hx => nomatch hx) (fun _ hx => nomatch hx)
    | retry hfl sb' nxr hsf =>
      have hallr : ∀ (q : Nat) (st : Status), sb.st[q]? = some st → st.flag = .retry :=
        fun _ _ hq => hfl _ (List.mem_of_getElem? hq)
      have hnd : node.kind ≠ .dest := by
        obtain ⟨row0, hr0⟩ := rows_some sb (k := 0) (by rw [← hvbs.slen]; exact (List.getElem?_eq_some_iff.mp h00).1)
        obtain ⟨q, src, a1, a2, _, _⟩ := SM.srcOf hFs.srcmap hr0
        exact (hFs.facts.retry 0 row0 q src (Nat.le_refl _) hr0 a1 a2 (hallr 0 _ (rows_fields hvbs hr0).2.1)).2
      have hsubeq : destsS node = destsL node.next := by rw [destsS_eq, own_of_ne_dest hnd, List.nil_append]
      have f := reflag_batch hsi hvbs hallr hsf
      have := hP X C0 node pre _ { sb' with tainted := false } _ _ _ (some nxr) false s s1 r1 hg hpc hpath
        (fun hh => Bool.noConfusion hh) (by rw [hsubeq]; exact hFs.reflag hsi hvbs hallr hsf) rfl
        (fun q st' hq => Or.inl (f.ack q st' hq)) hx hrp1 hft1
      exact this.congr_batch f.view f.rows

/-- the recursion, given the fan-out case. The fan-out step runs its branches with less fuel than it
has itself, so `hfan` takes `PipeG` at every `f ≤ fuel`, and the induction on `fuel` proves the
statement for all `f ≤ fuel` at once. -/
theorem pipeG_all {G : Ctx} (hs : Src G) (Good : TaskNode → Prop) (P : ∀ X, MC G X → Prop)
    (hchild : ∀ node, Good node → node.next.length = 1 → ∀ n ∈ node.next, Good n)
    (hfan : ∀ fuel, (∀ f, f ≤ fuel → PipeG κ G Good P f) → FanG κ G Good P (fuel+1)) :
    ∀ fuel f : Nat, f ≤ fuel → PipeG κ G Good P f ∧ TaintG κ G Good P f ∧ NextG κ G Good P f := by
  refine fuel_rec ⟨?_, ?_, ?_⟩ (dta_stepG hs) (taint_stepG hs)
    (fun n hp => next_stepG hchild n (hp n (Nat.le_refl _)) (hfan n hp))
  · intro X C0 node pre nx b sm rest doom retry skipDo s s' r _ _ _ _ hF _ _ h _ _
    rw [doTaskAttempt_zero] at h; cases h; exact hF.fail
  · intro X C0 node pre nx b sm rest doom retry i s s' r _ _ _ hF h _ _
    rw [taintedLoop_zero] at h; cases h; exact hF.fail
  · intro X C0 node pre nx sb sm rest doom s s' r _ _ _ _ hF _ _ h _ _
    rw [doNextTask_zero] at h; cases h; exact hF.fail

/-- linear pipelines under any contract: the fan-out case does not arise. Under the root chain this is the
whole recursion of a pipeline without fan-out; under a tally it is a branch of a fan-out. -/
theorem pipeG_linear {G : Ctx} (hs : Src G) (fuel : Nat) : PipeG κ G Linear (fun _ _ => True) fuel :=
  (pipeG_all hs Linear (fun _ _ => True) (fun _ h _ => h.child)
    (fun _ _ X C0 node pre nx sb sm rest doom s s' r hg _ _ h2 => by have := hg.len; omega) fuel fuel (Nat.le_refl _)).1

end Conduit.Funnel
