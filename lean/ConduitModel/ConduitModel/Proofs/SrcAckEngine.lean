import ConduitModel.Proofs.SrcAckPos

/-!
Composition of the connector-side event system M3 with an engine: the engine-side hypothesis of
C02(v)/C03 (`runO` / `ReachO`: every `Source.Ack` continues the read order without a gap) is
DISCHARGED from a statement about the engine's ack calls alone.

`acksOf evs` is the list of `Source.Ack` calls of an event list; `ChunksFrom p cs` says that the calls
`cs`, one after the other, acknowledge exactly the records read after position `p`, in read order,
nothing skipped, nothing repeated, no call empty.  The engines establish `ChunksFrom` (`Props/EndToEnd.lean`:
arch v2 from `C04_v2_run_acks_prefix`, v1 from `C04_v1_ack_sequence_is_prefix`); this file proves that it is all M3 needs.
-/
namespace Conduit.SrcAck

def acksOf : List Ev → List (List Pos)
  | [] => []
  | .ack ps :: es => ps :: acksOf es
  | _ :: es => acksOf es

def ChunksFrom : Nat → List (List Pos) → Prop
  | _, [] => True
  | p, c :: cs => c ≠ [] ∧ c = List.range' (p + 1) c.length ∧ ChunksFrom (p + c.length) cs

theorem acksOf_cons_ack (ps : List Pos) (es : List Ev) : acksOf (.ack ps :: es) = ps :: acksOf es := rfl

theorem acksOf_cons_other {e : Ev} (es : List Ev) (h : ∀ ps, e ≠ .ack ps) : acksOf (e :: es) = acksOf es := by
  cases e <;> first | rfl | exact absurd rfl (h _)

theorem chunksFrom_iff (p : Nat) (cs : List (List Pos)) :
    ChunksFrom p cs ↔ (∀ c ∈ cs, c ≠ []) ∧ cs.flatten = List.range' (p + 1) cs.flatten.length := by
  induction cs generalizing p with
  | nil => simp [ChunksFrom]
  | cons c cs ih =>
    simp only [ChunksFrom, List.mem_cons, forall_eq_or_imp, List.flatten_cons, List.length_append, ih]
    constructor
    · rintro ⟨hne, hc, hall, hfl⟩
      refine ⟨⟨hne, hall⟩, ?_⟩
      have h2 : p + c.length + 1 = p + 1 + c.length := by omega
      rw [← List.range'_append_1, ← h2, ← hfl, ← hc]
    · rintro ⟨⟨hne, hall⟩, hfl⟩
      have h2 : p + c.length + 1 = p + 1 + c.length := by omega
      rw [← List.range'_append_1] at hfl
      have hl : c.length = (List.range' (p + 1) c.length).length := by simp
      obtain ⟨h1, h3⟩ := List.append_inj hfl hl
      exact ⟨hne, h1, hall, by rw [h2]; exact h3⟩

theorem step_inst {c : Cfg} {s s' : St} {e : Ev} (h : step c s e = some s') (h1 : ∀ ps, e ≠ .ack ps)
    (h2 : e ≠ .restart) : s'.inst = s.inst := by
  cases step_sound h with
  | ack ps => exact absurd rfl (h1 ps)
  | restart => exact absurd rfl h2
  | callbackAck => exact onFlushedOk_eq _ _ ▸ rfl
  | _ => rfl

theorem ackOk_of_chunk {s : St} {ps : List Pos} (hne : ps ≠ [])
    (hps : ps = List.range' (s.inst.posN + 1) ps.length) : ackOk s ps = true := by
  simp only [ackOk, Bool.and_eq_true, bne_iff_ne, ne_eq, beq_iff_eq]
  exact ⟨hne, hps⟩

theorem step_ack_inst {c : Cfg} {s s' : St} {ps : List Pos} (h : step c s (.ack ps) = some s')
    (hne : ps ≠ []) (hps : ps = List.range' (s.inst.posN + 1) ps.length) :
    s'.inst.posN = s.inst.posN + ps.length := by
  obtain ⟨-, -, hlast⟩ := ackOk_spec (ackOk_of_chunk hne hps)
  cases step_sound h with
  | ackPanic _ _ _ _ hl => cases hlast.symm.trans hl
  | ack _ last _ _ _ hl => cases hlast.symm.trans hl; rfl

/-- **Composition, one incarnation.** From any state, along any event list without a process restart
whose `Source.Ack` calls continue the read order (`ChunksFrom`), every behaviour of M3 is a behaviour
under the engine-side hypothesis: `run` and `runO` coincide. -/
theorem runO_of_chunks {c : Cfg} : ∀ (evs : List Ev) (s s' : St), Ev.restart ∉ evs →
    ChunksFrom s.inst.posN (acksOf evs) → run c s evs = some s' → runO c s evs = some s'
  | [], s, s', _, _, h => by simpa [runO, run] using h
  | e :: es, s, s', hnr, hch, h => by
    simp only [run] at h
    split at h
    · rename_i s1 hs1
      have hnr' : Ev.restart ∉ es := fun hm => hnr (List.mem_cons_of_mem _ hm)
      by_cases hack : ∃ ps, e = .ack ps
      · obtain ⟨ps, rfl⟩ := hack
        rw [acksOf_cons_ack] at hch
        obtain ⟨hne, hps, hrest⟩ := hch
        have hok : evOk s (.ack ps) = true := ackOk_of_chunk hne hps
        simp only [runO, hok, if_true, hs1]
        apply runO_of_chunks es s1 s' hnr' _ h
        rw [step_ack_inst hs1 hne hps]
        exact hrest
      · have hna : ∀ ps, e ≠ .ack ps := fun ps hp => hack ⟨ps, hp⟩
        rw [acksOf_cons_other es hna] at hch
        have hok : evOk s e = true := by
          cases e <;> first | rfl | exact absurd rfl (hna _)
        simp only [runO, hok, if_true, hs1]
        apply runO_of_chunks es s1 s' hnr' _ h
        rw [step_inst hs1 hna (fun hr => hnr (hr ▸ List.mem_cons_self))]
        exact hch
    · simp at h

theorem ReachO.incarnation {c : Cfg} {s s' : St} (hr : ReachO c s) (evs : List Ev) (hnr : Ev.restart ∉ evs)
    (hch : ChunksFrom s.inst.posN (acksOf evs)) (h : run c s evs = some s') : ReachO c s' := by
  obtain ⟨e0, h0⟩ := hr
  exact ⟨e0 ++ evs, runO_append.mpr ⟨s, h0, runO_of_chunks evs s s' hnr hch h⟩⟩

theorem ReachO.restart {c : Cfg} {s s' : St} (hr : ReachO c s) (h : step c s .restart = some s') : ReachO c s' := by
  obtain ⟨e0, h0⟩ := hr
  refine ⟨e0 ++ [.restart], runO_append.mpr ⟨s, h0, ?_⟩⟩
  simp [runO, evOk, h]

/-- The lists of `incs` are the events of successive process incarnations (a `restart` between any
two), and each incarnation's engine acknowledges, in read order and without a gap, the records read after the position
the connector was (re)opened with — which is all the engines guarantee (`Props/EndToEnd.lean`). -/
def IncsFed (c : Cfg) : St → List (List Ev) → Prop
  | _, [] => True
  | s, inc :: rest => Ev.restart ∉ inc ∧ ChunksFrom s.inst.posN (acksOf inc) ∧
      ∀ s1 s2, run c s inc = some s1 → step c s1 .restart = some s2 → IncsFed c s2 rest

def joinIncs : List (List Ev) → List Ev
  | [] => []
  | [inc] => inc
  | inc :: rest => inc ++ .restart :: joinIncs rest

/-- **Composition, whole history (any number of crashes and restarts).** -/
theorem ReachO.incarnations {c : Cfg} : ∀ (incs : List (List Ev)) (s s' : St), ReachO c s → IncsFed c s incs →
    run c s (joinIncs incs) = some s' → ReachO c s'
  | [], s, s', hr, _, h => by simp only [joinIncs, run, Option.some.injEq] at h; subst h; exact hr
  | [inc], s, s', hr, hf, h => by
    simp only [joinIncs] at h
    exact hr.incarnation inc hf.1 hf.2.1 h
  | inc :: i2 :: rest, s, s', hr, hf, h => by
    simp only [joinIncs] at h
    obtain ⟨s1, h1, h2⟩ := run_append.mp h
    simp only [run] at h2
    split at h2
    · rename_i s2 hs2
      have hr1 := hr.incarnation inc hf.1 hf.2.1 h1
      exact ReachO.incarnations (i2 :: rest) s2 s' (hr1.restart hs2) (hf.2.2 s1 s2 h1 hs2) h2
    · simp at h2

def chunksFromB : Nat → List (List Pos) → Bool
  | _, [] => true
  | p, c :: cs => c != [] && c == List.range' (p + 1) c.length && chunksFromB (p + c.length) cs

theorem chunksFromB_iff : ∀ (p : Nat) (cs : List (List Pos)), chunksFromB p cs = true ↔ ChunksFrom p cs
  | _, [] => by simp [chunksFromB, ChunksFrom]
  | p, c :: cs => by
    simp only [chunksFromB, ChunksFrom, Bool.and_eq_true, bne_iff_ne, ne_eq, beq_iff_eq, chunksFromB_iff (p + c.length) cs,
      and_assoc]

/-- executable form of `IncsFed` (the check a trace of incarnations can be given to) -/
def incsFedB (c : Cfg) : St → List (List Ev) → Bool
  | _, [] => true
  | s, inc :: rest => !inc.contains .restart && chunksFromB s.inst.posN (acksOf inc) &&
      match run c s inc with
      | none => true
      | some s1 => match step c s1 .restart with
        | none => true
        | some s2 => incsFedB c s2 rest

theorem incsFedB_sound {c : Cfg} : ∀ (incs : List (List Ev)) (s : St), incsFedB c s incs = true → IncsFed c s incs
  | [], _, _ => trivial
  | inc :: rest, s, h => by
    simp only [incsFedB, Bool.and_eq_true, Bool.not_eq_true', List.contains_eq_mem, decide_eq_false_iff_not] at h
    obtain ⟨⟨h1, h2⟩, h3⟩ := h
    refine ⟨h1, (chunksFromB_iff _ _).mp h2, ?_⟩
    intro s1 s2 e1 e2
    rw [e1] at h3
    simp only [e2] at h3
    exact incsFedB_sound rest s2 h3

end Conduit.SrcAck
