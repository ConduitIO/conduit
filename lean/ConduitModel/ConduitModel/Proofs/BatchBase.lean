import ConduitModel.Spec.BatchWF

/-!
Base lemmas for the batch bookkeeping proofs (C08 / C09): `idx` and `foldlM` in the monad `R`, then the map from
active to physical indices (`actList`, with `rank` as its inverse), through which `phys`, `active` and the flag
setters are read.
-/
namespace Conduit.Funnel

theorem idx_ok {α} {l : List α} {i : Nat} (w : String) (h : i < l.length) : idx l i w = .ok l[i] := by
  simp [idx, h, pure, Except.pure]

theorem idx_eq_ok_iff {α} {l : List α} {i : Nat} {w : String} {x : α} : idx l i w = .ok x ↔ l[i]? = some x := by
  unfold idx
  cases h : l[i]? <;> simp [pure, Except.pure, panic]

theorem idx_mem {α} {l : List α} {i : Nat} {w : String} {a : α} (h : idx l i w = .ok a) : a ∈ l := by
  unfold idx at h
  cases hi : l[i]? with
  | none => rw [hi] at h; cases h
  | some x =>
    rw [hi] at h
    cases h
    exact List.mem_of_getElem? hi

theorem setAt_ok {α} {l : List α} {i : Nat} (x : α) (w : String) (h : i < l.length) : setAt l i x w = .ok (l.set i x) := by
  simp [setAt, h, pure, Except.pure]

theorem bind_eq_ok {α β} {x : R α} {f : α → R β} {b : β} (h : x.bind f = .ok b) :
    ∃ a, x = .ok a ∧ f a = .ok b := by
  cases x with
  | error e => cases h
  | ok a => exact ⟨a, rfl, h⟩

theorem ite_bind {α β} (c : Prop) [Decidable c] (x y : R α) (f : α → R β) :
    (if c then x else y) >>= f = if c then x >>= f else y >>= f := by
  split <;> rfl

/-- the `pure (yield ·)` form is what the `do` elaborator produces for `for x in l do s ← g s x`. -/
theorem forIn_yield_foldlM {α β} (l : List α) (g : β → α → R β) (init : β) :
    forIn l init (fun a s => do let s' ← g s a; pure (ForInStep.yield s')) = l.foldlM g init := by
  induction l generalizing init with
  | nil => rfl
  | cons a l ih =>
    simp only [List.forIn_cons, List.foldlM_cons, bind_assoc, pure_bind]
    congr; funext s'; exact ih s'

theorem foldlM_filterMap {α β γ} (g : α → Option γ) (f : β → γ → R β) (l : List α) (b : β) :
    l.foldlM (fun b a => match g a with | some x => f b x | none => pure b) b = (l.filterMap g).foldlM f b := by
  induction l generalizing b with
  | nil => rfl
  | cons a l ih =>
    rw [List.foldlM_cons, List.filterMap_cons]
    cases g a with
    | none => exact ih b
    | some x =>
      rw [List.foldlM_cons]
      congr 1; funext b'; exact ih b'

theorem notFilt_of_ge {st : List Status} {i : Nat} (h : st.length ≤ i) : notFilt st i = true := by
  simp [notFilt, h]

theorem notFilt_lt {st : List Status} {i : Nat} (h : i < st.length) : notFilt st i = (st[i].flag != Flag.filter) := by
  simp [notFilt, h, bne]

theorem notFilt_iff {st : List Status} {i : Nat} (h : i < st.length) : notFilt st i = true ↔ st[i].flag ≠ Flag.filter := by
  simp [notFilt_lt h]

theorem mem_actList {st : List Status} {p : Nat} : p ∈ actList st ↔ p < st.length ∧ notFilt st p = true := by
  simp [actList]

theorem actList_pairwise (st : List Status) : (actList st).Pairwise (· < ·) := by
  unfold actList
  exact List.Pairwise.filter _ List.pairwise_lt_range

def rank (st : List Status) (p : Nat) : Nat := ((List.range p).filter (notFilt st)).length

theorem range_split {p n : Nat} (hp : p < n) : List.range n = List.range p ++ [p] ++ List.range' (p+1) (n - (p+1)) := by
  rw [List.range_eq_range', List.range_eq_range']
  have h1 : n = p + (1 + (n - (p+1))) := by omega
  conv => lhs; rw [h1]
  rw [← List.range'_append_1, ← List.range'_append_1]
  simp [Nat.add_comm]

theorem actList_split {st : List Status} {p : Nat} (hp : p < st.length) :
    actList st = (List.range p).filter (notFilt st) ++ ((if notFilt st p then [p] else []) ++
      (List.range' (p+1) (st.length - (p+1))).filter (notFilt st)) := by
  unfold actList
  rw [range_split hp]
  by_cases h : notFilt st p = true <;> simp [List.filter_append, h]

theorem actList_rank {st : List Status} {p : Nat} (hp : p < st.length) (hn : notFilt st p = true) :
    (actList st)[rank st p]? = some p := by
  rw [actList_split hp]
  simp [rank, hn]

theorem rank_lt_of_lt {st : List Status} {p q : Nat} (hpq : p < q) (hn : notFilt st p = true) : rank st p < rank st q := by
  unfold rank
  rw [range_split hpq]
  simp [List.filter_append, hn]

theorem rank_mono {st : List Status} {p q : Nat} (hpq : p ≤ q) : rank st p ≤ rank st q := by
  unfold rank
  obtain ⟨d, rfl⟩ := Nat.exists_eq_add_of_le hpq
  rw [List.range_eq_range', List.range_eq_range', ← List.range'_append_1]
  simp [List.filter_append]

theorem actList_getElem?_iff {st : List Status} {k p : Nat} :
    (actList st)[k]? = some p ↔ p < st.length ∧ notFilt st p = true ∧ rank st p = k := by
  constructor
  · intro h
    have hm : p ∈ actList st := List.mem_of_getElem? h
    obtain ⟨hp, hn⟩ := mem_actList.mp hm
    refine ⟨hp, hn, ?_⟩
    have h2 := actList_rank hp hn
    obtain ⟨hk, hk'⟩ := List.getElem?_eq_some_iff.mp h
    obtain ⟨hr, hr'⟩ := List.getElem?_eq_some_iff.mp h2
    have hpw := List.pairwise_iff_getElem.mp (actList_pairwise st)
    rcases Nat.lt_trichotomy (rank st p) k with hlt | heq | hgt
    · have := hpw _ _ hr hk hlt; omega
    · exact heq
    · have := hpw _ _ hk hr hgt; omega
  · rintro ⟨hp, hn, rfl⟩
    exact actList_rank hp hn

theorem actList_lt_iff {st : List Status} {k1 k2 p1 p2 : Nat} (h1 : (actList st)[k1]? = some p1)
    (h2 : (actList st)[k2]? = some p2) : k1 < k2 ↔ p1 < p2 := by
  obtain ⟨a1, a2⟩ := List.getElem?_eq_some_iff.mp h1
  obtain ⟨b1, b2⟩ := List.getElem?_eq_some_iff.mp h2
  have hpw := List.pairwise_iff_getElem.mp (actList_pairwise st)
  constructor
  · intro hlt
    have := hpw k1 k2 a1 b1 hlt
    omega
  · intro hlt
    rcases Nat.lt_trichotomy k1 k2 with hk | hk | hk
    · exact hk
    · subst hk; omega
    · have := hpw k2 k1 b1 a1 hk
      omega

theorem rank_congr {st st' : List Status} {p : Nat} (h : ∀ q : Nat, q < p → notFilt st' q = notFilt st q) :
    rank st' p = rank st p := by
  unfold rank
  congr 1
  apply List.filter_congr
  intro q hq
  exact h q (by simpa using hq)

theorem actList_getElem?_agree {st st' : List Status} {k p : Nat} (hl : st.length ≤ st'.length)
    (h : ∀ q : Nat, q ≤ p → notFilt st' q = notFilt st q) (hk : (actList st)[k]? = some p) :
    (actList st')[k]? = some p := by
  obtain ⟨hp, hn, hr⟩ := actList_getElem?_iff.mp hk
  exact actList_getElem?_iff.mpr ⟨by omega, by rw [h p (Nat.le_refl _)]; exact hn,
    by rw [rank_congr (fun q hq => h q (by omega))]; exact hr⟩

def actFrom : Nat → List Status → List Nat
  | _, [] => []
  | k, s :: st => if s.flag = .filter then actFrom (k+1) st else k :: actFrom (k+1) st

theorem actFrom_eq (st pre : List Status) :
    (List.range' pre.length st.length).filter (notFilt (pre ++ st)) = actFrom pre.length st := by
  induction st generalizing pre with
  | nil => simp [actFrom]
  | cons s st ih =>
    have := ih (pre ++ [s])
    simp only [List.length_append, List.length_cons, List.length_nil, List.append_assoc, List.cons_append, List.nil_append, Nat.zero_add] at this
    simp only [List.length_cons, List.range'_succ, List.filter_cons, actFrom, this]
    have : notFilt (pre ++ s :: st) pre.length = (s.flag != Flag.filter) := by
      simp [notFilt, bne]
    rw [this]
    by_cases h : s.flag = .filter <;> simp [h]

theorem actList_eq_actFrom (st : List Status) : actList st = actFrom 0 st := by
  have := actFrom_eq st []
  simpa [actList, List.range_eq_range'] using this

theorem length_actFrom (k : Nat) (st : List Status) : (actFrom k st).length + countFilter st = st.length := by
  induction st generalizing k with
  | nil => simp [actFrom, countFilter]
  | cons s st ih =>
    have := ih (k+1)
    unfold countFilter at this ⊢
    by_cases h : s.flag = .filter <;> simp [actFrom, h] <;> omega

theorem length_actList (st : List Status) : (actList st).length + countFilter st = st.length := by
  rw [actList_eq_actFrom]; exact length_actFrom 0 st

theorem actList_lt {st : List Status} {k : Nat} (hk : k < (actList st).length) : (actList st)[k] < st.length :=
  (mem_actList.mp (List.getElem_mem hk)).1

theorem actList_notFilt {st : List Status} {k : Nat} (hk : k < (actList st).length) :
    notFilt st (actList st)[k] = true :=
  (mem_actList.mp (List.getElem_mem hk)).2

theorem actList_flag {st : List Status} {k : Nat} (hk : k < (actList st).length) :
    (st[(actList st)[k]]'(actList_lt hk)).flag ≠ Flag.filter :=
  (notFilt_iff (actList_lt hk)).mp (actList_notFilt hk)

theorem actList_ge (st : List Status) {k : Nat} (hk : k < (actList st).length) : k ≤ (actList st)[k] := by
  have := actList_getElem?_iff.mp (List.getElem?_eq_getElem hk)
  have h2 : rank st (actList st)[k] ≤ (actList st)[k] := by
    unfold rank
    calc _ ≤ (List.range (actList st)[k]).length := List.length_filter_le _ _
      _ = _ := by simp
  omega

theorem actList_of_countFilter_zero {st : List Status} (h : countFilter st = 0) : actList st = List.range st.length := by
  unfold actList
  rw [List.filter_eq_self]
  intro a ha
  have ha : a < st.length := by simpa using ha
  rw [notFilt_iff ha]
  intro hf
  unfold countFilter at h
  have : st[a] ∈ st.filter (fun s => decide (s.flag = Flag.filter)) := by
    simp [List.mem_filter, hf]
  rw [List.length_eq_zero_iff.mp h] at this
  simp at this

theorem Batch.nAct_eq (b : Batch) : b.nAct + countFilter b.st = b.st.length := length_actList b.st

/-- `Batch.phys`: the identity while nothing is filtered, the lookup in the active indices otherwise -/
theorem phys_eq (b : Batch) (i : Nat) :
    b.phys i = if b.filterCount = 0 then .ok i else idx (actList b.st) i "activeIndices" := by
  unfold Batch.phys Batch.activeIdx
  by_cases h0 : b.filterCount = 0
  · simp only [h0, if_true]; rfl
  · simp only [h0, if_false]; rfl

theorem phys_ok {b : Batch} (hfc : b.filterCount = countFilter b.st) {i : Nat} (hi : i < b.nAct) :
    b.phys i = .ok ((actList b.st)[i]'hi) := by
  rw [phys_eq]
  by_cases h0 : b.filterCount = 0
  · rw [if_pos h0]
    have h1 := actList_of_countFilter_zero (by omega : countFilter b.st = 0)
    simp [h1]
  · rw [if_neg h0]
    exact idx_ok _ hi

theorem phys_eq_ok {b : Batch} (hfc : b.filterCount = countFilter b.st) {i p : Nat} (h : b.phys i = .ok p)
    (hi : i < b.st.length) : (actList b.st)[i]? = some p := by
  rw [phys_eq] at h
  by_cases h0 : b.filterCount = 0
  · rw [if_pos h0] at h
    have h1 := actList_of_countFilter_zero (by omega : countFilter b.st = 0)
    cases h; simp [h1, hi]
  · rw [if_neg h0] at h
    exact idx_eq_ok_iff.mp h

theorem active_filterMap_length (recs : List Rec) (st : List Status) (h : st.length = recs.length) :
    ((recs.zip st).filterMap fun (r, s) => if s.flag = .filter then none else some r).length + countFilter st = st.length := by
  induction recs generalizing st with
  | nil => cases st <;> simp_all [countFilter]
  | cons r recs ih =>
    cases st with
    | nil => simp at h
    | cons s st =>
      have := ih st (by simpa using h)
      unfold countFilter at this ⊢
      by_cases hs : s.flag = .filter <;> simp [hs] at this ⊢ <;> omega

/-- `len(b.ActiveRecords())` is the number of unfiltered flags. -/
theorem active_length {b : Batch} (hl : b.st.length = b.recs.length) (hfc : b.filterCount = countFilter b.st) :
    b.active.length = b.nAct := by
  have h1 := b.nAct_eq
  unfold Batch.active
  by_cases h0 : b.filterCount = 0
  · simp only [h0, if_true]; omega
  · simp only [h0, if_false]
    by_cases h2 : b.filterCount = b.recs.length
    · simp only [h2, if_true, List.length_nil]; omega
    · simp only [h2, if_false]
      exact Nat.add_right_cancel ((active_filterMap_length b.recs b.st hl).trans h1.symm)

theorem setFlagAt_ok {st : List Status} {p : Nat} (f : Flag) (hp : p < st.length) :
    setFlagAt st p f = .ok (st.modify p (setFlagP f)) := by
  unfold setFlagAt
  rw [idx_ok _ hp]
  simp only [bind, Except.bind, pure, Except.pure, Except.ok.injEq]
  apply List.ext_getElem?
  intro j
  rw [List.getElem?_set, List.getElem?_modify]
  by_cases hj : p = j
  · subst hj; simp [hp, setFlagP]
  · simp [hj]

theorem countFilter_cons (s : Status) (st : List Status) :
    countFilter (s :: st) = (if s.flag = .filter then 1 else 0) + countFilter st := by
  unfold countFilter
  by_cases h : s.flag = .filter <;> simp [h] <;> omega

theorem countFilter_replicate_default (n : Nat) : countFilter (List.replicate n ({} : Status)) = 0 := by
  induction n with
  | zero => rfl
  | succ n ih => rw [List.replicate_succ, countFilter_cons, ih]; rfl

theorem notFilt_modify {st : List Status} {p : Nat} (g : Status → Status) (q : Nat) :
    notFilt (st.modify p g) q = if p = q ∧ q < st.length then ((g (st[q]?.getD {})).flag != Flag.filter) else notFilt st q := by
  unfold notFilt
  rw [List.getElem?_modify]
  by_cases h : p = q
  · subst h
    by_cases hq : p < st.length
    · simp [hq, bne]
    · simp [hq]
  · simp [h]

def setFlags (f : Flag) (ps : List Nat) (st : List Status) : List Status :=
  ps.foldl (fun st p => st.modify p (setFlagP f)) st

@[simp] theorem length_setFlags (f : Flag) (ps : List Nat) (st : List Status) : (setFlags f ps st).length = st.length := by
  induction ps generalizing st with
  | nil => rfl
  | cons p ps ih => simp [setFlags, List.foldl_cons] at ih ⊢; rw [ih]; simp

theorem getElem?_setFlags (f : Flag) (ps : List Nat) (st : List Status) (q : Nat) :
    (setFlags f ps st)[q]? = if q ∈ ps then st[q]?.map (setFlagP f) else st[q]? := by
  induction ps generalizing st with
  | nil => simp [setFlags]
  | cons p ps ih =>
    have := ih (st.modify p (setFlagP f))
    simp only [setFlags, List.foldl_cons] at this ⊢
    rw [this, List.getElem?_modify]
    by_cases h2 : p = q
    · subst h2
      by_cases h1 : p ∈ ps
      · simp only [h1, if_true, List.mem_cons, or_true]
        cases st[p]? <;> simp [setFlagP]
      · simp [h1]
    · have h3 : ¬ q = p := fun h => h2 h.symm
      simp [h2, h3]

theorem notFilt_setFlags (f : Flag) (ps : List Nat) (st : List Status) (q : Nat) :
    notFilt (setFlags f ps st) q = if q ∈ ps ∧ q < st.length then (f != Flag.filter) else notFilt st q := by
  unfold notFilt
  rw [getElem?_setFlags]
  by_cases h : q ∈ ps
  · by_cases hq : q < st.length
    · simp [h, hq, setFlagP, bne]
    · simp [h, hq]
  · simp [h]

theorem foldlM_sfStep {b : Batch} (hfc : b.filterCount = countFilter b.st) (f : Flag) (ks : List Nat)
    (hks : ∀ k ∈ ks, k < b.nAct) (st : List Status) (hl : st.length = b.st.length) :
    ks.foldlM (sfStep b f) st = .ok (setFlags f (ks.map fun k => (actList b.st)[k]?.getD 0) st) := by
  induction ks generalizing st with
  | nil => rfl
  | cons k ks ih =>
    have hk := hks k (by simp)
    have hp : (actList b.st)[k] < st.length := by rw [hl]; exact actList_lt hk
    simp only [List.foldlM_cons, sfStep, phys_ok hfc hk, bind, Except.bind, setFlagAt_ok f hp]
    rw [ih (fun k' hk' => hks k' (by simp [hk'])) _ (by simpa using hl)]
    have hk' : k < (actList b.st).length := hk
    simp only [setFlags, List.map_cons, List.foldl_cons, List.getElem?_eq_getElem hk', Option.getD_some]
    rfl

def physRange (st : List Status) (i j : Nat) : List Nat := ((actList st).take j).drop i

theorem map_range'_physRange (st : List Status) {i j : Nat} (hj : j ≤ (actList st).length) :
    ((List.range' i (j - i)).map fun k => (actList st)[k]?.getD 0) = physRange st i j := by
  apply List.ext_getElem?
  intro n
  simp only [physRange, List.getElem?_map, List.getElem?_drop, List.getElem?_take]
  by_cases h : n < j - i
  · have h1 : i + n < j := by omega
    have h2 : i + n < (actList st).length := by omega
    simp [h, h1, h2]
  · have h1 : ¬ i + n < j := by omega
    simp [h, h1]

theorem mem_physRange {st : List Status} {i j q : Nat} :
    q ∈ physRange st i j ↔ ∃ k : Nat, i ≤ k ∧ k < j ∧ (actList st)[k]? = some q := by
  simp only [physRange, List.mem_iff_getElem?, List.getElem?_drop, List.getElem?_take]
  constructor
  · rintro ⟨n, hn⟩
    by_cases h : i + n < j
    · exact ⟨i + n, by omega, h, by simpa [h] using hn⟩
    · simp [h] at hn
  · rintro ⟨k, h1, h2, h3⟩
    exact ⟨k - i, by have : i + (k - i) = k := by omega
                     simp [this, h2, h3]⟩

theorem physRange_flag {st : List Status} {i j p : Nat} (hp : p ∈ physRange st i j) :
    ∃ s, st[p]? = some s ∧ s.flag ≠ .filter := by
  obtain ⟨k, _, _, hk⟩ := mem_physRange.mp hp
  obtain ⟨h1, h2, _⟩ := actList_getElem?_iff.mp hk
  exact ⟨st[p], by simp [h1], (notFilt_iff h1).mp h2⟩

end Conduit.Funnel
