import ConduitModel.Proofs.BatchNack
import ConduitModel.Proofs.BatchSetRecords
import ConduitModel.Proofs.BatchActive

/-! A `Nack`, `SetRecords` or `SplitRecord` that returned had its indices in range (`SetRecords`: unless nothing is
filtered, where `copy` cuts what does not fit); what a `SetRecords` that returned did (`setRecords_of_ok`). -/
namespace Conduit.Funnel

theorem nackGo_inrange {h : Heap} {b : Batch} (hwf : b.WF h) (es : List (Option Err)) :
    ∀ (q : Nat) (st st' : List Status), st.length = b.st.length → (∀ x : Nat, notFilt st x = notFilt b.st x) →
      nackGo b b.activeIdx es q st = .ok st' → es = [] ∨ q + es.length ≤ b.nAct := by
  induction es with
  | nil => intro _ _ _ _ _ _; exact Or.inl rfl
  | cons e es ih =>
    intro q st st' hl hn hr
    right
    unfold nackGo at hr
    obtain ⟨st1, h1, hr⟩ := bind_eq_ok hr
    -- the step looked up `phys q` and indexed `st` there
    have hq : q < b.nAct := by
      rw [nackStep_eq] at h1
      obtain ⟨p, hp, h1⟩ := bind_eq_ok h1
      obtain ⟨s, hi, -⟩ := bind_eq_ok h1
      exact phys_inrange hwf hp (hl ▸ (List.getElem?_eq_some_iff.mp (idx_eq_ok_iff.mp hi)).1)
    obtain ⟨st1', g1, g2, _, _, _, hn1⟩ := nackStep_ok hwf hl hn hq e
    rw [h1] at g1
    cases g1
    rcases ih (q+1) st1 st' (g2.trans hl) hn1 hr with h2 | h2
    · subst h2; exact Nat.succ_le_of_lt hq
    · rw [List.length_cons, ← Nat.add_assoc, Nat.add_right_comm]; exact h2

theorem nack_inrange {h : Heap} {b b' : Batch} (hwf : b.WF h) {i : Nat} {errs : List (Option Err)}
    (hr : b.nack i errs = .ok b') : errs = [] ∨ i + errs.length ≤ b.nAct := by
  rw [nack_eq_model] at hr
  obtain ⟨st', h1, -⟩ := bind_eq_ok hr
  exact nackGo_inrange hwf errs i b.st st' rfl (fun _ => rfl) h1

theorem findToLoop_range (check : Nat → R Bool) : ∀ (fuel lo hi t : Nat), findToLoop check fuel lo hi = .ok t →
    lo ≤ t ∧ (lo < hi → t < hi) := by
  intro fuel
  induction fuel with
  | zero => intro lo hi t h; cases h; exact ⟨Nat.le_refl _, id⟩
  | succ fuel ih =>
    intro lo hi t h
    rw [findToLoop.eq_2] at h
    by_cases hlt : lo + 1 < hi
    · rw [if_pos hlt] at h
      obtain ⟨c, -, h⟩ := bind_eq_ok h
      cases c with
      | true =>
        obtain ⟨h1, h2⟩ := ih _ _ _ h
        exact ⟨by omega, fun _ => h2 (by omega)⟩
      | false =>
        obtain ⟨h1, h2⟩ := ih _ _ _ h
        exact ⟨h1, fun _ => by have := h2 (by omega); omega⟩
    · rw [if_neg hlt] at h
      cases h
      exact ⟨Nat.le_refl _, id⟩

/-- the segment loop consumes one record per active index: it returns only if there are enough of them -/
theorem setRecords_go_inrange (act : List Nat) (fuel : Nat) :
    ∀ (from_ : Nat) (recs out out' : List Rec), recs.length ≤ fuel →
      Batch.setRecords.go act fuel from_ recs out = .ok out' → recs = [] ∨ from_ + recs.length ≤ act.length := by
  induction fuel with
  | zero => intro from_ recs out out' hf _; exact .inl (List.length_eq_zero_iff.mp (Nat.le_zero.mp hf))
  | succ fuel ih =>
    intro from_ recs out out' hf hr
    by_cases he : recs = []
    · exact .inl he
    · right
      cases haF : act[from_]? with
      | none =>
        rw [Batch.setRecords.go.eq_2, if_neg (by simpa using he), idx, haF] at hr
        cases hr
      | some aF =>
        rw [setRecords_go_step act fuel from_ recs out aF he haF] at hr
        obtain ⟨to, hto, hr⟩ := bind_eq_ok hr
        obtain ⟨aT, ht, hr⟩ := bind_eq_ok hr
        have hpos : 0 < recs.length := List.length_pos_iff.mpr he
        obtain ⟨h1, h2⟩ := findToLoop_range _ _ _ _ _ hto
        have h2 := h2 (by omega)
        have htl : to < act.length := (List.getElem?_eq_some_iff.mp (idx_eq_ok_iff.mp ht)).1
        rcases ih _ _ _ _ (by rw [List.length_drop]; omega) hr with h3 | h3
        · have := congrArg List.length h3
          rw [List.length_drop, List.length_nil] at this
          omega
        · rw [List.length_drop] at h3
          omega

theorem copyInto_take {α} (dst src : List α) (at_ : Nat) :
    copyInto dst at_ (src.take (dst.length - at_)) = copyInto dst at_ src := by
  unfold copyInto
  rw [List.take_take, Nat.min_self, List.length_take]
  congr 2
  omega

theorem setRecords_of_ok {h : Heap} {b b' : Batch} (hwf : b.WF h) {i : Nat} {recs : List Rec}
    (hr : b.setRecords i recs = .ok b') : b' = { b with recs := b'.recs } ∧ SetRecs b i recs b'.recs := by
  have inr : ∀ (rs : List Rec) (c : Batch), i + rs.length ≤ b.nAct → b.setRecords i rs = .ok c →
      c = { b with recs := c.recs } ∧ SetRecs b i rs c.recs := by
    intro rs c hi hc
    obtain ⟨out, e, g⟩ := setRecords_effect hwf hi
    cases e.symm.trans hc
    exact ⟨rfl, g⟩
  by_cases hi : i + recs.length ≤ b.nAct
  · exact inr recs b' hi hr
  by_cases h0 : b.filterCount = 0
  · -- nothing is filtered: `copy` cuts what does not fit
    have hna : b.nAct = b.recs.length := by have := b.nAct_eq; have := hwf.2; have := hwf.1.st_len; omega
    have hil : i ≤ b.recs.length := by
      apply Nat.le_of_not_lt
      intro hgt
      rw [Batch.setRecords, activeIdx_eq, if_pos h0] at hr
      simp only [hgt, if_true] at hr
      cases hr
    have hcut : b.setRecords i (recs.take (b.recs.length - i)) = .ok b' := by
      rw [← hr, Batch.setRecords, Batch.setRecords, activeIdx_eq, if_pos h0]
      simp only [copyInto_take]
    have hlen : (recs.take (b.recs.length - i)).length = min (b.recs.length - i) recs.length := List.length_take
    obtain ⟨e, hl, hin, hout⟩ := inr _ b' (by rw [hlen, hna]; omega) hcut
    refine ⟨e, hl, fun k q h1 h2 hq => ?_, fun x hx => hout x fun ⟨k, h1, h2, hq⟩ => hx ⟨k, h1, by omega, hq⟩⟩
    have hk : k < b.recs.length := hna ▸ (List.getElem?_eq_some_iff.mp hq).1
    rw [hin k q h1 (by omega) hq, List.getElem?_take, if_pos (by omega)]
  · -- some record is filtered: the segment loop returns only if there are enough active indices
    rw [Batch.setRecords, activeIdx_eq, if_neg h0] at hr
    obtain ⟨out, hg, hr⟩ := bind_eq_ok hr
    cases hr
    rcases setRecords_go_inrange _ _ _ _ _ _ (Nat.le_succ _) hg with he | he
    · subst he
      rw [Batch.setRecords.go.eq_2] at hg
      cases hg
      exact ⟨rfl, rfl, fun k q h1 h2 => absurd h2 (Nat.not_lt.mpr h1), fun _ _ => rfl⟩
    · exact absurd he hi

theorem splitRecord_inrange {h : Heap} {b : Batch} (hwf : b.WF h) {i : Nat} {recs : List Rec} {hb : Heap × Batch}
    (hr : b.splitRecord h i recs = .ok hb) : i < b.nAct := by
  obtain ⟨p, hp, hr⟩ := bind_eq_ok hr
  obtain ⟨ps, hi, -⟩ := bind_eq_ok hr
  have := (List.getElem?_eq_some_iff.mp (idx_eq_ok_iff.mp hi)).1
  exact phys_inrange hwf hp (by rw [hwf.1.st_len, ← hwf.1.pos_len]; exact this)

end Conduit.Funnel
