import ConduitModel.Proofs.MonFInv
import ConduitModel.Proofs.MonProc

/-!
# The `.pcall` event of the monitor on task-attributed views

`PStepT`: what a processor call of `task` does to the view `G.view` (filtered roots, errors booked for
the task, nothing written), with what survives it (`PStepT.clean`) and its frame (`PStepT.ext_of`);
`Base.pcall`: the base invariant survives the event. Used by Proofs/MonGProc.lean.
-/
namespace Conduit.Funnel
open Conduit.Funnel.Mon

/-- `v'` is `v` after a call of processor `task` on `recs` answered by `out` -/
structure PStepT (v v' : MV) (task : Nat) (recs : List Rec) (out : List PR) : Prop where
  fil : v'.μ.filtered = v.μ.filtered ++ filteredBy recs out
  err : v'.E = v.E ++ (erroredBy recs out).map (fun x => (task, x))
  wr : v'.μ.written = v.μ.written

theorem PStepT.mem_E {v v' : MV} {task : Nat} {recs : List Rec} {out : List PR} (hp : PStepT v v' task recs out)
    {x : Nat × Nat} (hx : x ∈ v'.E) : x ∈ v.E ∨ (x.1 = task ∧ x.2 ∈ erroredBy recs out) := by
  rw [hp.err] at hx
  rcases List.mem_append.mp hx with h | h
  · exact Or.inl h
  · obtain ⟨y, hy1, hy2⟩ := List.mem_map.mp h
    rw [← hy2]
    exact Or.inr ⟨rfl, hy1⟩

theorem PStepT.notE {v v' : MV} {task : Nat} {recs : List Rec} {out : List PR} (hp : PStepT v v' task recs out)
    {t ρ : Nat} (h1 : (t, ρ) ∉ v.E) (hne : ρ ∉ erroredBy recs out) : (t, ρ) ∉ v'.E := by
  intro hx
  rcases hp.mem_E hx with h | ⟨_, h⟩
  · exact h1 h
  · exact hne h

/-- `CleanT` after the call, for any task list whose members were clean or had not seen the root -/
theorem PStepT.clean {v v' : MV} {task : Nat} {recs : List Rec} {out : List PR} {T T' D : List Nat} {ρ : Nat}
    (hp : PStepT v v' task recs out) (hc : CleanT v T D ρ) (hT : ∀ t ∈ T', t ∈ T ∨ (t, ρ) ∉ v.E)
    (hne : ρ ∉ erroredBy recs out) : CleanT v' T' D ρ := by
  refine ⟨fun t ht => ?_, fun e hm hd hroot => ?_⟩
  · rcases hT t ht with h1 | h1
    · exact hp.notE (hc.1 t h1) hne
    · exact hp.notE h1 hne
  · rw [hp.wr] at hm
    exact hc.2 e hm hd hroot

theorem PStepT.written {v v' : MV} {task : Nat} {recs : List Rec} {out : List PR} {d ρ : Nat}
    (hp : PStepT v v' task recs out) (h : WrittenTo v.μ d ρ) : WrittenTo v'.μ d ρ := by
  obtain ⟨e, hm, h1, h2⟩ := h
  exact ⟨e, by rw [hp.wr]; exact hm, h1, h2⟩

theorem PStepT.active {v v' : MV} {task : Nat} {recs : List Rec} {out : List PR} {T T' D : List Nat} {ρ : Nat}
    (hp : PStepT v v' task recs out) (ha : ActiveT v T D ρ) (hT : ∀ t ∈ T', t ∈ T ∨ (t, ρ) ∉ v.E)
    (hne : ρ ∉ erroredBy recs out) : ActiveT v' T' D ρ :=
  ⟨hp.clean ha.1 hT hne, fun d hd => hp.written (ha.2 d hd)⟩

theorem PStepT.filtered {v v' : MV} {task : Nat} {recs : List Rec} {out : List PR} {T T' D : List Nat} {ρ : Nat}
    (hp : PStepT v v' task recs out) (hf : FilteredT v T D ρ) (hT : ∀ t ∈ T', t ∈ T ∨ (t, ρ) ∉ v.E)
    (hne : ρ ∉ erroredBy recs out) : FilteredT v' T' D ρ :=
  ⟨hp.clean hf.1 hT hne, by rw [hp.fil]; exact List.mem_append_left _ hf.2⟩

theorem PStepT.ext_of {v v' : MV} {task : Nat} {recs : List Rec} {out : List PR} {R : Nat → Prop}
    (hp : PStepT v v' task recs out) (key : ∀ (k : Nat) (r : Rec), recs[k]? = some r → R (root r)) :
    ExtT [task] [] R v v' := by
  refine .of_fields (.of_append hp.fil fun x hx => ?_)
    ⟨fun x hx => by rw [hp.err]; exact List.mem_append_left _ hx, fun x hx => ?_⟩ (.of_eq hp.wr)
  · obtain ⟨k, r, o, h1, _, h3⟩ := mem_filteredBy hx
    rw [h3]; exact key k r h1
  · rcases hp.mem_E hx with h1 | ⟨h1, h2⟩
    · exact Or.inl h1
    · obtain ⟨k, r, e, h3, _, h5⟩ := mem_erroredBy h2
      refine Or.inr ⟨by rw [h1]; exact List.mem_cons.mpr (Or.inl rfl), ?_⟩
      rw [h5]; exact key k r h3

theorem Base.pcall {G : Ctx} {s s' : PS} {task : Nat} {recs : List Rec} {out : List PR} (hB : Base G s)
    (hlog : s'.log = s.log.push (.pcall task recs)) (hscr : s'.scripts = popScripts s.scripts task)
    (hstep : PStepT (G.view s) (G.view s') task recs out) (hsafe : (G.mu s').tv = [])
    (htask : task ∈ tasksS G.tree) : Base G s' := by
  refine ⟨hsafe, hB.sc.event (.pcall task recs) task rfl hlog hscr, ?_, ?_, ?_,
    fun hg => by rw [hscr]; exact (hB.ns hg).pop task⟩
  · intro e he
    rw [show (G.mu s').written = (G.mu s).written from hstep.wr] at he
    exact hB.wr e he
  · intro x hx
    rcases hstep.mem_E hx with h2 | ⟨h2, _⟩
    · exact hB.errIn x h2
    · rw [h2]; exact htask
  · intro e he
    rw [show (G.mu s').written = (G.mu s).written from hstep.wr] at he
    exact hB.wrIn e he

end Conduit.Funnel
