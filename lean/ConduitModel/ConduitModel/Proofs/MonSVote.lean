import ConduitModel.Proofs.MonSPipe

/-!
# A group of `runAckNacker(X).vote` without runs, and the ledger entry of a group with one

What the vote loop of a handler chain `runAckNacker(X)` needs of a group of rows, whatever `X` is. A stretch of rows
without run, cut out as a batch of its own, has an empty split map (`sub_split_none`), is aligned with consecutive
source records and is followed by the next source (`none_group`); a vote booked in a ledger entry leaves the other
entries, the originals and the nack marks alone (`set_facts`). Also here: the `SrcMap.*` lemmas on consecutive sources (`get`, `lt`, `next_src`, `consec`), `rows_some` / `rows_lt`, and
what `voted` keeps (`voted_nacked`, `voted_origRec`). The steps against a handler contract and the loop `voteG`:
Proofs/MonGVote.lean.
-/
namespace Conduit.Funnel
open Conduit.Funnel.Mon

theorem sub_split_nil {b sb : Batch} {i j : Nat} (h : b.sub i j = .ok sb)
    (hk : ∀ p ∈ (b.pos.take j).drop i, lookup b.split (keyOf p) = none) : sb.split = [] := by
  rw [(sub_ok_fields h).split]
  split
  · have : ∀ (l : List PosV) (acc : List (Nat × Rec)), (∀ p ∈ l, lookup b.split (keyOf p) = none) →
        List.foldl (fun acc p => if (p == none) = true then acc else match lookup b.split (keyOf p) with
          | some r => if (lookup acc (keyOf p)).isSome = true then acc else acc ++ [(keyOf p, r)]
          | none => acc) acc l = acc := by
      intro l
      induction l with
      | nil => intro acc _; rfl
      | cons p l ih =>
        intro acc hl
        rw [List.foldl_cons, hl p List.mem_cons_self]
        simp only [ite_self]
        exact ih acc (fun p hp => hl p (List.mem_cons_of_mem _ hp))
    exact this _ [] hk
  · rfl


theorem rows_some (b : Batch) {k : Nat} (hk : k < b.recs.length) : ∃ row, b.rows[k]? = some row :=
  ⟨_, rows_get b hk⟩

theorem rows_lt {b : Batch} {k : Nat} {row : Row} (h : b.rows[k]? = some row) : k < b.recs.length := by
  have := (List.getElem?_eq_some_iff.mp h).1
  rwa [rows_length] at this

namespace SrcMap
variable {G : Ctx} {h : Heap} {b : Batch} {sm : List Nat}

theorem get (hm : SrcMap G h b sm) {k : Nat} (hk : k < b.recs.length) : ∃ q, sm[k]? = some q := by
  have : k < sm.length := by rw [hm.len, rows_length]; exact hk
  exact ⟨_, List.getElem?_eq_getElem this⟩

theorem lt (hm : SrcMap G h b sm) {k q : Nat} (hk : sm[k]? = some q) : k < b.recs.length := by
  have := (List.getElem?_eq_some_iff.mp hk).1
  rwa [hm.len, rows_length] at this

theorem between (hm : SrcMap G h b sm) {k m k' q : Nat} (h1 : k ≤ m) (h2 : m ≤ k') (hk : sm[k]? = some q)
    (hk' : sm[k']? = some q) : sm[m]? = some q := by
  obtain ⟨qm, hqm⟩ := hm.get (k := m) (by have := hm.lt hk'; omega)
  have a := (SM.le' hm h1 hk hqm).1
  have c := (SM.le' hm h2 hqm hk').1
  rw [hqm]; congr 1; omega

theorem contiguous (hm : SrcMap G h b sm) (hs : Src G) {k m k' : Nat} {row rowm row' : Row} {rid : Nat}
    (hkm : k ≤ m) (hmk : m ≤ k') (h1 : b.rows[k]? = some row) (h2 : b.rows[m]? = some rowm)
    (h3 : b.rows[k']? = some row') (r1 : row.run = some rid) (r3 : row'.run = some rid) : rowm.run = some rid := by
  obtain ⟨q, hq⟩ := hm.get (rows_lt h1)
  obtain ⟨q', hq'⟩ := hm.get (rows_lt h3)
  have := SM.run_src hs hm hq hq' h1 h3 r1 r3
  subst this
  exact SM.run_eq hm hq (hm.between hkm hmk hq hq') h1 h2 r1

theorem next_src (hm : SrcMap G h b sm) {k : Nat} {row row' : Row} {q q' : Nat} (h1 : b.rows[k]? = some row)
    (h2 : b.rows[k + 1]? = some row') (q1 : sm[k]? = some q) (q2 : sm[k + 1]? = some q')
    (hne : ∀ rid, row.run = some rid → row'.run ≠ some rid) : q' = q + 1 := by
  rcases hm.step k q q' q1 q2 with e | e
  · subst e
    obtain ⟨rid, a1, a2⟩ := hm.same k row row' q' h1 h2 q1 q2
    exact absurd a2 (hne rid a1)
  · exact e

theorem consec (hm : SrcMap G h b sm) {i j qi : Nat} (hr : ∀ k : Nat, i ≤ k → k < j → ∃ row, b.rows[k]? = some row ∧ row.run = none)
    (hq : sm[i]? = some qi) : ∀ d : Nat, i + d < j → sm[i + d]? = some (qi + d) := by
  intro d
  induction d with
  | zero => intro _; exact hq
  | succ d ih =>
    intro hd
    have h0 := ih (by omega)
    obtain ⟨row, a1, a2⟩ := hr (i + d) (by omega) (by omega)
    obtain ⟨row', c1, c2⟩ := hr (i + d + 1) (by omega) (by omega)
    obtain ⟨q', hq'⟩ := hm.get (rows_lt c1)
    have := hm.next_src a1 c1 h0 hq' (fun rid hrid => by rw [a2] at hrid; cases hrid)
    rw [show i + (d + 1) = i + d + 1 by omega, hq', this]
    congr 1


end SrcMap

theorem sub_split_none {b sb : Batch} {rs : List (Option Nat)} (hb : VB b rs) {i j : Nat} (hst : Stretch rs i j none)
    (hnk : NoSplitKey b) (hsub : b.sub i j = .ok sb) : sb.split = [] := by
  apply sub_split_nil hsub
  intro p hp
  rw [List.drop_take] at hp
  obtain ⟨k, h1, h2, h3⟩ := mem_slice hp
  obtain ⟨row, hrow⟩ := rows_some b (k := k) (by have := hst.le; rw [hb.rlen] at this; omega)
  obtain ⟨_, _, f3, f4⟩ := rows_fields hb hrow
  rw [h3] at f3; cases f3
  rw [hst.all k h1 h2] at f4
  exact hnk k row hrow (Option.some.inj f4).symm

theorem none_group {G : Ctx} {h : Heap} {sb : Batch} {rss : List (Option Nat)} (hvb : VB sb rss) {sm : List Nat}
    (hm : SrcMap G h sb sm) {R : Nat → Nat} {nx : Nat} (hnx : NextOK R sb sm nx) (hx : ∀ x ∈ sb.view, x.1 = none)
    (hne : 0 < sb.recs.length) {q0 : Nat} (hq : sm[0]? = some q0) :
    Align G q0 sb ∧ nx = q0 + sb.recs.length ∧
    ∀ (k : Nat) (row : Row), sb.rows[k]? = some row → row.run = none ∧ sm[k]? = some (q0 + k) := by
  have hrun : ∀ (k : Nat) (row : Row), sb.rows[k]? = some row → row.run = none :=
    fun k row hr => hx _ (List.mem_of_getElem? (rows_view hvb hr))
  have hcons := hm.consec (i := 0) (j := sb.recs.length) (fun k _ hk => by
    obtain ⟨row, hr⟩ := rows_some sb hk; exact ⟨row, hr, hrun k row hr⟩) hq
  have hsrc : ∀ (k : Nat) (row : Row), sb.rows[k]? = some row → row.run = none ∧ sm[k]? = some (q0 + k) :=
    fun k row hr => ⟨hrun k row hr, by have := hcons k (by have := rows_lt hr; omega); rwa [Nat.zero_add] at this⟩
  refine ⟨⟨?_, ?_⟩, ?_, hsrc⟩
  · intro k p hk
    obtain ⟨row, hrow⟩ := rows_some sb (k := k) (by rw [← hvb.plen]; exact (List.getElem?_eq_some_iff.mp hk).1)
    have := (rows_fields hvb hrow).2.2.1
    rw [hk] at this; cases this
    obtain ⟨a3, a4⟩ := hsrc k row hrow
    obtain ⟨src, c1, c2, _⟩ := hm.key k row (q0 + k) hrow a4
    exact ⟨src, c1, by rw [← c2, rowKey_none a3]⟩
  · intro k r src hk hsrc'
    obtain ⟨row, hrow⟩ := rows_some sb (k := k) (List.getElem?_eq_some_iff.mp hk).1
    have := (rows_fields hvb hrow).1
    rw [hk] at this; cases this
    obtain ⟨a3, a4⟩ := hsrc k row hrow
    obtain ⟨src', c1, _, c3⟩ := hm.key k row (q0 + k) hrow a4
    rw [hsrc'] at c1; cases c1
    exact c3
  · obtain ⟨rowl, hrowl⟩ := rows_some sb (k := sb.recs.length - 1) (by omega)
    have hql := (hsrc _ rowl hrowl).2
    have hlen : sm.length = sb.recs.length := by rw [hm.len, rows_length]
    rcases hnx rowl _ (by rw [List.getLast?_eq_getElem?, rows_length]; exact hrowl)
      (by rw [List.getLast?_eq_getElem?, hlen]; exact hql) with ⟨_, rid, a, _⟩ | ⟨a, _⟩
    · rw [(hsrc _ rowl hrowl).1] at a; cases a
    · omega

theorem voted_nacked (r0 : SplitRun) (k : Nat) (a : Bool) (t : Nat) (e : Option Err) :
    (voted r0 k a t e).nacked = (r0.nacked || !a) := by
  unfold voted
  cases a <;> cases r0.nacked <;> simp

theorem voted_origRec (r0 : SplitRun) (k : Nat) (a : Bool) (t : Nat) (e : Option Err) :
    (voted r0 k a t e).origRec = r0.origRec := by
  unfold voted
  split <;> rfl

theorem set_facts (h : Heap) (rid : Nat) (y : SplitRun) (hrid : rid < h.size) (ho : y.origPos = (h[rid]!).origPos)
    (hr : y.origRec = (h[rid]!).origRec) (hn : (h[rid]!).nacked = true → y.nacked = true) :
    (h.set! rid y).size = h.size ∧ (∀ rid' : Nat, some rid ≠ some rid' → (h.set! rid y)[rid']! = h[rid']!) ∧
    (∀ rid' : Nat, ((h.set! rid y)[rid']!).origPos = (h[rid']!).origPos ∧ ((h.set! rid y)[rid']!).origRec = (h[rid']!).origRec) ∧
    (∀ rid' : Nat, (h[rid']!).nacked = true → ((h.set! rid y)[rid']!).nacked = true) ∧ (h.set! rid y)[rid]! = y := by
  refine ⟨heap_set!_size _ _ _, fun rid' hne => heap_set!_other _ _ _ _ (fun e => hne (by rw [e])), ?_, ?_,
    heap_set!_get _ _ _ hrid⟩
  · intro rid'
    by_cases hne : rid = rid'
    · subst hne; rw [heap_set!_get _ _ _ hrid]; exact ⟨ho, hr⟩
    · rw [heap_set!_other _ _ _ _ hne]; exact ⟨rfl, rfl⟩
  · intro rid'
    by_cases hne : rid = rid'
    · subst hne; rw [heap_set!_get _ _ _ hrid]; exact hn
    · rw [heap_set!_other _ _ _ _ hne]; exact fun h => h

end Conduit.Funnel
