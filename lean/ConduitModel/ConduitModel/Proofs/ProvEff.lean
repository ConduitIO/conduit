import ConduitModel.Proofs.Prov

/-!
C15 convergence, the single action: without store failures every import action succeeds under a simple
precondition and has a closed-form effect on memory (`Act.eff`), entry by entry.
-/
namespace Conduit.Ctl

def NoFail (s : St) : Prop := s.failAt = none

theorem NoFail.stepOk {s : St} (h : NoFail s) (f : Svc) : NoFail (stepOk f s) := by
  unfold NoFail; simp; exact h

def Yields (prog : M Unit) (s : St) (m' : Mem) : Prop :=
  ∃ s', prog s = (.ok (), s') ∧ s'.mem = m' ∧ NoFail s'

theorem yields_run (f : Svc) (s : St) (h : NoFail s) (hp : f.pre s.mem = none) : Yields f.run s (f.upd s.mem) :=
  ⟨stepOk f s, run_nofail_ok f s h hp, by simp, h.stepOk f⟩

def applySvcs (m : Mem) : List Svc → Mem
  | [] => m
  | f :: r => applySvcs (f.upd m) r

def PreSvcs (m : Mem) : List Svc → Prop
  | [] => True
  | f :: r => f.pre m = none ∧ PreSvcs (f.upd m) r

theorem yields_seq_cons (a : M Unit) (rest : List (M Unit)) (s : St) (m1 m2 : Mem)
    (h1 : Yields a s m1) (h2 : ∀ s1, s1.mem = m1 → NoFail s1 → Yields (seqM rest) s1 m2) : Yields (seqM (a :: rest)) s m2 := by
  obtain ⟨s1, e1, e2, e3⟩ := h1
  obtain ⟨s2, f1, f2, f3⟩ := h2 s1 e2 e3
  exact ⟨s2, by simp only [seqM, e1]; exact f1, f2, f3⟩

theorem yields_seq_nil (s : St) (h : NoFail s) : Yields (seqM []) s s.mem := ⟨s, rfl, rfl, h⟩

theorem seqM_pair (a b : List (M Unit)) (s : St) : seqM [seqM a, seqM b] s = seqM (a ++ b) s := by
  induction a generalizing s with
  | nil => simp only [seqM, List.nil_append]; rcases seqM b s with ⟨_ | ⟨⟨⟩⟩, _⟩ <;> rfl
  | cons x r ih =>
    simp only [seqM, List.cons_append] at ih ⊢
    rcases x s with ⟨_ | ⟨⟨⟩⟩, s1⟩
    · rfl
    · exact ih s1

theorem yields_svcs (l : List Svc) : ∀ s, NoFail s → PreSvcs s.mem l → Yields (seqM (l.map Svc.run)) s (applySvcs s.mem l) := by
  induction l with
  | nil => intro s h _; exact yields_seq_nil s h
  | cons f r ih =>
    intro s h hp
    refine yields_seq_cons _ _ s (f.upd s.mem) _ (yields_run f s h hp.1) ?_
    intro s1 e1 n1
    have := ih s1 n1 (by rw [e1]; exact hp.2)
    rw [e1] at this; exact this

theorem applySvcs_append (m : Mem) (a b : List Svc) : applySvcs m (a ++ b) = applySvcs (applySvcs m a) b := by
  induction a generalizing m with
  | nil => rfl
  | cons f r ih => simp [applySvcs, ih]

theorem preSvcs_append (m : Mem) (a b : List Svc) : PreSvcs m (a ++ b) ↔ PreSvcs m a ∧ PreSvcs (applySvcs m a) b := by
  induction a generalizing m with
  | nil => simp [PreSvcs, applySvcs]
  | cons f r ih => simp [PreSvcs, applySvcs, ih, and_assoc]

namespace IdList
variable (L : IdList)

theorem adds (l : List Id) : ∀ m, (L.get m).isSome →
    PreSvcs m (l.map L.add) ∧ applySvcs m (l.map L.add) = L.upd m (· ++ l) := by
  induction l with
  | nil => intro m _; exact ⟨trivial, (L.upd_self m _ fun l _ => l.append_nil).symm⟩
  | cons x r ih =>
    intro m hm
    obtain ⟨a, b⟩ := ih ((L.add x).upd m) (by rw [L.add_upd, L.get_upd, Option.isSome_map]; exact hm)
    refine ⟨⟨L.add_pre m x hm, a⟩, ?_⟩
    rw [List.map_cons, applySvcs, b, L.add_upd, L.upd_upd]
    congr 1; funext l; simp

theorem rems (l : List Id) : ∀ m, L.get m = some l →
    PreSvcs m (l.map L.rem) ∧ applySvcs m (l.map L.rem) = L.upd m (fun _ => []) := by
  induction l with
  | nil => intro m hm; exact ⟨trivial, (L.upd_self m _ fun l h => by rw [hm] at h; cases h; rfl).symm⟩
  | cons x r ih =>
    intro m hm
    obtain ⟨a, b⟩ := ih ((L.rem x).upd m) (by rw [L.rem_upd, L.get_upd, hm]; simp)
    refine ⟨⟨L.rem_pre m x _ hm List.mem_cons_self, a⟩, ?_⟩
    rw [List.map_cons, applySvcs, b, L.rem_upd, L.upd_upd]

theorem yields_reset (s : St) (h : NoFail s) (l l' : List Id) (hl : L.get s.mem = some l) :
    ∃ s', (if l = l' then (.ok (), s)
           else seqM (l.map (fun x => (L.rem x).run) ++ l'.map (fun x => (L.add x).run)) s) = (.ok (), s') ∧
      s'.mem = L.upd s.mem (fun _ => l') ∧ NoFail s' := by
  by_cases heq : l = l'
  · exact ⟨s, if_pos heq, (L.upd_self _ _ fun k hk => by rw [hl] at hk; cases hk; exact heq.symm).symm, h⟩
  · obtain ⟨a1, b1⟩ := L.rems l s.mem hl
    obtain ⟨a2, b2⟩ := L.adds l' (L.upd s.mem fun _ => []) (by rw [L.get_upd, hl]; rfl)
    have := yields_svcs (l.map L.rem ++ l'.map L.add) s h (by rw [preSvcs_append, b1]; exact ⟨a1, a2⟩)
    rw [applySvcs_append, b1, b2, L.upd_upd, List.map_append, List.map_map, List.map_map] at this
    rw [if_neg heq]; exact this

end IdList

def ids (l : List ProcCfg) : List Id := l.map (·.id)
def cids (l : List ConnCfg) : List Id := l.map (·.id)

/-- effect on memory of a successful action (no store failure). -/
def Act.eff (v : Variant) : Act → Mem → Mem
  | .createPl c prov, m =>
    { m with pls := m.pls.set c.id { name := c.name, desc := c.desc, status := 3, prov, dlq := c.dlq,
                                     conns := cids c.conns, procs := ids c.procs },
             names := setName m.names c.name true }
  | .deletePl c _, m => (svcPlDelete c.id).upd m
  | .updatePl _ n, m =>
    match m.pls n.id with
    | none => m
    | some p =>
      { m with pls := m.pls.set n.id { p with name := n.name, desc := n.desc, dlq := n.dlq,
                                              conns := cids n.conns, procs := ids n.procs },
               names := setName (setName m.names p.name false) n.name true }
  | .createCn c pid, m =>
    { m with cns := m.cns.set c.id { typ := c.typ, plugin := c.plugin, name := c.name, settings := c.settings,
                                     pipeline := pid, prov := 1, state := 0, procs := ids c.procs } }
  | .deleteCn c _, m => { m with cns := m.cns.del c.id }
  | .updateCn _ n, m =>
    m.updCn n.id fun r => { r with plugin := n.plugin, name := n.name, settings := n.settings, procs := ids n.procs }
  | .createPr c pt par, m =>
    { m with prs := m.prs.set c.id { plugin := c.plugin, settings := c.settings,
                                     workers := if c.workers = 0 then 1 else c.workers, cond := c.cond,
                                     ptype := pt, parent := par, prov := 1 } }
  | .deletePr c _ _, m => { m with prs := m.prs.del c.id }
  | .updatePr _ n, m =>
    m.updPr n.id fun r => { r with plugin := n.plugin, settings := n.settings, workers := n.workers,
                                   cond := if v.condUpdated then n.cond else r.cond }

/-- what makes the action succeed when no store operation fails. -/
def Act.pre (v : Variant) : Act → Mem → Prop
  | .createPl c _, m => plValid m.names c.name = true ∧ dlqValid c.dlq = true
  | .deletePl _ _, _ => True
  | .updatePl _ n, m => ∃ p, m.pls n.id = some p ∧ n.name ≠ 0 ∧ ¬ (m.names n.name = true ∧ p.name ≠ n.name) ∧ dlqValid n.dlq = true
  | .createCn c _, _ => c.name ≠ 0 ∧ c.name ≠ 99 ∧ c.plugin ≠ 0 ∧ (c.typ = 1 ∨ c.typ = 2)
  | .deleteCn _ _, _ => True
  | .updateCn _ n, m => (m.cns n.id).isSome ∧ v.updConnCopies = true
  | .createPr c _ _, _ => 0 ≤ c.workers ∧ prPluginKnown c.plugin = true
  | .deletePr _ _ _, _ => True
  | .updatePr _ n, m => (m.prs n.id).isSome ∧ n.plugin ≠ 0

theorem yields_ignoreNf_del (f : Svc) (s : St) (h : NoFail s) (m' : Mem)
    (hpre : f.pre s.mem = none ∨ f.pre s.mem = some .nf)
    (h1 : f.pre s.mem = none → f.upd s.mem = m') (h2 : f.pre s.mem = some .nf → s.mem = m') :
    Yields (ignoreNf f.run) s m' := by
  rcases hpre with hp | hp
  · obtain ⟨s', e1, e2, e3⟩ := yields_run f s h hp
    exact ⟨s', by simp [ignoreNf, e1], by rw [e2]; exact h1 hp, e3⟩
  · exact ⟨s, by simp [ignoreNf, Svc.run_pre_err hp], h2 hp, h⟩

theorem yields_createPl (v : Variant) (c : PipeCfg) (prov : Nat) (s : St) (h : NoFail s)
    (hpre : Act.pre v (.createPl c prov) s.mem) : Yields (createPlDo v c prov) s (Act.eff v (.createPl c prov) s.mem) := by
  obtain ⟨hv, hd⟩ := hpre
  let L : List Svc := [svcPlCreate c.id c.name c.desc prov, svcPlUpdateDLQ v c.id c.dlq] ++
    (cids c.conns).map (plConns v c.id).add ++ (ids c.procs).map (plProcs v c.id).add
  have hL : createPlDo v c prov = seqM (L.map Svc.run) := by
    simp [createPlDo, L, cids, ids, plConns, plProcs, List.map_map, Function.comp_def]
  rw [hL]
  let p0 : Pl := { name := c.name, desc := c.desc, status := 3, prov, dlq := Dlq.default, conns := [], procs := [] }
  let m1 : Mem := { s.mem with pls := s.mem.pls.set c.id p0, names := setName s.mem.names c.name true }
  have e1 : (svcPlCreate c.id c.name c.desc prov).upd s.mem = m1 := rfl
  have hp1 : m1.pls c.id = some p0 := by simp [m1, Map.set]
  let m2 : Mem := m1.updPl c.id fun p => { p with dlq := c.dlq }
  have e2 : (svcPlUpdateDLQ v c.id c.dlq).upd m1 = m2 := rfl
  obtain ⟨a3, b3⟩ := (plConns v c.id).adds (cids c.conns) m2 (by simp [plConns, m2, updPl_pls, hp1])
  obtain ⟨a4, b4⟩ := (plProcs v c.id).adds (ids c.procs) ((plConns v c.id).upd m2 (· ++ cids c.conns))
    (by simp [plProcs, plConns, m2, updPl_pls, hp1])
  have hpreL : PreSvcs s.mem L := by
    simp only [L, List.append_assoc, List.cons_append, List.nil_append, PreSvcs]
    refine ⟨by simp [svcPlCreate, hv], ?_⟩
    rw [e1]
    refine ⟨by simp [svcPlUpdateDLQ, hp1, hd], ?_⟩
    rw [e2, preSvcs_append]
    exact ⟨a3, by rw [b3]; exact a4⟩
  have heff : applySvcs s.mem L = Act.eff v (.createPl c prov) s.mem := by
    simp only [L, List.append_assoc, List.cons_append, List.nil_append, applySvcs]
    rw [e1, e2, applySvcs_append, b3, b4]
    simp only [plConns, plProcs, m2, updPl_comp]
    rw [updPl_eq m1 c.id _ p0 hp1]
    simp [m1, Act.eff, Map.set_set, p0]
  have := yields_svcs L s h hpreL
  rw [heff] at this; exact this

/-- the "re-create an id list of the pipeline" step of `updatePipelineAction.update`, for the list `g` reads. -/
theorem IdList.yields_plStep (L : IdList) (id : Id) (g : Pl → List Id) (hg : ∀ m, L.get m = (m.pls id).map g)
    {γ} (key : γ → Id) (cs : List γ) (s : St) (h : NoFail s) (hs : (s.mem.pls id).isSome) :
    Yields (fun s =>
      match s.mem.pls id with
      | none => (.error .nf, s)
      | some p =>
        if g p = cs.map key then (.ok (), s)
        else seqM ((g p).map (fun x => (L.rem x).run) ++ cs.map (fun x => (L.add (key x)).run)) s) s
      (L.upd s.mem fun _ => cs.map key) := by
  cases hp : s.mem.pls id with
  | none => simp [hp] at hs
  | some p =>
    obtain ⟨s', e⟩ := L.yields_reset s h (g p) (cs.map key) (by rw [hg, hp]; rfl)
    exact ⟨s', by simpa only [hp, List.map_map, Function.comp_def] using e⟩

theorem yields_updatePl (v : Variant) (o n : PipeCfg) (s : St) (h : NoFail s)
    (hpre : Act.pre v (.updatePl o n) s.mem) : Yields (updatePlRun v n) s (Act.eff v (.updatePl o n) s.mem) := by
  obtain ⟨p, hp, hn0, hnm, hd⟩ := hpre
  unfold updatePlRun
  let m1 : Mem := { s.mem with pls := s.mem.pls.set n.id { p with name := n.name, desc := n.desc },
                               names := setName (setName s.mem.names p.name false) n.name true }
  have e1 : (svcPlUpdate v n.id n.name n.desc).upd s.mem = m1 := by simp only [svcPlUpdate, hp, m1]
  have hpre1 : (svcPlUpdate v n.id n.name n.desc).pre s.mem = none := by
    simp only [svcPlUpdate, hp, hn0, if_false]
    by_cases hx : s.mem.names n.name = true
    · have : p.name = n.name := Decidable.byContradiction fun e => hnm ⟨hx, e⟩
      simp [hx, this]
    · simp [hx]
  have hp1 : m1.pls n.id = some { p with name := n.name, desc := n.desc } := by simp [m1, Map.set]
  refine yields_seq_cons _ _ s m1 _ (by rw [← e1]; exact yields_run _ s h hpre1) ?_
  intro s1 es1 n1
  let m2 : Mem := m1.updPl n.id fun q => { q with dlq := n.dlq }
  have hpre2 : (svcPlUpdateDLQ v n.id n.dlq).pre s1.mem = none := by rw [es1]; simp [svcPlUpdateDLQ, hp1, hd]
  refine yields_seq_cons _ _ s1 m2 _ (by
    have := yields_run (svcPlUpdateDLQ v n.id n.dlq) s1 n1 hpre2
    rw [es1] at this; exact this) ?_
  intro s2 es2 n2
  have hs2 : (s2.mem.pls n.id).isSome := by rw [es2]; simp [m2, updPl_pls, hp1]
  refine yields_seq_cons _ _ s2 (s2.mem.updPl n.id fun p => { p with conns := cids n.conns }) _
    ((plConns v n.id).yields_plStep n.id (·.conns) (fun _ => rfl) (·.id) n.conns s2 n2 hs2) ?_
  intro s3 es3 n3
  have hs3 : (s3.mem.pls n.id).isSome := by
    rw [es3, updPl_pls, Option.isSome_map]; exact hs2
  refine yields_seq_cons _ _ s3 (s3.mem.updPl n.id fun p => { p with procs := ids n.procs }) _
    ((plProcs v n.id).yields_plStep n.id (·.procs) (fun _ => rfl) (·.id) n.procs s3 n3 hs3) ?_
  intro s4 es4 n4
  refine ⟨s4, rfl, ?_, n4⟩
  rw [es4, es3, es2]
  simp only [m2, updPl_comp]
  rw [updPl_eq m1 n.id _ _ hp1]
  simp [m1, Act.eff, hp, Map.set_set]

theorem yields_createCn (v : Variant) (c : ConnCfg) (pid : Id) (s : St) (h : NoFail s)
    (hpre : Act.pre v (.createCn c pid) s.mem) : Yields (createCnDo v c pid) s (Act.eff v (.createCn c pid) s.mem) := by
  obtain ⟨h0, h99, hpl, ht⟩ := hpre
  let L : List Svc := svcCnCreate c.id c.typ c.plugin pid c.name c.settings 1 0 :: (ids c.procs).map (cnProcs v c.id).add
  have hL : createCnDo v c pid = seqM (L.map Svc.run) := by
    simp [createCnDo, L, ids, cnProcs, List.map_map, Function.comp_def]
  rw [hL]
  let c0 : Cn := { typ := c.typ, plugin := c.plugin, name := c.name, settings := c.settings, pipeline := pid,
                   prov := 1, state := 0, procs := [] }
  let m1 : Mem := { s.mem with cns := s.mem.cns.set c.id c0 }
  have e1 : (svcCnCreate c.id c.typ c.plugin pid c.name c.settings 1 0).upd s.mem = m1 := rfl
  have hc1 : m1.cns c.id = some c0 := by simp [m1, Map.set]
  obtain ⟨a2, b2⟩ := (cnProcs v c.id).adds (ids c.procs) m1 (by simp [cnProcs, hc1])
  have hpreL : PreSvcs s.mem L := by
    refine ⟨?_, by rw [e1]; exact a2⟩
    rcases ht with ht | ht <;> simp [svcCnCreate, h0, h99, hpl, ht]
  have heff : applySvcs s.mem L = Act.eff v (.createCn c pid) s.mem := by
    simp only [L, applySvcs]
    rw [e1, b2]; simp only [cnProcs]; rw [updCn_eq m1 c.id _ c0 hc1]
    simp [m1, Act.eff, Map.set_set, c0]
  have := yields_svcs L s h hpreL
  rw [heff] at this; exact this

theorem yields_updateCn (v : Variant) (o n : ConnCfg) (s : St) (h : NoFail s)
    (hpre : Act.pre v (.updateCn o n) s.mem) : Yields (updateCnRun v n) s (Act.eff v (.updateCn o n) s.mem) := by
  obtain ⟨hsome, hcopies⟩ := hpre
  cases hc : s.mem.cns n.id with
  | none => simp [hc] at hsome
  | some r =>
    unfold updateCnRun
    let m1 : Mem := s.mem.updCn n.id fun r => { r with plugin := n.plugin, name := n.name, settings := n.settings }
    have hpre1 : (svcCnUpdate v n.id n.plugin n.name n.settings).pre s.mem = none := by simp [svcCnUpdate, preHasCn, hc]
    refine yields_seq_cons _ _ s m1 _ (yields_run _ s h hpre1) ?_
    intro s1 es1 n1
    let r1 : Cn := { r with plugin := n.plugin, name := n.name, settings := n.settings }
    have hc1 : s1.mem.cns n.id = some r1 := by rw [es1]; simp [m1, updCn_cns, hc, r1]
    have hfin : Act.eff v (.updateCn o n) s.mem = s1.mem.updCn n.id fun q => { q with procs := ids n.procs } := by
      rw [es1]; simp only [m1, updCn_comp, Act.eff]
    rw [hfin]
    refine yields_seq_cons _ _ s1 _ _ ?_ (fun s2 es2 n2 => ⟨s2, rfl, es2, n2⟩)
    obtain ⟨s2, e⟩ := (cnProcs v n.id).yields_reset s1 n1 r1.procs (ids n.procs) (by simp [cnProcs, hc1])
    exact ⟨s2, by simpa only [hc1, hcopies, if_true, seqM_pair, ids, cnProcs, List.map_map, Function.comp_def] using e⟩

theorem act_yields (v : Variant) (a : Act) (s : St) (h : NoFail s) (hpre : a.pre v s.mem) :
    Yields (a.run v) s (a.eff v s.mem) := by
  cases a with
  | createPl c prov => exact yields_createPl v c prov s h hpre
  | deletePl c prov =>
    simp only [Act.run, createPlUndo, Act.eff]
    refine yields_ignoreNf_del _ s h _ ?_ (fun _ => rfl) ?_
    · cases hp : s.mem.pls c.id <;> simp [svcPlDelete, preHasPl, hp]
    · intro hn
      cases hp : s.mem.pls c.id with
      | none => simp [svcPlDelete, hp]
      | some p => simp [svcPlDelete, preHasPl, hp] at hn
  | updatePl o n => exact yields_updatePl v o n s h hpre
  | createCn c pid => exact yields_createCn v c pid s h hpre
  | deleteCn c pid =>
    simp only [Act.run, createCnUndo, Act.eff]
    refine yields_ignoreNf_del _ s h _ ?_ (fun _ => rfl) ?_
    · cases hp : s.mem.cns c.id <;> simp [svcCnDelete, preHasCn, hp]
    · intro hn
      cases hp : s.mem.cns c.id with
      | none => exact Mem.ext' rfl (Map.del_none _ _ hp).symm rfl rfl
      | some p => simp [svcCnDelete, preHasCn, hp] at hn
  | updateCn o n => exact yields_updateCn v o n s h hpre
  | createPr c pt par =>
    obtain ⟨hw, hk⟩ := hpre
    simp only [Act.run, createPrDo]
    have : (svcPrCreate c.id c.plugin pt par c.settings c.workers 1 c.cond).pre s.mem = none := by
      simp [svcPrCreate, hk, Int.not_lt.2 hw]
    exact yields_run _ s h this
  | deletePr c pt par =>
    simp only [Act.run, createPrUndo, Act.eff]
    refine yields_ignoreNf_del _ s h _ ?_ (fun _ => rfl) ?_
    · cases hp : s.mem.prs c.id <;> simp [svcPrDelete, preHasPr, hp]
    · intro hn
      cases hp : s.mem.prs c.id with
      | none => exact Mem.ext' rfl rfl (Map.del_none _ _ hp).symm rfl
      | some p => simp [svcPrDelete, preHasPr, hp] at hn
  | updatePr o n =>
    obtain ⟨hs, hg⟩ := hpre
    simp only [Act.run, updatePrRun]
    have hp : (svcPrUpdate v n.id n.plugin n.settings n.workers (if v.condUpdated then some n.cond else none)).pre s.mem = none := by
      cases hr : s.mem.prs n.id with
      | none => simp [hr] at hs
      | some r => simp [svcPrUpdate, hr, hg]
    have := yields_run _ s h hp
    have he : (svcPrUpdate v n.id n.plugin n.settings n.workers (if v.condUpdated then some n.cond else none)).upd s.mem
        = Act.eff v (.updatePr o n) s.mem := by
      simp only [svcPrUpdate, Act.eff]
      cases v.condUpdated <;> rfl
    rw [he] at this; exact this

/-- memory after a list of actions, and what makes all of them succeed. -/
def effAll (v : Variant) (m : Mem) : List Act → Mem
  | [] => m
  | a :: r => effAll v (a.eff v m) r

def PreAll (v : Variant) (m : Mem) : List Act → Prop
  | [] => True
  | a :: r => a.pre v m ∧ PreAll v (a.eff v m) r

theorem effAll_append (v : Variant) (m : Mem) (a b : List Act) : effAll v m (a ++ b) = effAll v (effAll v m a) b := by
  induction a generalizing m with
  | nil => rfl
  | cons x r ih => simp [effAll, ih]

theorem preAll_append (v : Variant) (m : Mem) (a b : List Act) :
    PreAll v m (a ++ b) ↔ PreAll v m a ∧ PreAll v (effAll v m a) b := by
  induction a generalizing m with
  | nil => simp [PreAll, effAll]
  | cons x r ih => simp [PreAll, effAll, ih, and_assoc]

theorem execActs_yields (v : Variant) (acts : List Act) : ∀ (done : List Act) (s : St), NoFail s → PreAll v s.mem acts →
    ∃ s' d, execActs v acts done s = (none, d, s') ∧ s'.mem = effAll v s.mem acts ∧ NoFail s' := by
  induction acts with
  | nil => intro done s h _; exact ⟨s, done, rfl, rfl, h⟩
  | cons a r ih =>
    intro done s h hp
    obtain ⟨s1, e1, e2, e3⟩ := act_yields v a s h hp.1
    obtain ⟨s2, d, f1, f2, f3⟩ := ih (a :: done) s1 e3 (by rw [e2]; exact hp.2)
    exact ⟨s2, d, by simp only [execActs, e1]; exact f1, by rw [f2, e2]; rfl, f3⟩

theorem importPipeline_yields (v : Variant) (c : PipeCfg) (prov : Nat) (s : St) (old : Option PipeCfg)
    (h : NoFail s) (hex : exportPl v s.mem c.id = .ok old) (hp : PreAll v s.mem (build v prov old c)) :
    Yields (importPipeline v c prov) s (effAll v s.mem (build v prov old c)) := by
  obtain ⟨s', d, e1, e2, e3⟩ := execActs_yields v (build v prov old c) [] s h hp
  refine ⟨s', ?_, e2, e3⟩
  unfold importPipeline; rw [hex]; simp only [e1]

end Conduit.Ctl
