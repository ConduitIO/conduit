import ConduitModel.Proofs.MonView

/-!
# Justified acknowledgements add no violation

`AckJust tree μ ρ` — the record with root `ρ` may be acknowledged in monitor state `μ`: its DLQ write
was confirmed, or it is clean, was never written to the DLQ, and every destination of the tree
confirmed it or it was filtered. `foldl_ackT_just`: acknowledging, in read order, records that are
all justified only pops `pending`.
-/
namespace Conduit.Funnel
open Conduit.Funnel.Mon

def AckJust (tree : TaskNode) (μ : TSt) (ρ : Nat) : Prop :=
  ρ ∈ μ.dlqOk ∨ (Clean μ ρ ∧ ρ ∉ μ.dlqAny ∧ viaDestsT tree μ ρ = true)

theorem failedPiece_false_of_clean {μ : TSt} {ρ : Nat} (h : Clean μ ρ) : failedPieceT μ ρ = false := by
  unfold failedPieceT
  rw [List.any_eq_false]
  intro e he
  by_cases hr : e.2.1 = ρ
  · have := h.2 e he hr
    simp [this]
  · simp [hr]

theorem ackViol_nil (tree : TaskNode) (μ : TSt) (p : PosV) (r : Rec) (rest : List Rec) (hp : μ.pending = r :: rest)
    (hk : keyOf r.pos = keyOf p) (hj : AckJust tree μ (root r)) : ackViol tree μ p = [] := by
  unfold ackViol
  rw [hp]
  simp only [hk, beq_self_eq_true, if_true, List.nil_append]
  rcases hj with hj | ⟨hc, hany, hv⟩
  · have : μ.dlqOk.contains (root r) = true := by simpa using hj
    simp only [this, Bool.not_true, Bool.and_false, Bool.false_eq_true, if_false, Bool.true_or, if_true, List.append_nil]
  · have h1 : μ.errored.contains (root r) = false := by simpa using hc.1
    have h2 := failedPiece_false_of_clean hc
    have h3 : μ.dlqAny.contains (root r) = false := by simpa using hany
    simp only [h1, h2, h3, hv, Bool.or_false, Bool.false_and, Bool.false_eq_true, if_false, Bool.or_true, if_true,
      List.append_nil]

/-- acknowledging justified records in read order only pops `pending` -/
theorem foldl_ackT_just (tree : TaskNode) (ps : List PosV) (μ : TSt)
    (h : ∀ (q : Nat) (p : PosV), ps[q]? = some p →
      ∃ r, μ.pending[q]? = some r ∧ keyOf r.pos = keyOf p ∧ AckJust tree μ (root r)) :
    ps.foldl (ackT tree) μ = { μ with pending := μ.pending.drop ps.length } := by
  obtain ⟨l, rfl, e⟩ := foldl_ackT tree (· = []) rfl (fun a b ha hb => by rw [ha, hb]; rfl) ps μ (fun q p hq => by
    obtain ⟨r, hr, hk, hj⟩ := h q p hq
    obtain ⟨hlt, rfl⟩ := List.getElem?_eq_some_iff.mp hr
    exact ackViol_nil tree _ p _ _ (List.drop_eq_getElem_cons hlt) hk hj)
  rw [e, List.append_nil]

end Conduit.Funnel
