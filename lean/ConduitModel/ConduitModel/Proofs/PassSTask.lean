import ConduitModel.Proofs.PassSVote
import ConduitModel.Proofs.PassSShape
import ConduitModel.Proofs.BatchRows

/-!
# Tasks on batches with split runs

`taskDo` keeps the ledger accounting (`SInv`) and the forwarded keys `fk` of the batch: a
`SplitRecord` replaces a piece by pieces of one run (a fresh run for a record without run), and
`total` grows by exactly the number of new pieces.
-/
namespace Conduit.Funnel

theorem fk_split_existing (h h' : Heap) (rest : Nat → Nat) (A B : List Piece) (rid k : Nat) (q : PosV)
    (ho : ∀ r : Nat, (h'[r]!).origPos = (h[r]!).origPos) :
    fk h' rest (A ++ (some rid, q) :: (List.replicate k (some rid, none) ++ B)) =
      fk h rest (A ++ (some rid, q) :: B) := by
  rw [fk_congr h h' rest _ (fun r _ => ho r)]
  rw [fk_append, fk_append]
  have hX' : fk h rest ((some rid, q) :: (List.replicate k (some rid, none) ++ B)) =
      (if cnt rid B = 0 ∧ rest rid = 0 then [keyOf (h[rid]!).origPos] else []) ++ fk h rest B := by
    have := fk_group h rest rid ((some rid, q) :: List.replicate k (some rid, none)) (by simp)
      (by intro x hx
          rcases List.mem_cons.mp hx with h | h
          · rw [h]
          · rw [(List.mem_replicate.mp h).2]) B
    simpa using this
  have hX : fk h rest ((some rid, q) :: B) =
      (if cnt rid B = 0 ∧ rest rid = 0 then [keyOf (h[rid]!).origPos] else []) ++ fk h rest B := rfl
  rw [hX', hX]
  congr 1
  apply fk_rest_congr h
  intro r _
  simp only [cnt_cons_some, cnt_append]
  by_cases hr : r = rid
  · subst hr; simp
  · rw [cnt_replicate_other r rid k hr]; simp [Ne.symm hr]

theorem fk_split_new (h h' : Heap) (rest : Nat → Nat) (A B : List Piece) (rid k : Nat) (q : PosV)
    (hA : cnt rid A = 0) (hB : cnt rid B = 0) (hrest : rest rid = 0) (hq : (h'[rid]!).origPos = q)
    (ho : ∀ r : Nat, r ≠ rid → (h'[r]!).origPos = (h[r]!).origPos) :
    fk h' rest (A ++ (some rid, q) :: (List.replicate k (some rid, none) ++ B)) =
      fk h rest (A ++ (none, q) :: B) := by
  rw [fk_append, fk_append]
  have hX' : fk h' rest ((some rid, q) :: (List.replicate k (some rid, none) ++ B)) =
      keyOf q :: fk h' rest B := by
    have := fk_group h' rest rid ((some rid, q) :: List.replicate k (some rid, none)) (by simp)
      (by intro x hx
          rcases List.mem_cons.mp hx with h | h
          · rw [h]
          · rw [(List.mem_replicate.mp h).2]) B
    rw [List.cons_append] at this
    rw [this, if_pos ⟨hB, hrest⟩, hq]; rfl
  have hBk : fk h' rest B = fk h rest B :=
    fk_congr h h' rest B (fun r hr => ho r (by intro he; rw [he, hB] at hr; omega))
  rw [hX', hBk]
  have hX : fk h rest ((none, q) :: B) = keyOf q :: fk h rest B := rfl
  rw [hX]
  congr 1
  rw [fk_congr h h' _ A (fun r hr => ho r (by intro he; rw [he, hA] at hr; omega))]
  apply fk_rest_congr h
  intro r hr
  have hne : r ≠ rid := by intro he; rw [he, hA] at hr; omega
  simp only [cnt_cons_some, cnt_cons_none, cnt_append]
  rw [cnt_replicate_other r rid k hne]; simp [Ne.symm hne]

/-- the invariant of a batch with split runs, relative to the heap and to the pieces `rest` outside the batch -/
structure SInv (h : Heap) (rest : Nat → Nat) (b : Batch) : Prop where
  wf : b.WF h
  ne : NE b.st
  runs : ∃ rs, b.runs = some rs
  nopos : ∀ x ∈ b.view, x.1 = none → x.2 ≠ none
  acc : Acc h rest b.view
  restok : ∀ r : Nat, h.size ≤ r → rest r = 0
  shape : ∃ (prev : Option Nat) (seen : List Nat), ShapeFrom h prev seen b.view ∧
    (∀ r : Nat, prev = some r → r ∈ seen) ∧ (∀ r ∈ seen, r < h.size)
  headless : ∀ (r : Nat) (t : List Piece), b.view = (some r, none) :: t → 0 < (h[r]!).terminal

/-- what a task step does to the heap and the pieces -/
structure SStep (h : Heap) (b : Batch) (h' : Heap) (b' : Batch) (rest : Nat → Nat) : Prop where
  inv : SInv h' rest b'
  fkeq : fk h' rest b'.view = fk h rest b.view
  hsize : h.size ≤ h'.size
  hframe : ∀ rid : Nat, rid < h.size → cnt rid b.view = 0 → h'[rid]! = h[rid]! ∧ cnt rid b'.view = 0
  horig : ∀ rid : Nat, rid < h.size → (h'[rid]!).origPos = (h[rid]!).origPos
  mono : ∀ rid : Nat, cnt rid b.view ≤ cnt rid b'.view

def SRel (x y : Heap × Batch) : Prop := ∀ rest : Nat → Nat, SInv x.1 rest x.2 → SStep x.1 x.2 y.1 y.2 rest

theorem SRel.refl (x : Heap × Batch) : SRel x x :=
  fun _ hi => ⟨hi, rfl, Nat.le_refl _, fun _ _ hc => ⟨rfl, hc⟩, fun _ _ => rfl, fun _ => Nat.le_refl _⟩

theorem SRel.trans (x y z : Heap × Batch) (h1 : SRel x y) (h2 : SRel y z) : SRel x z := by
  intro rest hi
  have s1 := h1 rest hi
  have s2 := h2 rest s1.inv
  refine ⟨s2.inv, s2.fkeq.trans s1.fkeq, Nat.le_trans s1.hsize s2.hsize, ?_, ?_, fun rid => Nat.le_trans (s1.mono rid) (s2.mono rid)⟩
  · intro rid hlt hc
    obtain ⟨a1, a2⟩ := s1.hframe rid hlt hc
    obtain ⟨b1, b2⟩ := s2.hframe rid (Nat.lt_of_lt_of_le hlt s1.hsize) a2
    exact ⟨b1.trans a1, b2⟩
  · intro rid hlt
    rw [s2.horig rid (Nat.lt_of_lt_of_le hlt s1.hsize), s1.horig rid hlt]

theorem SRel.of_fr {h : Heap} {b b' : Batch} (hf : Fr b b') (hwf : b'.WF h) : SRel (h, b) (h, b') := by
  intro rest hi
  have hv : b'.view = b.view := by unfold Batch.view; rw [hf.runs, hf.pos]
  exact ⟨⟨hwf, hf.ne hi.ne, by rw [hf.runs]; exact hi.runs, by rw [hv]; exact hi.nopos, by rw [hv]; exact hi.acc, hi.restok,
      by rw [hv]; exact hi.shape, by rw [hv]; exact hi.headless⟩,
    by rw [hv], Nat.le_refl _,
    fun _ _ hc => ⟨rfl, by rw [hv]; exact hc⟩, fun _ _ => rfl, fun _ => by rw [hv]; exact Nat.le_refl _⟩

theorem acc_split_existing (h h' : Heap) (rest : Nat → Nat) (A B : List Piece) (rid k : Nat) (q : PosV)
    (hsz : h'.size = h.size) (hrid : h'[rid]! = { (h[rid]!) with total := (h[rid]!).total + k })
    (hoth : ∀ r : Nat, r ≠ rid → h'[r]! = h[r]!) (ha : Acc h rest (A ++ (some rid, q) :: B)) :
    Acc h' rest (A ++ (some rid, q) :: (List.replicate k (some rid, none) ++ B)) := by
  intro r hr
  simp only [cnt_append, cnt_cons_some] at hr
  by_cases hre : r = rid
  · subst hre
    obtain ⟨g1, g2⟩ := ha r (by simp only [cnt_append, cnt_cons_some]; simp; omega)
    refine ⟨by rw [hsz]; exact g1, ?_⟩
    rw [hrid]
    refine ⟨g2.rel, ?_, g2.nerr⟩
    have := g2.acc
    simp only [cnt_append, cnt_cons_some, cnt_replicate_same] at this ⊢
    show (h[r]!).terminal + _ = (h[r]!).total + k
    simp at this ⊢
    omega
  · rw [cnt_replicate_other r rid k hre] at hr
    obtain ⟨g1, g2⟩ := ha r (by simp only [cnt_append, cnt_cons_some]; omega)
    refine ⟨by rw [hsz]; exact g1, ?_⟩
    rw [hoth r hre]
    have e : cnt r (A ++ (some rid, q) :: (List.replicate k (some rid, none) ++ B)) = cnt r (A ++ (some rid, q) :: B) := by
      simp only [cnt_append, cnt_cons_some, cnt_replicate_other r rid k hre]; omega
    rw [e]; exact g2

theorem acc_split_new (h h' : Heap) (rest : Nat → Nat) (A B : List Piece) (rid k : Nat) (q : PosV)
    (hridsz : rid = h.size) (hsz : h'.size = h.size + 1)
    (hnew : (h'[rid]!).released = false ∧ (h'[rid]!).terminal = 0 ∧ (h'[rid]!).total = k + 1 ∧ (h'[rid]!).nacked = false)
    (hoth : ∀ r : Nat, r < h.size → h'[r]! = h[r]!) (hrest : rest rid = 0)
    (ha : Acc h rest (A ++ (none, q) :: B)) :
    Acc h' rest (A ++ (some rid, q) :: (List.replicate k (some rid, none) ++ B)) ∧ cnt rid A = 0 ∧ cnt rid B = 0 := by
  have h0 : cnt rid (A ++ (none, q) :: B) = 0 :=
    Nat.eq_zero_of_not_pos fun hc => Nat.lt_irrefl _ (hridsz ▸ (ha rid hc).1)
  simp only [cnt_append, cnt_cons_none] at h0
  have hA : cnt rid A = 0 := by omega
  have hB : cnt rid B = 0 := by omega
  refine ⟨?_, hA, hB⟩
  intro r hr
  simp only [cnt_append, cnt_cons_some] at hr
  by_cases hre : r = rid
  · subst hre
    refine ⟨by omega, hnew.1, ?_, fun hn => by rw [hnew.2.2.2] at hn; cases hn⟩
    simp only [cnt_append, cnt_cons_some, cnt_replicate_same, hA, hB, hrest, hnew.2.1, hnew.2.2.1]
    simp
  · rw [cnt_replicate_other r rid k hre] at hr
    have hne : ¬ rid = r := fun h => hre h.symm
    simp only [hne, if_false] at hr
    obtain ⟨g1, g2⟩ := ha r (by simp only [cnt_append, cnt_cons_none]; omega)
    refine ⟨by omega, ?_⟩
    rw [hoth r g1]
    have e : cnt r (A ++ (some rid, q) :: (List.replicate k (some rid, none) ++ B)) = cnt r (A ++ (none, q) :: B) := by
      simp only [cnt_append, cnt_cons_some, cnt_cons_none, cnt_replicate_other r rid k hre, hne, if_false]; omega
    rw [e]; exact g2

theorem heap_push_get_lt (h : Heap) (x : SplitRun) {i : Nat} (hi : i < h.size) : (h.push x)[i]! = h[i]! :=
  push_get_lt h x hi

theorem splitRecord_srel {h h' : Heap} {b b' : Batch} {i : Nat} {recs : List Rec} (hrec : 1 ≤ recs.length)
    (hr : b.splitRecord h i recs = .ok (h', b')) : SRel (h, b) (h', b') := by
  intro rest hi
  show SStep h b h' b' rest
  have hi : SInv h rest b := hi
  obtain ⟨rs, hruns⟩ := hi.runs
  have E := splitRecord_effect hi.wf hruns hrec hr
  obtain ⟨hsz, hframe, hkeep, hmono⟩ := E.frame
  obtain ⟨A, B, ro, q, rid, hv, hv', hoth, hcase, _⟩ := E.eff
  generalize recs.length - 1 = k at hv' hcase
  have hacc := hi.acc
  rw [hv] at hacc
  have hnopos : ∀ x ∈ b'.view, x.1 = none → x.2 ≠ none := by
    intro x hx hx1
    have hnp := hi.nopos
    rw [hv] at hnp
    rw [hv'] at hx
    simp only [List.mem_append, List.mem_cons, List.mem_replicate] at hx hnp
    rcases hx with hx | hx | hx | hx
    · exact hnp x (Or.inl hx) hx1
    · rw [hx] at hx1; cases hx1
    · rw [hx.2] at hx1; cases hx1
    · exact hnp x (Or.inr (Or.inr hx)) hx1
  have hheadless : ∀ (r : Nat) (t : List Piece), b'.view = (some r, none) :: t → 0 < (h'[r]!).terminal := by
    intro r t ht
    rw [hv'] at ht
    have hb : ∃ t0, b.view = (some r, none) :: t0 := by
      cases A with
      | nil =>
        simp only [List.nil_append, List.cons.injEq, Prod.mk.injEq, Option.some.injEq] at ht
        obtain ⟨⟨h1, h2⟩, _⟩ := ht
        rcases hcase with ⟨h3, _⟩ | ⟨_, h3, _⟩
        · exact ⟨B, by rw [hv, h3, h1, h2]; rfl⟩
        · exact absurd h2 h3
      | cons a A' =>
        simp only [List.cons_append, List.cons.injEq] at ht
        exact ⟨_, by rw [hv, List.cons_append, ht.1]⟩
    obtain ⟨t0, hb⟩ := hb
    have hlt : r < h.size := (hi.acc r (by rw [hb, cnt_cons_some, if_pos rfl]; omega)).1
    rw [(hkeep r hlt).2]
    exact hi.headless r t0 hb
  obtain ⟨prev, seen, hsh, hp1, hp2⟩ := hi.shape
  rw [hv] at hsh
  -- what depends on whether the record's run existed: the accounting, the shape, the forwarded keys
  have hsplit : Acc h' rest b'.view ∧ (ShapeFrom h' prev seen b'.view ∧ ∀ r ∈ seen, r < h'.size) ∧
      fk h' rest b'.view = fk h rest b.view := by
    rw [hv', hv]
    rcases hcase with ⟨rfl, hridlt, hsz', hget⟩ | ⟨rfl, hq, rfl, hsz', hnew, hnewo⟩
    · have horig : ∀ r : Nat, (h'[r]!).origPos = (h[r]!).origPos := fun r => by
        by_cases hne : r = rid
        · rw [hne, hget]
        · rw [hoth r hne]
      exact ⟨acc_split_existing h h' rest A B rid k q hsz' hget hoth hacc,
        ⟨shape_split_existing h h' prev seen A B rid k q horig hsh, fun r hr => by rw [hsz']; exact hp2 r hr⟩,
        fk_split_existing h h' rest A B rid k q horig⟩
    · have hr0 := hi.restok _ (Nat.le_refl _)
      have ho : ∀ r : Nat, r ≠ h.size → (h'[r]!).origPos = (h[r]!).origPos := fun r hne => by rw [hoth r hne]
      obtain ⟨ha', hcA, hcB⟩ := acc_split_new h h' rest A B h.size k q rfl hsz' hnew (fun r hr => hoth r (by omega)) hr0 hacc
      refine ⟨ha', ?_, fk_split_new h h' rest A B h.size k q hcA hcB hr0 hnewo ho⟩
      cases q with
      | none => exact absurd rfl hq
      | some kk =>
        exact ⟨shape_split_new h h' prev seen A B h.size k kk hcA hcB (fun hm => by have := hp2 _ hm; omega) hnewo ho hsh,
          fun r hr => by have := hp2 r hr; omega⟩
  exact ⟨⟨E.wf, E.ne hi.ne, E.runs, hnopos, hsplit.1, fun r hr => hi.restok r (by omega),
      ⟨prev, seen, hsplit.2.1.1, hp1, hsplit.2.1.2⟩, hheadless⟩,
    hsplit.2.2, hsz, hframe, fun r hlt => (hkeep r hlt).1, hmono⟩

theorem SRel.of_fr' {h h' : Heap} {b b' : Batch} (hf : b.WF h → h' = h ∧ Fr b b' ∧ b'.WF h) : SRel (h, b) (h', b') :=
  fun rest hi => by obtain ⟨rfl, hf, hw⟩ := hf hi.wf; exact SRel.of_fr hf hw rest hi

theorem SRel.procRel : ProcRel SRel (fun _ => True) :=
  ⟨SRel.refl, SRel.trans, fun _ _ _ _ => SRel.of_fr', fun _ _ _ _ _ _ _ hrec => splitRecord_srel hrec⟩

/-- a task, whatever it returns: it is quiet, and the ledger moved with the batch (`SStep`) as far as
the task got — to the batch it returns, when it returns. -/
def TaskOut (s : PS) (b : Batch) (rest : Nat → Nat) (r : Except Stop Batch) (s' : PS) : Prop :=
  Q s s' ∧ ∃ b', SStep s.heap b s'.heap b' rest ∧ ∀ b1, r = .ok b1 → b1 = b'

theorem TaskOut.ok {s s' : PS} {b b1 : Batch} {rest : Nat → Nat} {r : Except Stop Batch} (h : TaskOut s b rest r s')
    (hr : r = .ok b1) : SStep s.heap b s'.heap b1 rest := by
  obtain ⟨_, b', hs, hb'⟩ := h
  rw [hb' b1 hr]; exact hs

theorem procDo_sspec (task : Nat) (b : Batch) (s s' : PS) (r : Except Stop Batch) (rest : Nat → Nat)
    (hi : SInv s.heap rest b) (h : exec (procDo task b) s = (r, s')) : TaskOut s b rest r s' := by
  obtain ⟨hq, b', hrel, hb'⟩ := procDo_rel SRel.procRel (fun _ _ _ _ _ => trivial) h
  exact ⟨hq, b', hrel rest hi, hb'⟩

theorem destDo_sspec (task : Nat) (b : Batch) (s s' : PS) (r : Except Stop Batch) (rest : Nat → Nat)
    (hi : SInv s.heap rest b) (h : exec (destDo task b none) s = (r, s')) : TaskOut s b rest r s' := by
  obtain ⟨hq, hb'⟩ := destDo_fr hi.wf h
  refine ⟨hq.toQ, ?_⟩
  rw [hq.heap]
  cases r with
  | error e => exact ⟨b, SRel.refl (s.heap, b) rest hi, nofun⟩
  | ok b1 => exact ⟨b1, SRel.of_fr (hb' b1 rfl).1 (hb' b1 rfl).2 rest hi, fun _ e => by cases e; rfl⟩

theorem taskDo_sspec (node : TaskNode) (b : Batch) (s s' : PS) (r : Except Stop Batch) (rest : Nat → Nat)
    (hi : SInv s.heap rest b) (h : exec (taskDo node b) s = (r, s')) : TaskOut s b rest r s' := by
  unfold taskDo at h
  split at h
  · exact procDo_sspec _ b s s' r rest hi h
  · exact destDo_sspec _ b s s' r rest hi h
  · cases h
    exact ⟨Q.refl _, b, SRel.refl (s.heap, b) rest hi, fun _ e => by cases e; rfl⟩

end Conduit.Funnel
