import ConduitModel.Proofs.BatchBase

/-!
`SetRecords` (batch.go): the `findTo` bisection finds the end of a physically contiguous block of
active indices; `SetRecords(i, recs)` is total on a well-formed batch when `i + len(recs)` is
within the active records, keeps `len(records)` (hence the alignment invariant), writes `recs[k - i]`
at the physical index of active record `k` and nothing else (`SetRecs`, `setRecords_effect`; for any call
that returned: `setRecords_of_ok`, Proofs/BatchInv.lean).
-/
namespace Conduit.Funnel

/-- with enough fuel the bisection ends at a `t` in `[lo, hi)` where `P` holds and fails just after -/
theorem findToLoop_end (check : Nat → R Bool) (P : Nat → Bool) (fuel lo hi : Nat)
    (hc : ∀ t : Nat, lo < t → t < hi → check t = .ok (P t)) (hfuel : hi - lo ≤ fuel) (hlo : P lo = true) :
    ∃ t : Nat, findToLoop check fuel lo hi = .ok t ∧ lo ≤ t ∧ (lo < hi → t < hi) ∧ P t = true ∧
      (t + 1 < hi → P (t + 1) = false) := by
  induction fuel generalizing lo hi with
  | zero => exact ⟨lo, rfl, Nat.le_refl _, fun h => h, hlo, fun h => by omega⟩
  | succ fuel ih =>
    rw [findToLoop.eq_2]
    by_cases h : lo + 1 < hi
    · obtain ⟨mid, hmid, hm1, hm2⟩ : ∃ mid, (lo + hi) / 2 = mid ∧ lo < mid ∧ mid < hi :=
        ⟨_, rfl, by omega⟩
      simp only [h, if_true, hmid]
      clear hmid
      rw [hc _ hm1 hm2]
      simp only [bind, Except.bind]
      cases hp : P mid with
      | true =>
        simp only [if_true]
        obtain ⟨t, h1, h2, h3, h4, h5⟩ := ih mid hi (fun t ht1 ht2 => hc t (Nat.lt_trans hm1 ht1) ht2) (by omega) hp
        exact ⟨t, h1, Nat.le_trans (Nat.le_of_lt hm1) h2, fun _ => h3 hm2, h4, h5⟩
      | false =>
        simp only [Bool.false_eq_true, if_false]
        obtain ⟨t, h1, h2, h3, h4, h5⟩ := ih lo mid (fun t ht1 ht2 => hc t ht1 (Nat.lt_trans ht2 hm2)) (by omega) hlo
        have ht := h3 hm1
        refine ⟨t, h1, h2, fun _ => Nat.lt_trans ht hm2, h4, fun _ => ?_⟩
        by_cases h7 : t + 1 < mid
        · exact h5 h7
        · rw [show t + 1 = mid from Nat.le_antisymm ht (Nat.le_of_not_lt h7)]; exact hp
    · rw [if_neg h]
      exact ⟨lo, rfl, Nat.le_refl _, fun h => h, hlo, fun h' => absurd h' h⟩

theorem findToLoop_block (check : Nat → R Bool) (P : Nat → Bool) (fuel lo hi : Nat)
    (hc : ∀ t : Nat, lo < t → t < hi → check t = .ok (P t)) (hfuel : hi - lo ≤ fuel)
    (hmono : ∀ t t' : Nat, lo ≤ t → t ≤ t' → t' < hi → P t' = true → P t = true) (hlo : P lo = true) :
    ∃ t : Nat, findToLoop check fuel lo hi = .ok t ∧ lo ≤ t ∧ (lo < hi → t < hi) ∧
      ∀ s : Nat, lo ≤ s → s < hi → (P s = true ↔ s ≤ t) := by
  obtain ⟨t, h1, h2, h3, h4, h5⟩ := findToLoop_end check P fuel lo hi hc hfuel hlo
  refine ⟨t, h1, h2, h3, fun s hs1 hs2 => ⟨fun hs => ?_, fun hs => ?_⟩⟩
  · by_cases h : s ≤ t
    · exact h
    · have := hmono (t + 1) s (by omega) (by omega) hs2 hs
      rw [h5 (by omega)] at this
      exact absurd this (by simp)
  · exact hmono s t hs1 hs (h3 (by omega)) h4

theorem splice_eq {α} (out seg : List α) (a m : Nat) (hm : seg.length ≤ m) :
    out.take a ++ seg.take m ++ out.drop (a + min seg.length m) = out.take a ++ seg ++ out.drop (a + seg.length) := by
  rw [List.take_of_length_le hm, Nat.min_eq_left hm]

/-- `copy(out[a:a+m], seg)` keeps `len(out)`, however long `seg` is. -/
theorem copy_length {α} (out seg : List α) {a m : Nat} (h : a + m ≤ out.length) :
    (out.take a ++ seg.take m ++ out.drop (a + min seg.length m)).length = out.length := by
  simp only [List.length_append, List.length_take, List.length_drop]
  rw [Nat.min_eq_left (Nat.le_trans (Nat.le_add_right a m) h), Nat.min_comm m]
  exact Nat.add_sub_cancel' (Nat.le_trans (Nat.add_le_add_left (Nat.min_le_right _ _) a) h)

theorem splice_length {α} (out seg : List α) (a : Nat) (h : a + seg.length ≤ out.length) :
    (out.take a ++ seg ++ out.drop (a + seg.length)).length = out.length := by
  rw [← splice_eq out seg a seg.length (Nat.le_refl _)]
  exact copy_length _ _ h

theorem splice_getElem? {α} (out seg : List α) (a : Nat) (h : a + seg.length ≤ out.length) (q : Nat) :
    (out.take a ++ seg ++ out.drop (a + seg.length))[q]? =
      if a ≤ q ∧ q < a + seg.length then seg[q - a]? else out[q]? := by
  rw [List.append_assoc, List.getElem?_append]
  have hl : (out.take a).length = a := by simp; omega
  rw [hl]
  by_cases h1 : q < a
  · have : ¬ (a ≤ q ∧ q < a + seg.length) := by omega
    simp only [h1, this, if_true, if_false, List.getElem?_take]
  · simp only [h1, if_false]
    rw [List.getElem?_append]
    by_cases h2 : q - a < seg.length
    · have : a ≤ q ∧ q < a + seg.length := by omega
      simp only [h2, this, and_self, if_true]
    · have : ¬ (a ≤ q ∧ q < a + seg.length) := by omega
      simp only [h2, this, if_false, List.getElem?_drop]
      congr 1; omega

theorem pairwise_lt_add {l : List Nat} (hp : l.Pairwise (· < ·)) {i d a c : Nat}
    (h1 : l[i]? = some a) (h2 : l[i + d]? = some c) : a + d ≤ c := by
  induction d generalizing c with
  | zero => rw [Nat.add_zero, h1] at h2; injection h2 with h2; omega
  | succ d ih =>
    obtain ⟨hc, hc'⟩ := List.getElem?_eq_some_iff.mp h2
    have hd : i + d < l.length := by omega
    have := ih (List.getElem?_eq_getElem hd)
    have h3 := List.pairwise_iff_getElem.mp hp (i + d) (i + (d + 1)) hd hc (by omega)
    omega

theorem pairwise_contig {l : List Nat} (hp : l.Pairwise (· < ·)) {i d a : Nat}
    (h1 : l[i]? = some a) (h2 : l[i + d]? = some (a + d)) {k : Nat} (hk : k ≤ d) : l[i + k]? = some (a + k) := by
  have hk' : i + k < l.length := by have := (List.getElem?_eq_some_iff.mp h2).1; omega
  have hc := List.getElem?_eq_getElem hk'
  have g1 := pairwise_lt_add hp h1 hc
  have g2 := pairwise_lt_add hp (d := d - k) hc (by rw [show i + k + (d - k) = i + d by omega]; exact h2)
  rw [hc]; congr 1; omega

/-- the contiguity test of `findTo` -/
def contig (act : List Nat) (from_ aF t : Nat) : Bool :=
  decide (act[t]?.getD 0 - aF = t - from_ ∧ act[t]?.getD 0 ≥ aF)

theorem setRecords_go_step (act : List Nat) (fuel from_ : Nat) (recs out : List Rec) (aF : Nat)
    (he : recs ≠ []) (haF : act[from_]? = some aF) :
    Batch.setRecords.go act (fuel + 1) from_ recs out =
      (findToLoop (fun t => (idx act t "activeIndices[idx]").bind fun a => pure (decide (a - aF = t - from_ ∧ a ≥ aF)))
        (recs.length + 1) from_ (from_ + recs.length)).bind fun to =>
      (idx act to "activeIndices[to]").bind fun aT =>
        Batch.setRecords.go act fuel (to + 1) (recs.drop (to - from_ + 1))
          (out.take aF ++ (recs.take (to - from_ + 1)).take (aT + 1 - aF)
            ++ out.drop (aF + min (recs.take (to - from_ + 1)).length (aT + 1 - aF))) := by
  rw [Batch.setRecords.go.eq_2]
  have he' : recs.isEmpty = false := by simpa using he
  simp only [he', Bool.false_eq_true, if_false]
  rw [idx_eq_ok_iff.mpr haF]
  rfl

theorem findTo_segment (act : List Nat) {from_ aF n : Nat} (hn : 0 < n) (hfr : from_ + n ≤ act.length)
    (haF : act[from_]? = some aF) :
    ∃ d : Nat, d < n ∧ act[from_ + d]? = some (aF + d) ∧
      findToLoop (fun t => (idx act t "activeIndices[idx]").bind fun a => pure (decide (a - aF = t - from_ ∧ a ≥ aF)))
        (n + 1) from_ (from_ + n) = .ok (from_ + d) := by
  obtain ⟨to, hto, hto1, hto2, hto3, -⟩ := findToLoop_end
    (fun t => (idx act t "activeIndices[idx]").bind fun a => pure (decide (a - aF = t - from_ ∧ a ≥ aF)))
    (contig act from_ aF) (n + 1) from_ (from_ + n) (by
      intro t _ ht2
      have ht : t < act.length := by omega
      rw [idx_ok _ ht]
      simp [Except.bind, pure, Except.pure, ht, contig]) (by omega) (by simp [contig, haF])
  have hto2 := hto2 (by omega)
  obtain ⟨d, rfl⟩ := Nat.exists_eq_add_of_le hto1
  have ht : from_ + d < act.length := by omega
  refine ⟨d, by omega, ?_, hto⟩
  simp only [contig, List.getElem?_eq_getElem ht, Option.getD_some, decide_eq_true_eq, Nat.add_sub_cancel_left] at hto3
  rw [List.getElem?_eq_getElem ht]; congr 1; omega

theorem setRecords_go_spec (act : List Nat) (L : Nat) (hpw : act.Pairwise (· < ·)) (hL : ∀ p ∈ act, p < L)
    (fuel from_ : Nat) (recs out : List Rec) (hfuel : recs.length ≤ fuel)
    (hfr : from_ + recs.length ≤ act.length) (hout : out.length = L) :
    ∃ out' : List Rec, Batch.setRecords.go act fuel from_ recs out = .ok out' ∧ out'.length = L ∧
      (∀ k q : Nat, from_ ≤ k → k < from_ + recs.length → act[k]? = some q → out'[q]? = recs[k - from_]?) ∧
      (∀ x : Nat, (¬ ∃ k : Nat, from_ ≤ k ∧ k < from_ + recs.length ∧ act[k]? = some x) → out'[x]? = out[x]?) := by
  induction fuel generalizing from_ recs out with
  | zero =>
    have : recs = [] := List.length_eq_zero_iff.mp (by omega)
    subst this
    exact ⟨out, rfl, hout, fun k _ h1 h2 => absurd h2 (Nat.not_lt.mpr h1), fun _ _ => rfl⟩
  | succ fuel ih =>
    by_cases he : recs = []
    · subst he
      exact ⟨out, by rw [Batch.setRecords.go.eq_2]; rfl, hout, fun k _ h1 h2 => absurd h2 (Nat.not_lt.mpr h1),
        fun _ _ => rfl⟩
    · have hpos : 0 < recs.length := List.length_pos_iff.mpr he
      obtain ⟨aF, haF⟩ : ∃ aF : Nat, act[from_]? = some aF := ⟨_, List.getElem?_eq_getElem (by omega)⟩
      obtain ⟨d, hd, haT, hto⟩ := findTo_segment act hpos hfr haF
      rw [setRecords_go_step act fuel from_ recs out aF he haF, hto]
      simp only [Except.bind]
      rw [idx_eq_ok_iff.mpr haT, Nat.add_sub_cancel_left]
      dsimp only
      have hseg : (recs.take (d + 1)).length = d + 1 := List.length_take_of_le hd
      have hfit : aF + (recs.take (d + 1)).length ≤ out.length := by
        rw [hseg, hout]; exact hL _ (List.mem_of_getElem? haT)
      rw [splice_eq out _ aF _ (by rw [hseg, Nat.add_assoc, Nat.add_sub_cancel_left]; exact Nat.le_refl _)]
      obtain ⟨out', e, hlen, hin, hout'⟩ := ih (from_ + d + 1) (recs.drop (d + 1))
        (out.take aF ++ recs.take (d + 1) ++ out.drop (aF + (recs.take (d + 1)).length))
        (by rw [List.length_drop]
            exact Nat.sub_le_of_le_add (Nat.le_trans hfuel (Nat.add_le_add_left (Nat.le_add_left 1 d) fuel)))
        (by rw [List.length_drop, Nat.add_assoc from_, Nat.add_assoc, Nat.add_sub_cancel' hd]; exact hfr)
        (by rw [splice_length _ _ _ hfit]; exact hout)
      rw [List.length_drop, Nat.add_assoc from_, Nat.add_assoc, Nat.add_sub_cancel' hd] at hin hout'
      have hsp := splice_getElem? out (recs.take (d + 1)) aF hfit
      rw [hseg] at hsp hout'
      -- the segment is physically contiguous, and a later active index is physically beyond it
      have hcont : ∀ k : Nat, k ≤ d → act[from_ + k]? = some (aF + k) := fun k => pairwise_contig hpw haF haT
      have hlater : ∀ k q : Nat, from_ + (d + 1) ≤ k → act[k]? = some q → aF + d + 1 ≤ q := by
        intro k q hk hq
        obtain ⟨k', rfl⟩ := Nat.exists_eq_add_of_le hk
        have := pairwise_lt_add hpw (d := 1 + k') haT (by rw [← Nat.add_assoc, Nat.add_assoc from_]; exact hq)
        exact Nat.le_trans (Nat.add_le_add_left (Nat.le_add_right 1 k') (aF + d)) this
      refine ⟨out', e, hlen, ?_, ?_⟩
      · intro k q h1 h2 hq
        by_cases hkn : k ≤ from_ + d
        · obtain ⟨k', rfl⟩ := Nat.exists_eq_add_of_le h1
          have hk' : k' ≤ d := Nat.le_of_add_le_add_left hkn
          cases (hcont k' hk').symm.trans hq
          rw [hout' _ (fun ⟨k2, g1, _, g3⟩ =>
              absurd (Nat.le_trans (hlater k2 _ g1 g3) (Nat.add_le_add_left hk' aF)) (Nat.not_succ_le_self _)),
            hsp, if_pos ⟨Nat.le_add_right _ _, Nat.add_lt_add_left (Nat.lt_succ_of_le hk') aF⟩,
            Nat.add_sub_cancel_left, Nat.add_sub_cancel_left, List.getElem?_take, if_pos (Nat.lt_succ_of_le hk')]
        · rw [hin k q (Nat.lt_of_not_le hkn) h2 hq, List.getElem?_drop]
          congr 1
          omega
      · intro x hx
        rw [hout' x (fun ⟨k, g1, g2, g3⟩ => hx ⟨k, Nat.le_trans (Nat.le_add_right from_ (d + 1)) g1, g2, g3⟩),
          hsp, if_neg]
        intro ⟨h1, h2⟩
        obtain ⟨k, rfl⟩ := Nat.exists_eq_add_of_le h1
        have hk : k ≤ d := Nat.le_of_lt_succ (Nat.lt_of_add_lt_add_left h2)
        exact hx ⟨from_ + k, Nat.le_add_right _ _, Nat.add_lt_add_left (Nat.lt_of_le_of_lt hk hd) from_, hcont k hk⟩

theorem activeIdx_eq (b : Batch) :
    b.activeIdx = if b.filterCount = 0 then none else some (actList b.st) := rfl

def SetRecs (b : Batch) (i : Nat) (recs out : List Rec) : Prop :=
  out.length = b.recs.length ∧
    (∀ k q : Nat, i ≤ k → k < i + recs.length → (actList b.st)[k]? = some q → out[q]? = recs[k - i]?) ∧
    (∀ x : Nat, (¬ ∃ k : Nat, i ≤ k ∧ k < i + recs.length ∧ (actList b.st)[k]? = some x) → out[x]? = b.recs[x]?)

theorem setRecords_effect {h : Heap} {b : Batch} (hwf : b.WF h) {i : Nat} {recs : List Rec}
    (hi : i + recs.length ≤ b.nAct) :
    ∃ out : List Rec, b.setRecords i recs = .ok { b with recs := out } ∧ SetRecs b i recs out := by
  have hfit : i + recs.length ≤ b.recs.length :=
    Nat.le_trans hi (hwf.1.st_len ▸ Nat.le.intro b.nAct_eq)
  unfold Batch.setRecords
  rw [activeIdx_eq]
  by_cases h0 : b.filterCount = 0
  · simp only [h0, if_true]
    rw [if_neg (Nat.not_lt.mpr (Nat.le_trans (Nat.le_add_right _ _) hfit))]
    have hact := actList_of_countFilter_zero (hwf.2.symm.trans h0)
    refine ⟨copyInto b.recs i recs, rfl, ?_⟩
    unfold copyInto
    rw [splice_eq _ _ _ _ (Nat.le_sub_of_add_le' hfit)]
    unfold SetRecs
    rw [hact]
    refine ⟨splice_length _ _ _ hfit, ?_, ?_⟩
    · intro k q h1 h2 hq
      have hk : k < b.st.length := by rw [hwf.1.st_len]; exact Nat.lt_of_lt_of_le h2 hfit
      cases (List.getElem?_range hk).symm.trans hq
      rw [splice_getElem? _ _ _ hfit, if_pos ⟨h1, h2⟩]
    · intro x hx
      rw [splice_getElem? _ _ _ hfit, if_neg]
      intro ⟨h1, h2⟩
      exact hx ⟨x, h1, h2, List.getElem?_range (by rw [hwf.1.st_len]; exact Nat.lt_of_lt_of_le h2 hfit)⟩
  · simp only [h0, if_false]
    obtain ⟨out, e, hS⟩ := setRecords_go_spec (actList b.st) b.recs.length (actList_pairwise _)
      (fun p hp => hwf.1.st_len ▸ (mem_actList.mp hp).1)
      (recs.length + 1) i recs b.recs (Nat.le_succ _) hi rfl
    exact ⟨out, by simp only [e, bind, Except.bind, pure, Except.pure], hS⟩

end Conduit.Funnel
