import ConduitModel.Model.SrcAck
import ConduitModel.Proofs.EventSys

/-!
M3 (source-ack / persister event system): `step` as a relation (`Step`); the three run functions as runs
of one guarded step function (`stepG`, over `Proofs/EventSys.lean`); `Ord m B`, what is stored, snapshotted,
committed and released ordered by a measure `m` — preserved by every mutator for one reason, and used at
the sequence number here and at the read position in `Proofs/SrcAckPos.lean`; and the invariant `Inv`,
which holds along every event list (no hypothesis on the Ack events).
-/
namespace Conduit.SrcAck

theorem getElem?_snoc_cases {α} {l : List α} {x y : α} {i : Nat} (h : (l ++ [x])[i]? = some y) :
    l[i]? = some y ∨ (y = x ∧ i = l.length) := by
  rw [List.getElem?_append] at h
  split at h
  · exact Or.inl h
  · rename_i hlt
    cases hh : i - l.length with
    | zero =>
      rw [hh] at h
      simp only [List.getElem?_cons_zero, Option.some.injEq] at h
      exact Or.inr ⟨h.symm, by omega⟩
    | succ n => rw [hh] at h; simp at h

theorem getElem?_set_cases {α} {l : List α} {x y : α} {i j : Nat} (h : (l.set i x)[j]? = some y) :
    (j ≠ i ∧ l[j]? = some y) ∨ (j = i ∧ y = x) := by
  rw [List.getElem?_set] at h
  split at h
  · rename_i heq
    split at h
    · simp only [Option.some.injEq] at h; exact Or.inr ⟨heq.symm, h.symm⟩
    · simp at h
  · rename_i hne
    exact Or.inl ⟨fun hh => hne hh.symm, h⟩

theorem forall_snoc {α} {l : List α} {x : α} {Q : Nat → α → Prop}
    (hold : ∀ (i : Nat) y, l[i]? = some y → Q i y) (hnew : Q l.length x) :
    ∀ (i : Nat) y, (l ++ [x])[i]? = some y → Q i y := by
  intro i y h
  rcases getElem?_snoc_cases h with h | ⟨rfl, rfl⟩
  · exact hold i y h
  · exact hnew

theorem forall_set {α} {l : List α} {x : α} {i : Nat} {Q : Nat → α → Prop}
    (hold : ∀ (j : Nat) y, j ≠ i → l[j]? = some y → Q j y) (hnew : Q i x) :
    ∀ (j : Nat) y, (l.set i x)[j]? = some y → Q j y := by
  intro j y h
  rcases getElem?_set_cases h with ⟨hne, h⟩ | ⟨rfl, rfl⟩
  · exact hold j y hne h
  · exact hnew

theorem forall_nil {α} {Q : Nat → α → Prop} (i : Nat) (y : α) (h : ([] : List α)[i]? = some y) : Q i y := by
  cases h

theorem getLast?_set {α} (l : List α) (i : Nat) (x : α) :
    (l.set i x).getLast? = if i + 1 = l.length then some x else l.getLast? := by
  rw [List.getLast?_eq_getElem?, List.getLast?_eq_getElem?, List.length_set, List.getElem?_set]
  by_cases h : i + 1 = l.length
  · have h1 : l.length - 1 = i := by omega
    have h2 : i < l.length := by omega
    simp [h, h1, h2]
  · simp only [h, if_false]
    by_cases h2 : i = l.length - 1
    · have : l.length = 0 := by omega
      have hl : l = [] := List.length_eq_zero_iff.mp this
      subst hl; simp
    · simp [h2]

theorem getLast?_set_cases {α} {l : List α} {i : Nat} {g x y : α} (hg : l[i]? = some g)
    (h : (l.set i x).getLast? = some y) :
    (y = x ∧ l.getLast? = some g ∧ i + 1 = l.length) ∨ (l.getLast? = some y ∧ i + 1 ≠ l.length) := by
  rw [getLast?_set] at h
  split at h
  · rename_i heq
    refine .inl ⟨(Option.some.inj h).symm, ?_, heq⟩
    rw [List.getLast?_eq_getElem?, show l.length - 1 = i by omega]; exact hg
  · exact .inr ⟨h, ‹_›⟩

theorem getLast?_set_some {α} {l : List α} {i : Nat} {g x : α} (g' : α) (hg : l[i]? = some g)
    (hx : l.getLast? = some x) : ((l.set i g').getLast? = some g' ∧ x = g) ∨ (l.set i g').getLast? = some x := by
  rw [getLast?_set]
  split
  · rw [List.getLast?_eq_getElem?, show l.length - 1 = i by omega, hg] at hx
    exact .inl ⟨rfl, (Option.some.inj hx).symm⟩
  · exact .inr hx

theorem set_ne_nil {α} {l : List α} {i : Nat} {g : α} (x : α) (hg : l[i]? = some g) : l.set i x ≠ [] := by
  intro h
  have := congrArg List.length h
  rw [List.length_set, List.length_nil] at this
  rw [List.length_eq_zero_iff.mp this] at hg; cases hg

theorem length_ne_zero_of_getLast? {α} {l : List α} {x : α} (h : l.getLast? = some x) : l.length ≠ 0 := by
  intro h0
  rw [List.length_eq_zero_iff.mp h0] at h; cases h

theorem foldl_max_le {l : List Nat} {b m : Nat} (hb : b ≤ m) (h : ∀ x ∈ l, x ≤ m) : l.foldl max b ≤ m := by
  induction l generalizing b with
  | nil => simpa using hb
  | cons x xs ih =>
    simp only [List.foldl_cons]
    apply ih
    · exact Nat.max_le.mpr ⟨hb, h x (List.mem_cons_self ..)⟩
    · intro y hy; exact h y (List.mem_cons_of_mem _ hy)

theorem drain_append (d : Nat) : ∀ l : List AckRec, (drain d l).1 ++ (drain d l).2 = l
  | [] => rfl
  | a :: rest => by
    unfold drain
    by_cases h : a.seq ≤ d
    · simp only [h, if_true, List.cons_append, drain_append d rest]
    · simp only [h, if_false, List.nil_append]

theorem drain_fst_le (d : Nat) : ∀ l : List AckRec, ∀ a ∈ (drain d l).1, a.seq ≤ d
  | [] => by intro a h; simp [drain] at h
  | b :: rest => by
    intro a h
    unfold drain at h
    by_cases hb : b.seq ≤ d
    · simp only [hb, if_true, List.mem_cons] at h
      rcases h with h | h
      · subst h; exact hb
      · exact drain_fst_le d rest a h
    · simp [hb] at h

theorem drain_all (d : Nat) : ∀ l : List AckRec, (∀ a ∈ l, a.seq ≤ d) → (drain d l).2 = []
  | [] => by intro _; rfl
  | b :: rest => by
    intro h
    unfold drain
    have hb : b.seq ≤ d := h b (List.mem_cons_self ..)
    simp only [hb, if_true]
    exact drain_all d rest (fun a ha => h a (List.mem_cons_of_mem _ ha))

theorem drain_snd_sub (d : Nat) (l : List AckRec) : ∀ a ∈ (drain d l).2, a ∈ l := by
  intro a h
  have := drain_append d l
  rw [← this]; exact List.mem_append_right _ h

theorem drain_fst_sub (d : Nat) (l : List AckRec) : ∀ a ∈ (drain d l).1, a ∈ l := by
  intro a h
  have := drain_append d l
  rw [← this]; exact List.mem_append_left _ h

theorem onFlushedOk_eq (s : St) (seq : Nat) :
    onFlushedOk s seq =
      { s with durable := if seq > s.durable then seq else s.durable,
               pending := (drain (if seq > s.durable then seq else s.durable) s.pending).2,
               deferred := if s.closed then s.deferred
                 else s.deferred ++ (drain (if seq > s.durable then seq else s.durable) s.pending).1,
               dropped := if s.closed
                 then s.dropped ++ (drain (if seq > s.durable then seq else s.durable) s.pending).1
                 else s.dropped } := by
  unfold onFlushedOk
  cases s.closed <;> rfl

/-- the callback of a generation: `onPersistFlushed` and the mark on the generation, in either order -/
theorem onFlushedOk_setGen (s : St) (i : Nat) (g : Gen) (q : Nat) :
    onFlushedOk (setGen s i g) q = setGen (onFlushedOk s q) i g := by
  rw [onFlushedOk_eq, onFlushedOk_eq]; rfl

inductive Step (c : Cfg) (s : St) : Ev → St → Prop
  | openPersist : s.alive → s.fresh → s.pluginUp → s.td = .idle → ¬ s.mustTrigger →
      Step c s .openPersist (persist c s none)
  | ackPanic (ps : List Pos) : s.alive → s.pluginUp → ¬ s.mustTrigger → ps.getLast? = none →
      Step c s (.ack ps) { s with alive := false }
  | ack (ps : List Pos) (last : Pos) : s.alive → s.pluginUp → ¬ s.mustTrigger → ps.getLast? = some last →
      Step c s (.ack ps)
        (persist c { s with nextSeq := s.nextSeq + 1, inst := ⟨s.nextSeq + 1, some last⟩,
                            pending := s.pending ++ [⟨s.nextSeq + 1, ps⟩],
                            ackedI := s.ackedI ++ [⟨s.nextSeq + 1, ps⟩],
                            handled := s.handled ++ ps } (some (s.nextSeq + 1)))
  | trigger (b : Stored × Option Nat) : s.batch = some b → s.alive → noWriting s →
      Step c s .trigger (doTrigger s b)
  | commit (g : Gen) : s.gens.getLast? = some g → s.alive → g.stat = .writing →
      Step c s (.flushRes .ok)
        { setGen s (s.gens.length - 1) { g with stat := .ok } with
            store := g.snap, commits := s.commits ++ [g.snap] }
  | flushFail (r : FlushRes) (g : Gen) : s.gens.getLast? = some g → s.alive → g.stat = .writing →
      r ≠ .ok → (r = .txFail → c.txFailCallbacks) →
      Step c s (.flushRes r) (setGen s (s.gens.length - 1) { g with stat := .failed })
  | flushTxFail (g : Gen) : s.gens.getLast? = some g → s.alive → g.stat = .writing → ¬ c.txFailCallbacks →
      Step c s (.flushRes .txFail) (setGen s (s.gens.length - 1) { g with stat := .txFailed })
  | callbackAck (i : Nat) (g : Gen) (seq : Nat) : s.gens[i]? = some g → s.alive → g.cbSt = .notRun →
      g.stat = .ok → g.cb = some seq →
      Step c s (.callback i) (onFlushedOk (setGen s i { g with cbSt := .done }) seq)
  | callbackOpen (i : Nat) (g : Gen) : s.gens[i]? = some g → s.alive → g.cbSt = .notRun →
      g.stat = .ok → g.cb = none →
      Step c s (.callback i) (setGen s i { g with cbSt := .done })
  | callbackFailed (i : Nat) (g : Gen) : s.gens[i]? = some g → s.alive → g.cbSt = .notRun →
      g.stat = .failed →
      Step c s (.callback i) (setGen s i { g with cbSt := .blocked })
  | errReadP (i : Nat) (g : Gen) : s.gens[i]? = some g → s.alive → g.cbSt = .blocked → g.stat = .failed →
      Step c s (.errReadP i) (setGen s i { g with cbSt := .done })
  | deliverOk (a : AckRec) (rest : List AckRec) : s.deferred = a :: rest → s.alive → ¬ s.dgDone →
      ¬ s.escalating → s.pluginUp → ¬ s.dgFailed → ¬ s.streamStopped →
      Step c s (.deliver true)
        { s with deferred := rest, delivered := s.delivered ++ [a],
                 deliveredI := s.deliveredI ++ [a], attempt := 0 }
  | deliverTornDown (a : AckRec) (rest : List AckRec) : s.deferred = a :: rest → s.alive → ¬ s.dgDone →
      ¬ s.escalating → s.pluginUp → ¬ s.dgFailed → s.streamStopped →
      Step c s (.deliver false) (dropHead c s a rest)
  | deliverExhausted (a : AckRec) (rest : List AckRec) : s.deferred = a :: rest → s.alive → ¬ s.dgDone →
      ¬ s.escalating → s.pluginUp → ¬ s.dgFailed → ¬ s.streamStopped → s.attempt + 1 ≥ c.maxRetries →
      Step c s (.deliver false) { dropHead c s a rest with escalating := ! s.tearing }
  | deliverRetry (a : AckRec) (rest : List AckRec) : s.deferred = a :: rest → s.alive → ¬ s.dgDone →
      ¬ s.escalating → s.pluginUp → ¬ s.dgFailed → ¬ s.streamStopped → ¬ s.attempt + 1 ≥ c.maxRetries →
      Step c s (.deliver false) { s with attempt := s.attempt + 1 }
  | backoffAbort (a : AckRec) (rest : List AckRec) : s.deferred = a :: rest → s.alive → ¬ s.dgDone →
      s.streamStopped → 0 < s.attempt →
      Step c s .backoffAbort (dropHead c s a rest)
  | discard (a : AckRec) (rest : List AckRec) : s.deferred = a :: rest → s.alive → ¬ s.dgDone →
      ¬ s.escalating → s.dgFailed →
      Step c s .discard (dropHead c s a rest)
  | errReadS : s.alive → s.escalating → Step c s .errReadS { s with escalating := false }
  | dgExit : s.alive → ¬ s.dgDone → s.closed → s.deferred = [] → ¬ s.escalating →
      Step c s .dgExit { s with dgDone := true }
  | tdBegin : s.alive → s.td = .idle → s.pluginUp →
      Step c s .tdBegin { s with tearing := true, td := .begun }
  | tdFlushEmpty : s.alive → s.td = .begun → ¬ s.mustTrigger → s.batch = none →
      Step c s .tdFlush { s with td := .flushed }
  | tdFlush (b : Stored × Option Nat) : s.alive → s.td = .begun → ¬ s.mustTrigger → s.batch = some b →
      noWriting s →
      Step c s .tdFlush { doTrigger s b with td := .flushed }
  | tdSnap : s.alive → s.td = .flushed →
      Step c s .tdSnap
        { s with td := .waiting (if s.gens.length = 0 then none else some (s.gens.length - 1)) }
  | tdWaited (timeout : Bool) (og : Option Nat) : s.td = .waiting og → s.alive →
      (timeout ∨ og = none ∨ ∃ i g, og = some i ∧ s.gens[i]? = some g ∧ g.writeDone ∧ g.callbacksDone) →
      Step c s (.tdWaited timeout) { s with td := .waited }
  | closeQueue : s.alive → s.td = .waited →
      Step c s .closeQueue { s with closed := true, td := .closedQ }
  | tdDrained (timeout : Bool) : s.alive → s.td = .closedQ → (timeout ∨ s.dgDone) →
      Step c s (.tdDrained timeout) { s with td := .drained }
  | stopStream : s.alive → s.td = .drained →
      Step c s .stopStream { s with streamStopped := true, escalating := false, td := .stopped }
  | join : s.alive → s.td = .stopped → s.dgDone → Step c s .join { s with td := .joined }
  | pluginTeardown (ok : Bool) : s.alive → s.td = .joined → ¬ s.mustTrigger → s.batch = none →
      Step c s (.pluginTeardown ok)
        { s with pluginUp := false, teardowns := s.teardowns + 1, td := .done ok }
  | pluginTeardownFlush (ok : Bool) (b : Stored × Option Nat) : s.alive → s.td = .joined →
      ¬ s.mustTrigger → s.batch = some b → noWriting s →
      Step c s (.pluginTeardown ok)
        { doTrigger s b with pluginUp := false, teardowns := s.teardowns + 1, td := .done ok }
  | waitPersisted : s.alive → s.td.isDone → ¬ s.swDone →
      (∀ g, s.gens.getLast? = some g → g.writeDone ∧ g.callbacksDone) →
      Step c s .waitPersisted { s with swDone := true }
  | crash : s.alive → Step c s .crash { s with alive := false }
  | restart : ¬ s.alive →
      Step c s .restart
        { init with nextSeq := s.nextSeq, inst := s.store, store := s.store,
                    handled := s.handled, delivered := s.delivered,
                    commits := s.commits, opened := s.opened ++ [s.store.pos], teardowns := 0 }

theorem step_sound {c : Cfg} {s s' : St} {e : Ev} (h : step c s e = some s') : Step c s e s' := by
  cases e with
  | openPersist =>
    simp only [step, Option.ite_none_right_eq_some, Option.some.injEq] at h
    obtain ⟨⟨h1, h2, h3, h4, h5⟩, rfl⟩ := h
    exact .openPersist h1 h2 h3 h4 h5
  | ack ps =>
    simp only [step, Option.ite_none_right_eq_some] at h
    obtain ⟨⟨h1, h2, h3⟩, h⟩ := h
    split at h <;> (injection h with h; subst h)
    · exact .ackPanic ps h1 h2 h3 ‹_›
    · exact .ack ps _ h1 h2 h3 ‹_›
  | trigger =>
    simp only [step] at h
    split at h
    · simp only [Option.ite_none_right_eq_some, Option.some.injEq] at h
      obtain ⟨⟨h1, h2⟩, rfl⟩ := h
      exact .trigger _ ‹_› h1 h2
    · cases h
  | flushRes r =>
    simp only [step] at h
    split at h
    · simp only [Option.ite_none_right_eq_some] at h
      obtain ⟨⟨h1, h2⟩, h⟩ := h
      cases r <;> (injection h with h; subst h)
      · exact .commit _ ‹_› h1 h2
      · exact .flushFail _ _ ‹_› h1 h2 nofun nofun
      · exact .flushFail _ _ ‹_› h1 h2 nofun nofun
      · by_cases hc : c.txFailCallbacks = true
        · rw [if_pos hc]; exact .flushFail _ _ ‹_› h1 h2 nofun (fun _ => hc)
        · rw [if_neg hc]; exact .flushTxFail _ ‹_› h1 h2 hc
    · cases h
  | callback i =>
    simp only [step] at h
    split at h
    · simp only [Option.ite_none_right_eq_some] at h
      obtain ⟨⟨h1, h2⟩, h⟩ := h
      split at h
      · split at h <;> (injection h with h; subst h)
        · exact .callbackAck i _ _ ‹_› h1 h2 ‹_› ‹_›
        · exact .callbackOpen i _ ‹_› h1 h2 ‹_› ‹_›
      · injection h with h; subst h
        exact .callbackFailed i _ ‹_› h1 h2 ‹_›
      · cases h
    · cases h
  | errReadP i =>
    simp only [step] at h
    split at h
    · simp only [Option.ite_none_right_eq_some, Option.some.injEq] at h
      obtain ⟨⟨h1, h2, h3⟩, rfl⟩ := h
      exact .errReadP i _ ‹_› h1 h2 h3
    · cases h
  | deliver ok =>
    simp only [step] at h
    split at h
    · simp only [Option.ite_none_right_eq_some] at h
      obtain ⟨⟨h1, h2, h3, h4, h5⟩, h⟩ := h
      cases ok <;> simp only [Bool.false_eq_true, if_false, if_true] at h
      all_goals repeat' split at h
      all_goals first | cases h | (injection h with h; subst h)
      rotate_left 3
      · exact .deliverOk _ _ ‹_› h1 h2 h3 h4 h5 ‹_›
      · exact .deliverTornDown _ _ ‹_› h1 h2 h3 h4 h5 ‹_›
      · exact .deliverExhausted _ _ ‹_› h1 h2 h3 h4 h5 ‹_› ‹_›
      · exact .deliverRetry _ _ ‹_› h1 h2 h3 h4 h5 ‹_› ‹_›
    · cases h
  | backoffAbort =>
    simp only [step] at h
    split at h
    · simp only [Option.ite_none_right_eq_some, Option.some.injEq] at h
      obtain ⟨⟨h1, h2, h3, h4⟩, rfl⟩ := h
      exact .backoffAbort _ _ ‹_› h1 h2 h3 h4
    · cases h
  | discard =>
    simp only [step] at h
    split at h
    · simp only [Option.ite_none_right_eq_some, Option.some.injEq] at h
      obtain ⟨⟨h1, h2, h3, h4⟩, rfl⟩ := h
      exact .discard _ _ ‹_› h1 h2 h3 h4
    · cases h
  | errReadS =>
    simp only [step, Option.ite_none_right_eq_some, Option.some.injEq] at h
    obtain ⟨⟨h1, h2⟩, rfl⟩ := h
    exact .errReadS h1 h2
  | dgExit =>
    simp only [step, Option.ite_none_right_eq_some, Option.some.injEq] at h
    obtain ⟨⟨h1, h2, h3, h4, h5⟩, rfl⟩ := h
    exact .dgExit h1 h2 h3 h4 h5
  | tdBegin =>
    simp only [step, Option.ite_none_right_eq_some, Option.some.injEq] at h
    obtain ⟨⟨h1, h2, h3⟩, rfl⟩ := h
    exact .tdBegin h1 h2 h3
  | tdFlush =>
    simp only [step, Option.ite_none_right_eq_some] at h
    obtain ⟨⟨h1, h2, h3⟩, h⟩ := h
    split at h
    · injection h with h; subst h
      exact .tdFlushEmpty h1 h2 h3 ‹_›
    · simp only [Option.ite_none_right_eq_some, Option.some.injEq] at h
      obtain ⟨h4, rfl⟩ := h
      exact .tdFlush _ h1 h2 h3 ‹_› h4
  | tdSnap =>
    simp only [step, Option.ite_none_right_eq_some, Option.some.injEq] at h
    obtain ⟨⟨h1, h2⟩, rfl⟩ := h
    exact .tdSnap h1 h2
  | tdWaited t =>
    simp only [step] at h
    split at h
    · rename_i og htd
      simp only [Option.ite_none_right_eq_some] at h
      obtain ⟨h1, h⟩ := h
      have hw : (t ∨ og = none ∨ ∃ i g, og = some i ∧ s.gens[i]? = some g ∧ g.writeDone ∧ g.callbacksDone) ∧
          s' = { s with td := .waited } := by
        repeat' split at h
        all_goals first | cases h | (injection h with h; subst h)
        · exact ⟨.inl ‹_›, rfl⟩
        · exact ⟨.inr (.inl rfl), rfl⟩
        · exact ⟨.inr (.inr ⟨_, _, rfl, ‹_›, ‹_›⟩), rfl⟩
      obtain ⟨hw, rfl⟩ := hw
      exact .tdWaited t og htd h1 hw
    · cases h
  | closeQueue =>
    simp only [step, Option.ite_none_right_eq_some, Option.some.injEq] at h
    obtain ⟨⟨h1, h2⟩, rfl⟩ := h
    exact .closeQueue h1 h2
  | tdDrained t =>
    simp only [step, Option.ite_none_right_eq_some, Option.some.injEq] at h
    obtain ⟨⟨h1, h2, h3⟩, rfl⟩ := h
    exact .tdDrained t h1 h2 h3
  | stopStream =>
    simp only [step, Option.ite_none_right_eq_some, Option.some.injEq] at h
    obtain ⟨⟨h1, h2⟩, rfl⟩ := h
    exact .stopStream h1 h2
  | join =>
    simp only [step, Option.ite_none_right_eq_some, Option.some.injEq] at h
    obtain ⟨⟨h1, h2, h3⟩, rfl⟩ := h
    exact .join h1 h2 h3
  | pluginTeardown ok =>
    simp only [step, Option.ite_none_right_eq_some] at h
    obtain ⟨⟨h1, h2, h3⟩, h⟩ := h
    split at h
    · injection h with h; subst h
      exact .pluginTeardown ok h1 h2 h3 ‹_›
    · simp only [Option.ite_none_right_eq_some, Option.some.injEq] at h
      obtain ⟨h4, rfl⟩ := h
      exact .pluginTeardownFlush ok _ h1 h2 h3 ‹_› h4
  | waitPersisted =>
    simp only [step, Option.ite_none_right_eq_some] at h
    obtain ⟨⟨h1, h2, h3⟩, h⟩ := h
    split at h
    · injection h with h; subst h
      exact .waitPersisted h1 h2 h3 (fun g hg => by simp_all)
    · simp only [Option.ite_none_right_eq_some, Option.some.injEq] at h
      obtain ⟨h4, rfl⟩ := h
      exact .waitPersisted h1 h2 h3 (fun g hg => by simp_all)
  | crash =>
    simp only [step, Option.ite_none_right_eq_some, Option.some.injEq] at h
    obtain ⟨h1, rfl⟩ := h
    exact .crash h1
  | restart =>
    simp only [step, Option.ite_none_right_eq_some, Option.some.injEq] at h
    obtain ⟨h1, rfl⟩ := h
    exact .restart h1

theorem step_complete {c : Cfg} {s s' : St} {e : Ev} (h : Step c s e s') : step c s e = some s' := by
  cases h with
  | flushFail r g _ _ _ hr htx => cases r <;> simp_all [step]
  | tdWaited t og _ _ hw => rcases hw with ht | rfl | ⟨i, g, rfl, hg, hd⟩ <;> simp [step, *]
  | pluginTeardownFlush ok b ha htd hm hb hw =>
    simp only [step]
    rw [if_pos ⟨ha, htd, hm⟩]
    split <;> rename_i h <;> rw [hb] at h <;> cases h
    rw [if_pos hw]; rfl
  | waitPersisted _ _ _ hw => cases hg : s.gens.getLast? <;> simp [step, *]
  | _ => simp [step, *]

theorem Step.alive {c : Cfg} {s s' : St} {e : Ev} (h : Step c s e s') : e = .restart ∨ s.alive = true := by
  cases h <;> first | exact .inl rfl | exact .inr ‹_›

/-- `run`, `runO` and `runH` are runs of `step` under a guard on (state, event) -/
abbrev stepG (c : Cfg) (g : St → Ev → Bool) : St → Ev → Option St := EventSys.guarded g (step c)

theorem run_eq (c : Cfg) (evs : List Ev) (s : St) : run c s evs = evs.foldlM (stepG c fun _ _ => true) s :=
  EventSys.run_eq (fun _ => rfl) (fun s e _ => by cases h : step c s e <;> simp [run, EventSys.guarded, h]) evs s

theorem runO_eq (c : Cfg) (evs : List Ev) (s : St) : runO c s evs = evs.foldlM (stepG c evOk) s :=
  EventSys.run_eq (fun _ => rfl)
    (fun s e _ => by cases hg : evOk s e <;> cases h : step c s e <;> simp [runO, EventSys.guarded, hg, h]) evs s

theorem runH_eq (c : Cfg) (evs : List Ev) (s : St) : runH c s evs = evs.foldlM (stepG c (evHealthy c)) s :=
  EventSys.run_eq (fun _ => rfl)
    (fun s e _ => by cases hg : evHealthy c s e <;> cases h : step c s e <;> simp [runH, EventSys.guarded, hg, h]) evs s

theorem run_append {c : Cfg} {e1 e2 : List Ev} {s s2 : St} :
    run c s (e1 ++ e2) = some s2 ↔ ∃ s1, run c s e1 = some s1 ∧ run c s1 e2 = some s2 := by
  simp only [run_eq]; exact EventSys.run_append

theorem runO_append {c : Cfg} {e1 e2 : List Ev} {s s2 : St} :
    runO c s (e1 ++ e2) = some s2 ↔ ∃ s1, runO c s e1 = some s1 ∧ runO c s1 e2 = some s2 := by
  simp only [runO_eq]; exact EventSys.run_append

theorem runH_append {c : Cfg} {e1 e2 : List Ev} {s s2 : St} :
    runH c s (e1 ++ e2) = some s2 ↔ ∃ s1, runH c s e1 = some s1 ∧ runH c s1 e2 = some s2 := by
  simp only [runH_eq]; exact EventSys.run_append

theorem stepG_mono {c : Cfg} {g g' : St → Ev → Bool} (hg : ∀ s e, g s e = true → g' s e = true)
    (evs : List Ev) (s s' : St) (h : evs.foldlM (stepG c g) s = some s') : evs.foldlM (stepG c g') s = some s' :=
  EventSys.run_sim (f := id) (P := fun _ => True) (fun _ _ _ _ _ => trivial)
    (fun s e _ _ hs => EventSys.guarded_eq_some.mpr ((EventSys.guarded_eq_some.mp hs).imp_left (hg s e))) evs trivial h

/-- a run under any guard is a run -/
theorem Reach.of_guard {c : Cfg} {g : St → Ev → Bool} {evs : List Ev} {s : St}
    (h : evs.foldlM (stepG c g) init = some s) : Reach c s :=
  ⟨evs, run_eq c evs init ▸ stepG_mono (fun _ _ _ => rfl) evs _ _ h⟩

theorem stepG_induct {c : Cfg} {g : St → Ev → Bool} {P : St → Prop}
    (hP : ∀ s e s1, P s → g s e = true → step c s e = some s1 → P s1)
    (evs : List Ev) (s s' : St) (hp : P s) (h : evs.foldlM (stepG c g) s = some s') : P s' :=
  EventSys.run_induct (fun s e s1 hp hs => (EventSys.guarded_eq_some.mp hs).elim (hP s e s1 hp)) evs hp h

theorem sorted_snoc {f : Stored → Nat} {l : List Stored} {x : Stored} (hle : ∀ y ∈ l, f y ≤ f x)
    (hs : l.Pairwise (fun a b => f a ≤ f b)) :
    (∀ y ∈ l ++ [x], f y ≤ f x) ∧ (l ++ [x]).Pairwise (fun a b => f a ≤ f b) := by
  refine ⟨fun y hy => ?_, List.pairwise_append.mpr ⟨hs, List.pairwise_singleton _ _,
    fun y hy z hz => List.mem_singleton.mp hz ▸ hle y hy⟩⟩
  rcases List.mem_append.mp hy with hy | hy
  · exact hle y hy
  · rw [List.mem_singleton.mp hy]; exact Nat.le_refl _

/-- what is stored, snapshotted, committed and released, ordered by a measure `m`; `B a n` says that the
ack `a` lies at or below `n`. The two `pend…` clauses tie the measure to the sequence numbers that
`onPersistFlushed` compares. -/
structure Ord (m : Stored → Nat) (B : AckRec → Nat → Prop) (s : St) : Prop where
  store : m s.store ≤ m s.inst
  gens : ∀ (i : Nat) g, s.gens[i]? = some g → m g.snap ≤ m s.inst
  gensOk : ∀ (i : Nat) g, s.gens[i]? = some g → g.stat = .ok → m g.snap ≤ m s.store
  gensWr : ∀ (i : Nat) g, s.gens[i]? = some g → g.stat = .writing → m s.store ≤ m g.snap
  out : ∀ a, a ∈ s.deferred ∨ a ∈ s.delivered → B a (m s.store)
  pend : ∀ a ∈ s.pending, B a (m s.inst)
  pendStore : ∀ a ∈ s.pending, a.seq ≤ s.store.seq → B a (m s.store)
  pendGens : ∀ a ∈ s.pending, ∀ (i : Nat) g, s.gens[i]? = some g → a.seq ≤ g.snap.seq → B a (m g.snap)
  commits : ∀ x ∈ s.commits, m x ≤ m s.store
  commitsSorted : s.commits.Pairwise (fun a b => m a ≤ m b)

abbrev BSeq (a : AckRec) (n : Nat) : Prop := a.seq ≤ n
abbrev BPos (a : AckRec) (n : Nat) : Prop := ∀ p : Nat, p ∈ a.ps → p ≤ n

namespace Ord
variable {m : Stored → Nat} {B : AckRec → Nat → Prop} {s : St}

theorem frame {s' : St} (h : Ord m B s)
    (h1 : s'.inst = s.inst := by rfl) (h2 : s'.store = s.store := by rfl) (h3 : s'.gens = s.gens := by rfl)
    (h4 : s'.deferred = s.deferred := by rfl) (h5 : s'.delivered = s.delivered := by rfl)
    (h6 : s'.pending = s.pending := by rfl) (h7 : s'.commits = s.commits := by rfl) : Ord m B s' := by
  obtain ⟨a1, a2, a3, a4, a5, a6, a7, a8, a9, a10⟩ := h
  constructor <;> simp only [h1, h2, h3, h4, h5, h6, h7] <;> assumption

theorem doTrigger (h : Ord m B s) (cb : Option Nat) : Ord m B (doTrigger s (s.inst, cb)) :=
  ⟨h.store, forall_snoc h.gens (Nat.le_refl _), forall_snoc h.gensOk nofun, forall_snoc h.gensWr (fun _ => h.store),
    h.out, h.pend, h.pendStore, fun a ha => forall_snoc (h.pendGens a ha) (fun _ => h.pend a ha), h.commits,
    h.commitsSorted⟩

theorem setGen (h : Ord m B s) (i : Nat) (g g' : Gen) (hg : s.gens[i]? = some g) (hsnap : g'.snap = g.snap)
    (hok : g'.stat = .ok → g.stat = .ok) (hwr : g'.stat = .writing → g.stat = .writing) :
    Ord m B (setGen s i g') :=
  ⟨h.store, forall_set (fun j x _ => h.gens j x) (hsnap ▸ h.gens i g hg),
    forall_set (fun j x _ => h.gensOk j x) (fun hs => hsnap ▸ h.gensOk i g hg (hok hs)),
    forall_set (fun j x _ => h.gensWr j x) (fun hs => hsnap ▸ h.gensWr i g hg (hwr hs)),
    h.out, h.pend, h.pendStore,
    fun a ha => forall_set (fun j x _ => h.pendGens a ha j x) (hsnap ▸ h.pendGens a ha i g hg),
    h.commits, h.commitsSorted⟩

/-- `flushNow` committed the running generation (the last one, the only one being written). -/
theorem commit (hB : ∀ a n n', n ≤ n' → B a n → B a n') (h : Ord m B s) (g : Gen)
    (hg : s.gens[s.gens.length - 1]? = some g) (hw : g.stat = .writing)
    (hlast : ∀ (j : Nat) x, s.gens[j]? = some x → x.stat = .writing → j + 1 = s.gens.length) :
    Ord m B { SrcAck.setGen s (s.gens.length - 1) { g with stat := .ok } with
                store := g.snap, commits := s.commits ++ [g.snap] } := by
  have hwr := h.gensWr _ g hg hw
  have hcom := sorted_snoc (f := m) (x := g.snap) (fun x hx => Nat.le_trans (h.commits x hx) hwr) h.commitsSorted
  refine ⟨h.gens _ g hg, forall_set (fun j x _ => h.gens j x) (h.gens _ g hg),
    forall_set (fun j x _ hj hs => Nat.le_trans (h.gensOk j x hj hs) hwr) (fun _ => Nat.le_refl _),
    forall_set (fun j x hne hj hs => ?_) nofun,
    fun a ha => hB a _ _ hwr (h.out a ha), h.pend, fun a ha => h.pendGens a ha _ g hg,
    fun a ha => forall_set (fun j x _ => h.pendGens a ha j x) (h.pendGens a ha _ g hg), hcom.1, hcom.2⟩
  have := hlast j x hj hs
  have := hlast _ g hg hw
  omega

/-- `onPersistFlushed(seq, nil)` of a committed generation: what it releases lies at or below the store. -/
theorem onFlushedOk (hB : ∀ a n n', n ≤ n' → B a n → B a n') (h : Ord m B s) (hdur : s.durable ≤ s.store.seq)
    (i : Nat) (g : Gen) (hg : s.gens[i]? = some g) (hst : g.stat = .ok) : Ord m B (onFlushedOk s g.snap.seq) := by
  rw [onFlushedOk_eq]
  generalize hdd : (if g.snap.seq > s.durable then g.snap.seq else s.durable) = d
  have hsub := drain_snd_sub d s.pending
  refine ⟨h.store, h.gens, h.gensOk, h.gensWr, fun a ha => ?_, fun a ha => h.pend a (hsub a ha),
    fun a ha => h.pendStore a (hsub a ha), fun a ha => h.pendGens a (hsub a ha), h.commits, h.commitsSorted⟩
  rcases ha with ha | ha
  · split at ha
    · exact h.out a (.inl ha)
    · rcases List.mem_append.mp ha with ha | ha
      · exact h.out a (.inl ha)
      · have hle := drain_fst_le d _ a ha
        have hin := drain_fst_sub d _ a ha
        by_cases hq : a.seq ≤ g.snap.seq
        · exact hB a _ _ (h.gensOk i g hg hst) (h.pendGens a hin i g hg hq)
        · have : a.seq ≤ s.durable := by rw [← hdd] at hle; split at hle <;> omega
          exact h.pendStore a hin (Nat.le_trans this hdur)
  · exact h.out a (.inr ha)

theorem dropHead {c : Cfg} (h : Ord m B s) (a : AckRec) (rest : List AckRec) (hd : s.deferred = a :: rest) :
    Ord m B (dropHead c s a rest) :=
  ⟨h.store, h.gens, h.gensOk, h.gensWr, fun x hx => h.out x (hx.imp_left fun hx => hd ▸ List.mem_cons_of_mem _ hx),
    h.pend, h.pendStore, h.pendGens, h.commits, h.commitsSorted⟩

theorem deliverOk (h : Ord m B s) (a : AckRec) (rest : List AckRec) (hd : s.deferred = a :: rest) :
    Ord m B { s with deferred := rest, delivered := s.delivered ++ [a], deliveredI := s.deliveredI ++ [a],
                     attempt := 0 } := by
  refine ⟨h.store, h.gens, h.gensOk, h.gensWr, fun x hx => h.out x ?_, h.pend, h.pendStore, h.pendGens, h.commits,
    h.commitsSorted⟩
  rcases hx with hx | hx
  · exact .inl (hd ▸ List.mem_cons_of_mem _ hx)
  · rcases List.mem_append.mp hx with hx | hx
    · exact .inr hx
    · exact .inl (by rw [hd, List.mem_singleton.mp hx]; exact List.mem_cons_self ..)

theorem restart (h : Ord m B s) :
    Ord m B { init with nextSeq := s.nextSeq, inst := s.store, store := s.store, handled := s.handled,
                        delivered := s.delivered, commits := s.commits, opened := s.opened ++ [s.store.pos],
                        teardowns := 0 } :=
  ⟨Nat.le_refl _, forall_nil, forall_nil, forall_nil, fun a ha => h.out a (ha.imp_left fun h => nomatch h),
    nofun, nofun, nofun, h.commits, h.commitsSorted⟩

/-- `Source.Ack`: a new stored value `x` at or above the old one, and the new ack at or below it; its
sequence number is above everything stored or snapshotted. -/
theorem ack {c : Cfg} (hB : ∀ a n n', n ≤ n' → B a n → B a n') (h : Ord m B s)
    (h1 : s.store.seq ≤ s.nextSeq) (h2 : ∀ (i : Nat) g, s.gens[i]? = some g → g.snap.seq ≤ s.nextSeq)
    (ps : List Pos) (last : Pos) (hle : m s.inst ≤ m ⟨s.nextSeq + 1, some last⟩) (hnew : B ⟨s.nextSeq + 1, ps⟩ (m ⟨s.nextSeq + 1, some last⟩)) :
    Ord m B (persist c { s with nextSeq := s.nextSeq + 1, inst := ⟨s.nextSeq + 1, some last⟩,
                                pending := s.pending ++ [⟨s.nextSeq + 1, ps⟩],
                                ackedI := s.ackedI ++ [⟨s.nextSeq + 1, ps⟩],
                                handled := s.handled ++ ps } (some (s.nextSeq + 1))) := by
  have mem : ∀ {a : AckRec}, a ∈ s.pending ++ [⟨s.nextSeq + 1, ps⟩] → a ∈ s.pending ∨ a = ⟨s.nextSeq + 1, ps⟩ :=
    fun ha => by simpa using ha
  refine ⟨Nat.le_trans h.store hle, fun i g hg => Nat.le_trans (h.gens i g hg) hle, h.gensOk, h.gensWr, h.out,
    fun a ha => ?_, fun a ha hs => ?_, fun a ha i g hg hs => ?_, h.commits, h.commitsSorted⟩
  · rcases mem ha with ha | rfl
    · exact hB a _ _ hle (h.pend a ha)
    · exact hnew
  · rcases mem ha with ha | rfl
    · exact h.pendStore a ha hs
    · have : s.nextSeq + 1 ≤ s.store.seq := hs
      omega
  · rcases mem ha with ha | rfl
    · exact h.pendGens a ha i g hg hs
    · have : s.nextSeq + 1 ≤ g.snap.seq := hs
      have := h2 i g hg
      omega

end Ord

theorem BSeq.mono (a : AckRec) (n n' : Nat) (h : n ≤ n') (ha : BSeq a n) : BSeq a n' := Nat.le_trans ha h
theorem BPos.mono (a : AckRec) (n n' : Nat) (h : n ≤ n') (ha : BPos a n) : BPos a n' :=
  fun p hp => Nat.le_trans (ha p hp) h


/-- `pos` is set exactly when at least one Ack produced the value -/
def PosSome (x : Stored) : Prop := x.pos.isSome = true ↔ 0 < x.seq

/-- What holds in every state, whatever the events. Up to `droppedClosed`: sequence numbers, what is stored and what
is released. From `bnone` on: the last generation carries the last ack (so that Teardown's final flush covers
every pending ack), and what the progress argument needs of a flush generation. -/
structure InvR (s : St) : Prop where
  instLe : s.inst.seq ≤ s.nextSeq
  batchEq : ∀ b, s.batch = some b → b.1 = s.inst ∧ ∀ q, b.2 = some q → q = s.inst.seq
  gensCb : ∀ (i : Nat) g, s.gens[i]? = some g → ∀ q, g.cb = some q → q = g.snap.seq
  gensLast : ∀ (i : Nat) g, s.gens[i]? = some g → g.stat = .writing → i + 1 = s.gens.length
  durLe : s.durable ≤ s.store.seq
  allLe : ∀ a, a ∈ s.delivered ∨ a ∈ s.deferred ∨ a ∈ s.pending → a.seq ≤ s.nextSeq ∧ 1 ≤ a.seq
  chain : (s.delivered ++ (s.deferred ++ s.pending)).Pairwise (fun a b => a.seq < b.seq)
  commitsLast : s.commits.getLast? = none ∨ s.commits.getLast? = some s.store
  prefixI : s.droppedG = [] → s.deliveredI ++ (s.deferred ++ (s.dropped ++ s.pending)) = s.ackedI
  psInst : PosSome s.inst
  psStore : PosSome s.store
  psGens : ∀ (i : Nat) g, s.gens[i]? = some g → PosSome g.snap
  commitsNone : s.commits = [] → s.store.seq = 0
  droppedClosed : s.closed = false → s.dropped = []
  bnone : s.batch = none → (s.gens = [] → s.inst = s.store) ∧ (∀ g, s.gens.getLast? = some g → g.snap = s.inst)
  lastOk : ∀ g, s.gens.getLast? = some g → g.stat = .ok → s.store = g.snap
  pendCb : s.pending ≠ [] → (∀ b, s.batch = some b → b.2 = some s.inst.seq) ∧
    (s.batch = none → ∃ g, s.gens.getLast? = some g ∧ g.cb = some s.inst.seq)
  wrNotRun : ∀ (i : Nat) g, s.gens[i]? = some g → g.stat = .writing → g.cbSt = .notRun
  lastDone : s.batch = none → ∀ g, s.gens.getLast? = some g → g.stat = .ok → g.cbSt = .done → s.pending = []
  lastAck : ∀ a, s.ackedI.getLast? = some a → s.inst = ⟨a.seq, a.ps.getLast?⟩
  freshP : s.fresh = true → s.pending = []
  mustB : s.mustTrigger = true → s.batch ≠ none
  blockedF : ∀ (i : Nat) g, s.gens[i]? = some g → g.cbSt = .blocked → g.stat = .failed

structure Inv (s : St) : Prop extends InvR s where
  ord : Ord Stored.seq BSeq s

theorem inv_init : Inv init :=
  ⟨by constructor <;> simp [init, PosSome], by constructor <;> simp [init]⟩

theorem InvR.frame {s s' : St} (hi : InvR s)
    (h1 : s'.nextSeq = s.nextSeq := by rfl) (h2 : s'.inst = s.inst := by rfl) (h3 : s'.store = s.store := by rfl)
    (h4 : s'.batch = s.batch := by rfl) (h5 : s'.gens = s.gens := by rfl) (h6 : s'.durable = s.durable := by rfl)
    (h7 : s'.deferred = s.deferred := by rfl) (h8 : s'.delivered = s.delivered := by rfl)
    (h9 : s'.pending = s.pending := by rfl) (h10 : s'.commits = s.commits := by rfl)
    (h11 : s'.droppedG = s.droppedG := by rfl) (h12 : s'.deliveredI = s.deliveredI := by rfl)
    (h13 : s'.dropped = s.dropped := by rfl) (h14 : s'.ackedI = s.ackedI := by rfl)
    (h15 : s'.closed = false → s.closed = false := by exact id) (h16 : s'.fresh = s.fresh := by rfl)
    (h17 : s'.mustTrigger = s.mustTrigger := by rfl) : InvR s' := by
  have hc : s'.closed = false → s'.dropped = [] := fun h => h13 ▸ hi.droppedClosed (h15 h)
  cases hi
  constructor <;> first
    | assumption
    | (simp only [h1, h2, h3, h4, h5, h6, h7, h8, h9, h10, h11, h12, h13, h14, h16, h17]; assumption)

theorem noWriting_iff (s : St) : noWriting s = true ↔ ∀ (i : Nat) g, s.gens[i]? = some g → g.stat ≠ .writing := by
  unfold noWriting
  rw [List.all_eq_true]
  constructor
  · intro h i g hg
    have := h g (List.mem_of_getElem? hg)
    simpa using this
  · intro h g hg
    obtain ⟨i, hi, rfl⟩ := List.mem_iff_getElem.mp hg
    have := h i _ (List.getElem?_eq_getElem hi)
    simpa using this

/-- `Source.Open`'s lifecycle persist: no Ack yet in this incarnation, so nothing is pending -/
theorem inv_openPersist {c : Cfg} {s : St} (hi : Inv s) (hf : s.fresh = true) : InvR (persist c s none) :=
  { hi with
    batchEq := fun b hb => by
      simp only [persist, Option.some.injEq] at hb
      subst hb
      exact ⟨rfl, nofun⟩
    bnone := nofun
    pendCb := fun hp => absurd (hi.freshP hf) hp
    lastDone := nofun
    freshP := nofun
    mustB := fun _ => nofun }

theorem inv_doTrigger {s : St} (hi : Inv s) (b : Stored × Option Nat) (hb : s.batch = some b)
    (hw : noWriting s = true) : InvR (doTrigger s b) := by
  obtain ⟨x, cb⟩ := b
  obtain ⟨rfl, hcb⟩ : x = s.inst ∧ ∀ q, cb = some q → q = s.inst.seq := hi.batchEq _ hb
  have hnw := (noWriting_iff s).mp hw
  have last : ∀ {g}, (doTrigger s (s.inst, cb)).gens.getLast? = some g → g = ⟨s.inst, cb, .writing, .notRun⟩ :=
    fun hg => by simpa [doTrigger] using hg.symm
  exact { hi with
    batchEq := nofun
    gensCb := forall_snoc hi.gensCb hcb
    gensLast := forall_snoc (fun i g h hs => absurd hs (hnw i g h)) (fun _ => by simp [doTrigger])
    psGens := forall_snoc hi.psGens hi.psInst
    bnone := fun _ => ⟨fun h => by simp [doTrigger] at h, fun g hg => last hg ▸ rfl⟩
    lastOk := fun g hg hs => by rw [last hg] at hs; cases hs
    pendCb := fun hp => ⟨nofun, fun _ => ⟨⟨s.inst, cb, .writing, .notRun⟩, by simp [doTrigger], (hi.pendCb hp).1 _ hb⟩⟩
    wrNotRun := forall_snoc hi.wrNotRun (fun _ => rfl)
    lastDone := fun _ g hg hs => by rw [last hg] at hs; cases hs
    mustB := nofun
    blockedF := forall_snoc hi.blockedF nofun }

/-- a generation changes its status or its callback's. `hdone`: the callback of a committed generation may be marked
done, although it was not, where that generation is not the one that carries the pending acks. -/
theorem inv_setGen {s : St} (hi : Inv s) (i : Nat) (g g' : Gen) (hg : s.gens[i]? = some g)
    (hsnap : g'.snap = g.snap) (hcb : g'.cb = g.cb)
    (hok : g'.stat = .ok → g.stat = .ok) (hwr : g'.stat = .writing → g.stat = .writing ∧ g'.cbSt = g.cbSt)
    (hdone : g'.stat = .ok → g'.cbSt = .done →
      g.cbSt = .done ∨ (i + 1 = s.gens.length → s.batch = none → s.pending = []))
    (hbl : g'.cbSt = .blocked → g'.stat = .failed) :
    InvR (setGen s i g') := by
  refine { hi with
    gensCb := forall_set (fun j x _ => hi.gensCb j x) (by rw [hsnap, hcb]; exact hi.gensCb i g hg)
    gensLast := forall_set (fun j x _ h hs => by simpa [setGen] using hi.gensLast j x h hs)
      (fun hs => by simpa [setGen] using hi.gensLast i g hg (hwr hs).1)
    psGens := forall_set (fun j x _ => hi.psGens j x) (by rw [hsnap]; exact hi.psGens i g hg)
    bnone := fun hb => ⟨fun h => absurd h (set_ne_nil _ hg), fun x hx => ?_⟩
    lastOk := fun x hx hs => ?_
    pendCb := fun hp => ⟨(hi.pendCb hp).1, fun hb => ?_⟩
    wrNotRun := forall_set (fun j x _ => hi.wrNotRun j x) (fun hs => (hwr hs).2 ▸ hi.wrNotRun i g hg (hwr hs).1)
    lastDone := fun hb x hx hs hd => ?_
    blockedF := forall_set (fun j x _ => hi.blockedF j x) hbl }
  · rcases getLast?_set_cases hg hx with ⟨rfl, h, _⟩ | ⟨h, _⟩
    · rw [hsnap]; exact (hi.bnone hb).2 g h
    · exact (hi.bnone hb).2 x h
  · rcases getLast?_set_cases hg hx with ⟨rfl, h, _⟩ | ⟨h, _⟩
    · rw [hsnap]; exact hi.lastOk g h (hok hs)
    · exact hi.lastOk x h hs
  · obtain ⟨x, hx, hxc⟩ := (hi.pendCb hp).2 hb
    rcases getLast?_set_some g' hg hx with ⟨h, rfl⟩ | h
    · exact ⟨g', h, hcb ▸ hxc⟩
    · exact ⟨x, h, hxc⟩
  · rcases getLast?_set_cases hg hx with ⟨rfl, h, hl⟩ | ⟨h, _⟩
    · exact (hdone hs hd).elim (hi.lastDone hb g h (hok hs)) (fun f => f hl hb)
    · exact hi.lastDone hb x h hs hd

theorem pairwise_snoc {l : List AckRec} {a : AckRec} (h : l.Pairwise (fun a b => a.seq < b.seq))
    (hlt : ∀ x ∈ l, x.seq < a.seq) : (l ++ [a]).Pairwise (fun a b => a.seq < b.seq) := by
  rw [List.pairwise_append]
  refine ⟨h, List.pairwise_singleton _ _, ?_⟩
  intro x hx y hy
  simp only [List.mem_singleton] at hy; subst hy
  exact hlt x hx

theorem inv_ack {c : Cfg} {s : St} (hi : Inv s) (ps : List Pos) (last : Pos) (hl : ps.getLast? = some last) :
    InvR (persist c { s with nextSeq := s.nextSeq + 1, inst := ⟨s.nextSeq + 1, some last⟩,
                             pending := s.pending ++ [⟨s.nextSeq + 1, ps⟩],
                             ackedI := s.ackedI ++ [⟨s.nextSeq + 1, ps⟩],
                             handled := s.handled ++ ps } (some (s.nextSeq + 1))) := by
  refine { hi with
    instLe := Nat.le_refl _
    batchEq := fun b hb => ?_, allLe := fun a ha => ?_, chain := ?_, prefixI := fun hd => ?_
    psInst := by show PosSome ⟨s.nextSeq + 1, some last⟩; simp [PosSome]
    bnone := nofun
    pendCb := fun _ => ⟨fun b hb => by simp only [persist, Option.some.injEq] at hb; subst hb; rfl, nofun⟩
    lastDone := nofun
    lastAck := fun a ha => ?_
    freshP := nofun
    mustB := fun _ => nofun }
  · simp only [persist, Option.some.injEq] at hb
    subst hb
    exact ⟨rfl, by intro q hq; simp at hq; exact hq.symm⟩
  · show a.seq ≤ s.nextSeq + 1 ∧ 1 ≤ a.seq
    simp only [persist, List.mem_append, List.mem_singleton] at ha
    rcases ha with ha | ha | ha | ha
    · have := hi.allLe a (Or.inl ha); omega
    · have := hi.allLe a (Or.inr (Or.inl ha)); omega
    · have := hi.allLe a (Or.inr (Or.inr ha)); omega
    · subst ha; exact ⟨Nat.le_refl _, Nat.succ_pos _⟩
  · show (s.delivered ++ (s.deferred ++ (s.pending ++ [({ seq := s.nextSeq + 1, ps := ps } : AckRec)]))).Pairwise _
    rw [← List.append_assoc, ← List.append_assoc, List.append_assoc s.delivered]
    apply pairwise_snoc hi.chain
    intro x hx
    simp only [List.mem_append] at hx
    have : x.seq ≤ s.nextSeq := by
      refine (hi.allLe x ?_).1
      rcases hx with hx | hx | hx
      · exact Or.inl hx
      · exact Or.inr (Or.inl hx)
      · exact Or.inr (Or.inr hx)
    show x.seq < s.nextSeq + 1
    omega
  · show s.deliveredI ++ (s.deferred ++ (s.dropped ++ (s.pending ++ [({ seq := s.nextSeq + 1, ps := ps } : AckRec)]))) = s.ackedI ++ [_]
    rw [← hi.prefixI hd]
    simp [List.append_assoc]
  · simp only [persist, List.getLast?_append, List.getLast?_singleton, Option.some_or, Option.some.injEq] at ha
    subst ha
    show (⟨s.nextSeq + 1, some last⟩ : Stored) = ⟨s.nextSeq + 1, ps.getLast?⟩
    rw [hl]

/-- `flushNow` committed the running generation: the store moves up to its snapshot, which is at least
everything committed or released so far -/
theorem inv_commit {s : St} (hi : Inv s) (g : Gen) (hg : s.gens[s.gens.length - 1]? = some g)
    (hw : g.stat = .writing) :
    InvR { setGen s (s.gens.length - 1) { g with stat := .ok } with store := g.snap, commits := s.commits ++ [g.snap] } := by
  have hgl : s.gens.getLast? = some g := List.getLast?_eq_getElem? ▸ hg
  have last : ∀ {x}, (s.gens.set (s.gens.length - 1) { g with stat := .ok }).getLast? = some x →
      x = { g with stat := .ok } := fun hx =>
    (getLast?_set_cases hg hx).elim (·.1) (fun h => absurd (by have := (List.getElem?_eq_some_iff.mp hg).1; omega) h.2)
  refine { hi with
    gensCb := forall_set (fun j x _ => hi.gensCb j x) (hi.gensCb _ g hg)
    gensLast := forall_set (fun j x _ h hs => by simpa [setGen] using hi.gensLast j x h hs) nofun
    durLe := Nat.le_trans hi.durLe (hi.ord.gensWr _ g hg hw)
    commitsLast := .inr (by simp)
    psStore := hi.psGens _ g hg
    psGens := forall_set (fun j x _ => hi.psGens j x) (hi.psGens _ g hg)
    commitsNone := by simp
    bnone := fun hb => ⟨fun h => absurd h (set_ne_nil _ hg), fun x hx => by rw [last hx]; exact (hi.bnone hb).2 g hgl⟩
    lastOk := fun x hx _ => by rw [last hx]
    pendCb := fun hp => ⟨(hi.pendCb hp).1, fun hb => ?_⟩
    wrNotRun := forall_set (fun j x _ => hi.wrNotRun j x) nofun
    lastDone := fun _ x hx _ hd => ?_
    blockedF := forall_set (fun j x _ => hi.blockedF j x) (fun hb => nomatch (hi.wrNotRun _ g hg hw).symm.trans hb) }
  · obtain ⟨x, hx, hxc⟩ := (hi.pendCb hp).2 hb
    rcases getLast?_set_some { g with stat := .ok } hg hx with ⟨h, rfl⟩ | h
    · exact ⟨_, h, hxc⟩
    · exact ⟨x, h, hxc⟩
  · rw [last hx] at hd
    exact nomatch (hi.wrNotRun _ g hg hw).symm.trans hd

theorem inv_onFlushedOk {s : St} (hi : Inv s) (i : Nat) (g : Gen) (hg : s.gens[i]? = some g) (hst : g.stat = .ok) :
    InvR (onFlushedOk s g.snap.seq) := by
  have hseq := hi.ord.gensOk i g hg hst
  have hd : (if g.snap.seq > s.durable then g.snap.seq else s.durable) ≤ s.store.seq := by
    split
    · exact hseq
    · exact hi.durLe
  rw [onFlushedOk_eq]
  generalize (if g.snap.seq > s.durable then g.snap.seq else s.durable) = d at hd
  have happ := drain_append d s.pending
  have hsub := drain_snd_sub d s.pending
  have hnil : s.pending = [] → (drain d s.pending).2 = [] := fun h => by rw [h]; rfl
  refine { hi with
    durLe := hd
    allLe := fun a ha => hi.allLe a ?_, chain := ?_, prefixI := fun hdr => ?_, droppedClosed := fun hc => ?_
    pendCb := fun hp => hi.pendCb fun h => hp (hnil h)
    lastDone := fun hb x hx hs hdn => hnil (hi.lastDone hb x hx hs hdn)
    freshP := fun hf => hnil (hi.freshP hf) }
  · rcases ha with ha | ha | ha
    · exact .inl ha
    · split at ha
      · exact .inr (.inl ha)
      · exact .inr ((List.mem_append.mp ha).imp id (drain_fst_sub d _ a))
    · exact .inr (.inr (hsub a ha))
  · show (s.delivered ++ ((if s.closed then _ else _) ++ (drain d s.pending).2)).Pairwise _
    split
    · have hch := hi.chain
      rw [← happ] at hch
      exact hch.sublist (((List.sublist_append_right _ _).append_left _).append_left _)
    · rw [List.append_assoc s.deferred, happ]; exact hi.chain
  · show s.deliveredI ++ ((if s.closed then _ else _) ++ ((if s.closed then _ else _) ++ (drain d s.pending).2)) = s.ackedI
    by_cases hc : s.closed = true
    · simp only [hc, if_true]
      rw [List.append_assoc s.dropped, happ]; exact hi.prefixI hdr
    · have hdn : s.dropped = [] := hi.droppedClosed (by simpa using hc)
      simp only [hc, Bool.false_eq_true, if_false]
      rw [hdn, List.nil_append, List.append_assoc s.deferred, happ]
      have := hi.prefixI hdr
      rwa [hdn, List.nil_append] at this
  · show (if s.closed then _ else s.dropped) = []
    rw [show s.closed = false from hc]; exact hi.droppedClosed hc

theorem inv_dropHead {c : Cfg} {s : St} (hi : Inv s) (a : AckRec) (rest : List AckRec) (hd : s.deferred = a :: rest) :
    InvR (dropHead c s a rest) := by
  have hsub : ∀ x ∈ rest, x ∈ s.deferred := fun x hx => hd ▸ List.mem_cons_of_mem _ hx
  refine { hi with
    allLe := fun x hx => hi.allLe x (hx.imp_right (.imp_left (hsub x)))
    chain := ?_
    prefixI := fun h => by simp [dropHead] at h }
  have := hi.chain
  rw [hd] at this
  exact this.sublist ((List.Sublist.cons _ (List.Sublist.refl _)).append_right _ |>.append_left _)

theorem inv_deliverOk {s : St} (hi : Inv s) (a : AckRec) (rest : List AckRec) (hd : s.deferred = a :: rest) :
    InvR { s with deferred := rest, delivered := s.delivered ++ [a], deliveredI := s.deliveredI ++ [a], attempt := 0 } := by
  have hsub : ∀ x ∈ rest, x ∈ s.deferred := fun x hx => hd ▸ List.mem_cons_of_mem _ hx
  have ha : a ∈ s.deferred := hd ▸ List.mem_cons_self ..
  have hdel : ∀ x ∈ s.delivered ++ [a], x ∈ s.delivered ∨ x ∈ s.deferred := fun x hx =>
    (List.mem_append.mp hx).imp_right (fun h => by rw [List.mem_singleton.mp h]; exact ha)
  refine { hi with
    allLe := fun x hx => hi.allLe x (hx.elim (fun h => (hdel x h).imp_right .inl) (.inr ∘ .imp_left (hsub x)))
    chain := ?_, prefixI := fun h => ?_ }
  · have := hi.chain
    rw [hd] at this
    show ((s.delivered ++ [a]) ++ (rest ++ s.pending)).Pairwise _
    simpa [List.append_assoc] using this
  · have := hi.prefixI h
    rw [hd] at this
    show (s.deliveredI ++ [a]) ++ (rest ++ (s.dropped ++ s.pending)) = s.ackedI
    simpa [List.append_assoc] using this

theorem inv_restart {s : St} (hi : Inv s) :
    InvR { init with nextSeq := s.nextSeq, inst := s.store, store := s.store,
                     handled := s.handled, delivered := s.delivered,
                     commits := s.commits, opened := s.opened ++ [s.store.pos], teardowns := 0 } := by
  refine ⟨Nat.le_trans hi.ord.store hi.instLe, nofun, forall_nil, forall_nil, Nat.zero_le _,
    fun a ha => hi.allLe a (.inl (ha.resolve_right (fun h => h.elim (fun h => nomatch h) (fun h => nomatch h)))),
    by simpa [init] using (List.pairwise_append.mp hi.chain).1,
    hi.commitsLast, fun _ => rfl, hi.psStore, hi.psStore, forall_nil, hi.commitsNone, fun _ => rfl,
    ?_, ?_, ?_, forall_nil, ?_, ?_, ?_, ?_, forall_nil⟩ <;> simp [init]

theorem invR_step {c : Cfg} {s s' : St} {e : Ev} (hi : Inv s) (h : Step c s e s') : InvR s' := by
  cases h with
  | openPersist _ hf => exact inv_openPersist hi hf
  | ack ps last _ _ _ hl => exact inv_ack hi ps last hl
  | trigger b hb _ hw => exact inv_doTrigger hi b hb hw
  | commit g hg _ hw => exact inv_commit hi g (List.getLast?_eq_getElem? ▸ hg) hw
  | flushFail _ g hg =>
    exact inv_setGen hi _ g _ (List.getLast?_eq_getElem? ▸ hg) rfl rfl nofun nofun nofun (fun _ => rfl)
  | flushTxFail g hg _ hw =>
    have hg' := List.getLast?_eq_getElem? ▸ hg
    exact inv_setGen hi _ g _ hg' rfl rfl nofun nofun nofun (fun hb => nomatch (hi.wrNotRun _ g hg' hw).symm.trans hb)
  | callbackAck i g seq hg _ _ hst hcb =>
    -- `onPersistFlushed` first, the mark on the generation second: if it is the one that carries the pending acks
    -- (the last, nothing batched after it), its sequence number is `inst.seq` and the drain has left nothing pending
    have hq := hi.gensCb i g hg seq hcb
    have h1 : Inv _ := ⟨inv_onFlushedOk hi i g hg hst, hi.ord.onFlushedOk BSeq.mono hi.durLe i g hg hst⟩
    rw [onFlushedOk_setGen, hq]
    refine inv_setGen h1 i g _ (by rw [onFlushedOk_eq]; exact hg) rfl rfl id (fun h => nomatch hst.symm.trans h)
      (fun _ _ => .inr fun hl hb => ?_) nofun
    rw [onFlushedOk_eq] at hl hb ⊢
    have hgl : s.gens.getLast? = some g := by
      rw [List.getLast?_eq_getElem?, show s.gens.length - 1 = i by have : i + 1 = s.gens.length := hl; omega]; exact hg
    apply drain_all
    intro a ha
    have := hi.ord.pend a ha
    rw [← (hi.bnone hb).2 g hgl] at this
    split <;> omega
  | callbackOpen i g hg _ _ hst hcb =>
    refine inv_setGen hi i g _ hg rfl rfl id (fun h => nomatch hst.symm.trans h) (fun _ _ => .inr fun hl hb => ?_) nofun
    refine Decidable.byContradiction fun hp => ?_
    obtain ⟨y, hy, hyc⟩ := (hi.pendCb hp).2 hb
    rw [List.getLast?_eq_getElem?, show s.gens.length - 1 = i by omega, hg] at hy
    rw [← Option.some.inj hy, hcb] at hyc; cases hyc
  | callbackFailed i g hg _ _ hst =>
    exact inv_setGen hi i g _ hg rfl rfl id (fun h => nomatch hst.symm.trans h) (fun h => nomatch hst.symm.trans h)
      (fun _ => hst)
  | errReadP i g hg _ _ hst =>
    exact inv_setGen hi i g _ hg rfl rfl id (fun h => nomatch hst.symm.trans h) (fun h => nomatch hst.symm.trans h) nofun
  | deliverOk a rest hd => exact inv_deliverOk hi a rest hd
  | deliverTornDown a rest hd | backoffAbort a rest hd | discard a rest hd => exact inv_dropHead hi a rest hd
  | deliverExhausted a rest hd => exact (inv_dropHead (c := c) hi a rest hd).frame
  | tdFlush b _ _ _ hb hw | pluginTeardownFlush _ b _ _ _ hb hw => exact (inv_doTrigger hi b hb hw).frame
  | closeQueue => exact hi.toInvR.frame (h15 := nofun)
  | restart => exact inv_restart hi
  | _ => exact hi.toInvR.frame

/-- The order is kept by every step, at every measure that `Source.Ack` respects (`hack`: the new stored value lies
at or above the old one, the new ack at or below it). -/
theorem Ord.step {m : Stored → Nat} {B : AckRec → Nat → Prop} (hB : ∀ a n n', n ≤ n' → B a n → B a n')
    {c : Cfg} {s s' : St} {e : Ev} (h : Ord m B s) (hv : Inv s) (hs : Step c s e s')
    (hack : ∀ ps last, e = .ack ps → ps.getLast? = some last →
      m s.inst ≤ m ⟨s.nextSeq + 1, some last⟩ ∧ B ⟨s.nextSeq + 1, ps⟩ (m ⟨s.nextSeq + 1, some last⟩)) :
    Ord m B s' := by
  have trig : ∀ b, s.batch = some b → Ord m B (SrcAck.doTrigger s b) := fun b hb => by
    obtain ⟨x, cb⟩ := b
    obtain rfl : x = s.inst := (hv.batchEq _ hb).1
    exact h.doTrigger cb
  cases hs with
  | ack ps last _ _ _ hl =>
    have ⟨h1, h2⟩ := hack ps last rfl hl
    exact h.ack hB (Nat.le_trans hv.ord.store hv.instLe) (fun i g hg => Nat.le_trans (hv.ord.gens i g hg) hv.instLe)
      ps last h1 h2
  | trigger b hb => exact trig b hb
  | tdFlush b _ _ _ hb | pluginTeardownFlush _ b _ _ _ hb => exact (trig b hb).frame
  | commit g hg _ hw => exact h.commit hB g (List.getLast?_eq_getElem? ▸ hg) hw hv.gensLast
  | flushFail _ g hg | flushTxFail g hg => exact h.setGen _ g _ (List.getLast?_eq_getElem? ▸ hg) rfl nofun nofun
  | callbackAck i g seq hg _ _ hst hcb =>
    rw [onFlushedOk_setGen, hv.gensCb i g hg seq hcb]
    exact (h.onFlushedOk hB hv.durLe i g hg hst).setGen i g _ (by rw [onFlushedOk_eq]; exact hg) rfl id id
  | callbackOpen i g hg | callbackFailed i g hg | errReadP i g hg => exact h.setGen i g _ hg rfl id id
  | deliverOk a rest hd => exact h.deliverOk a rest hd
  | deliverTornDown a rest hd | backoffAbort a rest hd | discard a rest hd => exact h.dropHead a rest hd
  | deliverExhausted a rest hd => exact (h.dropHead (c := c) a rest hd).frame
  | restart => exact h.restart
  | _ => exact h.frame

theorem inv_step {c : Cfg} {s s' : St} {e : Ev} (hi : Inv s) (h : step c s e = some s') : Inv s' :=
  ⟨invR_step hi (step_sound h),
    hi.ord.step BSeq.mono hi (step_sound h) fun _ _ _ _ => ⟨Nat.le_succ_of_le hi.instLe, Nat.le_refl _⟩⟩

theorem inv_reach {c : Cfg} {s : St} (h : Reach c s) : Inv s := by
  obtain ⟨evs, h⟩ := h
  rw [run_eq] at h
  exact stepG_induct (fun _ _ _ hi _ => inv_step hi) evs _ _ inv_init h

end Conduit.SrcAck
