import ConduitModel.Proofs.SrcAckStop

/-!
Invariant of M3 along healthy runs (`runH`, the hypotheses of C06).
-/
namespace Conduit.SrcAck

/-- What holds along a healthy run. The bounds on `Td.rank` (statements of Teardown still to run) name
the program counter from which a clause holds: `≤ 8` after the final flush (`.flushed`), `≤ 6` after the
wait for the last generation (`.waited`), `≤ 4` after the delivery goroutine was drained (`.drained`). -/
structure InvH (s : St) : Prop where
  alive : s.alive = true
  noDrop : s.dropped = [] ∧ s.droppedG = []
  gensOkW : ∀ (i : Nat) g, s.gens[i]? = some g → g.stat = .writing ∨ g.stat = .ok
  flushedB : s.td.rank ≤ 8 → s.batch = none
  waitIdx : ∀ og, s.td = .waiting og → og = (if s.gens.length = 0 then none else some (s.gens.length - 1))
  waitedP : s.td.rank ≤ 6 → s.pending = [] ∧ (∀ g, s.gens.getLast? = some g → g.stat = .ok ∧ g.cbSt = .done)
  drainedD : s.td.rank ≤ 4 → s.dgDone = true
  noEsc : s.escalating = false ∧ s.dgFailed = false

theorem invH_init : InvH init := by
  constructor <;> simp [init, Td.rank]

structure InvAll (s : St) : Prop where
  v : Inv s
  t : InvTd s
  h : InvH s

theorem drain_nil (d : Nat) : drain d [] = ([], []) := rfl

/-- before Teardown's final flush none of the clauses about its progress says anything -/
theorem invH_early {s : St} {t : Td} (htd : s.td = t) (hr : decide (t.rank ≤ 8) = false) (h0 : s.alive = true)
    (h1 : s.dropped = [] ∧ s.droppedG = [])
    (h2 : ∀ (i : Nat) g, s.gens[i]? = some g → g.stat = .writing ∨ g.stat = .ok)
    (h7 : s.escalating = false ∧ s.dgFailed = false) : InvH s := by
  subst htd
  have hr := of_decide_eq_false hr
  refine ⟨h0, h1, h2, fun _ => by omega, fun og hog => ?_, fun _ => by omega, fun _ => by omega, h7⟩
  rw [hog] at hr
  exact absurd (Nat.le_succ 7) hr

/-- `onPersistFlushed` on a healthy run: nothing is dropped, because a closed queue comes with an empty
pending list -/
theorem invH_onFlushedOk {s : St} (hi : InvH s) (hcl : s.closed = true → s.pending = []) (q : Nat) :
    InvH (onFlushedOk s q) := by
  rw [onFlushedOk_eq]
  refine ⟨hi.alive, ⟨?_, hi.noDrop.2⟩, hi.gensOkW, hi.flushedB, hi.waitIdx,
    fun hr => ⟨?_, (hi.waitedP hr).2⟩, hi.drainedD, hi.noEsc⟩
  · show (if s.closed = true then s.dropped ++ (drain _ s.pending).1 else s.dropped) = []
    split
    · rw [hcl ‹_›, hi.noDrop.1]; rfl
    · exact hi.noDrop.1
  · show (drain _ s.pending).2 = []
    rw [(hi.waitedP hr).1]; rfl

/-- a callback that has not run yet is marked done; once Teardown's wait has returned it cannot be the
last generation's, whose callback is done already -/
theorem invH_callbackDone {s : St} (hi : InvH s) {i : Nat} {g : Gen} (hg : s.gens[i]? = some g)
    (hnr : g.cbSt = .notRun) : InvH (setGen s i { g with cbSt := .done }) := by
  have ⟨h0, h1, h2, h3, h4, h5, h6, h7⟩ := hi
  have hnotlast : s.td.rank ≤ 6 → i + 1 ≠ s.gens.length := by
    intro hr heq
    have hgl : s.gens.getLast? = some g := by
      rw [List.getLast?_eq_getElem?, show s.gens.length - 1 = i by omega]; exact hg
    have := ((h5 hr).2 g hgl).2
    rw [hnr] at this; cases this
  refine ⟨h0, h1, forall_set (fun j x _ => h2 j x) (h2 i g hg), h3, fun og hog => ?_,
    fun hr => ⟨(h5 hr).1, fun x hx => ?_⟩, h6, h7⟩
  · simp only [setGen, List.length_set]; exact h4 og hog
  · have hx' : (s.gens.set i { g with cbSt := .done }).getLast? = some x := hx
    rw [getLast?_set, if_neg (hnotlast hr)] at hx'
    exact (h5 hr).2 x hx'

/-- Teardown's statements after the wait for the last generation move the program counter on and write
only `escalating` and fields `InvH` does not read; of its clauses only the one on `dgDone` can fall due. -/
theorem InvH.afterWait {s : St} (hi : InvH s) {t : Td} {cl ss esc pu : Bool} {n : Nat}
    (hr : t.rank ≤ s.td.rank ∧ s.td.rank ≤ 6) (hesc : esc = false) (hd : t.rank ≤ 4 → s.dgDone = true) :
    InvH { s with closed := cl, streamStopped := ss, escalating := esc, pluginUp := pu, teardowns := n,
                  td := t } := by
  refine ⟨hi.alive, hi.noDrop, hi.gensOkW, fun _ => hi.flushedB (by omega), fun og hog => ?_,
    fun _ => hi.waitedP hr.2, hd, hesc, hi.noEsc.2⟩
  have : t.rank = 7 := by rw [show t = .waiting og from hog]; rfl
  omega

/-- With the index `tdSnap` took, the guard of Teardown's wait speaks of the last generation, as the guard of
`waitPersisted` does. -/
theorem waitIdx_iff {l : List Gen} {og : Option Nat} {P : Gen → Prop}
    (hog : og = if l.length = 0 then none else some (l.length - 1)) :
    (og = none ∨ ∃ i g, og = some i ∧ l[i]? = some g ∧ P g) ↔ ∀ g, l.getLast? = some g → P g := by
  subst hog
  rw [List.getLast?_eq_getElem?]
  by_cases hl : l.length = 0
  · simp [List.length_eq_zero_iff.mp hl]
  · have hg := List.getElem?_eq_getElem (l := l) (i := l.length - 1) (by omega)
    simp [hl, hg]

theorem invH_step {c : Cfg} {s s' : St} {e : Ev} (ha : InvAll s) (hok : evHealthy c s e = true)
    (h : step c s e = some s') : InvH s' := by
  obtain ⟨hv, ht, hi⟩ := ha
  have ⟨h0, h1, h2, h3, h4, h5, h6, h7⟩ := hi
  cases step_sound h with
  | openPersist _ _ _ htd => exact invH_early htd rfl h0 h1 h2 h7
  | ackPanic ps _ _ _ hl =>
    simp only [evHealthy, Bool.and_eq_true, bne_iff_ne, ne_eq] at hok
    exact absurd (List.getLast?_eq_none_iff.mp hl) hok.2
  | ack =>
    simp only [evHealthy, Bool.and_eq_true, beq_iff_eq] at hok
    exact invH_early hok.1 rfl h0 h1 h2 h7
  | trigger b hbb =>
    -- a batch is still there: Teardown has not flushed yet
    have hr : ¬ s.td.rank ≤ 8 := fun hr => nomatch (h3 hr).symm.trans hbb
    exact invH_early rfl (decide_eq_false hr) h0 h1 (forall_snoc h2 (.inl rfl)) h7
  | commit g hg _ hw =>
    -- a flush is in flight: Teardown's wait has not returned
    have hr : ¬ s.td.rank ≤ 6 := fun hr => by
      have := ((h5 hr).2 g hg).1
      rw [hw] at this; cases this
    refine ⟨h0, h1, forall_set (fun j x _ => h2 j x) (.inr rfl), h3, fun og hog => ?_,
      fun hr' => absurd hr' hr, fun (hr' : s.td.rank ≤ 4) => absurd (by omega) hr, h7⟩
    simp only [setGen, List.length_set]; exact h4 og hog
  | flushFail r _ _ _ _ hr => exact absurd (by simpa [evHealthy] using hok) hr
  | flushTxFail => cases hok
  | callbackOpen i g hg _ hnr => exact invH_callbackDone hi hg hnr
  | callbackAck i g seq hg _ hnr =>
    refine invH_onFlushedOk (invH_callbackDone hi hg hnr) (fun hcl => ?_) seq
    have : s.td.rank ≤ 5 := by simpa using ht.clo.symm.trans hcl
    exact (h5 (by omega)).1
  | callbackFailed i g hg _ _ hst | errReadP i g hg _ _ hst =>
    have := h2 i g hg
    rw [hst] at this; simp at this
  | deliverTornDown _ _ _ _ _ _ _ _ hss =>
    simp [evHealthy, hss] at hok
  | deliverExhausted _ _ _ _ _ _ _ _ _ hge =>
    simp only [evHealthy, Bool.false_or, Bool.and_eq_true, decide_eq_true_eq] at hok
    omega
  | backoffAbort | discard | crash => cases hok
  | errReadS _ hesc => rw [h7.1] at hesc; cases hesc
  | dgExit => exact ⟨h0, h1, h2, h3, h4, h5, fun _ => rfl, h7⟩
  | tdBegin => exact invH_early rfl rfl h0 h1 h2 h7
  | tdFlushEmpty _ _ _ hbn => refine ⟨h0, h1, h2, fun _ => hbn, nofun, Td.notYet rfl, Td.notYet rfl, h7⟩
  | tdFlush b => exact ⟨h0, h1, forall_snoc h2 (.inl rfl), fun _ => rfl, nofun, Td.notYet rfl, Td.notYet rfl, h7⟩
  | tdSnap _ htd =>
    have hr : s.td.rank ≤ 8 := by rw [htd]; decide
    exact ⟨h0, h1, h2, fun _ => h3 hr, fun og hog => (Td.waiting.inj hog).symm, Td.notYet rfl, Td.notYet rfl, h7⟩
  | tdWaited t og htd _ hw =>
    have hbn : s.batch = none := h3 (by rw [htd]; show 7 ≤ 8; decide)
    refine ⟨h0, h1, h2, fun _ => hbn, nofun, fun _ => ?_, Td.notYet rfl, h7⟩
    -- no timeout on a healthy run: the wait saw the last generation committed and its callback done
    rcases hw with ht' | hw
    · simp [evHealthy, ht'] at hok
    have hlast : ∀ g, s.gens.getLast? = some g → g.stat = .ok ∧ g.cbSt = .done := fun g hg => by
      have ⟨hwd, hcd⟩ := (waitIdx_iff (h4 og htd)).mp hw g hg
      simp only [Gen.writeDone, bne_iff_ne, ne_eq] at hwd
      simp only [Gen.callbacksDone, Bool.and_eq_true, Bool.or_eq_true, beq_iff_eq] at hcd
      exact ⟨(h2 _ g (List.getLast?_eq_getElem? ▸ hg)).resolve_left hwd, hcd.2⟩
    refine ⟨?_, hlast⟩
    -- an ack still pending would have been handed to the last generation
    by_cases hp : s.pending = []
    · exact hp
    · obtain ⟨g, hg, _⟩ := (hv.pendCb hp).2 hbn
      exact hv.lastDone hbn g hg (hlast g hg).1 (hlast g hg).2
  | closeQueue _ htd => exact hi.afterWait (by simp [htd, Td.rank]) h7.1 (Td.notYet rfl)
  | tdDrained t _ htd hd =>
    exact hi.afterWait (by simp [htd, Td.rank]) h7.1 fun _ => hd.resolve_left (by simpa [evHealthy] using hok)
  | stopStream _ htd => exact hi.afterWait (by simp [htd, Td.rank]) rfl fun _ => h6 (by rw [htd]; decide)
  | join _ htd | pluginTeardown ok _ htd =>
    exact hi.afterWait (by simp [htd, Td.rank]) h7.1 fun _ => h6 (by rw [htd]; decide)
  | pluginTeardownFlush ok b _ htd _ hbb => exact nomatch (h3 (by rw [htd]; decide)).symm.trans hbb
  | restart hna => exact absurd h0 hna
  | _ => exact ⟨h0, h1, h2, h3, h4, h5, h6, h7⟩

theorem invAll_init : InvAll init := ⟨inv_init, invTd_init, invH_init⟩

theorem ReachH.reach {c : Cfg} {s : St} (h : ReachH c s) : Reach c s := by
  obtain ⟨evs, h⟩ := h
  exact .of_guard (runH_eq .. ▸ h)

theorem invAll_reach {c : Cfg} {s : St} (h : ReachH c s) : InvAll s := by
  obtain ⟨evs, h⟩ := h
  rw [runH_eq] at h
  exact stepG_induct (fun _ _ _ hi hok hs =>
    ⟨inv_step hi.v hs, invTd_step hi.t hs, invH_step hi hok hs⟩) evs _ _ invAll_init h

end Conduit.SrcAck
