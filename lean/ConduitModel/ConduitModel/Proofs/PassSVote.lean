import ConduitModel.Proofs.PassSBase

/-!
# `runAckNacker.vote` over a batch with split runs

`vote_spec`: voting the pieces of a batch from index `i` on, against the contract of the parent
handler: the parent is given exactly the forwarded keys `fk` of those pieces, in order; the ledger
entries of the runs are advanced by the number of their pieces.
-/
namespace Conduit.Funnel

/-- the ledger entry after a group vote of `k` pieces (before the release test) -/
def voted (r0 : SplitRun) (k : Nat) (a : Bool) (t : Nat) (e : Option Err) : SplitRun :=
  if !a ∧ !r0.nacked then
    { r0 with terminal := r0.terminal + k, nacked := true, nackErr := e, nackTask := t }
  else { r0 with terminal := r0.terminal + k }

theorem runVote_eq (r0 : SplitRun) (k : Nat) (a : Bool) (t : Nat) (e : Option Err) (h1 : r0.released = false) :
    runVote r0 k a t e =
      if (voted r0 k a t e).terminal > (voted r0 k a t e).total then (voted r0 k a t e, .err)
      else if (voted r0 k a t e).terminal == (voted r0 k a t e).total then
        ({ voted r0 k a t e with released := true }, if (voted r0 k a t e).nacked then .nack else .ack)
      else (voted r0 k a t e, .hold) := by
  unfold runVote voted
  simp only [h1, Bool.false_eq_true, if_false]

theorem zip_slice_snd {α β} (l1 : List α) (l2 : List β) (i k : Nat) (hl : l1.length = l2.length) :
    (((l1.zip l2).drop i).take k).map (·.2) = (l2.drop i).take k := by
  rw [List.map_take, List.map_drop]
  have : (l1.zip l2).map (·.2) = l2 := List.map_snd_zip (by omega)
  rw [this]

theorem mem_slice {α} {l : List α} {i j : Nat} {x : α} (h : x ∈ (l.drop i).take (j - i)) :
    ∃ k : Nat, i ≤ k ∧ k < j ∧ l[k]? = some x := by
  obtain ⟨n, hn, rfl⟩ := List.getElem_of_mem h
  simp only [List.length_take, List.length_drop] at hn
  refine ⟨i + n, by omega, by omega, ?_⟩
  simp [List.getElem_take, List.getElem_drop]

/-- the static facts about a batch that `vote` relies on -/
structure VB (b : Batch) (rs : List (Option Nat)) : Prop where
  runs : b.runs = some rs
  rlen : rs.length = b.recs.length
  slen : b.st.length = b.recs.length
  plen : b.pos.length = b.recs.length
  nopos : ∀ k : Nat, rs[k]? = some none → b.pos[k]? ≠ some none

theorem VB.view {b : Batch} {rs : List (Option Nat)} (hb : VB b rs) : b.view = rs.zip b.pos := by
  unfold Batch.view; rw [hb.runs]; rfl

theorem VB.view_len {b : Batch} {rs : List (Option Nat)} (hb : VB b rs) : b.view.length = b.recs.length := by
  rw [hb.view, List.length_zip, hb.rlen, hb.plen]; simp

theorem VB.view_get {b : Batch} {rs : List (Option Nat)} (hb : VB b rs) {k : Nat} {x : Piece}
    (h : b.view[k]? = some x) : rs[k]? = some x.1 ∧ b.pos[k]? = some x.2 := by
  rw [hb.view] at h
  exact List.getElem?_zip_eq_some.mp h

theorem firstRunError_isSome (sts : List Status) (hne : sts ≠ []) (hall : ∀ x ∈ sts, x.err.isSome = true) :
    (firstRunError sts).isSome = true := by
  unfold firstRunError
  cases sts with
  | nil => exact absurd rfl hne
  | cons x t =>
    have hx := hall x List.mem_cons_self
    simp [hx]

theorem firstRunError_group {b : Batch} (hn : NackOK b) {i j : Nat} (hij : i < j) (hj : j ≤ b.st.length) :
    (firstRunError ((b.st.take j).drop i)).isSome = true := by
  apply firstRunError_isSome
  · intro he
    have : ((b.st.take j).drop i).length = j - i := by rw [List.length_drop, List.length_take]; omega
    rw [he] at this; simp at this; omega
  · intro x hx
    exact hn x ((List.take_sublist j b.st).subset ((List.drop_sublist i _).subset hx))

theorem voted_fields (r0 : SplitRun) (k : Nat) (a : Bool) (t : Nat) (e : Option Err) :
    (voted r0 k a t e).terminal = r0.terminal + k ∧ (voted r0 k a t e).total = r0.total ∧
    (voted r0 k a t e).origPos = r0.origPos ∧ (voted r0 k a t e).released = r0.released := by
  unfold voted
  split <;> exact ⟨rfl, rfl, rfl, rfl⟩

theorem voted_nerr (r0 : SplitRun) (k : Nat) (a : Bool) (t : Nat) (e : Option Err)
    (h3 : r0.nacked = true → r0.nackErr.isSome = true) (he : a = false → e.isSome = true) :
    (voted r0 k a t e).nacked = true → (voted r0 k a t e).nackErr.isSome = true := by
  unfold voted
  cases a <;> cases hn : r0.nacked <;> simp [hn] at h3 ⊢
  · exact he rfl
  · exact h3
  · exact h3

theorem runVote_hold (r0 : SplitRun) (k m : Nat) (a : Bool) (t : Nat) (e : Option Err)
    (hok : RunOK r0 (k + m)) (hm : 0 < m) (he : a = false → e.isSome = true) :
    runVote r0 k a t e = (voted r0 k a t e, .hold) ∧ RunOK (voted r0 k a t e) m := by
  obtain ⟨h1, h2, h3⟩ := hok
  obtain ⟨f1, f2, f3, f4⟩ := voted_fields r0 k a t e
  rw [runVote_eq r0 k a t e h1]
  have e1 : ¬ (voted r0 k a t e).terminal > (voted r0 k a t e).total := by rw [f1, f2]; omega
  have e2 : ¬ ((voted r0 k a t e).terminal == (voted r0 k a t e).total) = true := by
    rw [beq_iff_eq, f1, f2]; omega
  rw [if_neg e1, if_neg e2]
  exact ⟨rfl, ⟨by rw [f4]; exact h1, by rw [f1, f2]; omega, voted_nerr r0 k a t e h3 he⟩⟩

theorem runVote_done (r0 : SplitRun) (k : Nat) (a : Bool) (t : Nat) (e : Option Err)
    (hok : RunOK r0 (k + 0)) :
    runVote r0 k a t e = ({ voted r0 k a t e with released := true },
      if (voted r0 k a t e).nacked then .nack else .ack) := by
  obtain ⟨h1, h2, h3⟩ := hok
  obtain ⟨f1, f2, f3, f4⟩ := voted_fields r0 k a t e
  rw [runVote_eq r0 k a t e h1]
  have e1 : ¬ (voted r0 k a t e).terminal > (voted r0 k a t e).total := by rw [f1, f2]; omega
  have e2 : ((voted r0 k a t e).terminal == (voted r0 k a t e).total) = true := by
    rw [beq_iff_eq, f1, f2]; omega
  rw [if_neg e1, if_pos e2]

theorem VRes.stay {p : Acker} {C : Contract p} {rest : Nat → Nat} {l : List Piece} {s : PS} {e : Stop}
    (hv : C.Valid s) : VRes C rest l s s (.error e) :=
  ⟨Res.fail_quiet hv (Q.refl _) _, LFr.refl _ _, nofun⟩

theorem VRes.nil_ok {p : Acker} {C : Contract p} {rest : Nat → Nat} {s : PS} (hv : C.Valid s) :
    VRes C rest [] s s (.ok ()) :=
  ⟨Res.ok_quiet hv (Q.refl _), LFr.refl _ _, fun _ r hr => by rw [cnt_nil] at hr; omega⟩

theorem setRun_quiet (top rid : Nat) (x : SplitRun) (s : PS) : Quiet top s (setRun rid x s) :=
  ⟨rfl, Nat.le_refl _, fun _ _ => rfl, fun h => h⟩

theorem heap_set!_get (h : Heap) (i : Nat) (x : SplitRun) (hi : i < h.size) : (h.set! i x)[i]! = x :=
  set!_get h i x hi
theorem heap_set!_other (h : Heap) (i j : Nat) (x : SplitRun) (hne : i ≠ j) : (h.set! i x)[j]! = h[j]! :=
  (set!_other h i j x hne).2
theorem heap_set!_size (h : Heap) (i : Nat) (x : SplitRun) : (h.set! i x).size = h.size := by
  simp [Array.set!]

theorem VB.group {b : Batch} {rs : List (Option Nat)} (hb : VB b rs) {i j : Nat} {ro : Option Nat} (hjl : j ≤ b.recs.length)
    (hrun : ∀ k : Nat, i ≤ k → k < j → rs[k]? = some ro) :
    ((b.view.drop i).take (j - i)).length = j - i ∧ ∀ x ∈ (b.view.drop i).take (j - i), x.1 = ro := by
  refine ⟨by rw [List.length_take, List.length_drop, hb.view_len]; omega, fun x hx => ?_⟩
  obtain ⟨k, hk1, hk2, hk3⟩ := mem_slice hx
  have := (hb.view_get hk3).1
  rw [hrun k hk1 hk2] at this
  exact (Option.some.inj this).symm

theorem VB.sub_norun {b sb : Batch} {rs : List (Option Nat)} (hb : VB b rs) {i j : Nat} (hs : b.sub i j = .ok sb)
    (hrun : ∀ k : Nat, i ≤ k → k < j → rs[k]? = some none) :
    BOK sb ∧ sb.pos = ((b.view.drop i).take (j - i)).map (·.2) ∧ ∀ x ∈ sb.st, x ∈ b.st := by
  have hso := sub_ok_fields hs
  have hpos : sb.pos = ((b.view.drop i).take (j - i)).map (·.2) := by
    rw [hso.pos, hb.view, zip_slice_snd _ _ _ _ (by rw [hb.rlen, hb.plen]), List.drop_take]
  refine ⟨⟨Or.inr ?_, ?_, ?_, ?_⟩, hpos, fun x hx => ?_⟩
  · intro q hq
    rw [hpos, List.mem_map] at hq
    obtain ⟨x, hx, rfl⟩ := hq
    obtain ⟨k, hk1, hk2, hk3⟩ := mem_slice hx
    intro hq
    exact hb.nopos k (hrun k hk1 hk2) (by rw [(hb.view_get hk3).2, hq])
  · intro rs' hrs'
    rw [hso.runs, hb.runs] at hrs'
    simp only [Option.map_some, Option.some.injEq] at hrs'
    rw [List.eq_replicate_iff]
    constructor
    · rw [← hrs', hso.recs]; simp only [List.length_drop, List.length_take, hb.rlen]
    · intro x hx
      rw [← hrs', List.drop_take] at hx
      obtain ⟨k, hk1, hk2, hk3⟩ := mem_slice hx
      rw [hrun k hk1 hk2] at hk3
      exact (Option.some.inj hk3).symm
  · rw [hso.st, hso.recs]; simp only [List.length_drop, List.length_take, hb.slen]
  · rw [hso.pos, hso.recs]; simp only [List.length_drop, List.length_take, hb.plen]
  · rw [hso.st] at hx
    exact (List.take_sublist j b.st).subset ((List.drop_sublist i _).subset hx)

theorem setRun_frame (rid : Nat) (x : SplitRun) (s : PS) (hrid : rid < s.heap.size)
    (hx : x.origPos = (s.heap[rid]!).origPos) {g : List Piece} (hgne : g ≠ []) (hg : ∀ y ∈ g, y.1 = some rid) :
    (setRun rid x s).heap[rid]! = x ∧ LFr g s.heap (setRun rid x s).heap := by
  refine ⟨heap_set!_get _ _ _ hrid, by rw [show (setRun rid x s).heap.size = _ from heap_set!_size _ _ _]; exact Nat.le_refl _,
    fun r _ hc => heap_set!_other _ _ _ _ fun he => ?_, fun r _ => ?_⟩
  · rw [← he, cnt_group rid g hg] at hc; exact hgne (List.length_eq_zero_iff.mp hc)
  · by_cases hne : r = rid
    · rw [hne]; show ((s.heap.set! rid x)[rid]!).origPos = _; rw [heap_set!_get _ _ _ hrid, hx]
    · show ((s.heap.set! rid x)[r]!).origPos = _; rw [heap_set!_other _ _ _ _ (Ne.symm hne)]

section
variable {p : Acker} {C : Contract p} {R : Nat → Nat} {g : List Piece} {s s1 : PS} {r1 : Except Stop Unit}

theorem VRes.norun {fuel : Nat} {sb : Batch} {a : Bool} {t : Nat} (hv : C.Valid s) (hg : ∀ x ∈ g, x.1 = none)
    (hsb : BOK sb) (hsn : a = false → NackOK sb) (hpos : sb.pos = g.map (·.2))
    (hc : exec (ackerCall fuel p sb a t) s = (r1, s1)) : VRes C R g s s1 r1 := by
  obtain ⟨p1, p2, _, _, _, p6⟩ := C.call fuel sb a t s r1 s1 hv hsb hsn hc
  have hfk : fk s.heap R g = keys sb.pos := by
    have := fk_norun s.heap R g hg []
    simp only [List.append_nil, fk] at this
    rw [this, hpos, keys, List.map_map]; rfl
  exact ⟨hfk ▸ ⟨p1, p2⟩, p6 ▸ LFr.refl _ _, fun _ rid hr => by rw [cnt_norun rid g hg] at hr; omega⟩

variable {rid : Nat} {x : SplitRun} (hv : C.Valid s) (hrid : rid < s.heap.size) (hgne : g ≠ [])
  (hg : ∀ y ∈ g, y.1 = some rid) (hx : x.origPos = (s.heap[rid]!).origPos)
include hv hrid hgne hg hx

theorem VRes.run_open (hR : 0 < R rid) (hok : RunOK x (R rid)) (hterm : 0 < x.terminal) :
    VRes C R g s (setRun rid x s) (.ok ()) := by
  obtain ⟨f2, hfr⟩ := setRun_frame rid x s hrid hx hgne hg
  have hfk : fk s.heap R g = [] := by
    have := fk_group s.heap R rid g hgne hg []
    simp only [List.append_nil, fk, cnt_nil, true_and] at this
    rw [this, if_neg (by omega)]
  refine ⟨hfk ▸ Res.ok_quiet' hv (setRun_quiet C.top rid x s), hfr, fun _ r hc _ => ?_⟩
  by_cases hne : r = rid
  · rw [hne, f2]; exact ⟨hok, hterm⟩
  · rw [cnt_group_other rid r hne g hg] at hc; omega

theorem VRes.run_close {fuel : Nat} {bb : Batch} {a : Bool} {t : Nat} (hR : R rid = 0) (hbb : BOK bb)
    (hnb : a = false → NackOK bb) (hkb : keys bb.pos = [keyOf x.origPos])
    (hc : exec (ackerCall fuel p bb a t) (setRun rid x s) = (r1, s1)) : VRes C R g s s1 r1 := by
  obtain ⟨_, hfr⟩ := setRun_frame rid x s hrid hx hgne hg
  have h0 := Res.ok_quiet' hv (setRun_quiet C.top rid x s)
  obtain ⟨p1, p2, _, _, _, p6⟩ := C.call fuel bb a t _ r1 s1 (h0.valid hv) hbb hnb hc
  have hfk : fk s.heap R g = [] ++ keys bb.pos := by
    have := fk_group s.heap R rid g hgne hg []
    simp only [List.append_nil, fk, cnt_nil, true_and] at this
    rw [this, if_pos hR, hkb, hx]; rfl
  refine ⟨hfk ▸ h0.seq ⟨p1, p2⟩, p6 ▸ hfr, fun _ r hc hr' => ?_⟩
  by_cases hne : r = rid
  · rw [hne] at hr'; omega
  · rw [cnt_group_other rid r hne g hg] at hc; omega

end

/-- What the group `[i, j)` of `runAckNacker(p).vote` does from `s` (`R` counts the pieces a run has outside the
group): rows without run are cut out and handed to `p`; the pieces of a run are booked in its entry, which either
stays open, or is marked released and its original record handed to `p` as a batch `bb` of its own, as an ack
iff no piece was ever nacked. -/
inductive GroupRun (p : Acker) (b : Batch) (a : Bool) (t : Nat) (R : Nat → Nat) (i j : Nat) (s : PS) :
    Option Nat → Except Stop Unit → PS → Prop
  | nosub {e : Stop} : GroupRun p b a t R i j s none (.error e) s
  | norun {fuel : Nat} {sb : Batch} {r1 : Except Stop Unit} {s1 : PS} : b.sub i j = .ok sb →
      exec (ackerCall fuel p sb a t) s = (r1, s1) → GroupRun p b a t R i j s none r1 s1
  | hold {rid : Nat} {e : Option Err} : 0 < R rid → RunOK (voted (s.heap[rid]!) (j - i) a t e) (R rid) →
      GroupRun p b a t R i j s (some rid) (.ok ()) (setRun rid (voted (s.heap[rid]!) (j - i) a t e) s)
  | close {rid : Nat} {e : Option Err} {x : SplitRun} {bb : Batch} {ia : Bool} {tk fuel : Nat} {r1 : Except Stop Unit} {s1 : PS} :
      R rid = 0 → x = { voted (s.heap[rid]!) (j - i) a t e with released := true } → ia = !x.nacked →
      bb.recs = [x.origRec] → bb.pos = [x.origPos] → bb.split = [] → BOK bb → (ia = false → NackOK bb) →
      exec (ackerCall fuel p bb ia tk) (setRun rid x s) = (r1, s1) → GroupRun p b a t R i j s (some rid) r1 s1

theorem groupStep_cases {p : Acker} {b : Batch} {rs : List (Option Nat)} (hb : VB b rs) {a : Bool} {t : Nat}
    (hn : a = false → NackOK b) {R : Nat → Nat} {fuel i j : Nat} {ro : Option Nat} {s s1 : PS} {r1 : Except Stop Unit}
    (hg : Stretch rs i j ro) (ha : ∀ rid, ro = some rid → RunOK (s.heap[rid]!) (j - i + R rid))
    (h : exec (groupStep fuel p b a t i j ro) s = (r1, s1)) : GroupRun p b a t R i j s ro r1 s1 := by
  cases ro with
  | none =>
    rw [groupStep, exec_bind] at h
    rcases hs : b.sub i j with e | sb
    · rw [hs, exec_liftR_err] at h; cases h; exact .nosub
    · rw [hs, exec_liftR_ok] at h; exact .norun hs h
  | some rid =>
    rw [groupStep_run] at h
    dsimp only at h
    have hok := ha rid rfl
    have he : a = false → (firstRunError ((b.st.take j).drop i)).isSome = true :=
      fun hi' => firstRunError_group (hn hi') hg.lt (by rw [hb.slen, ← hb.rlen]; exact hg.le)
    generalize firstRunError ((b.st.take j).drop i) = e at h he
    by_cases hm0 : 0 < R rid
    · obtain ⟨w1, w2⟩ := runVote_hold (s.heap[rid]!) (j - i) _ a t e hok hm0 he
      rw [w1] at h
      cases h
      exact .hold hm0 w2
    · have hm0' : R rid = 0 := by omega
      rw [hm0'] at hok
      rw [runVote_done (s.heap[rid]!) (j - i) a t e hok] at h
      have hnerr := voted_nerr (s.heap[rid]!) (j - i) a t e hok.nerr he
      generalize hx : ({ voted (s.heap[rid]!) (j - i) a t e with released := true } : SplitRun) = x at h
      have hxn : x.nacked = (voted (s.heap[rid]!) (j - i) a t e).nacked := by rw [← hx]
      have hxe : x.nackErr = (voted (s.heap[rid]!) (j - i) a t e).nackErr := by rw [← hx]
      cases hnk : (voted (s.heap[rid]!) (j - i) a t e).nacked with
      | true =>
        rw [hnk] at h
        refine .close (bb := runNackBatch x) (ia := false) (tk := x.nackTask) hm0' hx.symm (by rw [hxn, hnk]; rfl) rfl rfl rfl
          ⟨Or.inl rfl, (fun _ h => nomatch h), rfl, rfl⟩ ?_ h
        intro _ st hst
        simp only [runNackBatch, List.mem_singleton] at hst
        subst hst
        show x.nackErr.isSome = true
        rw [hxe]; exact hnerr hnk
      | false =>
        rw [hnk] at h
        exact .close (bb := runAckBatch x) (ia := true) (tk := 0) hm0' hx.symm (by rw [hxn, hnk]; rfl) rfl rfl rfl
          ⟨Or.inl rfl, (fun _ h => nomatch h), rfl, rfl⟩ (fun h => nomatch h) h

theorem group_spec {p : Acker} (C : Contract p) {b : Batch} {rs : List (Option Nat)} (hb : VB b rs) {isAck : Bool} {task : Nat}
    (hn : isAck = false → NackOK b) {R : Nat → Nat} {fuel i j : Nat} {ro : Option Nat} {s s1 : PS} {r1 : Except Stop Unit}
    (hg : Stretch rs i j ro) (hv : C.Valid s) (ha : Acc s.heap R ((b.view.drop i).take (j - i)))
    (h : exec (groupStep fuel p b isAck task i j ro) s = (r1, s1)) :
    VRes C R ((b.view.drop i).take (j - i)) s s1 r1 := by
  have hij := hg.lt
  obtain ⟨hglen, hgrun⟩ := hb.group (hb.rlen ▸ hg.le) hg.all
  generalize hgd : (b.view.drop i).take (j - i) = g at ha hglen hgrun ⊢
  have hgne : g ≠ [] := by intro he; rw [he] at hglen; simp at hglen; omega
  have hacc : ∀ rid, ro = some rid → rid < s.heap.size ∧ RunOK (s.heap[rid]!) (j - i + R rid) := by
    intro rid he
    have hcg : cnt rid g = j - i := by rw [cnt_group rid g (he ▸ hgrun), hglen]
    rw [← hcg]; exact ha rid (by omega)
  cases groupStep_cases hb hn (R := R) hg (fun rid he => (hacc rid he).2) h with
  | nosub => exact VRes.stay hv
  | norun hs hc =>
    obtain ⟨hsb, hpos, hst⟩ := hb.sub_norun hs hg.all
    exact VRes.norun hv hgrun hsb (fun hi' x hx => hn hi' x (hst x hx)) (hgd ▸ hpos) hc
  | @hold rid e hR hok =>
    obtain ⟨vf1, _, vf3, _⟩ := voted_fields (s.heap[rid]!) (j - i) isAck task e
    exact VRes.run_open hv (hacc rid rfl).1 hgne hgrun vf3 hR hok (by rw [vf1]; omega)
  | @close rid e x bb _ _ _ _ _ hR hx _ _ hpos _ hbok hnb hc =>
    have hxo : x.origPos = (s.heap[rid]!).origPos := by rw [hx]; exact (voted_fields _ _ _ _ _).2.2.1
    exact VRes.run_close hv (hacc rid rfl).1 hgne hgrun hxo hR hbok hnb (by rw [hpos]; rfl) hc

theorem vote_spec {p : Acker} (C : Contract p) (b : Batch) (rs : List (Option Nat)) (hb : VB b rs)
    (isAck : Bool) (task : Nat) (hn : isAck = false → NackOK b) (rest : Nat → Nat) :
    ∀ (fuel i : Nat) (s s' : PS) (r : Except Stop Unit), C.Valid s → Acc s.heap rest (b.view.drop i) →
      exec (voteLoop fuel p b isAck task i) s = (r, s') → VRes C rest (b.view.drop i) s s' r := by
  intro fuel
  induction fuel with
  | zero => intro i s s' r hv _ h; rw [voteLoop_zero] at h; cases h; exact VRes.stay hv
  | succ fuel ih =>
    intro i s s' r hv ha h
    by_cases hi : i < b.recs.length
    · obtain ⟨j, ro, hg, heq⟩ := voteLoop_group fuel p b isAck task i s hb.runs hb.rlen hi
      rw [heq] at h
      rw [drop_split b.view (i := i) (j := j) (Nat.le_of_lt hg.lt)] at ha ⊢
      exact vres_bind (fun r1 s1 hst => group_spec C hb hn hg hv ha.left hst)
        (fun s1 r2 s2 hg1 hx => ih j s1 s2 r2 (hg1.res.valid hv) (ha.right hg1.fr (hg1.post rfl)) hx)
        (fun rid hr => (ha rid hr).1) h
    · rw [voteLoop_end fuel p b isAck task i hi] at h
      cases h
      have : b.view.drop i = [] := List.drop_of_length_le (by rw [hb.view_len]; omega)
      rw [this]
      exact VRes.nil_ok hv

end Conduit.Funnel
