import ConduitModel.Proofs.MonGDefs
import ConduitModel.Proofs.PassSFan

/-!
# `originalBatch()` of a fan-out batch lists the source records of the batch

At a fan-out `originalBatch()` lists the keys the batch forwards when it is voted (`fan_keys`,
Proofs/PassSFan.lean); voting a batch whose runs are whole forwards the keys of the sources of its rows,
each once, in read order (`fk_srcs`: a run forwards at its last piece, and the pieces of a run are the
rows of one source).
-/
namespace Conduit.Funnel
open Conduit.Funnel.Mon

/-- the keys of the source records `q, q+1, …, q+n-1` -/
def srcKeys (G : Ctx) (q n : Nat) : List Nat := (List.range' q n).map fun j => ((G.all[j]?).map keyR).getD 0

theorem srcKeys_succ {G : Ctx} {q n : Nat} {src : Rec} (h : G.all[q]? = some src) :
    srcKeys G q (n + 1) = keyR src :: srcKeys G (q + 1) n := by
  unfold srcKeys
  rw [List.range'_succ, List.map_cons, h]; rfl

theorem drop_of_getElem? {α : Type} {l : List α} {k : Nat} {x : α} (hk : l[k]? = some x) : l.drop k = x :: l.drop (k + 1) := by
  obtain ⟨hlt, rfl⟩ := List.getElem?_eq_some_iff.mp hk
  exact List.drop_eq_getElem_cons hlt

/-- Voting the rows `≥ k` of a batch none of whose runs has a piece outside forwards the keys of the
sources of these rows (`ql` = the last of them). -/
theorem fk_srcs {G : Ctx} (hs : Src G) {h : Heap} {b : Batch} {sm : List Nat} {rs : List (Option Nat)} (hvb : VB b rs)
    (hm : SrcMap G h b sm) {ql : Nat} (hl : sm.getLast? = some ql) :
    ∀ (d k : Nat), k + d = sm.length →
      fk h (fun _ => 0) (b.view.drop k) = srcKeys G (nxJ sm (ql + 1) k) (ql + 1 - nxJ sm (ql + 1) k) := by
  rw [List.getLast?_eq_getElem?] at hl
  have hvl : b.view.length = sm.length := by rw [hvb.view_len, ← rows_length, hm.len]
  intro d
  induction d with
  | zero =>
    intro k hk
    rw [List.drop_of_length_le (by omega), nxJ_ge (by omega), Nat.sub_self]; rfl
  | succ d ih =>
    intro k hk
    have hklt : k < sm.length := by omega
    obtain ⟨q, hq⟩ : ∃ q, sm[k]? = some q := ⟨_, List.getElem?_eq_getElem hklt⟩
    obtain ⟨row, hr⟩ : ∃ row, b.rows[k]? = some row := ⟨_, List.getElem?_eq_getElem (by rw [← hm.len]; exact hklt)⟩
    obtain ⟨src, hsrc, hkey, _⟩ := hm.key k row q hr hq
    have hqle := (SM.le' hm (by omega : k ≤ sm.length - 1) hq hl).1
    have IH := ih (k + 1) (by omega)
    -- the source of the next row (or `ql + 1` at the end) is `q` again, and then the run goes on, or `q + 1`
    have hnext : (nxJ sm (ql + 1) (k + 1) = q ∧ ∃ row', b.rows[k + 1]? = some row' ∧ ∃ rid, row.run = some rid ∧ row'.run = some rid) ∨
        (nxJ sm (ql + 1) (k + 1) = q + 1 ∧ ∀ (k' q' : Nat), k + 1 ≤ k' → sm[k']? = some q' → q + 1 ≤ q') := by
      by_cases hlt : k + 1 < sm.length
      · obtain ⟨q1, hq'⟩ : ∃ q1, sm[k + 1]? = some q1 := ⟨_, List.getElem?_eq_getElem hlt⟩
        rw [nxJ_of hq']
        rcases hm.step k q _ hq hq' with he | he
        · obtain ⟨row', hr'⟩ : ∃ row', b.rows[k + 1]? = some row' := ⟨_, List.getElem?_eq_getElem (by rw [← hm.len]; exact hlt)⟩
          exact Or.inl ⟨he, _, hr', hm.same k row _ q hr hr' hq (by rw [hq', he])⟩
        · exact Or.inr ⟨he, fun k' q' hk' h' => by rw [← he]; exact (SM.le' hm hk' hq' h').1⟩
      · have : k = sm.length - 1 := by omega
        subst this
        rw [hl] at hq; cases hq
        rw [nxJ_ge (by omega)]
        exact Or.inr ⟨rfl, fun k' q' hk' h' => by have := (List.getElem?_eq_some_iff.mp h').1; omega⟩
    rw [nxJ_of hq, drop_of_getElem? (rows_view hvb hr)]
    rcases hnext with ⟨he, row', hr', rid, h1, h2⟩ | ⟨he, hge⟩
    · -- the run goes on: its key is forwarded at a later row
      have hc : 0 < cnt rid (b.view.drop (k + 1)) := (cnt_drop_pos hvb).mpr ⟨k + 1, row', Nat.le_refl _, hr', h2⟩
      rw [he] at IH
      rw [h1, fk, if_neg (by omega), List.nil_append, IH]
    · rw [he] at IH
      rw [show ql + 1 - q = (ql + 1 - (q + 1)) + 1 by omega, srcKeys_succ hsrc, ← IH, ← hkey]
      cases hrun : row.run with
      | none => rw [rowKey_none hrun, fk]
      | some r =>
        have hc : cnt r (b.view.drop (k + 1)) = 0 := by
          apply Classical.byContradiction
          intro hne
          obtain ⟨k', row', hk', hr', hrun'⟩ := (cnt_drop_pos hvb).mp (Nat.pos_of_ne_zero hne)
          obtain ⟨q', _, hq', _, _, _⟩ := SM.srcOf hm hr'
          have := SM.run_src hs hm hq hq' hr hr' hrun hrun'
          have := hge k' q' hk' hq'
          omega
        rw [rowKey_run hrun, fk, if_pos ⟨hc, rfl⟩, List.singleton_append]

theorem SM.onto {G : Ctx} {h : Heap} {b : Batch} {sm : List Nat} (hm : SrcMap G h b sm) {q0 : Nat} (h0 : sm[0]? = some q0) :
    ∀ (k qk : Nat), sm[k]? = some qk → ∀ q : Nat, q0 ≤ q → q ≤ qk → ∃ k' : Nat, sm[k']? = some q := by
  intro k
  induction k with
  | zero =>
    intro qk hk q h1 h2
    rw [h0] at hk; cases hk
    exact ⟨0, by rw [h0]; congr 1; omega⟩
  | succ k ih =>
    intro qk hk q h1 h2
    have hlt : k < sm.length := by have := (List.getElem?_eq_some_iff.mp hk).1; omega
    have hkk : sm[k]? = some sm[k] := List.getElem?_eq_getElem hlt
    rcases hm.step k _ qk hkk hk with he | he
    · exact ih _ hkk q h1 (by omega)
    · by_cases hq : q ≤ sm[k]
      · exact ih _ hkk q h1 hq
      · exact ⟨k + 1, by rw [hk]; congr 1; omega⟩

structure OrigSrcs (G : Ctx) (b : Batch) (sm : List Nat) (m0 : Nat) : Prop where
  key : ∀ (ix : Nat) (p : PosV), b.original.pos[ix]? = some p → ∃ src, G.all[m0 + ix]? = some src ∧ keyOf p = keyR src
  onto : ∀ ix : Nat, ix < b.original.pos.length → ∃ k : Nat, sm[k]? = some (m0 + ix)
  last : ∀ q : Nat, sm.getLast? = some q → q + 1 = m0 + b.original.pos.length
  empty : sm = [] → b.original.pos.length = 0

/-- At a fan-out (`runsWhole`, `maNew` succeeded), `originalBatch()` lists the source records of the
batch: its positions are the keys of the sources `m0, m0+1, …`, one per source, where `m0` is the
source of the first row. -/
theorem orig_srcs {G : Ctx} (hs : Src G) {h : Heap} {b : Batch} {sm : List Nat} {M : Nat} {ma : MA} (nx : Nat)
    (hi : SInv h (fun _ => 0) b) (hwhole : ∀ r : Nat, 0 < cnt r b.view → (h[r]!).terminal = 0)
    (hm : SrcMap G h b sm) (hma : maNew M b.original.pos = .ok ma) : OrigSrcs G b sm (nxJ sm nx 0) := by
  obtain ⟨rs, hvb⟩ := hi.vb
  have hkeys : keys b.original.pos = fk h (fun _ => 0) b.view := fan_keys hi (fun r hr => ⟨hwhole r hr, rfl⟩) hma
  have hlen : b.original.pos.length = (fk h (fun _ => 0) b.view).length := by rw [← hkeys, List.length_map]
  cases hq0 : sm[0]? with
  | none =>
    have he : sm = [] := List.length_eq_zero_iff.mp (by have := List.getElem?_eq_none_iff.mp hq0; omega)
    have hv : b.view = [] := List.length_eq_zero_iff.mp (by rw [hvb.view_len, ← rows_length, ← hm.len, he]; rfl)
    have hl : b.original.pos.length = 0 := by rw [hlen, hv]; rfl
    refine ⟨fun ix p hp => ?_, fun ix hix => (by omega), fun q hq => (by rw [he] at hq; cases hq), fun _ => hl⟩
    have := (List.getElem?_eq_some_iff.mp hp).1; omega
  | some q0 =>
    have hne : sm ≠ [] := by intro he; rw [he] at hq0; cases hq0
    have hql := List.getLast?_eq_some_getLast hne
    generalize sm.getLast hne = ql at hql
    have hfk := fk_srcs hs hvb hm hql sm.length 0 (Nat.zero_add _)
    rw [List.drop_zero, nxJ_of hq0] at hfk
    have hm0 : nxJ sm nx 0 = q0 := nxJ_of hq0
    have hle : q0 ≤ ql := by
      rw [List.getLast?_eq_getElem?] at hql
      exact (SM.le' hm (Nat.zero_le _) hq0 hql).1
    have hL : b.original.pos.length = ql + 1 - q0 := by rw [hlen, hfk, srcKeys, List.length_map, List.length_range']
    have honto : ∀ ix : Nat, ix < b.original.pos.length → ∃ k : Nat, sm[k]? = some (q0 + ix) := by
      intro ix hix
      rw [List.getLast?_eq_getElem?] at hql
      exact SM.onto hm hq0 _ _ hql (q0 + ix) (by omega) (by omega)
    rw [hm0]
    refine ⟨fun ix p hp => ?_, honto, fun q hq => by rw [hql] at hq; cases hq; omega,
      fun he => absurd he hne⟩
    have hix := (List.getElem?_eq_some_iff.mp hp).1
    obtain ⟨k, hk⟩ := honto ix hix
    have hkr : k < b.rows.length := by rw [← hm.len]; exact (List.getElem?_eq_some_iff.mp hk).1
    obtain ⟨src, hsrc, _, _⟩ := hm.key k _ _ (List.getElem?_eq_getElem hkr) hk
    refine ⟨src, hsrc, ?_⟩
    have e := congrArg (fun l => l[ix]?) (hkeys.trans hfk)
    simp only [keys, List.getElem?_map, hp, Option.map_some, srcKeys] at e
    rw [List.getElem?_range' (by omega)] at e
    simp only [Option.map_some, Nat.one_mul, hsrc, Option.getD_some] at e
    exact Option.some.inj e

end Conduit.Funnel
