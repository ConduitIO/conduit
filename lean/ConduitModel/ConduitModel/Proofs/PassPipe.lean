import ConduitModel.Proofs.PassTask
import ConduitModel.Proofs.PassStep
import ConduitModel.Props.BatchProps

/-!
# The task recursion `doTaskAttempt` / `taintedLoop` / `doNextTask` against a handler contract

For every ack/nack handler chain `a` with a `Contract`, running a task on a batch `b` gives the
handler a part of `b`'s positions, in order (`Partial`), and all of them, in order, each once,
when the task returns without error (`Done`). The fan-out case is a parameter (`FanSpec`).
-/
namespace Conduit.Funnel

/-- outcome `r` of a computation from `s` to `s'` that is responsible for the keys `ks` -/
def Res {a : Acker} (C : Contract a) (ks : List Nat) (s s' : PS) (r : Except Stop Unit) : Prop :=
  C.Partial ks s s' ∧ (r = .ok () → C.Done ks s s')

namespace Res
variable {a : Acker} {C : Contract a}

theorem fail_quiet {s s' : PS} {e : Stop} (hv : C.Valid s) (hq : Q s s') (ks : List Nat) : Res C ks s s' (.error e) :=
  ⟨C.quiet_partial hv hq ks, fun h => nomatch h⟩

theorem ok_quiet' {s s' : PS} (hv : C.Valid s) (hq : Quiet C.top s s') : Res C [] s s' (.ok ()) :=
  ⟨C.done_partial (C.quiet_done hv hq), fun _ => C.quiet_done hv hq⟩

theorem ok_quiet {s s' : PS} (hv : C.Valid s) (hq : Q s s') : Res C [] s s' (.ok ()) := ok_quiet' hv (hq.quiet _)

theorem pre_quiet {s s1 s2 : PS} {ks : List Nat} {r : Except Stop Unit} (hv : C.Valid s) (hq : Q s s1)
    (h : Res C ks s1 s2 r) : Res C ks s s2 r := by
  have hd := C.quiet_done hv (hq.quiet C.top)
  constructor
  · have := C.done_partial_trans hd h.1; simpa using this
  · intro hr; have := C.done_done hd (h.2 hr); simpa using this

theorem seq {s s1 s2 : PS} {k1 k2 : List Nat} {r : Except Stop Unit} (h1 : Res C k1 s s1 (.ok ()))
    (h2 : Res C k2 s1 s2 r) : Res C (k1 ++ k2) s s2 r :=
  ⟨C.done_partial_trans (h1.2 rfl) h2.1, fun hr => C.done_done (h1.2 rfl) (h2.2 hr)⟩

theorem fail_mono {s s1 : PS} {k1 : List Nat} {e e' : Stop} (h1 : Res C k1 s s1 (.error e)) (k2 : List Nat) :
    Res C (k1 ++ k2) s s1 (.error e') :=
  ⟨C.partial_mono k2 h1.1, fun h => nomatch h⟩

theorem valid {s s' : PS} {ks : List Nat} {r : Except Stop Unit} (hv : C.Valid s) (h : Res C ks s s' r) : C.Valid s' :=
  C.partial_valid hv h.1

theorem ns {s s' : PS} {ks : List Nat} {r : Except Stop Unit} (hn : NS s.scripts) (h : Res C ks s s' r) :
    NS s'.scripts := C.partial_ns h.1 hn

end Res

theorem res_bind {a : Acker} {C : Contract a} {X : M Unit} {K : Unit → M Unit} {k1 k2 : List Nat} {s s' : PS}
    {r : Except Stop Unit} (hv : C.Valid s) (hn : NS s.scripts)
    (hX : ∀ r1 s1, exec X s = (r1, s1) → Res C k1 s s1 r1)
    (hK : ∀ s1 r2 s2, C.Valid s1 → NS s1.scripts → exec (K ()) s1 = (r2, s2) → Res C k2 s1 s2 r2)
    (h : exec (X >>= K) s = (r, s')) : Res C (k1 ++ k2) s s' r := by
  rw [exec_bind] at h
  rcases hx : exec X s with ⟨r1, s1⟩
  rw [hx] at h
  have h1 := hX r1 s1 hx
  cases r1 with
  | error e => dsimp only at h; cases h; exact h1.fail_mono k2
  | ok u => dsimp only at h; exact h1.seq (hK s1 r s' (h1.valid hv) (h1.ns hn) h)

def PipeSpec (Good : TaskNode → Prop) (fuel : Nat) : Prop :=
  ∀ (a : Acker) (C : Contract a) (node : TaskNode) (b : Batch) (retry : Option RetryAttempt) (skipDo : Bool)
    (s s' : PS) (r : Except Stop Unit), Good node → C.Valid s → NS s.scripts → BInv b →
    exec (doTaskAttempt fuel node b a retry skipDo) s = (r, s') → Res C (keys b.pos) s s' r

def NextSpec (fuel : Nat) : Prop :=
  ∀ (a : Acker) (C : Contract a) (node : TaskNode) (b : Batch) (s s' : PS) (r : Except Stop Unit),
    node.next ≠ [] → C.Valid s → NS s.scripts → BInv b →
    exec (doNextTask fuel node b a) s = (r, s') → Res C (keys b.pos) s s' r

def FanSpec (fuel : Nat) : Prop :=
  ∀ (a : Acker) (C : Contract a) (node : TaskNode) (b : Batch) (s s' : PS) (r : Except Stop Unit) (ma : MA)
    (order : List Nat) (rest : List (List Nat)), 2 ≤ node.next.length → C.Valid s → NS s.scripts → BInv b →
    cntValid node.next.length order = node.next.length → maNew node.next.length b.original.pos = .ok ma →
    exec (branches fuel node.next order b (.multi s.mas.size a) none none)
      { s with mas := s.mas.push ma, orders := rest } = (r, s') → Res C (keys b.pos) s s' r

def TaintSpec (fuel : Nat) : Prop :=
  ∀ (a : Acker) (C : Contract a) (node : TaskNode) (b : Batch) (retry : Option RetryAttempt) (i : Nat)
    (s s' : PS) (r : Except Stop Unit), C.Valid s → NS s.scripts → BInv b →
    exec (taintedLoop fuel node b a retry i) s = (r, s') → Res C (keys (b.pos.drop i)) s s' r

theorem sub_BInv {b sb : Batch} {i j : Nat} (hb : BInv b) (h : b.sub i j = .ok sb) :
    BInv sb ∧ sb.pos = (b.pos.take j).drop i ∧ sb.st = (b.st.take j).drop i := by
  have hso := sub_ok_fields h
  obtain ⟨sb', g1, g2⟩ := sub_ok hb.wf hso.le hso.recs_le
  rw [g1] at h
  cases h
  refine ⟨⟨g2, hso.split_nil hb.split, ?_, ?_⟩, hso.pos, hso.st⟩
  · intro rs hrs r hr
    rw [hso.runs] at hrs
    cases hbr : b.runs with
    | none => rw [hbr] at hrs; cases hrs
    | some rs0 =>
      rw [hbr] at hrs
      simp only [Option.map_some, Option.some.injEq] at hrs
      subst hrs
      exact hb.runs rs0 hbr r ((List.take_sublist j rs0).subset ((List.drop_sublist i _).subset hr))
  · intro x hx
    rw [hso.st] at hx
    exact hb.ne x ((List.take_sublist j b.st).subset ((List.drop_sublist i _).subset hx))

theorem BInv.reflag {sb sb' : Batch} (hsb : BInv sb) (hsf : sb.setFlagRange .ack 0 sb.recs.length = .ok sb') :
    BInv { sb' with tainted := false } ∧ sb'.pos = sb.pos ∧ sb'.recs = sb.recs := by
  obtain ⟨hfr, hrecs⟩ := setFlagRange_fr hsb.wf (by decide) (by decide) hsf
  have hwf' := C08_aligned_setFlagRange hsb.wf (by decide) hsf
  exact ⟨⟨⟨⟨hwf'.1.st_len, hwf'.1.pos_len, hwf'.1.runs_ok, hwf'.1.split_keys⟩, hwf'.2⟩,
    hfr.split.trans hsb.split, fun rs hrs => hsb.runs rs (hfr.runs ▸ hrs), hfr.ne hsb.ne⟩, hfr.pos, hrecs⟩

theorem drop_split {α} (l : List α) {i j : Nat} (h : i ≤ j) : l.drop i = (l.drop i).take (j - i) ++ l.drop j := by
  have : l.drop j = (l.drop i).drop (j - i) := by rw [List.drop_drop]; congr 1; omega
  rw [this, List.take_append_drop]

theorem keys_drop_split (pos : List PosV) (i j : Nat) (hij : i ≤ j) :
    keys (pos.drop i) = keys ((pos.take j).drop i) ++ keys (pos.drop j) := by
  show (pos.drop i).map keyOf = ((pos.take j).drop i).map keyOf ++ (pos.drop j).map keyOf
  rw [List.drop_take, ← List.map_append, ← drop_split pos hij]

theorem ackOrNext_res {fuel : Nat} (hN : NextSpec fuel) {a : Acker} (C : Contract a) {node : TaskNode} {b : Batch}
    {s s' : PS} {r : Except Stop Unit} (hv : C.Valid s) (hn : NS s.scripts) (hb : BInv b)
    (h : exec (ackOrNext fuel node a b) s = (r, s')) : Res C (keys b.pos) s s' r := by
  unfold ackOrNext at h
  split at h
  · obtain ⟨p1, p2, _⟩ := C.call fuel b true 0 s r s' hv hb.bok (fun h => nomatch h) h
    exact ⟨p1, p2⟩
  · rename_i hc
    exact hN a C node b s s' r (fun he => hc (by rw [he]; rfl)) hv hn hb h

theorem dta_step (fuel : Nat) (hN : NextSpec fuel) (hT : TaintSpec fuel) : PipeSpec (fun _ => True) (fuel+1) := by
  intro a C node b retry skipDo s s' r _ hv hn hb h
  rcases doTaskAttempt_step h with ⟨_, e, ht, e', rfl⟩ | ⟨b1, s1, X, hpre, hX, h⟩
  · exact Res.fail_quiet hv (taskDo_spec node b s s' _ hb hn ht).1 _
  · have key : BInv b1 → C.Valid s1 → NS s1.scripts → Res C (keys b1.pos) s1 s' r := by
      intro hb1 hv1 hn1
      cases hX with
      | clean _ => exact ackOrNext_res hN C hv1 hn1 hb1 h
      | taint _ => simpa using hT a C node b1 retry 0 s1 s' r hv1 hn1 hb1 h
    rcases hpre with ⟨_, rfl, rfl⟩ | ⟨_, ht⟩
    · exact key hb hv hn
    · obtain ⟨hq, hb1⟩ := taskDo_spec node b s s1 _ hb hn ht
      obtain ⟨hbi, hpos⟩ := hb1 b1 rfl
      rw [← hpos]
      exact (key hbi (C.quiet_valid hv hq) (hq.ns hn)).pre_quiet hv hq

theorem taint_step (fuel : Nat) (hP : PipeSpec (fun _ => True) fuel) (hN : NextSpec fuel) (hT : TaintSpec fuel) :
    TaintSpec (fuel+1) := by
  intro a C node b retry i s s' r hv hn hb h
  rcases taintedLoop_step h with ⟨hi, rfl, rfl⟩ | ⟨hlt, ⟨e, rfl, rfl⟩ | ⟨sb, s0, X, hs, h00, hX, h⟩⟩
  · have : b.pos.drop i = [] := List.drop_of_length_le (by rw [hb.wf.1.pos_len, ← hb.wf.1.st_len]; exact hi)
    rw [this]
    exact Res.ok_quiet hv (Q.refl _)
  · exact Res.fail_quiet hv (Q.refl _) _
  · obtain ⟨hsb, hsp, hss⟩ := sub_BInv hb hs
    have hgt := groupEnd_gt b.st i hlt
    rw [keys_drop_split b.pos i (groupEnd b.st i) (Nat.le_of_lt hgt), ← hsp]
    refine res_bind hv hn (fun r1 s1 hx => ?_)
      (fun s1 r2 s2 hv1 hn1 hx => hT a C node b retry _ s1 s2 r2 hv1 hn1 hb hx) h
    cases hX with
    | keep _ => exact ackOrNext_res hN C hv hn hsb hx
    | nack hall =>
      obtain ⟨p1, p2, _⟩ := C.call fuel sb false node.id s r1 s1 hv hsb.bok (fun _ x hx => hsb.ne x hx (hall x hx)) hx
      exact ⟨p1, p2⟩
    | retry _ sb' nx hsf =>
      obtain ⟨hbi, hpos, _⟩ := hsb.reflag hsf
      rw [← hpos]
      exact hP a C node { sb' with tainted := false } (some nx) false s s1 r1 trivial hv hn hbi hx

theorem next_step (fuel : Nat) (hP : PipeSpec (fun _ => True) fuel) (hfan : FanSpec fuel) : NextSpec (fuel+1) := by
  intro a C node b s s' r hne hv hn hb h
  rcases doNextTask_step h with ⟨he, _⟩ | ⟨n, _, h⟩ | ⟨h2, ⟨e, rfl, rfl⟩ | ⟨_, ma, o, rest, hma, h⟩⟩
  · exact absurd he hne
  · exact hP a C n b none false s s' r trivial hv hn hb h
  · exact Res.fail_quiet hv (Q.refl _) _
  · exact hfan a C node b s s' r ma _ rest h2 hv hn hb (order_valid _ _) hma h

theorem pipe_all (hfan : ∀ fuel, (∀ f, f ≤ fuel → PipeSpec (fun _ => True) f) → FanSpec fuel) :
    ∀ fuel f, f ≤ fuel → PipeSpec (fun _ => True) f ∧ TaintSpec f ∧ NextSpec f := by
  refine fuel_rec ⟨?_, ?_, ?_⟩ dta_step taint_step (fun n hp => next_step n (hp n (Nat.le_refl _)) (hfan n hp))
  · intro a C node b retry skipDo s s' r _ hv _ _ h
    rw [doTaskAttempt_zero] at h; cases h; exact Res.fail_quiet hv (Q.refl _) _
  · intro a C node b retry i s s' r hv _ _ h
    rw [taintedLoop_zero] at h; cases h; exact Res.fail_quiet hv (Q.refl _) _
  · intro a C node b s s' r _ hv _ _ h
    rw [doNextTask_zero] at h; cases h; exact Res.fail_quiet hv (Q.refl _) _

/-- every task has at most one next task -/
inductive Linear : TaskNode → Prop
  | mk (id : Nat) (kind : TaskKind) (next : List TaskNode) :
      next.length ≤ 1 → (∀ n ∈ next, Linear n) → Linear (.mk id kind next)

theorem Linear.child {node : TaskNode} (h : Linear node) : ∀ n ∈ node.next, Linear n := by
  cases h with
  | mk id kind next _ hc => exact hc

theorem Linear.len {node : TaskNode} (h : Linear node) : node.next.length ≤ 1 := by
  cases h with
  | mk id kind next hl _ => exact hl

end Conduit.Funnel
