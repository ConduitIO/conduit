import ConduitModel.Proofs.BatchNack
import ConduitModel.Proofs.BatchSetRecords
import ConduitModel.Proofs.BatchSplit
import ConduitModel.Proofs.BatchInv
import ConduitModel.Proofs.MonSRows

/-!
# What one mutator call does, said once

A call of `markBatchRecords` (`BCall`) other than `SplitRecord` rewrites rows in place: the rows at the active
indices it addresses by `BCall.T`, any other row by `BCall.N` (the identity, but for a `Nack` that spreads over
the unfiltered rows of a split record). `InPlace` is that description, `call_eff` proves it of every call that
returns on a well-formed batch. What a reader of the calls needs — the invariant, the frame, a property of all
statuses, the active indices below the call — follows from `InPlace` for all calls at once (`InPlace.below`,
`InPlace.st_forall`, …); `SplitRecord` has `SplitRows` (Proofs/BatchRows.lean).
-/
namespace Conduit.Funnel

def Batch.rowAt (c : Batch) (k : Nat) : Row :=
  { r := c.recs[k]?.getD default, st := c.st[k]?.getD default, pos := (c.pos[k]?).getD none, run := c.runAt k }

theorem rows_eq (c : Batch) : c.rows = (List.range c.recs.length).map c.rowAt := rfl

theorem rows_length (c : Batch) : c.rows.length = c.recs.length := by simp [rows_eq]

theorem getElem?_rows (c : Batch) (k : Nat) :
    c.rows[k]? = if k < c.recs.length then some (c.rowAt k) else none := by
  rw [rows_eq, List.getElem?_map]
  by_cases hk : k < c.recs.length
  · simp [hk]
  · simp [hk]

theorem rowAt_congr {c c' : Batch} {q : Nat} (h1 : c'.recs[q]? = c.recs[q]?) (h2 : c'.st[q]? = c.st[q]?)
    (h3 : c'.pos = c.pos) (h4 : c'.runs = c.runs) : c'.rowAt q = c.rowAt q := by
  simp only [Batch.rowAt, Batch.runAt, h1, h2, h3, h4]

theorem rowAt_st {c : Batch} {q : Nat} (hq : q < c.st.length) : (c.rowAt q).st = c.st[q] := by
  simp [Batch.rowAt, hq]

/-- one mutator call of a `markBatchRecords` (the processor's; the destination's are `nack`s) -/
inductive BCall
  | setRecords (i : Nat) (recs : List Rec)
  | filterRange (i j : Nat)
  | nack (i : Nat) (errs : List (Option Err))
  | retry (i j : Nat)
  | filter1 (i : Nat)
  | split (i : Nat) (m : List Rec)

def BCall.run (s : Heap × Batch) : BCall → R (Heap × Batch)
  | .setRecords i recs => do let b ← s.2.setRecords i recs; pure (s.1, b)
  | .filterRange i j => do let b ← s.2.filterRange i j; pure (s.1, b)
  | .nack i errs => do let b ← s.2.nack i errs; pure (s.1, b)
  | .retry i j => do let b ← s.2.retry i j; pure (s.1, b)
  | .filter1 i => do let b ← s.2.filter1 i; pure (s.1, b)
  | .split i m => s.2.splitRecord s.1 i m

theorem run_ok {s : Heap × Batch} {x : R Batch} {b' : Batch} (h : x = .ok b') :
    (do let b ← x; pure (s.1, b) : R (Heap × Batch)) = .ok (s.1, b') := by rw [h]; rfl

theorem splitRecord_of_ok {h h' : Heap} {b b' : Batch} (hwf : b.WF h) {i : Nat} {m : List Rec} (hm : 1 ≤ m.length)
    (hr : b.splitRecord h i m = .ok (h', b')) :
    ∃ hi : i < b.nAct, b.splittableAt ((actList b.st)[i]'hi) = true ∧ SplitPost h b i ((actList b.st)[i]'hi) m h' b' := by
  have hi := splitRecord_inrange hwf hr
  by_cases hsp : b.splittableAt ((actList b.st)[i]'hi) = true
  · obtain ⟨h'', b'', g1, g⟩ := splitRecord_ok_aux hwf (List.getElem?_eq_getElem hi) hsp hm
    cases g1.symm.trans hr
    exact ⟨hi, hsp, g⟩
  · obtain ⟨_, g⟩ := splitRecord_panics_of_not_splittable hwf hi (recs := m) (by simpa using hsp)
    rw [g] at hr; cases hr

/-- the active indices a call addresses: `lo … hi-1` -/
def BCall.lo : BCall → Nat
  | .setRecords i _ | .filterRange i _ | .nack i _ | .retry i _ | .filter1 i | .split i _ => i

def BCall.hi : BCall → Nat
  | .setRecords i recs => i + recs.length
  | .filterRange _ j | .retry _ j => j
  | .nack i errs => i + errs.length
  | .filter1 i | .split i _ => i + 1

/-- the flags `Nack` and `Retry` come with `tainted` -/
def BCall.taints : BCall → Bool
  | .nack _ _ | .retry _ _ => true
  | _ => false

/-- what a call makes of the row at the active index `k` it addresses (`SplitRecord`: see `SplitRows`) -/
def BCall.T : BCall → Nat → Row → Row → Prop
  | .setRecords i recs, k, row, row' => row' = { row with r := recs[k - i]?.getD row.r }
  | .filterRange _ _, _, row, row' | .filter1 _, _, row, row' => row' = { row with st := setFlagP .filter row.st }
  | .retry _ _, _, row, row' => row' = { row with st := setFlagP .retry row.st }
  | .nack _ errs, _, row, row' => ∃ e ∈ errs, row' = { row with st := { flag := .nack, err := e } }
  | .split _ _, _, _, _ => False

def BCall.N : BCall → Row → Row → Prop
  | .nack i errs, row, row' => row' = row ∨ (row.st.flag ≠ .filter ∧ (BCall.nack i errs).T 0 row row')
  | _, row, row' => row' = row

theorem BCall.T_setRecords {i : Nat} {recs : List Rec} {k : Nat} {row row' : Row} :
    (BCall.setRecords i recs).T k row row' ↔ row' = { row with r := recs[k - i]?.getD row.r } := Iff.rfl
theorem BCall.T_filterRange {i j k : Nat} {row row' : Row} :
    (BCall.filterRange i j).T k row row' ↔ row' = { row with st := setFlagP .filter row.st } := Iff.rfl
theorem BCall.T_filter1 {i k : Nat} {row row' : Row} :
    (BCall.filter1 i).T k row row' ↔ row' = { row with st := setFlagP .filter row.st } := Iff.rfl
theorem BCall.T_retry {i j k : Nat} {row row' : Row} :
    (BCall.retry i j).T k row row' ↔ row' = { row with st := setFlagP .retry row.st } := Iff.rfl
theorem BCall.T_nack {i : Nat} {errs : List (Option Err)} {k : Nat} {row row' : Row} :
    (BCall.nack i errs).T k row row' ↔ ∃ e ∈ errs, row' = { row with st := { flag := .nack, err := e } } := Iff.rfl

theorem BCall.T_st {c : BCall} {k : Nat} {row row' : Row} (hT : c.T k row row') :
    row'.st = row.st ∨ row'.st = setFlagP .filter row.st ∨
      (c.taints = true ∧ (row'.st = setFlagP .retry row.st ∨
        ∃ i errs e, c = .nack i errs ∧ e ∈ errs ∧ row'.st = { flag := .nack, err := e })) := by
  cases c with
  | setRecords i recs => cases hT; exact .inl rfl
  | filterRange i j | filter1 i => cases hT; exact .inr (.inl rfl)
  | retry i j => cases hT; exact .inr (.inr ⟨rfl, .inl rfl⟩)
  | nack i errs => obtain ⟨e, he, rfl⟩ := hT; exact .inr (.inr ⟨rfl, .inr ⟨i, errs, e, rfl, he, rfl⟩⟩)
  | split i m => exact hT.elim

theorem BCall.N_cases {c : BCall} {row row' : Row} (hN : c.N row row') :
    row' = row ∨ (c.taints = true ∧ row.st.flag ≠ .filter ∧
      ∃ i errs e, c = .nack i errs ∧ e ∈ errs ∧ row' = { row with st := { flag := .nack, err := e } }) := by
  cases c with
  | nack i errs =>
    rcases hN with h | ⟨h1, e, he, h2⟩
    · exact .inl h
    · exact .inr ⟨rfl, h1, i, errs, e, rfl, he, h2⟩
  | _ => exact .inl hN

structure InPlace (h : Heap) (i j : Nat) (T : Nat → Row → Row → Prop) (N : Row → Row → Prop) (b b' : Batch) : Prop where
  wf : b'.WF h
  pos : b'.pos = b.pos
  runs : b'.runs = b.runs
  split : b'.split = b.split
  act : ∀ k : Nat, k < i → (actList b'.st)[k]? = (actList b.st)[k]?
  tgt : ∀ k q : Nat, i ≤ k → k < j → (actList b.st)[k]? = some q → T k (b.rowAt q) (b'.rowAt q)
  oth : ∀ x : Nat, (¬ ∃ k : Nat, i ≤ k ∧ k < j ∧ (actList b.st)[k]? = some x) → N (b.rowAt x) (b'.rowAt x)

namespace InPlace
variable {h : Heap} {i j : Nat} {T : Nat → Row → Row → Prop} {N : Row → Row → Prop} {b b' : Batch}

theorem recs_len (M : InPlace h i j T N b b') (hwf : b.WF h) : b'.recs.length = b.recs.length := by
  rw [← M.wf.1.pos_len, M.pos, hwf.1.pos_len]

theorem st_len (M : InPlace h i j T N b b') (hwf : b.WF h) : b'.st.length = b.st.length := by
  rw [M.wf.1.st_len, M.recs_len hwf, hwf.1.st_len]

theorem below (M : InPlace h i j T N b b') : Below i b b' := Below.of_st M.pos M.runs M.act

theorem st_forall (M : InPlace h i j T N b b') (hwf : b.WF h) {P : Status → Prop}
    (hT : ∀ k row row', T k row row' → P row.st → P row'.st) (hN : ∀ row row', N row row' → P row.st → P row'.st)
    (hb : ∀ s ∈ b.st, P s) : ∀ s ∈ b'.st, P s := by
  intro s hs
  obtain ⟨x, hx, rfl⟩ := List.getElem_of_mem hs
  have hxb : x < b.st.length := M.st_len hwf ▸ hx
  have hP : P (b.rowAt x).st := by rw [rowAt_st hxb]; exact hb _ (List.getElem_mem hxb)
  rw [← rowAt_st hx]
  by_cases ht : ∃ k : Nat, i ≤ k ∧ k < j ∧ (actList b.st)[k]? = some x
  · obtain ⟨k, h1, h2, h3⟩ := ht
    exact hT k _ _ (M.tgt k x h1 h2 h3) hP
  · exact hN _ _ (M.oth x ht) hP

end InPlace

theorem flagged_inPlace {h : Heap} {b : Batch} {f : Flag} {i j : Nat} {t : Bool} {fc : Nat}
    (hwf : ({ b with st := b.flagged f i j, tainted := t, filterCount := fc } : Batch).WF h)
    (hact : ∀ k : Nat, k < i → (actList (b.flagged f i j))[k]? = (actList b.st)[k]?) :
    InPlace h i j (fun _ row row' => row' = { row with st := setFlagP f row.st }) (fun row row' => row' = row) b
      { b with st := b.flagged f i j, tainted := t, filterCount := fc } := by
  refine ⟨hwf, rfl, rfl, rfl, hact, ?_, ?_⟩
  · intro k q h1 h2 hq
    have hq' : q < b.st.length := (mem_actList.mp (List.mem_of_getElem? hq)).1
    simp only [Batch.rowAt, Batch.runAt, (getElem?_flagged b f i j q).1 ⟨k, h1, h2, hq⟩, List.getElem?_eq_getElem hq',
      Option.map_some, Option.getD_some]
  · intro x hx
    exact rowAt_congr (c := b) rfl ((getElem?_flagged b f i j x).2 hx) rfl rfl

theorem setRecords_inPlace {h : Heap} {b b' : Batch} (hwf : b.WF h) {i : Nat} {recs : List Rec}
    (hr : b.setRecords i recs = .ok b') :
    InPlace h i (i + recs.length) (BCall.setRecords i recs).T (BCall.setRecords i recs).N b b' ∧ b'.tainted = b.tainted := by
  obtain ⟨e, hl, hin, hout⟩ := setRecords_of_ok hwf hr
  rw [e]
  refine ⟨⟨hwf.with_recs hl, rfl, rfl, rfl, fun _ _ => rfl, ?_, ?_⟩, rfl⟩
  · intro k q h1 h2 hq
    have hk : k - i < recs.length := by omega
    show ({ b with recs := b'.recs } : Batch).rowAt q = _
    simp only [Batch.rowAt, Batch.runAt, hin k q h1 h2 hq, List.getElem?_eq_getElem hk, Option.getD_some]
  · intro x hx
    exact rowAt_congr (c := b) (hout x hx) rfl rfl rfl

/-- `NackPost` read on the rows -/
theorem NackPost.inPlace {h : Heap} {b : Batch} (hwf : b.WF h) {i : Nat} {errs : List (Option Err)} {st' : List Status}
    (hl : st'.length = b.st.length) (P : NackPost b i errs b.st st') :
    actList st' = actList b.st ∧
      InPlace h i (i + errs.length) (BCall.nack i errs).T (BCall.nack i errs).N b { b with st := st', tainted := true } := by
  have hn : ∀ x : Nat, notFilt st' x = notFilt b.st x := by
    intro x
    rcases P.changed x with h1 | ⟨h1, _, k, _, h2, _⟩
    · exact notFilt_of_getElem?_eq h1
    · rw [h1]; exact notFilt_of_nack h2 rfl
  obtain ⟨c1, c2⟩ := countFilter_congr hl hn
  have hrow : ∀ x : Nat, ({ b with st := st', tainted := true } : Batch).rowAt x =
      { b.rowAt x with st := st'[x]?.getD default } := fun x => rfl
  have hmem : ∀ k : Nat, k < errs.length → (errs[k]?).join ∈ errs := fun k hk => by
    rw [List.getElem?_eq_getElem hk]; exact List.getElem_mem hk
  refine ⟨c2, ⟨hwf.1.with_st hl true b.filterCount, c1 ▸ hwf.2⟩, rfl, rfl, rfl,
    fun k _ => congrArg (·[k]?) c2, ?_, ?_⟩
  · intro k q h1 h2 hq
    obtain ⟨p, k', a1, hk', a2⟩ := P.hit (k - i) (by omega)
    rw [show i + (k - i) = k by omega, hq] at a1
    cases a1
    exact ⟨_, hmem k' hk', by rw [hrow, a2]; rfl⟩
  · intro x _
    rcases P.changed x with h1 | ⟨h1, h2, k, hk, h3, _⟩
    · exact .inl (by rw [hrow, h1]; rfl)
    · refine .inr ⟨?_, _, hmem k hk, by rw [hrow, h3]; rfl⟩
      rw [rowAt_st h2]
      exact (notFilt_iff h2).mp h1

theorem call_eff {h h' : Heap} {b b' : Batch} {c : BCall} (hwf : b.WF h) (hc : ∀ i m, c ≠ .split i m)
    (hr : c.run (h, b) = .ok (h', b')) :
    h' = h ∧ InPlace h c.lo c.hi c.T c.N b b' ∧ b'.tainted = (b.tainted || c.taints) := by
  have keep : ∀ {x : R Batch}, (do let b ← x; pure (h, b) : R (Heap × Batch)) = .ok (h', b') →
      (∀ b1, x = .ok b1 → InPlace h c.lo c.hi c.T c.N b b1 ∧ b1.tainted = (b.tainted || c.taints)) →
      h' = h ∧ InPlace h c.lo c.hi c.T c.N b b' ∧ b'.tainted = (b.tainted || c.taints) := fun hr hx => by
    obtain ⟨b1, h1, h2⟩ := bind_eq_ok hr
    cases h2
    exact ⟨rfl, hx _ h1⟩
  cases c with
  | split i m => exact absurd rfl (hc i m)
  | setRecords i recs =>
    refine keep hr fun _ e => ?_
    obtain ⟨M, t⟩ := setRecords_inPlace hwf e
    exact ⟨M, by rw [t]; exact (Bool.or_false _).symm⟩
  | nack i errs =>
    refine keep hr fun _ e => ?_
    obtain ⟨st', e2, hl, P⟩ := nack_ok_ext hwf (nack_inrange hwf e)
    cases e2.symm.trans e
    exact ⟨(P.inPlace hwf hl).2, (Bool.or_true _).symm⟩
  | filterRange i j =>
    refine keep hr fun _ e => ?_
    obtain ⟨hij, hj⟩ := filterRange_inrange hwf e
    rw [filterRange_ok hwf hij hj] at e
    cases e
    exact ⟨flagged_inPlace (WF_filtered hwf (Nat.le_of_lt hij) hj) (fun _ => act_filtered b (Nat.le_of_lt hij)), (Bool.or_false _).symm⟩
  | retry i j =>
    refine keep hr fun _ e => ?_
    obtain ⟨hij, hj⟩ := retry_inrange hwf e
    rw [retry_ok hwf hij hj] at e
    cases e
    exact ⟨flagged_inPlace (WF_flagged hwf (by decide) _ _ _) (fun k _ => congrArg (·[k]?) (actList_flagged_of_ne (by decide) i j)),
      (Bool.or_true _).symm⟩
  | filter1 i =>
    refine keep hr fun _ e => ?_
    have hi := filter1_inrange hwf e
    rw [filter1_ok hwf hi] at e
    cases e
    refine ⟨flagged_inPlace ?_ (fun _ => act_filtered b (Nat.le_succ i)), (Bool.or_false _).symm⟩
    have := WF_filtered hwf (i := i) (j := i + 1) (Nat.le_succ i) hi
    rwa [Nat.add_sub_cancel_left] at this

theorem call_WF {h h' : Heap} {b b' : Batch} {c : BCall} (hwf : b.WF h) (hs : ∀ i m, c = .split i m → 1 ≤ m.length)
    (hr : c.run (h, b) = .ok (h', b')) : b'.WF h' ∧ h.size ≤ h'.size ∧ Below c.lo b b' := by
  by_cases hsp : ∃ i m, c = .split i m
  · obtain ⟨i, m, rfl⟩ := hsp
    obtain ⟨_, _, P⟩ := splitRecord_of_ok hwf (hs i m rfl) hr
    exact ⟨P.wf, P.size, P.below⟩
  · obtain ⟨rfl, M, _⟩ := call_eff hwf (fun i m e => hsp ⟨i, m, e⟩) hr
    exact ⟨M.wf, Nat.le_refl _, M.below⟩

theorem call_ok {h : Heap} {b : Batch} {c : BCall} (hwf : b.WF h) (hlt : c.lo < c.hi) (hle : c.hi ≤ b.nAct)
    (hs : ∀ i m, c = .split i m → 1 ≤ m.length ∧ ∃ p : Nat, (actList b.st)[i]? = some p ∧ b.splittableAt p = true) :
    ∃ s', c.run (h, b) = .ok s' := by
  cases c with
  | setRecords i recs =>
    obtain ⟨out, e, _⟩ := setRecords_effect hwf hle
    exact ⟨_, run_ok e⟩
  | filterRange i j => exact ⟨_, run_ok (filterRange_ok hwf hlt hle)⟩
  | nack i errs =>
    obtain ⟨st', e, _⟩ := nack_ok_ext hwf (.inr hle)
    exact ⟨_, run_ok e⟩
  | retry i j => exact ⟨_, run_ok (retry_ok hwf hlt hle)⟩
  | filter1 i => exact ⟨_, run_ok (filter1_ok hwf hle)⟩
  | split i m =>
    obtain ⟨hm, p, hp, hsp⟩ := hs i m rfl
    obtain ⟨h', b', e, _⟩ := splitRecord_ok_aux hwf hp hsp hm
    exact ⟨_, e⟩

end Conduit.Funnel
