import ConduitModel.Proofs.MonGKey

/-!
# `ProcessorTask.Do` against an abstract handler contract, records may be split

`procDo_monG`. `PCGK` is the situation after the call: the batch was in flight (`FlightGK`), the returned batch
`b1` consists of the kids of its rows (`SProc.PMap`, Proofs/MonSProc.lean); a lemma `PCGK.x1` is clause `x` of
`FlightGK` for `b1`.
-/
namespace Conduit.Funnel
open Conduit.Funnel.Mon

variable {κ : Nat → Nat}

namespace GProc
open SProc

/-- the situation after the call as `PCGK` below, for the tags themselves (`FlightG`, `pcallFresh`) -/
structure PCG {G : Ctx} {X : Acker} (C0 : MC G X) (s s' : PS) (task : Nat) (pre sub : List Nat) (rest : Nat → Nat)
    (doom : Nat → Prop) (nx : Nat)
    (b : Batch) (sm : List Nat) (out : List PR) (b1 : Batch) (kids : List (List Row)) (rs rs1 : List (Option Nat)) : Prop where
  src : Src G
  fl : FlightG C0 s pre pre True sub rest doom nx b sm 0
  haf : FlagsAF b
  vb : VB b rs
  vb1 : VB b1 rs1
  pstep : PStepT (G.view s) (G.view s') task b.active out
  wr : (G.mu s').written = (G.mu s).written
  ok : pcallOK b.active out = true
  fresh : pcallFresh (Seen G s) b.active out = true
  seen : Seen G s' = Seen G s ++ outTags b.active out
  inv1 : C0.Inv (nxJ sm nx 0) s'
  pm : PMap s.heap s'.heap b b1 out kids
  ss : SStep s.heap b s'.heap b1 rest
  hold : ∀ rid : Nat, rid < s.heap.size →
    ∃ t : Nat, (s.heap[rid]!).total ≤ t ∧ s'.heap[rid]! = { (s.heap[rid]!) with total := t }
  split : ∀ e ∈ b1.split, e ∈ b.split ∨ ∃ row ∈ b.rows, row.run = none ∧ e = (keyOf row.pos, row.r)
  nosplit1 : NoSplitKey b1
  newrun : FreshRuns s.heap s'.heap b1
  taint : TaintC b → TaintC b1

namespace PCG
variable {G : Ctx} {X : Acker} {C0 : MC G X} {s s' : PS} {task : Nat} {pre sub : List Nat} {rest : Nat → Nat}
  {doom : Nat → Prop} {nx : Nat}
  {b : Batch} {sm : List Nat} {out : List PR} {b1 : Batch} {kids : List (List Row)} {rs rs1 : List (Option Nat)}

theorem wf1 (C : PCG C0 s s' task pre sub rest doom nx b sm out b1 kids rs rs1) : b1.WF s'.heap := C.ss.inv.wf

end PCG

/-- everything that is known when `procDo` has returned `b1` (`kids` = the kids of the rows of `b`), the
tags read through the key `κ`; a lemma `PCGK.x1` is clause `x` of `FlightGK` for `b1` -/
structure PCGK (κ : Nat → Nat) {G : Ctx} {X : Acker} (C0 : MC G X) (s s' : PS) (task : Nat) (pre sub : List Nat) (rest : Nat → Nat)
    (doom : Nat → Prop) (nx : Nat)
    (b : Batch) (sm : List Nat) (out : List PR) (b1 : Batch) (kids : List (List Row)) (rs rs1 : List (Option Nat)) : Prop where
  src : Src G
  fl : FlightGK κ C0 s pre pre True sub rest doom nx b sm 0
  haf : FlagsAF b
  vb : VB b rs
  vb1 : VB b1 rs1
  pstep : PStepT (G.view s) (G.view s') task b.active out
  wr : (G.mu s').written = (G.mu s).written
  ok : pcallOK b.active out = true
  fresh : KeyCall κ (Seen G s) b.active out
  seen : Seen G s' = Seen G s ++ outTags b.active out
  inv1 : C0.Inv (nxJ sm nx 0) s'
  pm : PMap s.heap s'.heap b b1 out kids
  ss : SStep s.heap b s'.heap b1 rest
  hold : ∀ rid : Nat, rid < s.heap.size →
    ∃ t : Nat, (s.heap[rid]!).total ≤ t ∧ s'.heap[rid]! = { (s.heap[rid]!) with total := t }
  split : ∀ e ∈ b1.split, e ∈ b.split ∨ ∃ row ∈ b.rows, row.run = none ∧ e = (keyOf row.pos, row.r)
  splitnew : SplitNew b (padOut b.nAct out) b1.split
  taint : TaintC b → TaintC b1

namespace PCGK
variable {G : Ctx} {X : Acker} {C0 : MC G X} {s s' : PS} {task : Nat} {pre sub : List Nat} {rest : Nat → Nat}
  {doom : Nat → Prop} {nx : Nat}
  {b : Batch} {sm : List Nat} {out : List PR} {b1 : Batch} {kids : List (List Row)} {rs rs1 : List (Option Nat)}

theorem wf (C : PCGK κ C0 s s' task pre sub rest doom nx b sm out b1 kids rs rs1) : b.WF s.heap := C.fl.tinv.wf

theorem smlen (C : PCGK κ C0 s s' task pre sub rest doom nx b sm out b1 kids rs rs1) : sm.length = b.rows.length := C.fl.srcmap.len

theorem old_run (C : PCGK κ C0 s s' task pre sub rest doom nx b sm out b1 kids rs rs1) {rid : Nat} (hlt : rid < s.heap.size) :
    (s'.heap[rid]!).origPos = (s.heap[rid]!).origPos ∧ (s'.heap[rid]!).origRec = (s.heap[rid]!).origRec ∧
    (s'.heap[rid]!).terminal = (s.heap[rid]!).terminal ∧ (s'.heap[rid]!).nacked = (s.heap[rid]!).nacked := by
  obtain ⟨t, _, ht⟩ := C.hold rid hlt
  rw [ht]
  exact ⟨rfl, rfl, rfl, rfl⟩

theorem horig1 (C : PCGK κ C0 s s' task pre sub rest doom nx b sm out b1 kids rs rs1) (rid : Nat) (hlt : rid < s.heap.size) :
    (s'.heap[rid]!).origPos = (s.heap[rid]!).origPos ∧ (s'.heap[rid]!).origRec = (s.heap[rid]!).origRec :=
  ⟨(C.old_run hlt).1, (C.old_run hlt).2.1⟩

theorem row1 (C : PCGK κ C0 s s' task pre sub rest doom nx b sm out b1 kids rs rs1) {k q : Nat}
    (hq : (smOf kids sm)[k]? = some q) : ∃ row', b1.rows[k]? = some row' := by
  have := lt_of_get hq
  rw [smOf_length, ← C.pm.flat] at this
  exact ⟨_, List.getElem?_eq_getElem this⟩

theorem dec (C : PCGK κ C0 s s' task pre sub rest doom nx b sm out b1 kids rs rs1) {k q : Nat} {row' : Row}
    (hk : b1.rows[k]? = some row') (hq : (smOf kids sm)[k]? = some q) :
    ∃ (p j : Nat) (row : Row) (ks : List Row), b.rows[p]? = some row ∧ kids[p]? = some ks ∧ ks[j]? = some row' ∧
      k = off (kids.map List.length) p + j ∧ sm[p]? = some q ∧ row' ∈ ks ∧ KidF s.heap s'.heap b out b1.split p row ks := by
  obtain ⟨p, j, row, ks, q0, a1, a2, a3, a4, a5, a6, a7⟩ := C.pm.decode C.smlen hk
  rw [hq] at a6; cases a6
  exact ⟨p, j, row, ks, a1, a2, a3, a4, a5, List.mem_of_getElem? a3, a7⟩

theorem dec' (C : PCGK κ C0 s s' task pre sub rest doom nx b sm out b1 kids rs rs1) {k : Nat} {row' : Row} (hk : b1.rows[k]? = some row') :
    ∃ (p : Nat) (row : Row) (ks : List Row) (q : Nat), b.rows[p]? = some row ∧ sm[p]? = some q ∧
      (smOf kids sm)[k]? = some q ∧ row' ∈ ks ∧ KidF s.heap s'.heap b out b1.split p row ks := by
  obtain ⟨p, j, row, ks, q, a1, _, a3, _, a5, a6, a7⟩ := C.pm.decode C.smlen hk
  exact ⟨p, row, ks, q, a1, a5, a6, List.mem_of_getElem? a3, a7⟩

theorem kid_key (C : PCGK κ C0 s s' task pre sub rest doom nx b sm out b1 kids rs rs1) {p : Nat} {row row' : Row} {ks : List Row}
    (hp : b.rows[p]? = some row) (hk : KidF s.heap s'.heap b out b1.split p row ks) (hm : row' ∈ ks) :
    rowKey s'.heap row' = rowKey s.heap row := by
  rcases hk.run row' hm with h1 | ⟨rid, h1, h2, _, _, _, h6, _⟩
  · cases hr : row.run with
    | none =>
      rw [hr] at h1
      rw [rowKey_none h1, rowKey_none hr, hk.pos row' hm h1]
    | some rid =>
      rw [hr] at h1
      rw [rowKey_run h1, rowKey_run hr, (C.old_run (row_run_lt C.wf C.vb hp hr)).1]
  · rw [rowKey_run h1, rowKey_none h2, h6]

theorem srcmap1 (C : PCGK κ C0 s s' task pre sub rest doom nx b sm out b1 kids rs rs1) : SrcMap G s'.heap b1 (smOf kids sm) := by
  have hm := C.fl.srcmap
  refine ⟨by rw [smOf_length, C.pm.flat], ?_, ?_, ?_⟩
  · intro k q q' h1 h2
    obtain ⟨row', hk⟩ := C.row1 h1
    obtain ⟨row'', hk1⟩ := C.row1 h2
    obtain ⟨p, j, row, ks, _, a2, a3, a4, a5, _⟩ := C.dec hk h1
    obtain ⟨p', j', rowp, ks', _, c2, c3, c4, c5, _⟩ := C.dec hk1 h2
    rcases C.pm.adj a2 c2 (lt_of_get a3) (lt_of_get c3) (by omega) with ⟨e1, _⟩ | ⟨e1, _, _⟩
    · subst e1; rw [a5] at c5; cases c5; exact Or.inl rfl
    · subst e1; exact hm.step p q q' a5 c5
  · intro k row' q hk hq
    obtain ⟨p, j, row, ks, a1, _, _, _, a5, hmem, a7⟩ := C.dec hk hq
    obtain ⟨src, g1, g2, g3⟩ := hm.key p row q a1 a5
    exact ⟨src, g1, by rw [C.kid_key a1 a7 hmem]; exact g2, by rw [a7.root C.wf C.vb a1 C.ok hmem]; exact g3⟩
  · intro k row' row'' q hk hk1 hq hq1
    obtain ⟨p, j, row, ks, a1, a2, a3, a4, a5, am, a7⟩ := C.dec hk hq
    obtain ⟨p', j', rowp, ks', c1, c2, c3, c4, c5, cm, c7⟩ := C.dec hk1 hq1
    rcases C.pm.adj a2 c2 (lt_of_get a3) (lt_of_get c3) (by omega) with ⟨e1, e2⟩ | ⟨e1, _, _⟩
    · subst e1
      rw [a2] at c2; cases c2
      have hl := lt_of_get c3
      obtain ⟨rid, hr⟩ := a7.runs_same (by omega)
      exact ⟨rid, hr _ am, hr _ cm⟩
    · subst e1
      obtain ⟨rid, r1, r2⟩ := hm.same p row rowp q a1 c1 a5 c5
      exact ⟨rid, a7.keep am r1, c7.keep cm r2⟩

theorem last_kid (C : PCGK κ C0 s s' task pre sub rest doom nx b sm out b1 kids rs rs1) {row' : Row}
    (h : b1.rows.getLast? = some row') :
    ∃ (p : Nat) (row : Row) (ks : List Row) (q : Nat), b.rows.getLast? = some row ∧ b.rows[p]? = some row ∧ row' ∈ ks ∧
      sm.getLast? = some q ∧ (smOf kids sm).getLast? = some q ∧ KidF s.heap s'.heap b out b1.split p row ks := by
  rw [List.getLast?_eq_getElem?] at h
  obtain ⟨p, j, row, ks, q, a1, a2, a3, a4, a5, a6, a7⟩ := C.pm.decode C.smlen h
  have hp := C.pm.last a2 (lt_of_get a3) a4
  refine ⟨p, row, ks, q, ?_, a1, List.mem_of_getElem? a3, ?_, ?_, a7⟩
  · rw [List.getLast?_eq_getElem?, ← hp]; exact a1
  · rw [List.getLast?_eq_getElem?, C.smlen, ← hp]; exact a5
  · rw [List.getLast?_eq_getElem?, smOf_length, ← C.pm.flat]; exact a6

theorem nextok1 (C : PCGK κ C0 s s' task pre sub rest doom nx b sm out b1 kids rs rs1) : NextOK rest b1 (smOf kids sm) nx := by
  intro row' q hl hq
  obtain ⟨p, row, ks, q', g1, g2, g3, g4, g5, g6⟩ := C.last_kid hl
  rw [hq] at g5; cases g5
  rcases C.fl.nextok row q g1 g4 with ⟨e1, rid, e2, e3⟩ | ⟨e1, e2⟩
  · exact Or.inl ⟨e1, rid, g6.keep g3 e2, e3⟩
  · refine Or.inr ⟨e1, ?_⟩
    intro rid hr
    by_cases hlt : rid < s.heap.size
    · exact e2 rid (g6.old g3 hr hlt)
    · exact C.fl.tinv.restok rid (by omega)

theorem cnt_old (C : PCGK κ C0 s s' task pre sub rest doom nx b sm out b1 kids rs rs1) {rid : Nat} (hlt : rid < s.heap.size)
    (hcnt : 0 < cnt rid b1.view) : 0 < cnt rid b.view := by
  obtain ⟨k, row', hk, hr⟩ := (cnt_pos C.vb1).mp hcnt
  obtain ⟨p, row, ks, q, a1, _, _, hmem, a7⟩ := C.dec' hk
  exact (cnt_pos C.vb).mpr ⟨_, _, a1, a7.old hmem hr hlt⟩

theorem run_new (C : PCGK κ C0 s s' task pre sub rest doom nx b sm out b1 kids rs rs1) {rid : Nat} (hge : s.heap.size ≤ rid)
    (hcnt : 0 < cnt rid b1.view) :
    ∃ (p : Nat) (row : Row), b.rows[p]? = some row ∧ row.run = none ∧ FreshRun s.heap s'.heap b1.split row rid := by
  obtain ⟨k, row', hk, hr⟩ := (cnt_pos C.vb1).mp hcnt
  obtain ⟨p, row, ks, q, a1, _, _, hmem, a7⟩ := C.dec' hk
  exact ⟨p, row, a1, a7.new C.wf C.vb a1 hmem hr hge⟩

theorem restlast1 (C : PCGK κ C0 s s' task pre sub rest doom nx b sm out b1 kids rs rs1) : RestLast rest b1 := by
  intro rid hrest hcnt
  have hlt : rid < s.heap.size := by
    apply Classical.byContradiction
    intro hge
    have := C.fl.tinv.restok rid (by omega)
    omega
  obtain ⟨rowL, hL, hLr⟩ := C.fl.restlast rid hrest (C.cnt_old hlt hcnt)
  have hne : b1.rows.length - 1 < b1.rows.length := by
    obtain ⟨k, _, hk, _⟩ := (cnt_pos C.vb1).mp hcnt
    have := lt_of_get hk; omega
  have hl1 : b1.rows.getLast? = some b1.rows[b1.rows.length - 1] := by
    rw [List.getLast?_eq_getElem?]; exact List.getElem?_eq_getElem hne
  obtain ⟨pL, rowL', ksL, qL, g1, g2, g3, g4, g5, g6⟩ := C.last_kid hl1
  rw [hL] at g1; cases g1
  exact ⟨_, hl1, g6.keep g3 hLr⟩

theorem splitlin1 (C : PCGK κ C0 s s' task pre sub rest doom nx b sm out b1 kids rs rs1) : SplitLin G b1 := by
  intro e he src hsrc hkey
  rcases C.split e he with h1 | ⟨row, hrow, hrun, rfl⟩
  · exact C.fl.splitlin e h1 src hsrc hkey
  · obtain ⟨p, hp⟩ := List.getElem?_of_mem hrow
    obtain ⟨q, src', g1, g2, g3, g4⟩ := SM.srcOf C.fl.srcmap hp
    rw [rowKey_none hrun] at g3
    obtain ⟨i, hi⟩ := List.getElem?_of_mem hsrc
    have : i = q := C.src.idx_of_key hi g2 (by rw [hkey]; exact g3)
    subst this
    rw [hi] at g2; cases g2
    exact g4

theorem lin_new (C : PCGK κ C0 s s' task pre sub rest doom nx b sm out b1 kids rs rs1) {rid : Nat} (hge : s.heap.size ≤ rid)
    (hcnt : 0 < cnt rid b1.view) :
    ∃ src ∈ G.all, keyR src = keyOf (s'.heap[rid]!).origPos ∧ Mon.root (s'.heap[rid]!).origRec = Mon.root src := by
  obtain ⟨p, row, a1, hrun, _, _, _, hop, hor, _⟩ := C.run_new hge hcnt
  obtain ⟨q', src, g1, g2, g3, g4⟩ := SM.srcOf C.fl.srcmap a1
  rw [rowKey_none hrun] at g3
  have hmem : src ∈ G.all := List.mem_of_getElem? g2
  refine ⟨src, hmem, by rw [hop]; exact g3.symm, ?_⟩
  rcases hor with h1 | ⟨e, he, h1, h2⟩
  · rw [h1]; exact g4
  · rw [h2]; exact C.splitlin1 e he src hmem (by rw [h1]; exact g3.symm)

theorem lin_old (C : PCGK κ C0 s s' task pre sub rest doom nx b sm out b1 kids rs rs1) {rid : Nat} (hlt : rid < s.heap.size)
    (h : ∃ src ∈ G.all, keyR src = keyOf (s.heap[rid]!).origPos ∧ Mon.root (s.heap[rid]!).origRec = Mon.root src) :
    ∃ src ∈ G.all, keyR src = keyOf (s'.heap[rid]!).origPos ∧ Mon.root (s'.heap[rid]!).origRec = Mon.root src := by
  obtain ⟨e1, e2, _⟩ := C.old_run hlt
  rw [e1, e2]; exact h

theorem live_old (C : PCGK κ C0 s s' task pre sub rest doom nx b sm out b1 kids rs rs1) {rid : Nat} (hlt : rid < s.heap.size)
    (hl : LiveRun rest b1 0 rid) : LiveRun rest b 0 rid := by
  unfold LiveRun at hl ⊢
  rw [List.drop_zero] at hl ⊢
  exact hl.imp (C.cnt_old hlt) id

theorem live_new (C : PCGK κ C0 s s' task pre sub rest doom nx b sm out b1 kids rs rs1) {rid : Nat} (hge : s.heap.size ≤ rid)
    (hl : LiveRun rest b1 0 rid) : 0 < cnt rid b1.view := by
  unfold LiveRun at hl
  rw [List.drop_zero] at hl
  rcases hl with h | h
  · exact h
  · have := C.fl.tinv.restok rid hge
    omega

theorem hlin1 (C : PCGK κ C0 s s' task pre sub rest doom nx b sm out b1 kids rs rs1) : HLinG G s'.heap rest b1 0 := by
  intro rid hl
  by_cases hold : rid < s.heap.size
  · exact C.lin_old hold (C.fl.hlin rid (C.live_old hold hl))
  · exact C.lin_new (by omega) (C.live_new (by omega) hl)

theorem clean_keep (C : PCGK κ C0 s s' task pre sub rest doom nx b sm out b1 kids rs rs1) {T D : List Nat} (ρ : Nat)
    (hc : CleanT (G.view s) T D ρ) (hne : ρ ∉ erroredBy b.active out) : CleanT (G.view s') T D ρ :=
  C.pstep.clean hc (fun _ ht => Or.inl ht) hne

theorem err_row (C : PCGK κ C0 s s' task pre sub rest doom nx b sm out b1 kids rs rs1) {ρ : Nat} (h : ρ ∈ erroredBy b.active out) :
    ∃ (a pe : Nat) (e : Option Err) (rowe : Row) (qe : Nat) (srce : Rec), (actList b.st)[a]? = some pe ∧
      out[a]? = some (.error e) ∧ b.rows[pe]? = some rowe ∧ sm[pe]? = some qe ∧ G.all[qe]? = some srce ∧
      Mon.root srce = ρ := by
  obtain ⟨a, r, e, h1, h2, h3⟩ := mem_erroredBy h
  obtain ⟨pe, rowe, g1, g2, g3, _⟩ := active_row C.wf C.vb h1
  obtain ⟨qe, srce, f1, f2, _, f4⟩ := SM.srcOf C.fl.srcmap g2
  exact ⟨a, pe, e, rowe, qe, srce, g1, h2, g2, f1, f2, by rw [h3, ← g3, f4]⟩

theorem ci1 (C : PCGK κ C0 s s' task pre sub rest doom nx b sm out b1 kids rs rs1) : CIG (G.view s') C0.T C0.D s'.heap doom b1 0 := by
  intro rid hcnt hnc
  have hl1 : LiveRun rest b1 0 rid := Or.inl hcnt
  rw [List.drop_zero] at hcnt
  obtain ⟨k, row', hk, hr⟩ := (cnt_pos C.vb1).mp hcnt
  obtain ⟨q, hq⟩ : ∃ q, (smOf kids sm)[k]? = some q :=
    ⟨_, List.getElem?_eq_getElem (by rw [smOf_length, ← C.pm.flat]; exact lt_of_get hk)⟩
  obtain ⟨p, j, row, ks, a1, _, _, _, a5, hmem, a7⟩ := C.dec hk hq
  obtain ⟨src, g1, g2, _⟩ := C.srcmap1.key k row' q hk hq
  have hρ : Mon.root (s'.heap[rid]!).origRec = Mon.root src := by
    obtain ⟨src', hm', hk', hroot⟩ := C.hlin1 rid hl1
    obtain ⟨q', hq'⟩ := List.getElem?_of_mem hm'
    rw [rowKey_run hr] at g2
    have := C.src.idx_of_key hq' g1 (by rw [hk', g2])
    subst this
    rw [g1] at hq'; cases hq'
    exact hroot
  rw [hρ] at hnc
  by_cases herr : Mon.root src ∈ erroredBy b.active out
  · -- the errored row is the parent, or a row of the same run
    obtain ⟨a, pe, e, rowe, qe, srce, e1, e2, e3, e4, e5, e6⟩ := C.err_row herr
    have : qe = q := C.src.idx_of_root e5 g1 e6
    subst this
    by_cases hpe : pe = p
    · subst hpe
      exact Or.inr (Or.inr ⟨k, row', Nat.zero_le _, hk, hr, (a7.err a e e1 e2 row' hmem).1⟩)
    · obtain ⟨rid0, r1, r2⟩ := SM.same_run' C.fl.srcmap hpe e4 a5 e3 a1
      have := a7.keep hmem r2
      rw [hr] at this; cases this
      obtain ⟨kse, f1, f2⟩ := C.pm.kid pe rowe e3
      have hne : 0 < kse.length := by
        cases kse with
        | nil => exact absurd rfl f2.ne
        | cons _ _ => simp
      have hk0 : kse[0]? = some kse[0] := List.getElem?_eq_getElem hne
      obtain ⟨n1, n2⟩ := f2.err a e e1 e2 _ (List.mem_of_getElem? hk0)
      exact Or.inr (Or.inr ⟨_, _, Nat.zero_le _, C.pm.encode f1 hk0, by rw [n2]; exact r1, n1⟩)
  · have hnc0 : ¬ CleanT (G.view s) C0.T C0.D (Mon.root src) := fun hc => hnc (C.clean_keep _ hc herr)
    by_cases hlt : rid < s.heap.size
    · have hrow := a7.old hmem hr hlt
      obtain ⟨_, e2, _, e4⟩ := C.old_run hlt
      rw [← hρ, e2] at hnc0
      rcases C.fl.ci rid (by rw [List.drop_zero]; exact (cnt_pos C.vb).mpr ⟨_, _, a1, hrow⟩) hnc0 with
        h1 | h1 | ⟨k2, row2, _, h2, _, h4⟩
      · exact Or.inl (by rw [e4]; exact h1)
      · exact Or.inr (Or.inl h1)
      · exact absurd h4 (flagsAF_not_nack C.vb C.haf h2)
    · obtain ⟨hrn, _⟩ := a7.new C.wf C.vb a1 hmem hr (by omega)
      exact absurd (C.fl.facts.clean p row q src (Nat.zero_le _) a1 a5 g1 hrn (flagsAF_not_nack C.vb C.haf a1)) hnc0

theorem reach_mono (C : PCGK κ C0 s s' task pre sub rest doom nx b sm out b1 kids rs rs1) {D : List Nat} {ρ : Nat}
    (h : Reach (G.mu s) D ρ) : Reach (G.mu s') D ρ := by
  intro d hd
  obtain ⟨e, h1, h2⟩ := h d hd
  exact ⟨e, by rw [C.wr]; exact h1, h2⟩

theorem ack1 (C : PCGK κ C0 s s' task pre sub rest doom nx b sm out b1 kids rs rs1)
    {k q : Nat} {row' : Row} {src : Rec} (hk : b1.rows[k]? = some row') (hq : (smOf kids sm)[k]? = some q)
    (hsrc : G.all[q]? = some src) (hf : row'.st.flag ≠ .filter) : Reach (G.mu s') pre (Mon.root src) := by
  obtain ⟨p, j, row, ks, a1, _, _, _, a5, hmem, a7⟩ := C.dec hk hq
  exact C.reach_mono
    (C.fl.facts.ack p row q src (Nat.zero_le _) a1 a5 hsrc ((flagsAF_row C.vb C.haf a1).resolve_right (a7.flag1 row' hmem hf)))

theorem fil1 (C : PCGK κ C0 s s' task pre sub rest doom nx b sm out b1 kids rs rs1)
    {k q : Nat} {row' : Row} {src : Rec} (hk : b1.rows[k]? = some row') (hq : (smOf kids sm)[k]? = some q)
    (hsrc : G.all[q]? = some src) (hf : row'.st.flag = .filter) : Mon.root src ∈ (G.mu s').filtered := by
  obtain ⟨p, j, row, ks, a1, _, _, _, a5, hmem, a7⟩ := C.dec hk hq
  show Mon.root src ∈ (G.view s').μ.filtered
  rw [C.pstep.fil]
  rcases a7.flag2 row' hmem hf with h1 | ⟨a, o, ha, ho, hoo⟩
  · exact List.mem_append_left _ (C.fl.facts.fil p row q src (Nat.zero_le _) a1 a5 hsrc h1)
  · obtain ⟨src', g1, _, g3⟩ := C.fl.srcmap.key p row q a1 a5
    rw [hsrc] at g1; cases g1
    rw [← g3]
    exact List.mem_append_right _ (filteredBy_mem (act_row C.wf C.vb ha a1).1 ho hoo)

theorem clean1 (C : PCGK κ C0 s s' task pre sub rest doom nx b sm out b1 kids rs rs1)
    {k q : Nat} {row' : Row} {src : Rec} (hk : b1.rows[k]? = some row') (hq : (smOf kids sm)[k]? = some q)
    (hsrc : G.all[q]? = some src) (hrun : row'.run = none) (hf : row'.st.flag ≠ .nack) : CleanT (G.view s') C0.T C0.D (Mon.root src) := by
  obtain ⟨p, j, row, ks, a1, _, _, _, a5, hmem, a7⟩ := C.dec hk hq
  obtain ⟨hrn, _⟩ := a7.none hmem hrun
  refine C.clean_keep _ (C.fl.facts.clean p row q src (Nat.zero_le _) a1 a5 hsrc hrn (flagsAF_not_nack C.vb C.haf a1)) ?_
  intro herr
  obtain ⟨a, pe, e, rowe, qe, srce, e1, e2, e3, e4, e5, e6⟩ := C.err_row herr
  have : qe = q := C.src.idx_of_root e5 hsrc e6
  subst this
  have := SM.norun_unique C.fl.srcmap a5 e4 a1 e3 hrn
  subst this
  exact hf (a7.err a e e1 e2 row' hmem).1

theorem tags1 (C : PCGK κ C0 s s' task pre sub rest doom nx b sm out b1 kids rs rs1) : TagsK κ G s' sub b1 0 := by
  have hnd := C.fresh.nodup
  have hnew := C.fresh.new
  refine ⟨?_, ?_, ?_⟩
  · apply List.pairwise_iff_getElem.mpr
    intro i j hi hj hij
    rw [List.length_map] at hi hj
    rw [List.getElem_map, List.getElem_map]
    obtain ⟨p, j1, row, ks, q, a1, a2, a3, a4, a5, a6, a7⟩ := C.pm.decode C.smlen (List.getElem?_eq_getElem hi)
    obtain ⟨p', j2, rowp, ks', q', c1, c2, c3, c4, c5, c6, c7⟩ := C.pm.decode C.smlen (List.getElem?_eq_getElem hj)
    generalize b1.rows[i] = x at a3 ⊢
    generalize b1.rows[j] = y at c3 ⊢
    show κ x.r.tag ≠ κ y.r.tag
    by_cases hpp : p = p'
    · subst hpp
      rw [a2] at c2; cases c2
      have hne : j1 ≠ j2 := by omega
      have hn := a7.keys_nodup C.wf C.vb a1 C.fresh
      exact nodup_map_ne hn a3 c3 hne
    · have hold : κ row.r.tag ≠ κ rowp.r.tag :=
        nodup_map_ne C.fl.tags.nodup a1 c1 hpp
      have hs1 := mem_keys (κ := κ) (C.fl.tags.seen p row (Nat.zero_le _) a1)
      have hs2 := mem_keys (κ := κ) (C.fl.tags.seen p' rowp (Nat.zero_le _) c1)
      rcases a7.key (κ := κ) C.wf C.vb a1 (List.mem_of_getElem? a3) with t1 | ⟨a, x1, t1, t2, t3⟩ <;>
      rcases c7.key (κ := κ) C.wf C.vb c1 (List.mem_of_getElem? c3) with u1 | ⟨a', x2, u1, u2, u3⟩
      · rw [t1, u1]; exact hold
      · rw [t1]; intro he
        exact hnew _ (mem_segs u2 u3) (by rw [← he]; exact hs1)
      · rw [u1]; intro he
        exact hnew _ (mem_segs t2 t3) (by rw [he]; exact hs2)
      · intro he
        have hne : a ≠ a' := by
          intro h; subst h
          rw [t1] at u1; cases u1; exact hpp rfl
        exact flatMap_disj hnd t2 u2 hne t3 (by rw [he]; exact u3)
  · intro k row' _ hk
    obtain ⟨p, row, ks, q, a1, _, _, hmem, a7⟩ := C.dec' hk
    rw [C.seen]
    rcases a7.tag_seen C.wf C.vb a1 hmem with t1 | t4
    · rw [t1]; exact List.mem_append_left _ (C.fl.tags.seen p row (Nat.zero_le _) a1)
    · exact List.mem_append_right _ t4
  · intro k row' _ hk hflag
    obtain ⟨p, row, ks, q, a1, _, _, hmem, a7⟩ := C.dec' hk
    intro e he hsub
    rw [C.wr] at he
    rcases a7.key (κ := κ) C.wf C.vb a1 hmem with t1 | ⟨a, x1, _, t2, t3⟩
    · rw [t1]
      have hack : row.st.flag = .ack := (flagsAF_row C.vb C.haf a1).resolve_right
        (a7.flag1 row' hmem (by rcases hflag with h | h <;> rw [h] <;> intro hh <;> cases hh))
      exact C.fl.tags.unw p row (Nat.zero_le _) a1 (Or.inl hack) e he hsub
    · intro heq
      exact hnew _ (mem_segs t2 t3) (by rw [← heq]; exact mem_keys (C.fl.wseen e he))

theorem wseen1 (C : PCGK κ C0 s s' task pre sub rest doom nx b sm out b1 kids rs rs1) : WSeen G s' := by
  intro e he
  rw [C.wr] at he
  rw [C.seen]; exact List.mem_append_left _ (C.fl.wseen e he)

theorem roots1 (C : PCGK κ C0 s s' task pre sub rest doom nx b sm out b1 kids rs rs1) (ρ : Nat) (h : RootsOf G (smOf kids sm) 0 ρ) :
    RootsOf G sm 0 ρ := by
  obtain ⟨k, q, src, _, h1, h2, h3⟩ := h
  obtain ⟨row', hk⟩ := C.row1 h1
  obtain ⟨p, j, row, ks, _, _, _, _, a5, _⟩ := C.dec hk h1
  exact ⟨p, q, src, Nat.zero_le _, a5, h2, h3⟩

theorem empty1 (C : PCGK κ C0 s s' task pre sub rest doom nx b sm out b1 kids rs rs1) : (smOf kids sm).length = 0 ↔ sm.length = 0 := by
  rw [smOf_length, List.length_flatten, sum_eq_zero_iff C.pm.lens_pos, List.length_map, C.pm.len, C.smlen]

theorem first1 (C : PCGK κ C0 s s' task pre sub rest doom nx b sm out b1 kids rs rs1) : (smOf kids sm)[0]? = sm[0]? := by
  cases hq : (smOf kids sm)[0]? with
  | some q =>
    obtain ⟨row', hk⟩ := C.row1 hq
    obtain ⟨p, j, row, ks, _, a2, _, a4, a5, _⟩ := C.dec hk hq
    obtain ⟨hp0, _⟩ := C.pm.first a4 (lt_of_get a2)
    subst hp0
    exact a5.symm
  | none =>
    have h0 : (smOf kids sm).length = 0 := by
      have := List.getElem?_eq_none_iff.mp hq
      omega
    exact (List.getElem?_eq_none_iff.mpr (by have := C.empty1.mp h0; omega)).symm

theorem tagsub1 (C : PCGK κ C0 s s' task pre sub rest doom nx b sm out b1 kids rs rs1) (row' : Row) (hm : row' ∈ b1.rows) :
    (∃ row ∈ b.rows, κ row.r.tag = κ row'.r.tag) ∨ κ row'.r.tag ∉ (Seen G s).map κ := by
  obtain ⟨k, hk⟩ := List.getElem?_of_mem hm
  obtain ⟨p, row, ks, q, a1, _, _, hmem, a7⟩ := C.dec' hk
  rcases a7.key (κ := κ) C.wf C.vb a1 hmem with t1 | ⟨a, x1, _, t2, t3⟩
  · exact Or.inl ⟨row, List.mem_of_getElem? a1, t1.symm⟩
  · exact Or.inr (C.fresh.new _ (mem_segs t2 t3))

theorem wtag1 (C : PCGK κ C0 s s' task pre sub rest doom nx b sm out b1 kids rs rs1) (e : Nat × Nat × Nat × Bool)
    (he : e ∈ (G.mu s').written) : e ∈ (G.mu s).written ∨ ∃ row ∈ b.rows, κ row.r.tag = κ e.2.2.1 :=
  Or.inl (by rw [← C.wr]; exact he)

theorem seen1 (C : PCGK κ C0 s s' task pre sub rest doom nx b sm out b1 kids rs rs1) (x : Nat) (hx : x ∈ Seen G s) : x ∈ Seen G s' := by
  rw [C.seen]; exact List.mem_append_left _ hx

/-- the parent of a row without run had no entry in the split map, and a row that got one was split, so that its
kids have a run -/
theorem nosplit1 (C : PCGK κ C0 s s' task pre sub rest doom nx b sm out b1 kids rs rs1) : NoSplitKey b1 := by
  intro k row' hk hrun
  obtain ⟨p, row, ks, q, a1, a5, _, hmem, a7⟩ := C.dec' hk
  obtain ⟨hrn, hpos⟩ := a7.none hmem hrun
  cases hl : lookup b1.split (keyOf row'.pos) with
  | none => rfl
  | some r =>
    exfalso
    rcases C.splitnew _ (lookup_mem hl) with h1 | ⟨a, p0, ms, ha, ho, hms, hr0, he⟩
    · exact lookup_none (C.fl.nosplit p row a1 hrn) h1 (congrArg keyOf hpos)
    · have hp0 : b.rows[p0]? = some (b.rowAt p0) := by
        rw [getElem?_rows, if_pos (C.vb.slen ▸ (mem_actList.mp (List.mem_of_getElem? ha)).1)]
      obtain ⟨q0, src0, f1, f2, f3, _⟩ := SM.srcOf C.fl.srcmap hp0
      obtain ⟨src1, g2, g3, _⟩ := C.fl.srcmap.key p row q a1 a5
      rw [rowKey_none hr0] at f3
      rw [rowKey_none hrn] at g3
      have : q0 = q := C.src.idx_of_key f2 g2 (by rw [← f3, ← g3, ← hpos]; exact (congrArg Prod.fst he).symm)
      subst this
      have : p0 = p := SM.norun_unique C.fl.srcmap a5 f1 a1 hp0 hrn
      subst this
      obtain ⟨rid, hr⟩ := a7.splitk a ms ha (padOut_out ho (fun h => nomatch h)) hms row' hmem
      rw [hrun] at hr; cases hr

theorem cover_mono (C : PCGK κ C0 s s' task pre sub rest doom nx b sm out b1 kids rs rs1) {D : List Nat} {ρ : Nat}
    (h : Cover (G.view s) D ρ) : Cover (G.view s') D ρ :=
  h.extT (C.pstep.ext_of (R := fun _ => True) fun _ _ _ => trivial)

theorem htouch1 (C : PCGK κ C0 s s' task pre sub rest doom nx b sm out b1 kids rs rs1) :
    HTouchG (G.view s') C0.D s'.heap rest b1 0 := by
  intro rid hl hterm hnack
  by_cases hold : rid < s.heap.size
  · obtain ⟨_, e2, e3, e4⟩ := C.old_run hold
    rw [e3] at hterm
    rw [e4] at hnack
    rw [e2]
    exact C.cover_mono (C.fl.htouch rid (C.live_old hold hl) hterm hnack)
  · obtain ⟨_, _, _, _, _, _, _, _, _, _, ht⟩ := C.run_new (by omega) (C.live_new (by omega) hl)
    omega

theorem nackt1 (C : PCGK κ C0 s s' task pre sub rest doom nx b sm out b1 kids rs rs1) :
    NackT s'.heap rest b1 0 := by
  intro rid hl hnack
  by_cases hold : rid < s.heap.size
  · obtain ⟨_, _, e3, e4⟩ := C.old_run hold
    rw [e4] at hnack
    rw [e3]
    exact C.fl.nackt rid (C.live_old hold hl) hnack
  · obtain ⟨_, _, _, _, _, _, _, _, _, hn, _⟩ := C.run_new (by omega) (C.live_new (by omega) hl)
    rw [hn] at hnack
    cases hnack

theorem nxJ1 (C : PCGK κ C0 s s' task pre sub rest doom nx b sm out b1 kids rs rs1) :
    nxJ (smOf kids sm) nx 0 = nxJ sm nx 0 := by
  unfold nxJ; rw [C.first1]

theorem steprel (C : PCGK κ C0 s s' task pre sub rest doom nx b sm out b1 kids rs rs1) :
    StepRelGK κ G s b sm s' b1 (smOf kids sm) :=
  ⟨C.roots1, C.tagsub1, C.wtag1, C.seen1, C.ss.hsize, C.ss.hframe, C.horig1, C.ss.mono⟩

theorem flight1 (C : PCGK κ C0 s s' task pre sub rest doom nx b sm out b1 kids rs rs1) :
    FlightGK κ C0 s' pre pre True sub rest doom nx b1 (smOf kids sm) 0 :=
  { inv := by rw [C.nxJ1]; exact C.inv1
    wseen := C.wseen1
    tinv := C.ss.inv.tinv
    srcmap := C.srcmap1
    nextok := C.nextok1
    restlast := C.restlast1
    hdoom := C.fl.hdoom
    hlin := C.hlin1
    htouch := C.htouch1
    nackt := C.nackt1
    ci := C.ci1
    splitlin := C.splitlin1
    nosplit := C.nosplit1
    facts :=
      ⟨fun k row' q src _ hk hq hsrc hf => C.ack1 hk hq hsrc (by rw [hf]; intro hh; cases hh),
        fun k row' q src _ hk hq hsrc hf => C.fil1 hk hq hsrc hf,
        fun k row' q src _ hk hq hsrc hf => ⟨C.ack1 hk hq hsrc (by rw [hf]; intro hh; cases hh), trivial⟩,
        fun k row' q src _ hk hq hsrc hrun hf => C.clean1 hk hq hsrc hrun hf⟩
    tags := C.tags1
    below := fun e he hsub => by
      rw [C.wr] at he
      rw [C.nxJ1]; exact C.fl.below e he hsub }

end PCGK

end GProc

theorem procDo_monG {G : Ctx} (hs : Src G) {X : Acker} (C0 : MC G X) {s s' : PS}
    {r : Except Stop Batch} {b : Batch} {task : Nat}
    {pre sub : List Nat} {rest : Nat → Nat} {doom : Nat → Prop} {nx : Nat} {sm : List Nat}
    (hF : FlightGK κ C0 s pre pre True sub rest doom nx b sm 0)
    (haf : FlagsAF b)
    (hbelow : task ∈ C0.Below) (hinT : task ∈ tasksS G.tree)
    (h : exec (procDo task b) s = (r, s')) (hrp : RP G s') (hft : Disc κ G s') :
    Base G s' ∧ WSeen G s' ∧ QStep G task false (RootsOf G sm 0) s s' ∧ C0.Inv (nxJ sm nx 0) s' ∧
    ∀ b1, r = .ok b1 →
      ∃ sm1, FlightGK κ C0 s' pre pre True sub rest doom nx b1 sm1 0 ∧ StepRelGK κ G s b sm s' b1 sm1 ∧
        (b1.tainted = false → FlagsAF b1) := by
  have hB : Base G s := C0.base hF.inv
  have hsinv : SInv s.heap rest b := hF.tinv.sinv
  have hss := procDo_sspec task b s s' r rest hsinv h
  obtain ⟨hp, h1, h2⟩ := procDo_shape task b s
  rw [h1] at h
  obtain ⟨hr, hs'⟩ := Prod.mk.inj h
  have hlog : s'.log = s.log.push (.pcall task b.active) := by rw [← hs']
  have hscr : s'.scripts = popScripts s.scripts task := by rw [← hs']
  have hheap : s'.heap = hp := by rw [← hs']
  have hmu : G.mu s' = pcallT G.scripts (G.mu s) task b.active := mu_push G s s' _ hlog
  rw [pcallT_eq] at hmu
  have hEr : G.errT s' = G.errT s ++
      (erroredBy b.active (procOut (replyOfCall G.scripts task (callNoL (G.mu s).calls task)))).map
        (fun x => (task, x)) := errT_push G s s' _ hlog
  have hok := hrp.pcall task b.active hlog
  have hfr := hft.pcall task b.active hlog
  have hseen := Seen.push_pcall (G := G) task b.active hlog
  rw [hB.sc.nextReply] at hr h2
  generalize procOut (replyOfCall G.scripts task (callNoL (G.mu s).calls task)) = out at hmu hEr hok hfr hseen hr h2
  have hfil : (G.mu s').filtered = (G.mu s).filtered ++ filteredBy b.active out := by rw [hmu]
  have hwr : (G.mu s').written = (G.mu s).written := by rw [hmu]
  have hany : (G.mu s').dlqAny = (G.mu s).dlqAny := by rw [hmu]
  have hdok : (G.mu s').dlqOk = (G.mu s).dlqOk := by rw [hmu]
  have hstep : PStepT (G.view s) (G.view s') task b.active out := ⟨hfil, hEr, hwr⟩
  obtain ⟨rs, hvb⟩ := hsinv.vb
  -- the unconditional part
  have hBase' : Base G s' := hB.pcall hlog hscr hstep (by rw [hmu]; exact hB.safe) hinT
  have hQ : QStep G task false (RootsOf G sm 0) s s' :=
    .of_push hs' rfl rfl (fun tk i hh => by cases hh)
      (hstep.ext_of (fun k r hk => SProc.active_root hsinv.wf hvb hF.srcmap hk)) hany hdok
  have hinv' : C0.Inv (nxJ sm nx 0) s' := hF.quiet hs hQ hbelow hBase'
  have hws' : WSeen G s' := by
    intro e he
    rw [hwr] at he
    rw [hseen]; exact List.mem_append_left _ (hF.wseen e he)
  refine ⟨hBase', hws', hQ, hinv', ?_⟩
  intro b1 hb1
  have hss1 := hss.ok hb1
  cases hP : procDoP s.heap b out with
  | error e => rw [hP, hb1] at hr; cases hr
  | ok x =>
    obtain ⟨h', b''⟩ := x
    rw [hP, hb1] at hr
    have hbb : b'' = b1 := Except.ok.inj hr
    subst hbb
    have hh' : hp = h' := h2 h' b'' hP
    rw [hh'] at hheap
    rw [← hheap] at hP
    obtain ⟨hpe, _, _, hsn⟩ := procDoP_eff hsinv.wf hsinv.runs hP
    obtain ⟨rs1, hvb1⟩ := hss1.inv.vb
    obtain ⟨kids, hpm⟩ := SProc.pmap_of_eff hsinv.wf hvb hpe
    have C : GProc.PCGK κ C0 s s' task pre sub rest doom nx b sm out b'' kids rs rs1 :=
      { src := hs, fl := hF, haf := haf, vb := hvb, vb1 := hvb1, pstep := hstep, wr := hwr, ok := hok, fresh := hfr,
        seen := hseen, inv1 := hinv', pm := hpm, ss := hss1, hold := hpe.hold,
        split := hpe.split,
        splitnew := hsn,
        taint := hpe.taint }
    exact ⟨SProc.smOf kids sm, C.flight1, C.steprel, haf.of_taint hpe.taint⟩

end Conduit.Funnel
