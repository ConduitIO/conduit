import ConduitModel.Proofs.PassSTask

/-!
# Effect of `ProcessorTask.Do` (pure core `procDoP`) on the rows of a batch, splits included

`ProcEff` / `KidsOK` fix records, positions and runs of the new rows exactly, and the flag of each
new status up to a nack that spread over it (`FlagOK`, `NW`); the other status fields are left open.
`procDoP_eff` follows the call list of `ProcessorTask.Do` (`procDoP_calls`, Proofs/BatchProc.lean): the
invariant `SI` through one call at a time (`calls_SI`; `SI.call` for a call that rewrites rows in place, read off
`call_eff` of Proofs/BatchCall.lean; `split_SI` for a `SplitRecord`, read off `splitRecord_rows` of
Proofs/BatchRows.lean), `TaintC` likewise (`call_taintC`). Beside `ProcEff` it gives `SplitNew`: a new entry of the split
map belongs to a row the reply splits.
-/
namespace Conduit.Funnel

def RelL {α} (R : α → α → Prop) (l l' : List α) : Prop :=
  l.length = l'.length ∧ ∀ (y : Nat) (a a' : α), l[y]? = some a → l'[y]? = some a' → R a a'

theorem RelL.refl {α} {R : α → α → Prop} (hR : ∀ a, R a a) (l : List α) : RelL R l l :=
  ⟨rfl, fun y a a' h1 h2 => by rw [h1] at h2; cases h2; exact hR a⟩

theorem reshape {α} {R : α → α → Prop} (kids : List (List α)) : ∀ (l' : List α), RelL R kids.flatten l' →
    ∃ kids' : List (List α), l' = kids'.flatten ∧ kids'.length = kids.length ∧
      ∀ (j : Nat) (ks : List α), kids[j]? = some ks → ∃ ks', kids'[j]? = some ks' ∧ RelL R ks ks' := by
  induction kids with
  | nil =>
    intro l' h
    have h1 := h.1
    simp only [List.flatten_nil, List.length_nil] at h1
    refine ⟨[], ?_, rfl, by simp⟩
    simp only [List.flatten_nil]
    exact List.length_eq_zero_iff.mp h1.symm
  | cons ks rest ih =>
    intro l' h
    have hl : ks.length + rest.flatten.length = l'.length := by
      have := h.1
      simpa using this
    obtain ⟨kids', e1, e2, e3⟩ := ih (l'.drop ks.length) ⟨by simp only [List.length_drop]; omega, by
      intro y a a' h1 h2
      rw [List.getElem?_drop] at h2
      refine h.2 (ks.length + y) a a' ?_ h2
      simp only [List.flatten_cons]
      rw [List.getElem?_append_right (by omega)]
      rw [show ks.length + y - ks.length = y by omega]
      exact h1⟩
    refine ⟨l'.take ks.length :: kids', ?_, by simp [e2], ?_⟩
    · simp only [List.flatten_cons, ← e1, List.take_append_drop]
    · intro j ks0 hj
      cases j with
      | zero =>
        simp only [List.getElem?_cons_zero, Option.some.injEq] at hj
        subst hj
        refine ⟨_, rfl, by simp only [List.length_take]; omega, ?_⟩
        intro y a a' h1 h2
        rw [List.getElem?_take] at h2
        have hy : y < ks.length := (List.getElem?_eq_some_iff.mp h1).1
        simp only [hy, if_true] at h2
        refine h.2 y a a' ?_ h2
        simp only [List.flatten_cons]
        rw [List.getElem?_append_left hy]
        exact h1
      | succ j =>
        simp only [List.getElem?_cons_succ] at hj ⊢
        exact e3 j ks0 hj

theorem length_take_drop {α} (l : List α) {j : Nat} (i : Nat) (h : j ≤ l.length) : ((l.take j).drop i).length = j - i := by
  rw [List.length_drop, List.length_take, Nat.min_eq_left h]

theorem getElem?_take_drop {α} (l : List α) {i j k : Nat} (h : i + k < j) : ((l.take j).drop i)[k]? = l[i + k]? := by
  rw [List.getElem?_drop, List.getElem?_take, if_pos h]

theorem lookup_mem {m : List (Nat × Rec)} {k : Nat} {r : Rec} (h : lookup m k = some r) : (k, r) ∈ m := by
  unfold lookup at h
  cases hf : m.find? (·.1 == k) with
  | none => rw [hf] at h; cases h
  | some x =>
    rw [hf] at h
    have h := Option.some.inj h
    have h1 := List.find?_some hf
    have h2 := List.mem_of_find?_eq_some hf
    have : x = (k, r) := by
      obtain ⟨a, c⟩ := x
      have h1' : a = k := by simpa using h1
      have h' : c = r := h
      rw [h1', h']
    rw [← this]; exact h2

theorem lookup_none {m : List (Nat × Rec)} {k : Nat} (h : lookup m k = none) {e : Nat × Rec} (he : e ∈ m) : e.1 ≠ k := by
  unfold lookup at h
  rw [Option.map_eq_none_iff, List.find?_eq_none] at h
  simpa using h e he

/-- `row'` is `row` up to a nack that spread over it (never over a filtered row) -/
def NW (row row' : Row) : Prop :=
  row'.r = row.r ∧ row'.pos = row.pos ∧ row'.run = row.run ∧
    (row'.st = row.st ∨ (row.st.flag ≠ .filter ∧ row'.st.flag = .nack))

theorem NW.refl (row : Row) : NW row row := ⟨rfl, rfl, rfl, Or.inl rfl⟩

theorem NW.trans {a b c : Row} (h1 : NW a b) (h2 : NW b c) : NW a c := by
  obtain ⟨a1, a2, a3, a4⟩ := h1
  obtain ⟨b1, b2, b3, b4⟩ := h2
  refine ⟨b1.trans a1, b2.trans a2, b3.trans a3, ?_⟩
  rcases b4 with b4 | ⟨b4, b5⟩
  · rw [b4]; exact a4
  · rcases a4 with a4 | ⟨a4, a5⟩
    · rw [a4] at b4; exact Or.inr ⟨b4, b5⟩
    · exact Or.inr ⟨a4, b5⟩

theorem NW.eq_of_filter {a b : Row} (h : NW a b) (hf : a.st.flag = .filter) : b = a := by
  obtain ⟨a1, a2, a3, a4⟩ := h
  rcases a4 with a4 | ⟨a4, _⟩
  · cases a; cases b; simp_all
  · exact absurd hf a4

theorem NW.flagOK {a b : Row} (h : NW a b) {f : Flag} (hf : FlagOK f a.st) : FlagOK f b.st := by
  rcases h.2.2.2 with h1 | ⟨_, h1⟩
  · rw [h1]; exact hf
  · exact Or.inr h1

theorem NW.eq_with {a b : Row} (h : NW a b) : b = { a with st := b.st } := by
  obtain ⟨a1, a2, a3, _⟩ := h
  cases a; cases b; simp_all

theorem RelL.single {R : Row → Row → Prop} {x : Row} {ks' : List Row} (h : RelL R [x] ks') :
    ∃ x', ks' = [x'] ∧ R x x' := by
  have hl := h.1
  cases ks' with
  | nil => simp at hl
  | cons x' t =>
    cases t with
    | nil => exact ⟨x', rfl, h.2 0 x x' rfl rfl⟩
    | cons _ _ => simp at hl

theorem NewRun.mono {h h1 h2 : Heap} {s1 s2 : List (Nat × Rec)} {row : Row} {rid : Nat}
    (hn : NewRun h h1 s1 row rid) (hs : HStep h1 h2) (hsub : ∀ e ∈ s1, e ∈ s2) : NewRun h h2 s2 row rid := by
  rcases hn with hn | ⟨n1, n2, n3, n4, n5, n6, n7, n8, n9⟩
  · exact Or.inl hn
  · obtain ⟨t, _, ht⟩ := hs.2 rid n3
    refine Or.inr ⟨n1, n2, Nat.lt_of_lt_of_le n3 hs.1, n4, ?_, ?_, ?_, ?_, ?_⟩ <;> rw [ht]
    · exact n5
    · rcases n6 with n6 | ⟨e, he, g1, g2⟩
      · exact Or.inl n6
      · exact Or.inr ⟨e, hsub e he, g1, g2⟩
    · exact n7
    · exact n8
    · exact n9

theorem pieceRows_weaken {row : Row} {rid : Nat} {ms : List Rec} {sts : List Status} {ks' : List Row}
    (hl : sts.length = ms.length) (h : RelL NW (pieceRows row rid ms sts) ks') :
    ∃ sts' : List Status, sts'.length = ms.length ∧ ks' = pieceRows row rid ms sts' ∧
      ∀ (j : Nat) (st' : Status), sts'[j]? = some st' → ∃ st, sts[j]? = some st ∧
        (st' = st ∨ st'.flag = .nack) := by
  have hlen : ks'.length = ms.length := by rw [← h.1, length_pieceRows]
  refine ⟨ks'.map (·.st), by simp [hlen], ?_, ?_⟩
  · apply List.ext_getElem?
    intro j
    rw [getElem?_pieceRows]
    by_cases hj : j < ms.length
    · have hj' : j < ks'.length := by omega
      simp only [hj, if_true]
      rw [List.getElem?_eq_getElem hj']
      have hnw := h.2 j _ ks'[j] (by rw [getElem?_pieceRows, if_pos hj]) (List.getElem?_eq_getElem hj')
      obtain ⟨a1, a2, a3, _⟩ := hnw
      simp only at a1 a2 a3
      congr 1
      have : (List.map (fun x => x.st) ks')[j]?.getD default = ks'[j].st := by simp [hj']
      rw [this, ← a1, ← a2, ← a3]
    · simp only [hj, if_false]
      simp; omega
  · intro j st' hj
    rw [List.getElem?_map] at hj
    have hj' : j < ks'.length := by
      cases hx : ks'[j]? with
      | none => rw [hx] at hj; cases hj
      | some _ => exact (List.getElem?_eq_some_iff.mp hx).1
    rw [List.getElem?_eq_getElem hj'] at hj
    simp only [Option.map_some, Option.some.injEq] at hj
    have hjm : j < ms.length := by omega
    have hnw := h.2 j _ ks'[j] (by rw [getElem?_pieceRows, if_pos hjm]) (List.getElem?_eq_getElem hj')
    have hjs : j < sts.length := by omega
    refine ⟨sts[j], List.getElem?_eq_getElem hjs, ?_⟩
    rcases hnw.2.2.2 with h1 | ⟨_, h1⟩
    · left
      rw [← hj, h1]
      simp [hjs]
    · right; rw [← hj]; exact h1

/-- a single kid whose status satisfies `Φ`, for a `Φ` that survives a nack spreading over an unfiltered row -/
theorem kid1_weaken {row : Row} {r' : Rec} {Φ : Status → Prop} {ks ks' : List Row}
    (hk : ∃ st', ks = [{ row with r := r', st := st' }] ∧ Φ st') (hrel : RelL NW ks ks')
    (hΦ : ∀ st st' : Status, Φ st → st.flag ≠ .filter → st'.flag = .nack → Φ st') :
    ∃ st', ks' = [{ row with r := r', st := st' }] ∧ Φ st' := by
  obtain ⟨st', rfl, hf⟩ := hk
  obtain ⟨x', rfl, hnw⟩ := hrel.single
  refine ⟨x'.st, by rw [hnw.eq_with], ?_⟩
  rcases hnw.2.2.2 with h1 | ⟨h1, h2⟩
  · rw [h1]; exact hf
  · exact hΦ _ _ hf h1 h2

theorem KidsOK.weaken {h h1 h2 : Heap} {s1 s2 : List (Nat × Rec)} {row : Row} {o : PR} {ks ks' : List Row}
    (hk : KidsOK h h1 s1 row o ks) (hrel : RelL NW ks ks') (hs : HStep h1 h2) (hsub : ∀ e ∈ s1, e ∈ s2) :
    KidsOK h h2 s2 row o ks' := by
  cases o with
  | single r' => exact kid1_weaken hk hrel fun _ _ _ _ hn => Or.inr hn
  | filter => exact kid1_weaken (r' := row.r) hk hrel fun _ _ hf hne _ => absurd hf hne
  | error e0 => exact kid1_weaken (r' := row.r) hk hrel fun _ _ _ _ hn => hn
  | nil => exact kid1_weaken (r' := row.r) hk hrel fun _ _ _ _ hn => Or.inr hn
  | multi rs =>
    match rs, hk with
    | [], hk => exact kid1_weaken (r' := row.r) hk hrel fun _ _ hf hne _ => absurd hf hne
    | [r'], hk => exact kid1_weaken hk hrel fun _ _ _ _ hn => Or.inr hn
    | r1 :: r2 :: ms, hk =>
      obtain ⟨rid, sts, hl, e, hf, hn⟩ := hk
      subst e
      obtain ⟨sts', hl', e', hf'⟩ := pieceRows_weaken hl hrel
      refine ⟨rid, sts', hl', e', ?_, hn.mono hs hsub⟩
      intro j st' hj
      obtain ⟨st, g1, g2⟩ := hf' j st' hj
      rcases g2 with g2 | g2
      · rw [g2]; exact hf j st g1
      · exact Or.inr g2

/-- a row replaced by one row `row'`: what the reply `o` says about `row'` -/
structure Kid1 (row : Row) (o : PR) (row' : Row) : Prop where
  pos : row'.pos = row.pos
  run : row'.run = row.run
  repl : row'.r = row.r ∨ o = .single row'.r ∨ o = .multi [row'.r]
  fil : row'.st.flag = .filter → row.st.flag = .filter ∨ o = .filter ∨ o = .multi []
  err : ∀ e, o = .error e → row'.st.flag = .nack
  one : ∀ ms, o = .multi ms → ms.length ≤ 1

theorem KidsOK.elim {h h' : Heap} {spl : List (Nat × Rec)} {row : Row} {o : PR} {ks : List Row}
    (hk : KidsOK h h' spl row o ks) :
    (∃ row', ks = [row'] ∧ Kid1 row o row') ∨
    ∃ (r1 r2 : Rec) (ms : List Rec) (rid : Nat) (sts : List Status), o = .multi (r1 :: r2 :: ms) ∧
      sts.length = (r1 :: r2 :: ms).length ∧ ks = pieceRows row rid (r1 :: r2 :: ms) sts ∧
      (∀ (j : Nat) (st' : Status), sts[j]? = some st' → FlagOK (if j = 0 then row.st.flag else .ack) st') ∧
      NewRun h h' spl row rid := by
  have keep : ∀ st' : Status, FlagOK row.st.flag st' → st'.flag = .filter → row.st.flag = .filter := by
    rintro st' (h1 | h1) hf
    · rw [← h1]; exact hf
    · rw [h1] at hf; cases hf
  cases o with
  | single r' =>
    obtain ⟨st', rfl, hf⟩ := hk
    exact Or.inl ⟨_, rfl, rfl, rfl, Or.inr (Or.inl rfl), fun hfl => Or.inl (keep st' hf hfl), (fun e he => nomatch he),
      (fun ms he => nomatch he)⟩
  | filter =>
    obtain ⟨st', rfl, _⟩ := hk
    exact Or.inl ⟨_, rfl, rfl, rfl, Or.inl rfl, fun _ => Or.inr (Or.inl rfl), (fun e he => nomatch he),
      (fun ms he => nomatch he)⟩
  | error e0 =>
    obtain ⟨st', rfl, hf⟩ := hk
    refine Or.inl ⟨_, rfl, rfl, rfl, Or.inl rfl, fun hfl => ?_, fun _ _ => hf, (fun ms he => nomatch he)⟩
    have hfl : st'.flag = .filter := hfl
    rw [hf] at hfl; cases hfl
  | nil =>
    obtain ⟨st', rfl, hf⟩ := hk
    refine Or.inl ⟨_, rfl, rfl, rfl, Or.inl rfl, fun hfl => ?_, (fun e he => nomatch he), (fun ms he => nomatch he)⟩
    have hfl : st'.flag = .filter := hfl
    rcases hf with h1 | h1 <;> rw [h1] at hfl <;> cases hfl
  | multi rs =>
    match rs, hk with
    | [], hk =>
      obtain ⟨st', rfl, _⟩ := hk
      exact Or.inl ⟨_, rfl, rfl, rfl, Or.inl rfl, fun _ => Or.inr (Or.inr rfl), (fun e he => nomatch he),
        fun ms he => by cases he; exact Nat.zero_le _⟩
    | [r'], hk =>
      obtain ⟨st', rfl, hf⟩ := hk
      exact Or.inl ⟨_, rfl, rfl, rfl, Or.inr (Or.inr rfl), fun hfl => Or.inl (keep st' hf hfl), (fun e he => nomatch he),
        fun ms he => by cases he; exact Nat.le_refl _⟩
    | r1 :: r2 :: ms, hk =>
      obtain ⟨rid, sts, hl, e, hf, hn⟩ := hk
      exact Or.inr ⟨r1, r2, ms, rid, sts, rfl, hl, e, hf, hn⟩

theorem rowAt_of_rows {b : Batch} {p : Nat} {row : Row} (h : b.rows[p]? = some row) :
    p < b.recs.length ∧ row = b.rowAt p := by
  rw [getElem?_rows] at h
  split at h
  · exact ⟨‹_›, (Option.some.inj h).symm⟩
  · cases h

theorem rowAt_filter {b : Batch} (hl : b.st.length = b.recs.length) {p : Nat} (hp : p < b.recs.length)
    (hna : p ∉ actList b.st) : (b.rowAt p).st.flag = .filter := by
  have hp' : p < b.st.length := by omega
  have h1 : ¬ (notFilt b.st p = true) := fun hn => hna (mem_actList.mpr ⟨hp', hn⟩)
  rw [notFilt_iff hp'] at h1
  have h2 : (b.rowAt p).st = b.st[p] := by simp [Batch.rowAt, hp']
  rw [h2]
  exact Classical.byContradiction (fun hc => h1 hc)

theorem rowAt_notFilter {b : Batch} {p : Nat} (ha : p ∈ actList b.st) : (b.rowAt p).st.flag ≠ .filter := by
  obtain ⟨hp', hn⟩ := mem_actList.mp ha
  rw [notFilt_iff hp'] at hn
  have h2 : (b.rowAt p).st = b.st[p] := by simp [Batch.rowAt, hp']
  rw [h2]
  exact hn

/-- the rows from physical index `P` on are the kids of the rows of `b` from `P` on -/
def HiOK (b : Batch) (pad : List PR) (h hc : Heap) (spl : List (Nat × Rec)) (P : Nat) (rowsHi : List Row) : Prop :=
  ∃ hk : List (List Row), hk.length = b.recs.length - P ∧ rowsHi = hk.flatten ∧
    (∀ p : Nat, P ≤ p → p < b.recs.length → p ∉ actList b.st → hk[p - P]? = some [b.rowAt p]) ∧
    (∀ (a p : Nat) (o : PR), P ≤ p → (actList b.st)[a]? = some p → pad[a]? = some o →
       ∃ ks, hk[p - P]? = some ks ∧ KidsOK h hc spl (b.rowAt p) o ks)

theorem HiOK.cons {b : Batch} {pad : List PR} {h hc : Heap} {spl : List (Nat × Rec)} {P : Nat} {rowsHi : List Row}
    (hi : HiOK b pad h hc spl (P+1) rowsHi) (hP : P < b.recs.length) {ks : List Row}
    (h1 : P ∉ actList b.st → ks = [b.rowAt P])
    (h2 : ∀ (a : Nat) (o : PR), (actList b.st)[a]? = some P → pad[a]? = some o → KidsOK h hc spl (b.rowAt P) o ks) :
    HiOK b pad h hc spl P (ks ++ rowsHi) := by
  obtain ⟨hk, l, e, g1, g2⟩ := hi
  refine ⟨ks :: hk, by simp only [List.length_cons, l]; omega, by simp [e], ?_, ?_⟩
  · intro p hp hpN hna
    by_cases hpe : p = P
    · subst hpe; simp [h1 hna]
    · have : p - P = (p - (P+1)) + 1 := by omega
      rw [this, List.getElem?_cons_succ]
      exact g1 p (by omega) hpN hna
  · intro a p o hp ha ho
    by_cases hpe : p = P
    · subst hpe; exact ⟨ks, by simp, h2 a o ha ho⟩
    · have : p - P = (p - (P+1)) + 1 := by omega
      rw [this, List.getElem?_cons_succ]
      exact g2 a p o (by omega) ha ho

theorem HiOK.weaken {b : Batch} {pad : List PR} {h hc hc' : Heap} {spl spl' : List (Nat × Rec)} {P : Nat}
    {rowsHi rowsHi' : List Row} (hl : b.st.length = b.recs.length)
    (hi : HiOK b pad h hc spl P rowsHi) (hrel : RelL NW rowsHi rowsHi') (hs : HStep hc hc')
    (hsub : ∀ e ∈ spl, e ∈ spl') : HiOK b pad h hc' spl' P rowsHi' := by
  obtain ⟨hk, l, e, g1, g2⟩ := hi
  subst e
  obtain ⟨hk', e', l', g3⟩ := reshape hk rowsHi' hrel
  refine ⟨hk', l'.trans l, e', ?_, ?_⟩
  · intro p hp hpN hna
    obtain ⟨ks', k1, k2⟩ := g3 _ _ (g1 p hp hpN hna)
    obtain ⟨x', rfl, hnw⟩ := k2.single
    rw [k1, hnw.eq_of_filter (rowAt_filter hl hpN hna)]
  · intro a p o hp ha ho
    obtain ⟨ks, k1, k2⟩ := g2 a p o hp ha ho
    obtain ⟨ks', k3, k4⟩ := g3 _ _ k1
    exact ⟨ks', k3, k2.weaken k4 hs hsub⟩

/-- the frontier moves down from `P` to `Q` over rows of `c` that each stand for themselves: an inactive one
unchanged (a nack never spreads over a filtered row), an active one the single kid its reply asks for -/
theorem HiOK.extend {b : Batch} {pad : List PR} {h hc : Heap} {spl : List (Nat × Rec)} {c : Batch} {P Q : Nat}
    (hb : b.st.length = b.recs.length) (hPc : P ≤ c.recs.length) (hPN : P ≤ b.recs.length)
    (hi : HiOK b pad h hc spl P (c.rows.drop P)) (hQ : Q ≤ P)
    (hin : ∀ x : Nat, Q ≤ x → x < P → x ∉ actList b.st → NW (b.rowAt x) (c.rowAt x))
    (hact : ∀ (x a : Nat) (o : PR), Q ≤ x → x < P → (actList b.st)[a]? = some x → pad[a]? = some o →
       KidsOK h hc spl (b.rowAt x) o [c.rowAt x]) :
    HiOK b pad h hc spl Q (c.rows.drop Q) := by
  suffices ∀ d Q' : Nat, P = Q' + d → Q ≤ Q' → HiOK b pad h hc spl Q' (c.rows.drop Q') from
    let ⟨d, hd⟩ := Nat.exists_eq_add_of_le hQ
    this d Q hd (Nat.le_refl _)
  intro d
  induction d with
  | zero => intro Q' hQ' _; rw [← Nat.add_zero Q', ← hQ']; exact hi
  | succ d ih =>
    intro Q' hQ' hle
    have hQP : Q' < P := by rw [hQ']; exact Nat.lt_add_of_pos_right (Nat.succ_pos d)
    have hQN : Q' < b.recs.length := Nat.lt_of_lt_of_le hQP hPN
    rw [rows_drop c (Nat.lt_of_lt_of_le hQP hPc)]
    exact HiOK.cons (ks := [c.rowAt Q']) (ih (Q' + 1) (by rw [hQ', Nat.add_right_comm, Nat.add_assoc]) (Nat.le_succ_of_le hle)) hQN
      (fun hna => by rw [(hin Q' hle hQP hna).eq_of_filter (rowAt_filter hb hQN hna)])
      (fun a o => hact Q' a o hle hQP)

def SplitNew (b : Batch) (pad : List PR) (spl : List (Nat × Rec)) : Prop :=
  ∀ e ∈ spl, e ∈ b.split ∨ ∃ (a p : Nat) (ms : List Rec), (actList b.st)[a]? = some p ∧ pad[a]? = some (.multi ms) ∧
    2 ≤ ms.length ∧ (b.rowAt p).run = none ∧ e = (keyOf (b.rowAt p).pos, (b.rowAt p).r)

/-- loop invariant of the end→start marking: the active indices below `to` (physical indices below
`P`) are untouched up to spread nacks, the rows from `P` on have been replaced by their kids. The
physical frontier `P` is carried beside `to` because a split shifts the indices behind it, while the
loop, running from the end, has the indices below `P` still as in `b`. -/
structure SI (b : Batch) (pad : List PR) (h : Heap) (to P : Nat) (hc : Heap) (c : Batch) : Prop where
  wf : c.WF hc
  runs : ∃ rs, c.runs = some rs
  hstep : HStep h hc
  leb : to ≤ b.nAct
  act : ∀ k : Nat, k < to → (actList c.st)[k]? = (actList b.st)[k]?
  Ple : P ≤ b.recs.length
  Pc : P ≤ c.recs.length
  lowA : ∀ k p : Nat, (actList b.st)[k]? = some p → (k < to ↔ p < P)
  low : ∀ p : Nat, p < P → NW (b.rowAt p) (c.rowAt p)
  hi : HiOK b pad h hc c.split P (c.rows.drop P)
  split : SplitNew b pad c.split

theorem SI.step {b : Batch} {pad : List PR} {h : Heap} {to P : Nat} {hc : Heap} {c c' : Batch} {i : Nat}
    {T : Nat → Row → Row → Prop} {N : Row → Row → Prop} (hb : b.st.length = b.recs.length)
    (hinv : SI b pad h to P hc c) (hs : InPlace hc i to T N c c') (hN : ∀ row row', N row row' → NW row row')
    (hi : i < to) {q0 : Nat} (hq0 : (actList b.st)[i]? = some q0)
    (hT : ∀ (k x : Nat) (o : PR) (row row' : Row), i ≤ k → k < to → (actList b.st)[k]? = some x →
      pad[k]? = some o → NW (b.rowAt x) row → T k row row' → KidsOK h hc c.split (b.rowAt x) o [row']) :
    SI b pad h i q0 hc c' := by
  have hq0P : q0 < P := (hinv.lowA i q0 hq0).mp hi
  have hrl := hs.recs_len hinv.wf
  -- a row that none of the active indices `i … to-1` of `b` addresses is touched by a spreading nack at most
  have hoth : ∀ x : Nat, (∀ k : Nat, i ≤ k → k < to → (actList b.st)[k]? ≠ some x) → NW (c.rowAt x) (c'.rowAt x) :=
    fun x hx => hN _ _ (hs.oth x fun ⟨k, h1, h2, h3⟩ => hx k h1 h2 ((hinv.act k h2).symm.trans h3))
  have hPc' : P ≤ c'.recs.length := by rw [hrl]; exact hinv.Pc
  refine ⟨hs.wf, by rw [hs.runs]; exact hinv.runs, hinv.hstep, by have := hinv.leb; omega, ?_,
    by have := hinv.Ple; omega,
    by omega, ?_, ?_, ?_, by rw [hs.split]; exact hinv.split⟩
  · intro k hk
    exact (hs.act k hk).trans (hinv.act k (by omega))
  · exact fun k p hp => actList_lt_iff hp hq0
  · intro p hp
    exact (hinv.low p (by omega)).trans
      (hoth p fun k h1 _ h3 => absurd ((actList_lt_iff h3 hq0).mpr hp) (Nat.not_lt.mpr h1))
  · -- the kids
    have hrel : RelL NW (c.rows.drop P) (c'.rows.drop P) := by
      refine ⟨by simp only [List.length_drop, rows_length, hrl], ?_⟩
      intro y a a' h1 h2
      rw [List.getElem?_drop] at h1 h2
      obtain ⟨_, rfl⟩ := rowAt_of_rows h1
      obtain ⟨_, rfl⟩ := rowAt_of_rows h2
      exact hoth _ fun k _ g2 g3 => absurd ((hinv.lowA k _ g3).mp g2) (Nat.not_lt.mpr (Nat.le_add_right P y))
    have hi1 : HiOK b pad h hc c'.split P (c'.rows.drop P) :=
      HiOK.weaken hb hinv.hi hrel (HStep.refl _) (by rw [hs.split]; exact fun _ he => he)
    refine HiOK.extend hb hPc' hinv.Ple hi1 (Nat.le_of_lt hq0P) (fun x _ hx2 hna =>
      (hinv.low x hx2).trans (hoth x fun k _ _ h3 => hna (List.mem_of_getElem? h3))) ?_
    intro x a o hx1 hx2 ha ho
    have hia : i ≤ a := Nat.le_of_not_lt fun hlt => Nat.not_lt.mpr hx1 ((actList_lt_iff ha hq0).mp hlt)
    have hato : a < to := (hinv.lowA a x ha).mpr hx2
    rw [hs.split]
    exact hT a x o _ _ hia hato ha ho (hinv.low x hx2) (hs.tgt a x hia hato ((hinv.act a hato).trans ha))

theorem BCall.N_NW {c : BCall} {row row' : Row} (h : c.N row row') : NW row row' := by
  rcases BCall.N_cases h with rfl | ⟨_, h1, _, _, _, _, _, rfl⟩
  · exact NW.refl _
  · exact ⟨rfl, rfl, rfl, Or.inr ⟨h1, rfl⟩⟩

theorem SI.call {b : Batch} {pad : List PR} {h : Heap} {P : Nat} {hc hc1 : Heap} {c0 c1 : Batch} {c : BCall}
    (hb : b.st.length = b.recs.length) (hinv : SI b pad h c.hi P hc c0) (hns : ∀ i m, c ≠ .split i m) (hi : c.lo < c.hi)
    (hr : c.run (hc, c0) = .ok (hc1, c1))
    (hT : ∀ (k x : Nat) (o : PR) (row row' : Row), c.lo ≤ k → k < c.hi → (actList b.st)[k]? = some x →
      pad[k]? = some o → NW (b.rowAt x) row → c.T k row row' → KidsOK h hc c0.split (b.rowAt x) o [row']) :
    ∃ P' : Nat, SI b pad h c.lo P' hc1 c1 := by
  obtain ⟨rfl, M, _⟩ := call_eff hinv.wf hns hr
  exact ⟨_, hinv.step hb M (fun _ _ => BCall.N_NW) hi (List.getElem?_eq_getElem (Nat.lt_of_lt_of_le hi hinv.leb)) hT⟩

theorem NW.with_r {rb row : Row} (hnw : NW rb row) (r' : Rec) (st' : Status) :
    ({ row with r := r', st := st' } : Row) = { rb with r := r', st := st' } := by
  obtain ⟨a1, a2, a3, _⟩ := hnw
  cases rb; cases row; simp_all

theorem NW.with_st {rb row : Row} (hnw : NW rb row) (st' : Status) :
    ({ row with r := row.r, st := st' } : Row) = { rb with st := st' } := by
  obtain ⟨a1, a2, a3, _⟩ := hnw
  cases rb; cases row; simp_all

theorem pieceRows_congr {row row' : Row} (hp : row.pos = row'.pos) (rid : Nat) (ms : List Rec) (sts : List Status) :
    pieceRows row rid ms sts = pieceRows row' rid ms sts := by
  simp only [pieceRows, hp]

theorem rowAt_of_take {c c' : Batch} {q : Nat} {L : List Row} (hF : c'.rows = c.rows.take q ++ L)
    (hq : q ≤ c.recs.length) {x : Nat} (hx : x < q) : c'.rowAt x = c.rowAt x := by
  have h1 : c'.rows[x]? = c.rows[x]? := by
    rw [hF, List.getElem?_append_left (by rw [List.length_take_of_le (by rw [rows_length]; exact hq)]; exact hx),
      List.getElem?_take_of_lt hx]
  rw [getElem?_rows, getElem?_rows, if_pos (Nat.lt_of_lt_of_le hx hq)] at h1
  split at h1
  · exact Option.some.inj h1
  · cases h1

theorem runAt_lt {h : Heap} {b : Batch} (hwf : b.WF h) {q rid : Nat} (hr : b.runAt q = some rid) : rid < h.size := by
  unfold Batch.runAt at hr
  have hro := hwf.1.runs_ok
  cases hruns : b.runs with
  | none => rw [hruns] at hr; cases hr
  | some rs =>
    rw [hruns] at hr hro
    simp only at hr
    cases hx : rs[q]? with
    | none => rw [hx] at hr; cases hr
    | some o =>
      rw [hx] at hr
      simp only [Option.join_some] at hr
      subst hr
      have := hro.2 (some rid) (List.mem_of_getElem? hx)
      simpa [runIdOK] using this

theorem SI.split_core {b : Batch} {pad : List PR} {h : Heap} {k P : Nat} {hc hc' : Heap} {c c' : Batch}
    {m : List Rec} {q rid : Nat} (hb : b.st.length = b.recs.length) (hinv : SI b pad h (k+1) P hc c)
    (hqb : (actList b.st)[k]? = some q) (hm : 2 ≤ m.length) (hpad : pad[k]? = some (.multi m))
    (hwf : c'.WF hc') (hruns : ∃ rs, c'.runs = some rs) (hst : HStep hc hc') (hbelow : Below k c c')
    (hsub : ∀ e ∈ c.split, e ∈ c'.split)
    (hsplit : ∀ e ∈ c'.split, e ∈ c.split ∨
      ((c.rowAt q).run = none ∧ e = (keyOf (c.rowAt q).pos, (c.rowAt q).r)))
    (hnew : NewRun h hc' c'.split (b.rowAt q) rid)
    (hF : c'.rows = c.rows.take q ++
      pieceRows (c.rowAt q) rid m ((c.rowAt q).st :: List.replicate (m.length - 1) {}) ++ c.rows.drop (q+1))
    (hlen : c.recs.length ≤ c'.recs.length) : SI b pad h k q hc' c' := by
  have hqP : q < P := (hinv.lowA k q hqb).mp (by omega)
  have hnwq := hinv.low q hqP
  have hPN := hinv.Ple
  have hPc := hinv.Pc
  have hqc : q ≤ c.recs.length := Nat.le_trans (Nat.le_of_lt hqP) hPc
  have hF2 : c'.rows.drop q =
      pieceRows (c.rowAt q) rid m ((c.rowAt q).st :: List.replicate (m.length - 1) {}) ++ c.rows.drop (q+1) := by
    rw [hF, List.append_assoc, List.drop_left' (List.length_take_of_le (by rw [rows_length]; exact hqc))]
  refine ⟨hwf, hruns, hinv.hstep.trans hst, by have := hinv.leb; omega, ?_, by omega, by omega,
    ?_, ?_, ?_, ?_⟩
  · intro k' hk'
    exact (hbelow.act k' hk').trans (hinv.act k' (by omega))
  · exact fun k' p hp => actList_lt_iff hp hqb
  · intro p hp
    rw [rowAt_of_take (c := c) (c' := c') (by rw [List.append_assoc] at hF; exact hF) hqc hp]
    exact hinv.low p (by omega)
  · rw [hF2]
    have hi0 : HiOK b pad h hc' c'.split P (c.rows.drop P) :=
      HiOK.weaken hb hinv.hi (RelL.refl NW.refl _) hst hsub
    have hext := HiOK.extend hb hPc hPN hi0 (Nat.succ_le_of_lt hqP) (fun x _ hx2 _ => hinv.low x hx2) (by
      -- no active row lies strictly between `q` and `P`: its index would lie strictly between `k` and `k+1`
      intro x a o hx1 hx2 ha _
      have h1 : a < k + 1 := (hinv.lowA a x ha).mpr hx2
      have h2 : k < a := (actList_lt_iff hqb ha).mpr hx1
      omega)
    refine HiOK.cons hext (by omega) (fun hna => absurd (List.mem_of_getElem? hqb) hna) ?_
    intro a o ha ho
    have hak : a = k := actList_inj ha hqb
    subst hak
    rw [hpad] at ho
    cases ho
    match m, hm, hF, hF2 with
    | r1 :: r2 :: ms, _, _, _ =>
      refine ⟨rid, _, by simp, pieceRows_congr hnwq.2.1 _ _ _, ?_, hnew⟩
      intro j st' hj
      cases j with
      | zero =>
        simp only [List.getElem?_cons_zero, Option.some.injEq] at hj
        subst hj
        simp only [if_true]
        exact hnwq.flagOK (Or.inl rfl)
      | succ j =>
        simp only [List.getElem?_cons_succ] at hj
        have := (List.getElem?_eq_some_iff.mp hj).2
        simp only [List.getElem_replicate] at this
        subst this
        exact Or.inl rfl
  · intro e he
    rcases hsplit e he with h1 | ⟨h1, h2⟩
    · exact hinv.split e h1
    · exact Or.inr ⟨k, q, m, hqb, hpad, hm, by rw [← hnwq.2.2.1]; exact h1, by rw [h2, hnwq.1, hnwq.2.1]⟩

theorem split_SI {b : Batch} {pad : List PR} {h : Heap} {k P : Nat} {hc hc' : Heap} {c c' : Batch} {m : List Rec}
    (hb : b.WF h) (hinv : SI b pad h (k+1) P hc c) (hm : 2 ≤ m.length) (hpad : pad[k]? = some (.multi m))
    (hr : c.splitRecord hc k m = .ok (hc', c')) : ∃ P' : Nat, SI b pad h k P' hc' c' := by
  have hm1 : 1 ≤ m.length := Nat.le_trans (by decide) hm
  obtain ⟨rs, hruns⟩ := hinv.runs
  obtain ⟨q, rid, S⟩ := splitRecord_rows hinv.wf hruns hm1 hr
  have hqb : (actList b.st)[k]? = some q := (hinv.act k (by omega)).symm.trans S.act
  have hnwq := hinv.low q ((hinv.lowA k q hqb).mp (by omega))
  have hq : q < c.recs.length := by
    rw [← hinv.wf.1.st_len]; exact (mem_actList.mp (List.mem_of_getElem? S.act)).1
  obtain ⟨w, _, e, _, _, _, _, bl, _⟩ := S.post
  refine ⟨q, SI.split_core hb.1.st_len hinv hqb hm hpad w S.runs S.hstep bl S.split_sub S.split_new ?_ S.rows
    (by rw [e, length_replace hq hm1]; exact Nat.le_add_right _ _)⟩
  rcases S.run with ⟨e1, e2, _⟩ | ⟨e1, e2, e3, e4, e5, e6⟩
  · have : (b.rowAt q).run = some rid := by rw [← hnwq.2.2.1]; exact e1
    exact Or.inl ⟨this, runAt_lt hb this⟩
  · refine Or.inr ⟨by rw [← hnwq.2.2.1]; exact e1, e3 ▸ hinv.hstep.1, by rw [e4, e3]; exact Nat.lt_succ_self _,
      by rw [← hnwq.2.1]; exact e2, ?_, ?_, ?_, ?_, ?_⟩ <;> rw [e5]
    · rw [← hnwq.2.1]; rfl
    · show (lookup c.split (keyOf (c.rowAt q).pos)).getD (c.rowAt q).r = _ ∨ _
      cases hl : lookup c.split (keyOf (c.rowAt q).pos) with
      | none => left; exact hnwq.1
      | some r0 =>
        right
        refine ⟨_, S.split_sub _ (lookup_mem hl), by rw [hnwq.2.1], ?_⟩
        show (lookup c.split (keyOf (c.rowAt q).pos)).getD (c.rowAt q).r = _
        rw [hl]; rfl
    · rfl
    · rfl
    · rfl

theorem window_getElem? {pad pre w : List PR} (hp : ∀ k : Nat, k < (pre ++ w).length → pad[k]? = (pre ++ w)[k]?)
    {k : Nat} (h1 : pre.length ≤ k) (h2 : k < pre.length + w.length) : pad[k]? = w[k - pre.length]? := by
  rw [hp k (by rw [List.length_append]; exact h2), List.getElem?_append_right h1]

/-- one window of the call list whose call `c` rewrites rows in place: `hT` says that what `c` makes of a row
is the one kid the row's reply in `w` asks for; the rest of the list goes on below the window -/
theorem SI.window {b : Batch} {pad : List PR} {h : Heap} (hb : b.WF h) {pre w : List PR} {c : BCall} {cs : List BCall}
    (hlo : c.lo = pre.length) (hhi : c.hi = pre.length + w.length) (hw : 0 < w.length) (hns : ∀ i m, c ≠ .split i m)
    (hT : ∀ (k x : Nat) (o : PR) (row row' : Row), (actList b.st)[k]? = some x → w[k - pre.length]? = some o →
      NW (b.rowAt x) row → c.T k row row' → ∀ (hc : Heap) (spl : List (Nat × Rec)), KidsOK h hc spl (b.rowAt x) o [row'])
    (ih : ∀ {hc hc' : Heap} {c0 c' : Batch} {P : Nat}, (∀ k : Nat, k < pre.length → pad[k]? = pre[k]?) →
      SI b pad h pre.length P hc c0 → cs.foldlM BCall.run (hc, c0) = .ok (hc', c') → ∃ P' : Nat, SI b pad h 0 P' hc' c')
    {hc hc' : Heap} {c0 c' : Batch} {P : Nat} (hp : ∀ k : Nat, k < (pre ++ w).length → pad[k]? = (pre ++ w)[k]?)
    (hinv : SI b pad h (pre ++ w).length P hc c0) (hr : (c :: cs).foldlM BCall.run (hc, c0) = .ok (hc', c')) :
    ∃ P' : Nat, SI b pad h 0 P' hc' c' := by
  rw [List.foldlM_cons] at hr
  obtain ⟨⟨hc1, c1⟩, e0, hr⟩ := bind_ok hr
  rw [List.length_append, ← hhi] at hinv
  obtain ⟨P1, inv1⟩ := SI.call hb.1.st_len hinv hns (by omega) e0 fun k x o row row' h1 h2 hx ho hnw hrow =>
    hT k x o row row' hx ((window_getElem? hp (hlo ▸ h1) (hhi ▸ h2)).symm.trans ho) hnw hrow hc c0.split
  rw [hlo] at inv1
  exact ih (fun k hk => (hp k (by rw [List.length_append]; omega)).trans (List.getElem?_append_left hk)) inv1 hr

theorem calls_SI {b : Batch} {pad : List PR} {h : Heap} (hb : b.WF h) {pre : List PR} {cs : List BCall}
    (hw : Windows pre cs) : ∀ {hc hc' : Heap} {c c' : Batch} {P : Nat},
      (∀ k : Nat, k < pre.length → pad[k]? = pre[k]?) → SI b pad h pre.length P hc c →
      cs.foldlM BCall.run (hc, c) = .ok (hc', c') → ∃ P' : Nat, SI b pad h 0 P' hc' c' := by
  induction hw with
  | nil => intro hc hc' c c' P _ hinv hr; cases hr; exact ⟨P, hinv⟩
  | @single pre cs rs hrs _ ih =>
    refine SI.window hb (c := .setRecords pre.length rs) rfl (by rw [List.length_map]; rfl)
      (by rw [List.length_map]; exact List.length_pos_iff.mpr hrs) nofun (fun k x o row row' hx ho hnw hrow _ _ => ?_) ih
    rw [List.getElem?_map] at ho
    obtain ⟨r, hr, rfl⟩ := Option.map_eq_some_iff.mp ho
    have hrow := BCall.T_setRecords.mp hrow
    subst hrow
    refine ⟨row.st, ?_, hnw.flagOK (Or.inl rfl)⟩
    rw [← hnw.with_r, hr]
    rfl
  | @filter pre cs n hn _ ih =>
    refine SI.window hb (c := .filterRange pre.length (pre.length + n)) rfl (by rw [List.length_replicate]; rfl)
      (by rwa [List.length_replicate]) nofun (fun k x o row row' hx ho hnw hrow _ _ => ?_) ih
    obtain rfl := List.eq_of_mem_replicate (List.mem_of_getElem? ho)
    have hrow := BCall.T_filterRange.mp hrow
    subst hrow
    exact ⟨setFlagP .filter row.st, by rw [hnw.with_st], rfl⟩
  | @error pre cs es hes _ ih =>
    refine SI.window hb (c := .nack pre.length (es.map fun e => some (e.getD plainErr))) rfl
      (by rw [List.length_map]; exact congrArg _ (List.length_map _))
      (by rw [List.length_map]; exact List.length_pos_iff.mpr hes) nofun (fun k x o row row' hx ho hnw hrow _ _ => ?_) ih
    rw [List.getElem?_map] at ho
    obtain ⟨e0, _, rfl⟩ := Option.map_eq_some_iff.mp ho
    obtain ⟨e, _, rfl⟩ := BCall.T_nack.mp hrow
    refine ⟨{ flag := .nack, err := e }, ?_, rfl⟩
    have : NW (b.rowAt x) { row with st := { flag := .nack, err := e } } :=
      ⟨hnw.1, hnw.2.1, hnw.2.2.1, Or.inr ⟨rowAt_notFilter (List.mem_of_getElem? hx), rfl⟩⟩
    rw [this.eq_with]
  | @retry pre cs n hn _ ih =>
    refine SI.window hb (c := .retry pre.length (pre.length + n)) rfl (by rw [List.length_replicate]; rfl)
      (by rwa [List.length_replicate]) nofun (fun k x o row row' hx ho hnw hrow _ _ => ?_) ih
    obtain rfl := List.eq_of_mem_replicate (List.mem_of_getElem? ho)
    have hrow := BCall.T_retry.mp hrow
    subst hrow
    exact ⟨setFlagP .retry row.st, by rw [hnw.with_st], Or.inl rfl⟩
  | @multi pre cs m _ ih =>
    unfold multiCall
    rcases m with _ | ⟨r, _ | ⟨r2, ms⟩⟩
    · refine SI.window hb (w := [.multi []]) (c := .filter1 pre.length) rfl rfl Nat.one_pos nofun
        (fun k x o row row' hx ho hnw hrow _ _ => ?_) ih
      obtain rfl := List.mem_singleton.mp (List.mem_of_getElem? ho)
      have hrow := BCall.T_filter1.mp hrow
      subst hrow
      exact ⟨setFlagP .filter row.st, by rw [hnw.with_st], rfl⟩
    · refine SI.window hb (w := [.multi [r]]) (c := .setRecords pre.length [r]) rfl rfl Nat.one_pos nofun
        (fun k x o row row' hx ho hnw hrow _ _ => ?_) ih
      obtain rfl := List.mem_singleton.mp (List.mem_of_getElem? ho)
      have hrow := BCall.T_setRecords.mp hrow
      subst hrow
      refine ⟨row.st, ?_, hnw.flagOK (Or.inl rfl)⟩
      rw [← hnw.with_r, Nat.lt_one_iff.mp (List.getElem?_eq_some_iff.mp ho).1]
      rfl
    · intro hc hc' c c' P hp hinv hr
      rw [List.foldlM_cons] at hr
      obtain ⟨⟨hc1, c1⟩, e1, hr1⟩ := bind_ok hr
      rw [List.length_append, List.length_singleton] at hinv
      obtain ⟨P1, inv1⟩ := split_SI (m := r :: r2 :: ms) hb hinv (Nat.le_add_left 2 ms.length)
        ((hp _ (by rw [List.length_append]; exact Nat.lt_succ_self _)).trans List.getElem?_concat_length) e1
      exact ih (fun k hk => (hp k (by rw [List.length_append]; omega)).trans (List.getElem?_append_left hk)) inv1 hr1

theorem call_taintC {h h' : Heap} {b b' : Batch} {c : BCall} (hwf : b.WF h)
    (hs : ∀ i m, c = .split i m → 1 ≤ m.length) (hr : c.run (h, b) = .ok (h', b')) (ht : TaintC b) : TaintC b' := by
  by_cases hsp : ∃ i m, c = .split i m
  · obtain ⟨i, m, rfl⟩ := hsp
    obtain ⟨_, _, _, _, _, gst, _, _, gt, _⟩ := splitRecord_of_ok hwf (hs i m rfl) hr
    intro s hs' hf
    rw [gt]; rw [gst] at hs'
    rcases mem_ins.mp hs' with h1 | h1
    · exact ht s h1 hf
    · rw [(List.mem_replicate.mp h1).2] at hf
      rcases hf with hf | hf <;> cases hf
  · obtain ⟨rfl, M, t⟩ := call_eff hwf (fun i m e => hsp ⟨i, m, e⟩) hr
    -- a call that flags `nack` or `retry` taints; the others hand on the flags, or flag `filter`
    refine M.st_forall hwf (P := fun s => s.flag = .nack ∨ s.flag = .retry → b'.tainted = true) ?_ ?_ (fun s hs hf => ?_)
    · intro k row row' hT hP hf
      rcases BCall.T_st hT with h1 | h1 | ⟨h1, _⟩
      · rw [h1] at hf; exact hP hf
      · rw [h1] at hf; rcases hf with hf | hf <;> cases hf
      · rw [t, h1]; exact Bool.or_true _
    · intro row row' hN hP hf
      rcases BCall.N_cases hN with rfl | ⟨h1, _⟩
      · exact hP hf
      · rw [t, h1]; exact Bool.or_true _
    · rw [t, ht s hs hf]; rfl

theorem calls_taintC {h' : Heap} {b' : Batch} : ∀ (cs : List BCall) {h : Heap} {b : Batch},
    (∀ c ∈ cs, ∀ i m, c = .split i m → 1 ≤ m.length) → b.WF h → cs.foldlM BCall.run (h, b) = .ok (h', b') →
    TaintC b → TaintC b'
  | [], _, _, _, _, hr, ht => by cases hr; exact ht
  | c :: cs, h, b, hs, hwf, hr, ht => by
    rw [List.foldlM_cons] at hr
    obtain ⟨⟨h1, b1⟩, e1, e2⟩ := bind_ok hr
    exact calls_taintC cs (fun c' hc => hs c' (List.mem_cons_of_mem _ hc))
      (call_WF hwf (hs c List.mem_cons_self) e1).1 e2 (call_taintC hwf (hs c List.mem_cons_self) e1 ht)

theorem procDoP_taintC {h h' : Heap} {b b' : Batch} {out : List PR} (hwf : b.WF h)
    (hr : procDoP h b out = .ok (h', b')) : TaintC b → TaintC b' := by
  obtain ⟨cs, hw, hf⟩ := procDoP_calls hr
  exact calls_taintC cs (fun c hc i m e => Nat.le_of_succ_le ((hw.mem hc).2 i m e).2) hwf hf

theorem procDoP_eff {h : Heap} {b : Batch} (hwf : b.WF h) (hruns : ∃ rs, b.runs = some rs) {out : List PR}
    {h' : Heap} {b' : Batch} (hr : procDoP h b out = .ok (h', b')) :
    ProcEff h b (padOut b.nAct out) h' b' ∧ b'.WF h' ∧ (∃ rs', b'.runs = some rs') ∧
      SplitNew b (padOut b.nAct out) b'.split := by
  have hact : b.active.length = b.nAct := active_length hwf.1.st_len hwf.2
  by_cases h0 : out.length = 0
  · have : out = [] := List.length_eq_zero_iff.mp h0
    subst this
    rw [procDoP_empty] at hr; cases hr
  by_cases h1 : out.length > b.active.length
  · rw [procDoP_too_many h b out h1] at hr; cases hr
  obtain ⟨cs, hw, hf⟩ := procDoP_calls hr
  rw [hact] at hw
  have hlen : (padOut b.nAct out).length = b.nAct := length_padOut (by omega)
  have hsl := hwf.1.st_len
  have hinv0 : SI b (padOut b.nAct out) h (padOut b.nAct out).length b.recs.length h b := by
    refine ⟨hwf, hruns, HStep.refl _, by omega, fun _ _ => rfl, Nat.le_refl _, Nat.le_refl _, ?_,
      fun _ _ => NW.refl _, ?_, fun e he => Or.inl he⟩
    · intro k p hp
      have h1 := (List.getElem?_eq_some_iff.mp hp).1
      have h2 := (mem_actList.mp (List.mem_of_getElem? hp)).1
      have hna : b.nAct = (actList b.st).length := rfl
      constructor <;> intro <;> omega
    · refine ⟨[], by simp, ?_, fun p h1 h2 _ => by omega, fun a p o h1 ha _ => ?_⟩
      · rw [List.drop_eq_nil_of_le (by rw [rows_length]; exact Nat.le_refl _)]; rfl
      · have h2 := (mem_actList.mp (List.mem_of_getElem? ha)).1
        omega
  obtain ⟨P', inv1⟩ := calls_SI hwf hw (fun _ _ => rfl) hinv0 hf
  have hext := HiOK.extend hsl inv1.Pc inv1.Ple inv1.hi (Nat.zero_le P') (fun x _ hx2 _ => inv1.low x hx2)
    (fun x a o _ hx2 ha _ => absurd ((inv1.lowA a x ha).mpr hx2) (Nat.not_lt_zero a))
  obtain ⟨hk, l, e, g1, g2⟩ := hext
  refine ⟨⟨hlen, ⟨hk, by simpa using l, by simpa using e, ?_, ?_⟩, ?_, inv1.hstep.1, inv1.hstep.2, procDoP_taintC hwf hr⟩,
    inv1.wf, inv1.runs, inv1.split⟩
  · intro p row hrow hna
    obtain ⟨hp, rfl⟩ := rowAt_of_rows hrow
    simpa using g1 p (Nat.zero_le _) hp hna
  · intro a p row o ha hrow ho
    obtain ⟨_, rfl⟩ := rowAt_of_rows hrow
    simpa using g2 a p o (Nat.zero_le _) ha ho
  · intro e he
    refine (inv1.split e he).imp id fun ⟨a, p, ms, ha, _, _, hr0, he⟩ => ⟨b.rowAt p, ?_, hr0, he⟩
    apply List.mem_of_getElem? (i := p)
    rw [getElem?_rows, if_pos (hsl ▸ (mem_actList.mp (List.mem_of_getElem? ha)).1)]

end Conduit.Funnel
