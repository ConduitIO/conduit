/-! Positional notation on `Nat`, shared by the base64 sextets and the IPv4 addresses embedded in
IPv6 ones (core only). -/
namespace Conduit

/-- A two-digit numeral in base `n` gives its digits back. -/
theorem mul_add_div_mod {q r n : Nat} (h : r < n) : (q * n + r) / n = q ∧ (q * n + r) % n = r := by
  rw [Nat.add_comm, Nat.add_mul_div_right _ _ (by omega), Nat.add_mul_mod_self_right,
    Nat.div_eq_of_lt h, Nat.mod_eq_of_lt h, Nat.zero_add]
  exact ⟨rfl, rfl⟩

end Conduit
