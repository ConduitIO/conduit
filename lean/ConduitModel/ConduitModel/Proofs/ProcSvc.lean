import ConduitModel.Model.ProcSvc
import ConduitModel.Proofs.ProcNodeC

/-! The node invariants lift to the service-level system; without the wrapper teardown nothing but the
node ever tears a processor down. -/
namespace Conduit.Model.ProcSvc
open Conduit.Model.ProcNode

structure SInv (c : Cfg) (s : State) : Prop where
  node : ProcNode.Inv s.n
  /-- the wrapper's teardown step is guarded by the source fact `tdOnError`. -/
  noTd : c.tdOnError = false → s.svcTorn = []

theorem init_sinv (c : Cfg) : SInv c init := ⟨ProcNode.init_inv, fun _ => rfl⟩

theorem step_sinv {c : Cfg} {s s' : State} {e : Event} (hi : SInv c s) (h : step c s e = some s') : SInv c s' := by
  cases e with
  | node ev =>
    simp only [step, Option.map_eq_some_iff] at h
    obtain ⟨n', hn, rfl⟩ := h
    exact ⟨ProcNode.step_preserves_inv hi.node hn, hi.noTd⟩
  | svcTeardown r =>
    simp only [step] at h
    split at h
    · rename_i hc
      cases h
      refine ⟨hi.node, fun hf => ?_⟩
      simp [hf] at hc
    · cases h
  | svcReturn r =>
    simp only [step] at h
    split at h
    · cases h; exact ⟨hi.node, hi.noTd⟩
    · cases h

theorem run_eq (c : Cfg) (es : List Event) (s : State) : run c s es = es.foldlM (step c) s :=
  EventSys.run_eq (fun _ => rfl) (fun s e _ => by cases h : step c s e <;> simp [run, h]) es s

theorem run_sinv {c : Cfg} (es : List Event) {s s' : State} (hi : SInv c s) (h : run c s es = some s') : SInv c s' :=
  EventSys.run_induct (fun _ _ _ hi => step_sinv hi) es hi (run_eq .. ▸ h)

theorem reachable_sinv {c : Cfg} {s : State} (h : Reachable c s) : SInv c s := by
  obtain ⟨es, hes⟩ := h
  exact run_sinv es (init_sinv c) hes

end Conduit.Model.ProcSvc
