import ConduitModel.Proofs.MonInv
import ConduitModel.Props.WorkerProps

/-!
# The `.sack` event of `Worker.Ack`

`workerAck_shape`: the call fails and changes nothing, or logs one `.sack` of the positions of the
batch; `mu_sack_just`: acknowledging the next records read, all justified (`AckJust`), only shortens the
monitor's pending list; the acknowledged prefix after a `.sack` (`nAcked_push_sack`).
-/
namespace Conduit.Funnel
open Conduit.Funnel.Mon

theorem ackedKeys_push_sack (log : Array Ev) (ps : List PosV) : ackedKeys (log.push (.sack ps)) = ackedKeys log ++ keys ps := by
  rw [ackedKeys_push]; rfl

theorem nAcked_push_sack (s s' : PS) (ps : List PosV) (h : s'.log = s.log.push (.sack ps)) :
    nAcked s' = nAcked s + ps.length := by
  unfold nAcked
  rw [h, ackedKeys_push_sack]
  simp

theorem mu_sack_just {G : Ctx} {s s' : PS} {ps : List PosV} {n0 : Nat} (hlog : s'.log = s.log.push (.sack ps))
    (hf : nAcked s = n0)
    (hj : ∀ (q : Nat) (p : PosV), ps[q]? = some p →
      ∃ src, G.all[n0 + q]? = some src ∧ keyR src = keyOf p ∧ AckJust G.tree (G.mu s) (root src)) :
    G.mu s' = { G.mu s with pending := (G.mu s).pending.drop ps.length } := by
  rw [mu_push G s s' _ hlog]
  show ps.foldl (ackT G.tree) (G.mu s) = _
  apply foldl_ackT_just
  intro q p hq
  obtain ⟨src, h1, h2, h3⟩ := hj q p hq
  refine ⟨src, ?_, h2, h3⟩
  rw [pending_mu, hf, List.getElem?_drop]
  exact h1

theorem workerAck_shape {sb : Batch} (hb : BOK sb) {s s' : PS} {r : Except Stop Unit} (h : exec (workerAck sb) s = (r, s')) :
    (r ≠ .ok () ∧ s' = s) ∨
    (r = .ok () ∧ s'.log = s.log.push (.sack sb.pos) ∧ s'.scripts = s.scripts ∧ s'.mas = s.mas) := by
  rw [workerAck_exec, (orig_ok hb).1] at h
  split at h <;> cases h
  · exact Or.inr ⟨rfl, rfl, rfl, rfl⟩
  · exact Or.inl ⟨(fun hh => nomatch hh), rfl⟩

end Conduit.Funnel
