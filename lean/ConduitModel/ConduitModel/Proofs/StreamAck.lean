import ConduitModel.Model.StreamAck
import ConduitModel.Proofs.StreamMonitor
import ConduitModel.Proofs.EventSys

/-
Invariants of the Ack component (every reachable state, i.e. every interleaving of every
topology and plugin script) and the monitor theorems they give.

The state falls into the source's side (`tickets reads released hst fail`, with `win broken` of the DLQ
node) and the message-status side; `step_ctl` / `step_data` say which events leave which side alone.
The source's side is one sequential program per source, its ack / nack handler: `Handler` lists what one
event of it does, `moved` is the one shape of the state after it (`step_handler`). The invariant of that
side, `Src`, speaks of ONE source — ticket queue, counters, handler state, and what the log tells of its
records — so the handler's event is judged once (`Handler.table`, `Src.moved`) and every other event
leaves it alone (`Src.log_other`). The message-status side is `InvJ`, one `Slot` per record.
-/

namespace Conduit.Stream

/-! ### what the small effect functions leave alone

Each is, up to a case distinction, a record update of a few fields: stated once as such, every
other field is then read off by projection. -/

section fields
variable (a : Ack) (d s i : Nat) (b : Bool) (x : DAck)

@[simp] theorem release_win : (a.release s b).win = a.win := rfl

theorem cloneAck_frame : ∃ ost p, a.cloneAck d s i =
    { a with ost := ost, rem := upd2 a.rem s i (a.rem s i - 1),
             cl := upd2 a.cl s i ((a.cl s i).set d .acked), panicked := p } := by
  unfold Ack.cloneAck
  simp only []
  split
  · split <;> exact ⟨_, _, rfl⟩
  · exact ⟨_, _, rfl⟩

@[simp] theorem cloneAck_wdead : (a.cloneAck d s i).wdead = a.wdead := by
  obtain ⟨_, _, h⟩ := cloneAck_frame a d s i; rw [h]
@[simp] theorem cloneAck_cl : (a.cloneAck d s i).cl = upd2 a.cl s i ((a.cl s i).set d .acked) := by
  obtain ⟨_, _, h⟩ := cloneAck_frame a d s i; rw [h]
@[simp] theorem cloneAck_rem : (a.cloneAck d s i).rem = upd2 a.rem s i (a.rem s i - 1) := by
  obtain ⟨_, _, h⟩ := cloneAck_frame a d s i; rw [h]

theorem cloneNack_frame : ∃ ost p, a.cloneNack d s i =
    { a with ost := ost, cl := upd2 a.cl s i ((a.cl s i).set d .nacked), panicked := p } := by
  unfold Ack.cloneNack
  simp only []
  split <;> exact ⟨_, _, rfl⟩

theorem dproc_frame : ∃ ost rem cl aq wdead p,
    a.dproc d s i x = { a with ost := ost, rem := rem, cl := cl, aq := aq, wdead := wdead, panicked := p } := by
  unfold Ack.dproc
  split
  · split
    · obtain ⟨_, _, h⟩ := cloneAck_frame { a with aq := upd a.aq d ((a.aq d).drop 1) } d s i
      exact ⟨_, _, _, _, _, _, h⟩
    · obtain ⟨_, _, h⟩ := cloneNack_frame { a with aq := upd a.aq d ((a.aq d).drop 1) } d s i
      exact ⟨_, _, _, _, _, _, h⟩
  · exact ⟨_, _, _, _, _, _, rfl⟩

@[simp] theorem dproc_win : (a.dproc d s i x).win = a.win := by
  obtain ⟨_, _, _, _, _, _, h⟩ := dproc_frame a d s i x; rw [h]
@[simp] theorem dproc_filt : (a.dproc d s i x).filt = a.filt := by
  obtain ⟨_, _, _, _, _, _, h⟩ := dproc_frame a d s i x; rw [h]
@[simp] theorem dproc_clFilt : (a.dproc d s i x).clFilt = a.clFilt := by
  obtain ⟨_, _, _, _, _, _, h⟩ := dproc_frame a d s i x; rw [h]
@[simp] theorem dproc_buf : (a.dproc d s i x).buf = a.buf := by
  obtain ⟨_, _, _, _, _, _, h⟩ := dproc_frame a d s i x; rw [h]

variable (k : PKind)

theorem procO_frame :
    ∃ ost filt, a.procO s i k = { a with ost := ost, filt := filt, log := .proc none s i k :: a.log } := by
  cases k <;> exact ⟨_, _, rfl⟩

@[simp] theorem procO_win : (a.procO s i k).win = a.win := by
  obtain ⟨_, _, h⟩ := procO_frame a s i k; rw [h]
@[simp] theorem procO_clFilt : (a.procO s i k).clFilt = a.clFilt := by
  obtain ⟨_, _, h⟩ := procO_frame a s i k; rw [h]
@[simp] theorem procO_buf : (a.procO s i k).buf = a.buf := by
  obtain ⟨_, _, h⟩ := procO_frame a s i k; rw [h]
@[simp] theorem procO_wdead : (a.procO s i k).wdead = a.wdead := by
  obtain ⟨_, _, h⟩ := procO_frame a s i k; rw [h]
@[simp] theorem procO_cl : (a.procO s i k).cl = a.cl := by
  obtain ⟨_, _, h⟩ := procO_frame a s i k; rw [h]
@[simp] theorem procO_rem : (a.procO s i k).rem = a.rem := by
  obtain ⟨_, _, h⟩ := procO_frame a s i k; rw [h]
@[simp] theorem procO_panicked : (a.procO s i k).panicked = a.panicked := by
  obtain ⟨_, _, h⟩ := procO_frame a s i k; rw [h]

theorem procB_frame : ∃ ost cl clFilt p, a.procB d s i k =
    { a with ost := ost, cl := cl, clFilt := clFilt, panicked := p, log := .proc (some d) s i k :: a.log } := by
  cases k
  · exact ⟨_, _, _, _, rfl⟩
  · exact ⟨_, _, _, _, rfl⟩
  · obtain ⟨_, _, h⟩ := cloneNack_frame a d s i
    exact ⟨_, _, _, _, by unfold Ack.procB; rw [h]⟩

@[simp] theorem procB_win : (a.procB d s i k).win = a.win := by
  obtain ⟨_, _, _, _, h⟩ := procB_frame a d s i k; rw [h]
@[simp] theorem procB_filt : (a.procB d s i k).filt = a.filt := by
  obtain ⟨_, _, _, _, h⟩ := procB_frame a d s i k; rw [h]
@[simp] theorem procB_buf : (a.procB d s i k).buf = a.buf := by
  obtain ⟨_, _, _, _, h⟩ := procB_frame a d s i k; rw [h]
@[simp] theorem procB_wdead : (a.procB d s i k).wdead = a.wdead := by
  obtain ⟨_, _, _, _, h⟩ := procB_frame a d s i k; rw [h]

end fields

/-- destruct `h : a.step e = some a'` for a fixed constructor of `e` into its guard facts and
`a' = …`. -/
macro "step_cases" h:ident : tactic =>
  `(tactic| (simp only [Ack.step] at $h:ident
             repeat' (split at $h:ident)
             all_goals (first | (cases $h:ident) | skip)))

theorem turn_iff (a : Ack) (s i : Nat) :
    a.turn s i = true ↔ a.hst s = .idle ∧ (a.tickets s)[a.released s]? = some i := by
  simp [Ack.turn]

section inversion
variable {a a' : Ack}

theorem step_read {s : Nat} (h : a.step (.read s) = some a') :
    a' = { a with reads := upd a.reads s (a.reads s + 1), log := .read s :: a.log } := by
  step_cases h; rfl

theorem step_enq {s i : Nat} (h : a.step (.enq s i) = some a') :
    (i = (a.tickets s).length ∧ i < a.reads s ∧ a.ost s i = .open) ∧
    a' = { a with tickets := upd a.tickets s (a.tickets s ++ [i]) } := by
  step_cases h; exact ⟨by assumption, rfl⟩

theorem step_procO {s i : Nat} {k : PKind} (h : a.step (.proc none s i k) = some a') :
    (a.ost s i = .open ∧ a.fanned s i = false ∧ i < a.reads s) ∧ a' = a.procO s i k := by
  step_cases h; exact ⟨by assumption, rfl⟩

theorem step_procB {d s i : Nat} {k : PKind} (h : a.step (.proc (some d) s i k) = some a') :
    (a.fanned s i = true ∧ d < a.M ∧ a.clone s i d = .open) ∧ a' = a.procB d s i k := by
  step_cases h; exact ⟨by assumption, rfl⟩

theorem step_fan {s i : Nat} (h : a.step (.fan s i) = some a') :
    (a.ost s i = .open ∧ a.fanned s i = false ∧ i ∈ a.tickets s) ∧
    a' = { a with fanned := upd2 a.fanned s i true, rem := upd2 a.rem s i a.M,
                  cl := upd2 a.cl s i (List.replicate a.M .open),
                  clFilt := fun x y z => if x = s ∧ y = i then a.filt s i else a.clFilt x y z } := by
  step_cases h; exact ⟨by assumption, rfl⟩

theorem step_write {d s i : Nat} {ok : Bool} (h : a.step (.write d s i ok) = some a') :
    (a.fanned s i = true ∧ d < a.M ∧ a.clone s i d = .open ∧ a.clFilt s i d = false) ∧
    ((ok = true ∧ a' = { a with aq := upd a.aq d (a.aq d ++ [(s, i)]), log := .write d s i ok :: a.log }) ∨
     (ok = false ∧ a' = { (a.cloneNack d s i) with log := .write d s i ok :: a.log })) := by
  step_cases h
  · rename_i hg hok; exact ⟨hg, Or.inl ⟨hok, rfl⟩⟩
  · rename_i hg hok; exact ⟨hg, Or.inr ⟨by simpa using hok, rfl⟩⟩

theorem step_fack {d s i : Nat} (h : a.step (.fack d s i) = some a') :
    (a.fanned s i = true ∧ d < a.M ∧ a.clone s i d = .open ∧ a.clFilt s i d = true ∧ a.wdead d = false) ∧
    a' = a.cloneAck d s i := by
  step_cases h; exact ⟨by assumption, rfl⟩

theorem step_dreply {d : Nat} {acks : List DAck} (h : a.step (.dreply d acks) = some a') :
    (a.wdead d = true ∧ a' = { a with log := .dreply d acks :: a.log }) ∨
    ∃ s i, (a.aq d)[0]? = some (s, i) ∧
      (a.wdead d = false ∧ a.buf d = [] ∧ a.clFilt s i d = false ∧ a.clone s i d = .open) ∧
      ((acks = [] ∧ a' = { a with log := .dreply d acks :: a.log, wdead := upd a.wdead d true }) ∨
       (∃ x rest, acks = x :: rest ∧
          a' = ({ a with log := .dreply d acks :: a.log, buf := upd a.buf d rest }).dproc d s i x)) := by
  step_cases h
  · exact Or.inl ⟨by assumption, rfl⟩
  · rename_i hw _ s i hq hg hlen
    exact Or.inr ⟨s, i, hq, ⟨by simpa using hw, hg⟩, Or.inl ⟨List.length_eq_zero_iff.mp hlen, rfl⟩⟩
  · rename_i hlen _ hf
    cases acks with
    | nil => exact absurd rfl hlen
    | cons y rest => cases hf
  · rename_i hw _ s i hq hg hlen _ x hf
    cases acks with
    | nil => exact absurd rfl hlen
    | cons y rest =>
      cases hf
      exact Or.inr ⟨s, i, hq, ⟨by simpa using hw, hg⟩, Or.inr ⟨_, _, rfl, rfl⟩⟩

theorem step_dreplyErr {d : Nat} (h : a.step (.dreplyErr d) = some a') :
    a' = { a with wdead := upd a.wdead d true, log := .dreplyErr d :: a.log } := by
  step_cases h; rfl

theorem step_dbuf {d : Nat} (h : a.step (.dbuf d) = some a') :
    ∃ s i, (a.aq d)[0]? = some (s, i) ∧ (a.wdead d = false ∧ a.clone s i d = .open) ∧
      ∃ x rest, a.buf d = x :: rest ∧ a' = ({ a with buf := upd a.buf d rest }).dproc d s i x := by
  step_cases h
  rename_i x rest hb
  exact ⟨_, _, by assumption, by assumption, x, rest, hb, rfl⟩

theorem step_nackO {s i : Nat} (h : a.step (.nackO s i) = some a') :
    (a.ost s i = .open ∧ a.fanned s i = false ∧ i < a.reads s) ∧
    a' = { a with ost := upd2 a.ost s i .nacked } := by
  step_cases h; exact ⟨by assumption, rfl⟩

theorem step_nackB {d s i : Nat} (h : a.step (.nackB d s i) = some a') :
    (a.fanned s i = true ∧ d < a.M ∧ a.clone s i d = .open) ∧
    a' = { (a.cloneNack d s i) with aq := upd a.aq d ((a.aq d).filter (· ≠ (s, i))) } := by
  step_cases h; exact ⟨by assumption, rfl⟩

/-- One event of the ack / nack handler of source `s`, working on ticket `i`: it goes on in state `st`
(`some st`) or returns (`none`), which releases the ticket, with an error (`failed`) or without. -/
inductive Handler (a : Ack) (s i : Nat) : Ev → Option HSt → Bool → Prop
  | sackErr : a.hst s = .idle → (a.tickets s)[a.released s]? = some i → a.ost s i = .acked → a.fail s = false →
      Handler a s i (.sack s i .err) none true
  | sack (r : SRes) : a.hst s = .idle → (a.tickets s)[a.released s]? = some i → a.ost s i = .acked →
      a.fail s = false → r ≠ .err → Handler a s i (.sack s i r) (some (.winAck i)) false
  | sackDlq (r : SRes) : a.hst s = .needSack i → Handler a s i (.sack s i r) none (decide (r = .err))
  | winAck : a.hst s = .winAck i → Handler a s i (.winAck s) none false
  | dlqw : a.hst s = .idle → (a.tickets s)[a.released s]? = some i → a.ost s i = .nacked → a.fail s = false →
      a.win.nack1.2 = true → Handler a s i (.dlqw s i true) (some (.dlqWait i)) false
  | dlqwFail : a.hst s = .idle → (a.tickets s)[a.released s]? = some i → a.ost s i = .nacked → a.fail s = false →
      a.win.nack1.2 = true → Handler a s i (.dlqw s i false) none true
  | dlqa : a.hst s = .dlqWait i → Handler a s i (.dlqa s i true) (some (.needSack i)) false
  | dlqaFail : a.hst s = .dlqWait i → Handler a s i (.dlqa s i false) none true
  | hfail : a.hst s = .idle → (a.tickets s)[a.released s]? = some i → a.ost s i ≠ .open →
      (a.fail s = true ∨ a.ost s i = .nacked ∧ a.dlqAccepts = false) → Handler a s i (.hfail s i) none true

/-- the state after such an event. `win` and `broken` belong to the DLQ node; no invariant here reads them. -/
def moved (a : Ack) (s : Nat) (e : Ev) (nx : Option HSt) (failed : Bool) (win : Dlq.Win) (broken : Bool) : Ack :=
  { a with log := if e.observable then e :: a.log else a.log, win := win, broken := broken,
           hst := upd a.hst s (nx.getD .idle),
           released := if nx.isSome then a.released else upd a.released s (a.released s + 1),
           fail := if failed then upd a.fail s true else a.fail }

def Ev.handler : Ev → Bool
  | .sack _ _ _ | .winAck _ | .dlqw _ _ _ | .dlqa _ _ _ | .hfail _ _ => true
  | _ => false

theorem step_handler {e : Ev} (h : a.step e = some a') (he : Ev.handler e = true) :
    ∃ s i nx failed w b, Handler a s i e nx failed ∧ a' = moved a s e nx failed w b := by
  cases e with
  | sack s i r =>
    step_cases h
    · rename_i hh hg hr
      rw [turn_iff] at hg; subst hr
      exact ⟨s, i, _, _, _, _, .sackErr hh hg.1.2 hg.2.1 hg.2.2, rfl⟩
    · rename_i hh hg hr
      rw [turn_iff] at hg
      exact ⟨s, i, _, _, _, _, .sack r hh hg.1.2 hg.2.1 hg.2.2 hr, rfl⟩
    · rename_i j hh hj
      subst hj
      refine ⟨s, j, _, _, a.win, a.broken, .sackDlq r hh, ?_⟩
      unfold moved Ack.release; cases decide (r = SRes.err) <;> rfl
  | winAck s =>
    step_cases h
    rename_i j hh
    exact ⟨s, j, _, _, _, _, .winAck hh, rfl⟩
  | dlqw s i ok =>
    step_cases h <;> rename_i hg hok <;> have ht := (turn_iff a s i).mp hg.1
    · subst hok; exact ⟨s, i, _, _, _, _, .dlqw ht.1 ht.2 hg.2.1 hg.2.2.1 hg.2.2.2, rfl⟩
    · obtain rfl : ok = false := by simpa using hok
      exact ⟨s, i, _, _, _, _, .dlqwFail ht.1 ht.2 hg.2.1 hg.2.2.1 hg.2.2.2, rfl⟩
  | dlqa s i ok =>
    step_cases h <;> rename_i j hh hj hok <;> subst hj
    · subst hok; exact ⟨s, j, _, _, _, _, .dlqa hh, rfl⟩
    · obtain rfl : ok = false := by simpa using hok
      exact ⟨s, j, _, _, _, _, .dlqaFail hh, rfl⟩
  | hfail s i =>
    step_cases h
    · rename_i hg hf
      have ht := (turn_iff a s i).mp hg.1
      exact ⟨s, i, _, _, _, _, .hfail ht.1 ht.2 hg.2 (.inl hf), rfl⟩
    · rename_i hg hf hd
      have ht := (turn_iff a s i).mp hg.1
      exact ⟨s, i, _, _, _, _, .hfail ht.1 ht.2 hg.2 (.inr ⟨hd.1, by simpa using hd.2⟩), rfl⟩
  | _ => cases he

theorem step_dlqStop (h : a.step .dlqStop = some a') : a' = { a with broken := true } := by
  step_cases h; rfl

/-- the events of the source's side: reading, the ticket queue, the ack / nack handler, the DLQ
node. They touch `tickets reads released hst fail win broken` only; all other events leave
exactly these alone. Every event touches `log` as `Ev.observable` says, none touches `M`. -/
def Ev.ctl : Ev → Bool
  | .read _ | .enq _ _ | .sack _ _ _ | .winAck _ | .dlqw _ _ _ | .dlqa _ _ _ | .hfail _ _ | .dlqStop => true
  | _ => false

theorem step_ctl {e : Ev} (h : a.step e = some a') (he : e.ctl = true) :
    a' = { a' with M := a.M, ost := a.ost, filt := a.filt, fanned := a.fanned, rem := a.rem, cl := a.cl,
                   clFilt := a.clFilt, aq := a.aq, buf := a.buf, wdead := a.wdead, panicked := a.panicked,
                   log := if e.observable then e :: a.log else a.log } := by
  cases e with
  | read s => rw [step_read h]; rfl
  | enq s i => obtain ⟨_, rfl⟩ := step_enq h; rfl
  | sack | winAck | dlqw | dlqa | hfail => obtain ⟨_, _, _, _, _, _, _, rfl⟩ := step_handler h rfl; rfl
  | dlqStop => rw [step_dlqStop h]; rfl
  | _ => cases he

theorem step_data {e : Ev} (h : a.step e = some a') (he : e.ctl = false) :
    a' = { a' with M := a.M, tickets := a.tickets, reads := a.reads, released := a.released, hst := a.hst,
                   fail := a.fail, win := a.win, broken := a.broken,
                   log := if e.observable then e :: a.log else a.log } := by
  cases e with
  | proc br s i k =>
    cases br with
    | none => obtain ⟨_, rfl⟩ := step_procO h; obtain ⟨_, _, h'⟩ := procO_frame a s i k; rw [h']; rfl
    | some d => obtain ⟨_, rfl⟩ := step_procB h; obtain ⟨_, _, _, _, h'⟩ := procB_frame a d s i k; rw [h']; rfl
  | fan s i => obtain ⟨_, rfl⟩ := step_fan h; rfl
  | write d s i ok =>
    obtain ⟨_, ⟨_, rfl⟩ | ⟨_, rfl⟩⟩ := step_write h
    · rfl
    · obtain ⟨_, _, h'⟩ := cloneNack_frame a d s i; rw [h']; rfl
  | fack d s i => obtain ⟨_, rfl⟩ := step_fack h; obtain ⟨_, _, h'⟩ := cloneAck_frame a d s i; rw [h']; rfl
  | dreply d acks =>
    rcases step_dreply h with ⟨_, rfl⟩ | ⟨s, i, _, _, ⟨_, rfl⟩ | ⟨x, rest, _, rfl⟩⟩
    · rfl
    · rfl
    · obtain ⟨_, _, _, _, _, _, h'⟩ :=
        dproc_frame { a with log := .dreply d acks :: a.log, buf := upd a.buf d rest } d s i x
      rw [h']; rfl
  | dreplyErr d => rw [step_dreplyErr h]; rfl
  | dbuf d =>
    obtain ⟨s, i, _, _, x, rest, _, rfl⟩ := step_dbuf h
    obtain ⟨_, _, _, _, _, _, h'⟩ := dproc_frame { a with buf := upd a.buf d rest } d s i x
    rw [h']; rfl
  | nackO s i => obtain ⟨_, rfl⟩ := step_nackO h; rfl
  | nackB d s i => obtain ⟨_, rfl⟩ := step_nackB h; obtain ⟨_, _, h'⟩ := cloneNack_frame a d s i; rw [h']; rfl
  | fpass d s i => step_cases h; rfl
  | wkill d => step_cases h; rfl
  | fdeliver d => step_cases h; rfl
  | mv g k s i => step_cases h; rfl
  | pdone g k s i => step_cases h; rfl
  | _ => cases he

theorem step_M {e : Ev} (h : a.step e = some a') : a'.M = a.M := by
  cases he : e.ctl
  · rw [step_data h he]
  · rw [step_ctl h he]

theorem step_log {e : Ev} (h : a.step e = some a') :
    a'.log = if e.observable then e :: a.log else a.log := by
  cases he : e.ctl
  · rw [step_data h he]
  · rw [step_ctl h he]

end inversion

theorem lt_of_getElem?_some {α : Type} {l : List α} {k : Nat} {x : α} (h : l[k]? = some x) : k < l.length :=
  (List.getElem?_eq_some_iff.mp h).1

/-! ### the source's side: tickets, the handler, and what the log says of a source
(C04: the acked sequence is a prefix of the read sequence; C07, pipeline clauses: DLQ exactly once, in source
order, ack only after the DLQ ack, a failed DLQ write never acks) -/

def inflight : HSt → Nat
  | .winAck _ => 1
  | _ => 0

/-- the three log events a handler leaves about its record: DLQ write, DLQ confirmation, source ack. -/
inductive HK where
  | dlqw | dlqaOk | sack

/-- `e` is the event of kind `c` about record `(s, i)`. -/
def Ev.tells : Ev → HK → Nat → Nat → Bool
  | .dlqw s' i' _, .dlqw, s, i | .dlqa s' i' true, .dlqaOk, s, i | .sack s' i' _, .sack, s, i => s' == s && i' == i
  | _, _, _, _ => false

/-- what `monC04` asks of the newest event. -/
def chk04 (e : Ev) (rest : List Ev) : Bool :=
  match e with
  | .sack s i _ => i == sackCount rest s && decide (i < readCount rest s)
  | _ => true

theorem monC04_log (e : Ev) (log : List Ev) :
    monC04 (if e.observable then e :: log else log) = (monC04 log && chk04 e log) := by
  cases e with
  | read | proc | write | dreply | dreplyErr | dlqw | dlqa | sack => rfl
  | _ => exact (Bool.and_true _).symm

theorem bool_false_of_imp {b : Bool} {p : Prop} (h : b = true → p) (hn : ¬ p) : b = false := by
  cases b with
  | false => rfl
  | true => exact absurd (h rfl) hn

def seen : HK → List Ev → Nat → Nat → Bool
  | .dlqw => dlqwIn
  | .dlqaOk => dlqaOkIn
  | .sack => sackIn

/-- which of them a handler in state `h` has behind it. -/
def HSt.did : HSt → HK → Bool
  | .dlqWait _, .dlqw | .needSack _, .dlqw | .needSack _, .dlqaOk | .winAck _, .sack => true
  | _, _ => false

def Ev.dlqFail : Ev → Nat → Bool
  | .dlqw s _ false, s' | .dlqa s _ false, s' => s == s'
  | _, _ => false

/-- what `monC07` asks of the newest event. -/
def chk07 (e : Ev) (rest : List Ev) : Bool :=
  match e with
  | .dlqw s i _ => !dlqwIn rest s i && dlqBefore rest s i && !sackIn rest s i && !dlqFailOf rest s
  | .sack s i _ => (!dlqwIn rest s i || dlqaOkIn rest s i) && !dlqFailOf rest s
  | .dlqa s i _ => dlqwIn rest s i && !dlqaOkIn rest s i && !dlqFailOf rest s
  | _ => true

theorem seen_log (c : HK) (e : Ev) (log : List Ev) (s i : Nat) :
    seen c (if e.observable then e :: log else log) s i = (Ev.tells e c s i || seen c log s i) := by
  cases e with
  | dlqa _ _ ok => cases ok <;> cases c <;> rfl
  | read | proc | write | dreply | dreplyErr | dlqw | sack => cases c <;> rfl
  | _ => rfl

theorem dlqFailOf_log (e : Ev) (log : List Ev) (s : Nat) :
    dlqFailOf (if e.observable then e :: log else log) s = (Ev.dlqFail e s || dlqFailOf log s) := by
  cases e with
  | dlqw _ _ ok | dlqa _ _ ok => cases ok <;> rfl
  | _ => rfl

theorem monC07_log (e : Ev) (log : List Ev) :
    monC07 (if e.observable then e :: log else log) = (monC07 log && chk07 e log) := by
  cases e with
  | read | proc | write | dreply | dreplyErr | dlqw | dlqa | sack => rfl
  | _ => exact (Bool.and_true _).symm

theorem dlqBefore_of {log : List Ev} {s k : Nat} (h : ∀ j, dlqwIn log s j = true → j < k) :
    dlqBefore log s k = true := by
  refine List.all_eq_true.mpr fun e' he' => ?_
  cases e' with
  | dlqw s' j ok' =>
    by_cases hs : s' = s
    · subst hs
      have := h j (List.any_eq_true.mpr ⟨_, he', by simp⟩)
      simpa using this
    · simp [hs]
  | _ => rfl

section table
variable {a : Ack} {s i : Nat} {e : Ev} {nx : Option HSt} {failed : Bool}

/-- what the handler's event tells the log is about its own record, -/
theorem Handler.about (hH : Handler a s i e nx failed) (c : HK) (s' i' : Nat) (h : Ev.tells e c s' i' = true) :
    s' = s ∧ i' = i := by
  cases hH <;> cases c <;> first | cases h | (simp [Ev.tells] at h; exact ⟨h.1.symm, h.2.symm⟩)

/-- takes it to what the next state has behind it, -/
theorem Handler.did {st : HSt} (hH : Handler a s i e (some st) failed) (c : HK) :
    (Ev.tells e c s i || HSt.did (a.hst s) c) = HSt.did st c := by
  cases hH <;> cases c <;> simp [Ev.tells, HSt.did, *]

/-- and is a DLQ failure only when the handler returns an error. -/
theorem Handler.dlqFail (hH : Handler a s i e nx failed) (s' : Nat) (h : Ev.dlqFail e s' = true) :
    s' = s ∧ failed = true := by
  cases hH <;> first | cases h | exact ⟨(beq_iff_eq.mp h).symm, rfl⟩

end table

/-- the monitors ask something of the handlers' events only. -/
theorem chk_quiet {e : Ev} (he : Ev.handler e = false) (l : List Ev) : chk04 e l = true ∧ chk07 e l = true := by
  cases e with
  | sack | winAck | dlqw | dlqa | hfail => cases he
  | _ => exact ⟨rfl, rfl⟩

/-- the ticket a busy handler works on. -/
def HSt.ticket : HSt → Option Nat
  | .idle => none
  | .winAck i | .dlqWait i | .needSack i => some i

/-- What holds of ONE source: its ticket queue `tk`, read counter, released tickets `k`, handler state `h`,
`fail` latch `f`, and what the log says of it. -/
structure Src (log : List Ev) (s : Nat) (tk : List Nat) (reads k : Nat) (h : HSt) (f : Bool) : Prop where
  /-- `tk` is `0, 1, 2, …`: the ticket whose turn it is carries the index `k`. -/
  range : tk = List.range tk.length
  read : tk.length ≤ reads
  rel : k ≤ tk.length
  busy : ∀ i, HSt.ticket h = some i → i = k ∧ k < tk.length ∧ f = false
  readCnt : readCount log s = reads
  sackLe : sackCount log s ≤ k + inflight h
  sackEq : f = false → sackCount log s = k + inflight h
  /-- about the ticket whose turn it is the log holds what the handler's state says, -/
  cur : ∀ c, seen c log s k = HSt.did h c
  /-- and nothing about later ones. -/
  fut : ∀ c i, k < i → seen c log s i = false
  failed : dlqFailOf log s = true → f = true

def InvS (a : Ack) : Prop :=
  ∀ s, Src a.log s (a.tickets s) (a.reads s) (a.released s) (a.hst s) (a.fail s)

theorem invS_init (M size thr : Nat) : InvS (Ack.init M size thr) := fun _ =>
  ⟨rfl, Nat.zero_le _, Nat.le_refl _, nofun, rfl, Nat.le_refl _, fun _ => rfl, fun c => by cases c <;> rfl,
    fun c _ _ => by cases c <;> rfl, nofun⟩

/-- the source an event of the source's side is about. -/
def Ev.src : Ev → Option Nat
  | .read s | .enq s _ | .sack s _ _ | .winAck s | .dlqw s _ _ | .dlqa s _ _ | .hfail s _ => some s
  | _ => none

def Ev.isSack : Ev → Nat → Bool
  | .sack s' _ _, s => s' == s
  | _, _ => false

def Ev.isRead : Ev → Nat → Bool
  | .read s', s => s' == s
  | _, _ => false

theorem counts_log (e : Ev) (log : List Ev) (s : Nat) :
    readCount (if e.observable then e :: log else log) s = readCount log s + (if Ev.isRead e s then 1 else 0) ∧
    sackCount (if e.observable then e :: log else log) s = sackCount log s + (if Ev.isSack e s then 1 else 0) := by
  cases e with
  | read | proc | write | dreply | dreplyErr | dlqw | dlqa | sack => exact ⟨readCount_cons .., sackCount_cons ..⟩
  | _ => exact ⟨rfl, rfl⟩

/-- an event that is not about source `s` tells the log nothing of `s`. -/
theorem Ev.not_about {e : Ev} {s : Nat} (he : Ev.src e ≠ some s) :
    Ev.isRead e s = false ∧ Ev.isSack e s = false ∧ (∀ c i, Ev.tells e c s i = false) ∧
    Ev.dlqFail e s = false := by
  have ne : ∀ {s'}, Ev.src e = some s' → (s' == s) = false := fun h =>
    beq_false_of_ne fun h' => he (h' ▸ h)
  -- the record an event tells of is one of its source
  have tell : ∀ {s' i' i : Nat}, (s' == s) = false → (s' == s && i' == i) = false := fun h => by rw [h]; rfl
  cases e with
  | read s' => exact ⟨ne rfl, rfl, fun _ _ => rfl, rfl⟩
  | sack s' i' r => exact ⟨rfl, ne rfl, fun c _ => by cases c <;> first | rfl | exact tell (ne rfl), rfl⟩
  | dlqw s' i' ok =>
    exact ⟨rfl, rfl, fun c _ => by cases c <;> first | rfl | exact tell (ne rfl), by cases ok <;> first | rfl | exact ne rfl⟩
  | dlqa s' i' ok =>
    cases ok
    · exact ⟨rfl, rfl, fun c _ => by cases c <;> rfl, ne rfl⟩
    · exact ⟨rfl, rfl, fun c _ => by cases c <;> first | rfl | exact tell (ne rfl), rfl⟩
  | _ => exact ⟨rfl, rfl, fun _ _ => rfl, rfl⟩

theorem Src.log_other {log : List Ev} {s : Nat} {tk : List Nat} {reads k : Nat} {h : HSt} {f : Bool} (e : Ev)
    (he : Ev.src e ≠ some s) (hS : Src log s tk reads k h f) :
    Src (if e.observable then e :: log else log) s tk reads k h f := by
  obtain ⟨n1, n2, n3, n4⟩ := Ev.not_about he
  have c := counts_log e log s
  rw [n1, n2] at c
  exact { hS with
    readCnt := c.1.trans hS.readCnt
    sackLe := c.2 ▸ hS.sackLe
    sackEq := fun hf => c.2.trans (hS.sackEq hf)
    cur := fun c => by rw [seen_log, n3, Bool.false_or]; exact hS.cur c
    fut := fun c i hi => by rw [seen_log, n3, Bool.false_or]; exact hS.fut c i hi
    failed := fun hd => hS.failed (by rwa [dlqFailOf_log, n4, Bool.false_or] at hd) }

section handler
variable {a : Ack} {s i : Nat} {e : Ev} {nx : Option HSt} {failed : Bool}

theorem Handler.noRead (hH : Handler a s i e nx failed) : Ev.isRead e s = false := by cases hH <;> rfl

/-- the handler works on the ticket whose turn it is. -/
theorem Handler.turn (hS : Src a.log s (a.tickets s) (a.reads s) (a.released s) (a.hst s) (a.fail s))
    (hH : Handler a s i e nx failed) : i = a.released s ∧ a.released s < (a.tickets s).length := by
  have idle : (a.tickets s)[a.released s]? = some i → i = a.released s ∧ a.released s < (a.tickets s).length :=
    fun hti => by
    have hlt := lt_of_getElem?_some hti
    rw [hS.range, List.getElem?_range hlt] at hti
    exact ⟨(Option.some.inj hti).symm, hlt⟩
  have busy := fun h => (⟨(hS.busy i h).1, (hS.busy i h).2.1⟩ : i = a.released s ∧ a.released s < (a.tickets s).length)
  cases hH with
  | sackDlq _ hh | winAck hh | dlqa hh | dlqaFail hh => exact busy (by rw [hh]; rfl)
  | _ => exact idle ‹_›

/-- the table of the handler: what it needs of `fail`, where it goes on, what it adds to the count of source
acks, and that the monitors accept its event. -/
theorem Handler.table (hS : Src a.log s (a.tickets s) (a.reads s) (a.released s) (a.hst s) (a.fail s))
    (hH : Handler a s (a.released s) e nx failed) :
    (∀ st, nx = some st → HSt.ticket st = some (a.released s) ∧ a.fail s = false ∧ failed = false ∧
      inflight st = inflight (a.hst s) + if Ev.isSack e s then 1 else 0) ∧
    (nx = none → (inflight (a.hst s) + if Ev.isSack e s then 1 else 0) ≤ 1 ∧
      (failed = false → a.fail s = false → (inflight (a.hst s) + if Ev.isSack e s then 1 else 0) = 1)) ∧
    (Ev.isSack e s = true → sackCount a.log s = a.released s) ∧
    chk07 e a.log = true := by
  have cur := hS.cur
  have nf : a.fail s = false → dlqFailOf a.log s = false := fun hf => bool_false_of_imp hS.failed (by simp [hf])
  have bf : ∀ i, HSt.ticket (a.hst s) = some i → a.fail s = false := fun i h => (hS.busy i h).2.2
  have cnt : a.fail s = false → inflight (a.hst s) = 0 → sackCount a.log s = a.released s := fun hf h0 => by
    have := hS.sackEq hf; omega
  cases hH with
  | sackErr hh _ _ hf | sack _ hh _ _ hf =>
    have c1 : dlqwIn a.log s _ = _ := cur .dlqw
    simp [Stream.chk07, c1, hh, HSt.did, nf hf, hf, Ev.isSack, inflight, HSt.ticket, cnt hf (by rw [hh]; rfl)]
  | sackDlq _ hh =>
    have c2 : dlqaOkIn a.log s _ = _ := cur .dlqaOk
    have hf := bf _ (by rw [hh]; rfl)
    simp [Stream.chk07, c2, hh, HSt.did, nf hf, hf, Ev.isSack, inflight, cnt hf (by rw [hh]; rfl)]
  | winAck hh => simp [Stream.chk07, hh, Ev.isSack, inflight]
  | dlqw hh _ _ hf | dlqwFail hh _ _ hf =>
    have c1 : dlqwIn a.log s _ = _ := cur .dlqw
    have c3 : sackIn a.log s _ = _ := cur .sack
    have hb : dlqBefore a.log s (a.released s) = true := dlqBefore_of fun j hj =>
      Nat.lt_of_le_of_ne (Nat.not_lt.mp fun hlt => nomatch hj.symm.trans (hS.fut .dlqw j hlt))
        (fun hjk => by rw [hjk, c1, hh] at hj; cases hj)
    simp [Stream.chk07, c1, c3, hb, hh, HSt.did, nf hf, hf, Ev.isSack, inflight, HSt.ticket]
  | dlqa hh | dlqaFail hh =>
    have c1 : dlqwIn a.log s _ = _ := cur .dlqw
    have c2 : dlqaOkIn a.log s _ = _ := cur .dlqaOk
    have hf := bf _ (by rw [hh]; rfl)
    simp [Stream.chk07, c1, c2, hh, HSt.did, nf hf, hf, Ev.isSack, inflight, HSt.ticket]
  | hfail hh => simp [Stream.chk07, hh, Ev.isSack, inflight]

/-- the source of the handler after its event. -/
theorem Src.moved (hS : Src a.log s (a.tickets s) (a.reads s) (a.released s) (a.hst s) (a.fail s))
    (hH : Handler a s i e nx failed) :
    Src (if e.observable then e :: a.log else a.log) s (a.tickets s) (a.reads s)
      (if nx.isSome then a.released s else a.released s + 1) (nx.getD .idle) (a.fail s || failed) ∧
    chk04 e a.log = true ∧ chk07 e a.log = true := by
  obtain ⟨rfl, hlt⟩ := Handler.turn hS hH
  obtain ⟨hgo, hret, hsack, h07⟩ := Handler.table hS hH
  have hc := (counts_log e a.log s).2
  have hr : readCount (if e.observable then e :: a.log else a.log) s = readCount a.log s :=
    (by have := (counts_log e a.log s).1; rwa [hH.noRead] at this)
  have le := hS.sackLe
  -- nothing is told about a record other than `(s, released s)`
  have quiet : ∀ c i', i' ≠ a.released s → Ev.tells e c s i' = false := fun c i' hn =>
    Bool.eq_false_iff.mpr fun h => hn (hH.about c s i' h).2
  have h04 : chk04 e a.log = true := by
    cases hH with
    | sackErr | sack | sackDlq =>
      simp [chk04, hsack (by simp [Ev.isSack]), hS.readCnt]; exact Nat.lt_of_lt_of_le hlt hS.read
    | _ => rfl
  refine ⟨?_, h04, h07⟩
  have hfail : dlqFailOf (if e.observable then e :: a.log else a.log) s = true → (a.fail s || failed) = true :=
    fun hd => by
      rw [dlqFailOf_log] at hd
      rcases Bool.or_eq_true_iff.mp hd with hd | hd
      · rw [(hH.dlqFail s hd).2, Bool.or_true]
      · rw [hS.failed hd, Bool.true_or]
  cases nx with
  | some st =>
    obtain ⟨htk, hf, hfd, hin⟩ := hgo st rfl
    subst hfd
    show Src _ s _ _ (a.released s) st _
    exact { hS with
      busy := fun i' h => ⟨Option.some.inj (h.symm.trans htk), hlt, by rw [hf]; rfl⟩
      readCnt := hr.trans hS.readCnt
      sackLe := by rw [hc, hin]; omega
      sackEq := fun hf' => by
        have := hS.sackEq hf
        rw [hc, hin]; omega
      cur := fun c => by rw [seen_log, hS.cur c]; exact hH.did c
      fut := fun c i' hi => by rw [seen_log, quiet c i' (by omega), hS.fut c i' hi]; rfl
      failed := hfail }
  | none =>
    obtain ⟨h1, h2⟩ := hret rfl
    show Src _ s _ _ (a.released s + 1) .idle _
    exact { hS with
      rel := hlt
      busy := nofun
      readCnt := hr.trans hS.readCnt
      sackLe := by rw [hc]; show _ ≤ a.released s + 1 + 0; omega
      sackEq := fun hf' => by
        obtain ⟨hf, hfd⟩ : a.fail s = false ∧ failed = false := by simpa using hf'
        have := hS.sackEq hf
        have := h2 hfd hf
        rw [hc]; show _ = a.released s + 1 + 0; omega
      cur := fun c => by
        rw [seen_log, quiet c _ (by omega), hS.fut c _ (Nat.lt_succ_self _)]; cases c <;> rfl
      fut := fun c i' hi => by
        have hi : a.released s + 1 < i' := hi
        rw [seen_log, quiet c i' (by omega), hS.fut c i' (by omega)]; rfl
      failed := hfail }

end handler

theorem Handler.src {a : Ack} {s i : Nat} {e : Ev} {nx : Option HSt} {failed : Bool} (hH : Handler a s i e nx failed) :
    Ev.src e = some s := by cases hH <;> rfl

/-- the invariant of the source's side: `Src` of every source, and the two monitors that read nothing else. -/
structure SInv (a : Ack) : Prop where
  src : InvS a
  mon04 : monC04 a.log = true
  mon07 : monC07 a.log = true

theorem sinv_step {a a' : Ack} {e : Ev} (hI : SInv a) (h : a.step e = some a') : SInv a' := by
  suffices hs : InvS a' ∧ chk04 e a.log = true ∧ chk07 e a.log = true by
    refine ⟨hs.1, ?_, ?_⟩
    · rw [step_log h, monC04_log, hI.mon04, hs.2.1]; rfl
    · rw [step_log h, monC07_log, hI.mon07, hs.2.2]; rfl
  have other := fun s' (hs : Ev.src e ≠ some s') => (hI.src s').log_other e hs
  cases hh : Ev.handler e
  case true =>
    obtain ⟨s, i, nx, failed, w, b, hH, rfl⟩ := step_handler h hh
    have hsrc := Handler.src hH
    obtain ⟨hS, hc⟩ := (hI.src s).moved hH
    refine ⟨fun s' => ?_, hc⟩
    show Src _ s' _ _ ((if nx.isSome then a.released else upd a.released s (a.released s + 1)) s')
      (upd a.hst s (nx.getD .idle) s') ((if failed then upd a.fail s true else a.fail) s')
    by_cases hs : s' = s
    · subst hs
      have e1 : (if nx.isSome then a.released else upd a.released s' (a.released s' + 1)) s' =
          if nx.isSome then a.released s' else a.released s' + 1 := by split <;> simp
      have e2 : (if failed then upd a.fail s' true else a.fail) s' = (a.fail s' || failed) := by cases failed <;> simp
      rw [e1, e2, upd_same]; exact hS
    · have e1 : (if nx.isSome then a.released else upd a.released s (a.released s + 1)) s' = a.released s' := by
        split <;> simp [hs]
      have e2 : (if failed then upd a.fail s true else a.fail) s' = a.fail s' := by cases failed <;> simp [hs]
      rw [e1, e2, upd_other _ _ _ _ hs]
      exact other s' (by rw [hsrc]; exact fun h => hs (Option.some.inj h).symm)
  -- an event of no handler: the monitors have nothing to check
  refine ⟨?_, chk_quiet hh _⟩
  cases he : Ev.ctl e
  · rw [step_data h he]
    have hn : Ev.src e = none := by
      cases e with
      | read | enq | sack | winAck | dlqw | dlqa | hfail | dlqStop => cases he
      | _ => rfl
    exact fun s' => other s' (by rw [hn]; nofun)
  cases e with
  | read s =>
    rw [step_read h]
    intro s'
    show Src (Ev.read s :: a.log) s' (a.tickets s') (upd a.reads s (a.reads s + 1) s') (a.released s') (a.hst s') (a.fail s')
    by_cases hs : s' = s
    · subst hs
      have hS := hI.src s'
      rw [upd_same]
      have c : readCount (Ev.read s' :: a.log) s' = _ ∧ sackCount (Ev.read s' :: a.log) s' = _ :=
        counts_log (.read s') a.log s'
      exact { hS with
        read := Nat.le_succ_of_le hS.read
        readCnt := by rw [c.1, hS.readCnt]; simp [Ev.isRead]
        sackLe := c.2 ▸ hS.sackLe
        sackEq := fun hf => c.2.trans (hS.sackEq hf)
        cur := fun c => (seen_log c (.read s') ..).trans (hS.cur c)
        fut := fun c i hi => (seen_log c (.read s') ..).trans (hS.fut c i hi)
        failed := hS.failed }
    · rw [upd_other _ _ _ _ hs]; exact other s' (fun h => hs (Option.some.inj h).symm)
  | enq s i =>
    obtain ⟨⟨hi, hr, _⟩, rfl⟩ := step_enq h
    intro s'
    show Src a.log s' (upd a.tickets s (a.tickets s ++ [i]) s') (a.reads s') (a.released s') (a.hst s') (a.fail s')
    by_cases hs : s' = s
    · subst hs
      have hS := hI.src s'
      rw [upd_same]
      exact { hS with
        range := by rw [List.length_append, List.length_singleton, List.range_succ, ← hS.range, hi]
        read := by rw [List.length_append, List.length_singleton]; omega
        rel := by rw [List.length_append]; exact Nat.le_add_right_of_le hS.rel
        busy := fun j hj => by
          have := hS.busy j hj
          exact ⟨this.1, by rw [List.length_append]; omega, this.2.2⟩ }
    · rw [upd_other _ _ _ _ hs]; exact hI.src s'
  | dlqStop => rw [step_dlqStop h]; exact hI.src
  | _ => first | exact Bool.noConfusion hh | exact Bool.noConfusion he

theorem count_set_of_ne_acked {l : List Status} {d : Nat} {x : Status} (y : Status) (h : l[d]? = some x)
    (hx : x ≠ .acked) : (l.set d y).count .acked = l.count .acked + if y = .acked then 1 else 0 := by
  have hlt := lt_of_getElem?_some h
  have hx' : l[d] = x := (List.getElem?_eq_some_iff.mp h).2
  rw [List.count_set hlt, hx']
  cases x <;> cases y <;> simp_all

theorem count_set_acked {l : List Status} {d : Nat} {x : Status} (h : l[d]? = some x) (hx : x ≠ .acked) :
    (l.set d .acked).count .acked = l.count .acked + 1 :=
  count_set_of_ne_acked .acked h hx

theorem count_set_nacked {l : List Status} {d : Nat} {x : Status} (h : l[d]? = some x) (hx : x ≠ .acked) :
    (l.set d .nacked).count .acked = l.count .acked :=
  count_set_of_ne_acked .nacked h hx

theorem count_lt_of_not_acked {l : List Status} {d : Nat} {x : Status} (h : l[d]? = some x) (hx : x ≠ .acked) :
    l.count .acked < l.length := by
  have hle : l.count .acked ≤ l.length := List.count_le_length
  rcases Nat.lt_or_ge (l.count .acked) l.length with hlt | hge
  · exact hlt
  · have heq : l.count .acked = l.length := by omega
    have hall := List.count_eq_length.mp heq
    have hm : x ∈ l := List.mem_of_getElem? h
    exact absurd (hall x hm).symm hx

theorem clone_open_get {a : Ack} {s i d : Nat} (hc : a.clone s i d = .open) (hl : d < (a.cl s i).length) :
    (a.cl s i)[d]? = some .open := by
  unfold Ack.clone at hc
  rw [List.getElem?_eq_getElem hl] at hc ⊢
  simpa using hc

theorem mem_set_of_ne {l : List Status} {d : Nat} {x y z : Status} (h : l[d]? = some x) (hx : x ≠ z)
    (hm : z ∈ l) : z ∈ l.set d y := by
  obtain ⟨k, hk⟩ := List.mem_iff_getElem?.mp hm
  refine List.mem_iff_getElem?.mpr ⟨k, ?_⟩
  rw [List.getElem?_set]
  by_cases hdk : d = k
  · subst hdk; rw [h] at hk; exact absurd (Option.some.inj hk) hx
  · simp [hdk, hk]

/-- what `InvJ` says of one record `(s, i)`: `ost` is its status, `fanned`, `rem`, `cl` the fan-out's
bookkeeping for it. -/
structure Slot (M : Nat) (log : List Ev) (s i : Nat) (ost : Status) (fanned : Bool) (rem : Nat)
    (cl : List Status) : Prop where
  len : fanned = true → cl.length = M
  count : fanned = true → rem + cl.count .acked = M
  acked : ost = .acked → fanned = true ∧ rem = 0
  just : ∀ d, cl[d]? = some .acked → dackOkIn log d s i = true ∨ filtIn log d s i = true
  /-- with `count`: the clone ack that brings `rem` to 0 cannot find the original nacked, which would
  be the `BUG:` panic of `cloneAck`. -/
  nacked : fanned = true → ost = .nacked → Status.nacked ∈ cl
  unfanned : fanned = false → cl = []

structure InvJ' (M : Nat) (ost : Nat → Nat → Status) (filt fanned : Nat → Nat → Bool) (rem : Nat → Nat → Nat)
    (cl : Nat → Nat → List Status) (clFilt : Nat → Nat → Nat → Bool) (buf : Nat → List DAck)
    (aq : Nat → List (Nat × Nat)) (panicked : Bool) (log : List Ev) : Prop where
  queued : ∀ d s i, (s, i) ∈ aq d → fanned s i = true ∧ d < M
  slot : ∀ s i, Slot M log s i (ost s i) (fanned s i) (rem s i) (cl s i)
  buffered : ∀ d x, x ∈ buf d → ∃ acks, Ev.dreply d acks ∈ log ∧ x ∈ acks
  filtLogged : ∀ s i, filt s i = true → ∀ d, filtIn log d s i = true
  clFiltLogged : ∀ s i d, clFilt s i d = true → filtIn log d s i = true
  noPanic : panicked = false
  mon : monC01 M log = true

def InvJ (a : Ack) : Prop :=
  InvJ' a.M a.ost a.filt a.fanned a.rem a.cl a.clFilt a.buf a.aq a.panicked a.log

theorem invJ_init (M size thr : Nat) : InvJ (Ack.init M size thr) := by
  refine ⟨?_, fun s i => ⟨?_, ?_, ?_, ?_, ?_, ?_⟩, ?_, ?_, ?_, ?_, ?_⟩ <;> simp [Ack.init, monC01]

theorem dackOkIn_cons (e : Ev) (log : List Ev) (d s i : Nat) (h : dackOkIn log d s i = true) :
    dackOkIn (e :: log) d s i = true := by
  unfold dackOkIn at h ⊢
  rw [List.any_cons, h]; simp

theorem filtIn_cons (e : Ev) (log : List Ev) (d s i : Nat) (h : filtIn log d s i = true) :
    filtIn (e :: log) d s i = true := by
  unfold filtIn at h ⊢
  rw [List.any_cons, h]; simp

section
variable {M : Nat} {ost ost' : Nat → Nat → Status} {filt fanned fanned' : Nat → Nat → Bool}
  {rem rem' : Nat → Nat → Nat} {cl cl' : Nat → Nat → List Status} {clFilt : Nat → Nat → Nat → Bool}
  {buf : Nat → List DAck} {aq : Nat → List (Nat × Nat)} {panicked : Bool} {log : List Ev}

theorem invJ_log (e : Ev) (he : ∀ s i r, e = .sack s i r → justified M log s i = true)
    (hJ : InvJ' M ost filt fanned rem cl clFilt buf aq panicked log) :
    InvJ' M ost filt fanned rem cl clFilt buf aq panicked (e :: log) where
  queued := hJ.queued
  slot s i := { hJ.slot s i with
    just := fun d h => ((hJ.slot s i).just d h).imp (dackOkIn_cons _ _ _ _ _) (filtIn_cons _ _ _ _ _) }
  buffered d x h := by
    obtain ⟨acks, h1, h2⟩ := hJ.buffered d x h
    exact ⟨acks, List.mem_cons_of_mem _ h1, h2⟩
  filtLogged s i h d := filtIn_cons _ _ _ _ _ (hJ.filtLogged s i h d)
  clFiltLogged s i d h := filtIn_cons _ _ _ _ _ (hJ.clFiltLogged s i d h)
  noPanic := hJ.noPanic
  mon := by
    show (monC01 M log && _) = true
    rw [hJ.mon, Bool.true_and]
    cases e with
    | sack s i r => exact he s i r rfl
    | _ => rfl

/-- an operation on the one record `(s, i)` that does not un-fan it: only its `Slot` is to be shown. -/
theorem InvJ'.set_slot (hJ : InvJ' M ost filt fanned rem cl clFilt buf aq panicked log) (s i : Nat)
    {o : Status} {f : Bool} {r : Nat} {c : List Status}
    (hother : ∀ s' i', ¬ (s' = s ∧ i' = i) →
      ost' s' i' = ost s' i' ∧ fanned' s' i' = fanned s' i' ∧ rem' s' i' = rem s' i' ∧ cl' s' i' = cl s' i')
    (hsame : ost' s i = o ∧ fanned' s i = f ∧ rem' s i = r ∧ cl' s i = c)
    (hfan : fanned s i = true → f = true) (hslot : Slot M log s i o f r c) :
    InvJ' M ost' filt fanned' rem' cl' clFilt buf aq panicked log := by
  obtain ⟨rfl, rfl, rfl, rfl⟩ := hsame
  refine { hJ with queued := fun d s' i' hm => ⟨?_, (hJ.queued d s' i' hm).2⟩, slot := fun s' i' => ?_ } <;>
    by_cases hk : s' = s ∧ i' = i
  · obtain ⟨rfl, rfl⟩ := hk; exact hfan (hJ.queued d s' i' hm).1
  · rw [(hother s' i' hk).2.1]; exact (hJ.queued d s' i' hm).1
  · obtain ⟨rfl, rfl⟩ := hk; exact hslot
  · obtain ⟨h1, h2, h3, h4⟩ := hother s' i' hk
    rw [h1, h2, h3, h4]; exact hJ.slot s' i'

/-- the ack queue of destination `d` replaced: only its new entries are to be shown. -/
theorem InvJ'.set_aq (hJ : InvJ' M ost filt fanned rem cl clFilt buf aq panicked log) (d : Nat)
    {l : List (Nat × Nat)} (h : ∀ s i, (s, i) ∈ l → fanned s i = true ∧ d < M) :
    InvJ' M ost filt fanned rem cl clFilt buf (upd aq d l) panicked log := by
  refine { hJ with queued := fun d' s i hm => ?_ }
  rw [upd_apply] at hm
  split at hm
  · next hdd => subst hdd; exact h s i hm
  · exact hJ.queued d' s i hm

/-- `msg.Nack` on an original that has not been fanned out. -/
theorem InvJ'.nackOrig (hJ : InvJ' M ost filt fanned rem cl clFilt buf aq panicked log) {s i : Nat}
    (hnf : fanned s i = false) :
    InvJ' M (upd2 ost s i .nacked) filt fanned rem cl clFilt buf aq panicked log :=
  hJ.set_slot s i (fun _ _ hk => by simp [hk]) ⟨upd2_same _ _ _ _, rfl, rfl, rfl⟩ id
    { hJ.slot s i with acked := nofun, nacked := by simp [hnf] }

end

theorem all_clones_acked {a : Ack} (hJ : InvJ a) {s i : Nat} (ho : a.ost s i = .acked) :
    a.fanned s i = true ∧ a.rem s i = 0 ∧ ∀ d, d < a.M → (a.cl s i)[d]? = some .acked := by
  have r := hJ.slot s i
  obtain ⟨hf, hr⟩ := r.acked ho
  have hlen := r.len hf
  have hcnt := r.count hf
  have hall := List.count_eq_length.mp (by omega : (a.cl s i).count .acked = (a.cl s i).length)
  refine ⟨hf, hr, fun d hd => ?_⟩
  rw [List.getElem?_eq_getElem (by omega), ← hall _ (List.getElem_mem _)]

theorem invJ_cloneAck (a : Ack) (d s i : Nat) (hJ : InvJ a)
    (hf : a.fanned s i = true) (hd : d < a.M) (hc : a.clone s i d = .open)
    (hjust : dackOkIn a.log d s i = true ∨ filtIn a.log d s i = true) : InvJ (a.cloneAck d s i) := by
  have r := hJ.slot s i
  have hlen := r.len hf
  have hget := clone_open_get hc (by omega)
  have hcnt := count_set_acked hget (by simp)
  have hlt := count_lt_of_not_acked hget (by simp)
  have hrem := r.count hf
  -- the record's slot afterwards, whatever becomes of the original's status
  have slot' : ∀ o, (o = .acked → a.rem s i - 1 = 0) → (o = .nacked → a.ost s i = .nacked) →
      Slot a.M a.log s i o (a.fanned s i) (a.rem s i - 1) ((a.cl s i).set d .acked) := fun o ho hn =>
    { len := fun _ => by rw [List.length_set]; exact hlen
      count := fun _ => by rw [hcnt]; omega
      acked := fun h => ⟨hf, ho h⟩
      just := fun d' h => by
        rw [List.getElem?_set] at h
        split at h
        · next hdd => subst hdd; exact hjust
        · exact r.just d' h
      nacked := fun _ h => mem_set_of_ne hget (by simp) (r.nacked hf (hn h))
      unfanned := fun h => by simp [hf] at h }
  unfold Ack.cloneAck
  simp only []
  by_cases h0 : a.rem s i - 1 = 0
  · rw [if_pos h0]
    have hopen : a.ost s i = .open := by
      cases ho : a.ost s i with
      | «open» => rfl
      | acked => have := (r.acked ho).2; omega
      | nacked =>
        -- `rem = 1`: every clone but `d` is acked and `d` is open, so none is nacked
        have hall := List.count_eq_length.mp
          (by rw [hcnt, List.length_set]; omega :
            ((a.cl s i).set d .acked).count .acked = ((a.cl s i).set d .acked).length)
        exact absurd (hall _ (mem_set_of_ne hget (by simp) (r.nacked hf ho))) (by simp)
    simp only [hopen]
    exact hJ.set_slot s i (fun _ _ hk => by simp [hk]) (by simp) id (slot' .acked (fun _ => h0) nofun)
  · rw [if_neg h0]
    exact hJ.set_slot s i (fun _ _ hk => by simp [hk]) (by simp) id
      (slot' _ (fun h => by have := (r.acked h).2; omega) id)

theorem invJ_cloneNack (a : Ack) (d s i : Nat) (hJ : InvJ a)
    (hf : a.fanned s i = true) (hd : d < a.M) (hc : a.clone s i d = .open) : InvJ (a.cloneNack d s i) := by
  have r := hJ.slot s i
  have hlen := r.len hf
  have hget := clone_open_get hc (by omega)
  have hlt := count_lt_of_not_acked hget (by simp)
  have hrem := r.count hf
  -- the original is nacked afterwards whether this is the first nack or not
  have slot' : Slot a.M a.log s i .nacked (a.fanned s i) (a.rem s i) ((a.cl s i).set d .nacked) :=
    { len := fun _ => by rw [List.length_set]; exact hlen
      count := fun _ => by rw [count_set_nacked hget (by simp)]; exact hrem
      acked := nofun
      just := fun d' h => by
        rw [List.getElem?_set] at h
        split at h
        · split at h <;> cases h
        · exact r.just d' h
      nacked := fun _ _ => List.mem_set (by omega) _
      unfanned := fun h => by simp [hf] at h }
  unfold Ack.cloneNack
  simp only []
  cases ho : a.ost s i with
  | «open» => exact hJ.set_slot s i (fun _ _ hk => by simp [hk]) (by simp) id slot'
  | nacked => exact hJ.set_slot s i (fun _ _ hk => by simp [hk]) (by simp [ho]) id slot'
  | acked => have := (r.acked ho).2; omega

@[simp] theorem cloneNack_log (a : Ack) (d s i : Nat) : (a.cloneNack d s i).log = a.log := by
  obtain ⟨_, _, h⟩ := cloneNack_frame a d s i; rw [h]

theorem dackOkIn_of_mem {log : List Ev} {d s i : Nat} {acks : List DAck}
    (h1 : Ev.dreply d acks ∈ log) (h2 : ((some (s, i), true) : DAck) ∈ acks) : dackOkIn log d s i = true := by
  unfold dackOkIn
  rw [List.any_eq_true]
  exact ⟨_, h1, by simpa using h2⟩

/-- the head of `d`'s ack queue takes the ack `x`, and `rest` stays buffered: both came in replies of `d`
that the log holds, whether just now (`dreply`) or earlier (`dbuf`). -/
theorem invJ_pop (a : Ack) (d s i : Nat) (x : DAck) (rest : List DAck) (hJ : InvJ a)
    (hq : (a.aq d)[0]? = some (s, i)) (hc : a.clone s i d = .open)
    (hb : ∀ y ∈ x :: rest, ∃ acks, Ev.dreply d acks ∈ a.log ∧ y ∈ acks) :
    InvJ (({ a with buf := upd a.buf d rest }).dproc d s i x) := by
  obtain ⟨hf, hd⟩ := hJ.queued d s i (List.mem_of_getElem? hq)
  have a1 : InvJ { a with buf := upd a.buf d rest } := by
    refine { hJ with buffered := fun d' y hy => ?_ }
    by_cases hdd : d' = d
    · subst hdd
      simp at hy
      exact hb y (List.mem_cons_of_mem _ hy)
    · simp [hdd] at hy; exact hJ.buffered d' y hy
  unfold Ack.dproc
  by_cases h1 : x.1 = some (s, i)
  · rw [if_pos h1]
    simp only []
    have a2 : InvJ { a with buf := upd a.buf d rest, aq := upd a.aq d ((a.aq d).drop 1) } :=
      a1.set_aq d fun s' i' hm => hJ.queued d s' i' (List.mem_of_mem_drop hm)
    by_cases h2 : x.2 = true
    · rw [if_pos h2]
      obtain ⟨acks, h3, h4⟩ := hb x List.mem_cons_self
      have hx : x = (some (s, i), true) := Prod.ext h1 h2
      exact invJ_cloneAck _ d s i a2 hf hd hc (Or.inl (dackOkIn_of_mem h3 (hx ▸ h4)))
    · rw [if_neg h2]
      exact invJ_cloneNack _ d s i a2 hf hd hc
  · rw [if_neg h1]; exact a1

theorem invJ_step (a a' : Ack) (e : Ev) (hS : InvS a) (hJ : InvJ a)
    (h : a.step e = some a') : InvJ a' := by
  cases he : e.ctl
  case true =>
    rw [step_ctl h he]
    show InvJ' a.M a.ost a.filt a.fanned a.rem a.cl a.clFilt a.buf a.aq a.panicked
      (if e.observable then e :: a.log else a.log)
    split
    · refine invJ_log e (fun s i r hs => ?_) hJ
      subst hs
      -- the handler acks to the source: every clone was acked, or the DLQ confirmed the record
      apply Bool.or_eq_true_iff.mpr
      obtain ⟨_, _, _, _, _, _, hH, _⟩ := step_handler h rfl
      cases hH with
      | sackErr _ _ ho | sack _ _ _ ho =>
        refine Or.inl (List.all_eq_true.mpr fun d hd => ?_)
        rcases (hJ.slot s i).just d ((all_clones_acked hJ ho).2.2 d (by simpa using hd)) with h1 | h1 <;>
          simp [h1]
      | sackDlq _ hh =>
        have := (hS s).cur .dlqaOk
        rw [← ((hS s).busy i (by rw [hh]; rfl)).1, hh] at this
        exact Or.inr this
    · exact hJ
  cases e with
  | proc br s i k =>
    cases br with
    | none =>
      obtain ⟨⟨ho, hnf, _⟩, rfl⟩ := step_procO h
      have base := invJ_log (Ev.proc none s i k) nofun hJ
      cases k with
      | pass => exact base
      | filter =>
        refine { base with filtLogged := fun s' i' hh d => ?_ }
        by_cases hk : s' = s ∧ i' = i
        · obtain ⟨rfl, rfl⟩ := hk; simp [filtIn, Ack.procO]
        · simp [Ack.procO, hk] at hh; exact base.filtLogged s' i' hh d
      | fail => exact base.nackOrig hnf
    | some d =>
      obtain ⟨⟨hf, hd, hc⟩, rfl⟩ := step_procB h
      cases k with
      | pass => exact invJ_log (Ev.proc (some d) s i .pass) nofun hJ
      | filter =>
        have base := invJ_log (Ev.proc (some d) s i .filter) nofun hJ
        refine { base with clFiltLogged := fun s' i' d' hh => ?_ }
        by_cases hk : s' = s ∧ i' = i ∧ d' = d
        · obtain ⟨rfl, rfl, rfl⟩ := hk; simp [filtIn, Ack.procB]
        · simp [Ack.procB, hk] at hh; exact base.clFiltLogged s' i' d' hh
      | fail =>
        have := invJ_log (.proc (some d) s i .fail) nofun (invJ_cloneNack a d s i hJ hf hd hc)
        rwa [cloneNack_log] at this
  | fan s i =>
    obtain ⟨⟨ho, hnf, _⟩, rfl⟩ := step_fan h
    have slot' : Slot a.M a.log s i (a.ost s i) true a.M (List.replicate a.M .open) :=
      { len := fun _ => List.length_replicate
        count := fun _ => by simp [List.count_replicate]
        acked := by simp [ho]
        just := fun d' hh => by
          rw [List.getElem?_replicate] at hh
          split at hh <;> cases hh
        nacked := by simp [ho]
        unfanned := nofun }
    refine { hJ.set_slot s i (fun _ _ hk => by simp [hk]) (by simp) (fun _ => rfl) slot' with
      clFiltLogged := fun s' i' d' hh => ?_ }
    by_cases hk : s' = s ∧ i' = i
    · obtain ⟨rfl, rfl⟩ := hk; simp at hh; exact hJ.filtLogged s' i' hh d'
    · simp [hk] at hh; exact hJ.clFiltLogged s' i' d' hh
  | write d s i ok =>
    obtain ⟨⟨hf, hd, hc, _⟩, ⟨_, rfl⟩ | ⟨_, rfl⟩⟩ := step_write h
    · refine invJ_log _ nofun (hJ.set_aq d fun s' i' hm => ?_)
      have hm : (s', i') ∈ a.aq d ∨ s' = s ∧ i' = i := by simpa using hm
      rcases hm with hm | ⟨rfl, rfl⟩
      · exact hJ.queued d s' i' hm
      · exact ⟨hf, hd⟩
    · have := invJ_log (.write d s i ok) nofun (invJ_cloneNack a d s i hJ hf hd hc)
      rwa [cloneNack_log] at this
  | fack d s i =>
    obtain ⟨⟨hf, hd, hc, hfl, _⟩, rfl⟩ := step_fack h
    exact invJ_cloneAck _ d s i hJ hf hd hc (Or.inr (hJ.clFiltLogged s i d hfl))
  | dreply d acks =>
    rcases step_dreply h with ⟨_, rfl⟩ | ⟨s, i, hq, ⟨_, hb, _, hc⟩, ⟨_, rfl⟩ | ⟨x, rest, hacks, rfl⟩⟩
    · exact invJ_log _ nofun hJ
    · exact invJ_log _ nofun hJ
    · exact invJ_pop { a with log := Ev.dreply d acks :: a.log } d s i x rest (invJ_log _ nofun hJ) hq hc
        fun y hy => ⟨acks, List.mem_cons_self, hacks ▸ hy⟩
  | dreplyErr d => have := step_dreplyErr h; subst this; exact invJ_log _ nofun hJ
  | dbuf d =>
    obtain ⟨s, i, hq, ⟨_, hc⟩, x, rest, hb, rfl⟩ := step_dbuf h
    exact invJ_pop a d s i x rest hJ hq hc fun y hy => hJ.buffered d y (hb ▸ hy)
  | nackO s i =>
    obtain ⟨⟨ho, hnf, _⟩, rfl⟩ := step_nackO h
    exact hJ.nackOrig hnf
  | nackB d s i =>
    obtain ⟨⟨hf, hd, hc⟩, rfl⟩ := step_nackB h
    have := invJ_cloneNack a d s i hJ hf hd hc
    obtain ⟨_, _, h'⟩ := cloneNack_frame a d s i
    rw [h'] at this ⊢
    exact this.set_aq d fun s' i' hm => this.queued d s' i' (List.mem_filter.mp hm).1
  | fpass d s i => step_cases h; exact hJ
  | wkill d => step_cases h; exact hJ
  | fdeliver d => step_cases h; exact hJ
  | mv g k s i => step_cases h; exact hJ
  | pdone g k s i => step_cases h; exact hJ
  | _ => cases he

structure AInv (a : Ack) : Prop where
  sinv : SInv a
  invJ : InvJ a

theorem ainv_init (M size thr : Nat) : AInv (Ack.init M size thr) :=
  ⟨⟨invS_init M size thr, rfl, rfl⟩, invJ_init M size thr⟩

theorem ainv_step {a a' : Ack} {e : Ev} (hI : AInv a) (h : a.step e = some a') : AInv a' :=
  ⟨sinv_step hI.sinv h, invJ_step a a' e hI.sinv.src hI.invJ h⟩

theorem Ack.run_eq (evs : List Ev) (a : Ack) : Ack.run a evs = evs.foldlM Ack.step a :=
  EventSys.run_eq (fun _ => rfl) (fun a e _ => by cases h : a.step e <;> simp [Ack.run, h]) evs a

theorem ainv_run {a a' : Ack} (evs : List Ev) (hI : AInv a) (h : Ack.run a evs = some a') : AInv a' :=
  EventSys.run_induct (fun _ _ _ hI => ainv_step hI) evs hI (Ack.run_eq .. ▸ h)

theorem ainv_reach (M size thr : Nat) (evs : List Ev) (a : Ack)
    (h : Ack.run (Ack.init M size thr) evs = some a) : AInv a :=
  ainv_run evs (ainv_init M size thr) h

theorem AInv.readCount {a : Ack} (h : AInv a) (s : Nat) : readCount a.log s = a.reads s := (h.sinv.src s).readCnt
theorem AInv.monC04 {a : Ack} (h : AInv a) : monC04 a.log = true := h.sinv.mon04
theorem AInv.monC07 {a : Ack} (h : AInv a) : monC07 a.log = true := h.sinv.mon07
theorem AInv.monC01 {a : Ack} (h : AInv a) : monC01 a.M a.log = true := h.invJ.mon
theorem AInv.noPanic {a : Ack} (h : AInv a) : a.panicked = false := h.invJ.noPanic


theorem run_log {a a' : Ack} (evs : List Ev) (h : Ack.run a evs = some a') :
    a'.log = (evs.filter Ev.observable).reverse ++ a.log := by
  induction evs generalizing a with
  | nil => cases h; rfl
  | cons e es ih =>
    obtain ⟨a1, hs, h⟩ := EventSys.run_cons.mp (Ack.run_eq .. ▸ h)
    rw [ih (Ack.run_eq .. ▸ h), step_log hs]
    by_cases ho : e.observable = true <;> simp [ho]

theorem run_M {a a' : Ack} (evs : List Ev) (h : Ack.run a evs = some a') : a'.M = a.M :=
  EventSys.run_induct (P := fun x => x.M = a.M) (fun _ _ _ hm hs => (step_M hs).trans hm) evs rfl
    (Ack.run_eq .. ▸ h)

end Conduit.Stream
