import ConduitModel.Proofs.MonFacts

/-!
# Views of the monitor state: source hypotheses, frames (`Ext`, `Grows`), per-record facts

* `Src G` — the source hypothesis of the soundness theorems: `Mon.sourceWellFormed` and roots
  strictly increasing in read order (so: distinct keys, distinct roots);
* `Ext R μ μ'` — `μ'` extends `μ` and every new fact concerns a root satisfying `R` (frame rule);
* `Clean`, `Active`, `Filtered` — what the monitor knows about a record in flight;
* `NonPend G n ρ` — `ρ` is the root of one of the first `n` records read; `InR G n0 len ρ` — of one of the records
  `n0, …, n0+len-1`; `keyR` — the key of a record's position.
-/
namespace Conduit.Funnel
open Conduit.Funnel.Mon

abbrev keyR (r : Rec) : Nat := keyOf r.pos

structure Src (G : Ctx) : Prop where
  swf : sourceWellFormed G.batches = true
  sorted : (G.all.map root).Pairwise (· < ·)

namespace Src
variable {G : Ctx} (hs : Src G)
include hs

theorem key_ne_zero {r : Rec} (hr : r ∈ G.all) : keyR r ≠ 0 := by
  have h := hs.swf
  unfold sourceWellFormed at h
  simp only [Bool.and_eq_true, List.all_eq_true, List.mem_map] at h
  have := h.1 r.pos ⟨r, hr, rfl⟩
  unfold posEmpty at this
  simpa using this

theorem keys_nodup : (G.all.map keyR).Nodup := by
  have h := hs.swf
  unfold sourceWellFormed at h
  simp only [Bool.and_eq_true, beq_iff_eq] at h
  have h2 := h.2
  have e : (G.batches.flatten.map (·.pos)).map keyOf = G.all.map keyR := by
    simp [Ctx.all, List.map_map, Function.comp_def]
  rw [e, List.length_map] at h2
  exact nodup_of_eraseDups_length _ (G.all.map keyR) (Nat.le_refl _) (by rw [List.length_map]; exact h2)

theorem idx_of_key {i j : Nat} {a b : Rec} (hi : G.all[i]? = some a) (hj : G.all[j]? = some b)
    (hk : keyR a = keyR b) : i = j :=
  (List.getElem?_inj (by rw [List.length_map]; exact (List.getElem?_eq_some_iff.mp hi).1) hs.keys_nodup).mp
    (by rw [List.getElem?_map, List.getElem?_map, hi, hj, Option.map_some, Option.map_some, hk])

theorem root_lt {i j : Nat} {a b : Rec} (hi : G.all[i]? = some a) (hj : G.all[j]? = some b) (hij : i < j) :
    root a < root b := by
  have hp := hs.sorted
  rw [List.pairwise_iff_getElem] at hp
  rw [List.getElem?_eq_some_iff] at hi hj
  obtain ⟨hi1, hi2⟩ := hi
  obtain ⟨hj1, hj2⟩ := hj
  have := hp i j (by simpa using hi1) (by simpa using hj1) hij
  simpa [hi2, hj2] using this

theorem idx_of_root {i j : Nat} {a b : Rec} (hi : G.all[i]? = some a) (hj : G.all[j]? = some b)
    (hk : root a = root b) : i = j := by
  rcases Nat.lt_trichotomy i j with h | h | h
  · have := hs.root_lt hi hj h; omega
  · exact h
  · have := hs.root_lt hj hi h; omega

end Src

/-- `ρ` is the root of one of the first `n` records read -/
def NonPend (G : Ctx) (n : Nat) (ρ : Nat) : Prop := ∃ (i : Nat) (src : Rec), i < n ∧ G.all[i]? = some src ∧ root src = ρ

/-- `ρ` is the root of one of the records `n0 … n0+len-1` -/
def InR (G : Ctx) (n0 len : Nat) (ρ : Nat) : Prop :=
  ∃ (q : Nat) (src : Rec), q < len ∧ G.all[n0 + q]? = some src ∧ root src = ρ

theorem NonPend.mono {G : Ctx} {n n' : Nat} {ρ : Nat} (h : NonPend G n ρ) (hle : n ≤ n') : NonPend G n' ρ := by
  obtain ⟨i, src, hi, h1, h2⟩ := h
  exact ⟨i, src, by omega, h1, h2⟩

theorem NonPend.lt {G : Ctx} (hs : Src G) {n j : Nat} {ρ : Nat} {b : Rec} (h : NonPend G n ρ)
    (hj : G.all[j]? = some b) (hnj : n ≤ j) : ρ < root b := by
  obtain ⟨i, src, hi, h1, h2⟩ := h
  rw [← h2]
  exact hs.root_lt h1 hj (by omega)

theorem InR.nonPend {G : Ctx} {n0 len : Nat} {ρ : Nat} (h : InR G n0 len ρ) : NonPend G (n0 + len) ρ := by
  obtain ⟨q, src, hq, h1, h2⟩ := h
  exact ⟨n0 + q, src, by omega, h1, h2⟩

theorem not_nonPend_of_read {G : Ctx} (hs : Src G) {n0 q : Nat} {src : Rec} (hsrc : G.all[n0 + q]? = some src) :
    ¬ NonPend G n0 (root src) := by
  intro hn
  have := hn.lt hs hsrc (by omega)
  omega

theorem InR.not_nonPend {G : Ctx} (hs : Src G) {n0 len : Nat} {ρ : Nat} (h : InR G n0 len ρ) : ¬ NonPend G n0 ρ := by
  obtain ⟨q, src, _, h1, rfl⟩ := h
  exact not_nonPend_of_read hs h1

theorem InR.disjoint {G : Ctx} (hs : Src G) {n0 len n1 len1 : Nat} {ρ : Nat} (h : InR G n0 len ρ)
    (h1 : InR G n1 len1 ρ) (hd : n0 + len ≤ n1 ∨ n1 + len1 ≤ n0) : False := by
  obtain ⟨q, src, hq, a1, a2⟩ := h
  obtain ⟨q', src', hq', b1, b2⟩ := h1
  have := hs.idx_of_root a1 b1 (a2.trans b2.symm)
  omega

/-- `μ'` extends `μ`; every new fact concerns a root satisfying `R` -/
structure Ext (R : Nat → Prop) (μ μ' : TSt) : Prop where
  filt_mono : ∀ x ∈ μ.filtered, x ∈ μ'.filtered
  filt_new : ∀ x ∈ μ'.filtered, x ∈ μ.filtered ∨ R x
  err_mono : ∀ x ∈ μ.errored, x ∈ μ'.errored
  err_new : ∀ x ∈ μ'.errored, x ∈ μ.errored ∨ R x
  wr_mono : ∀ e ∈ μ.written, e ∈ μ'.written
  wr_new : ∀ e ∈ μ'.written, e ∈ μ.written ∨ R e.2.1
  any_mono : ∀ x ∈ μ.dlqAny, x ∈ μ'.dlqAny
  any_new : ∀ x ∈ μ'.dlqAny, x ∈ μ.dlqAny ∨ R x
  ok_mono : ∀ x ∈ μ.dlqOk, x ∈ μ'.dlqOk
  ok_new : ∀ x ∈ μ'.dlqOk, x ∈ μ.dlqOk ∨ R x

def Grows {α : Type} (P : α → Prop) (l l' : List α) : Prop := (∀ x ∈ l, x ∈ l') ∧ ∀ x ∈ l', x ∈ l ∨ P x

theorem Grows.of_eq {α : Type} {P : α → Prop} {l l' : List α} (h : l' = l) : Grows P l l' :=
  h ▸ ⟨fun _ hx => hx, fun _ hx => Or.inl hx⟩

theorem Grows.of_append {α : Type} {P : α → Prop} {l l' n : List α} (h : l' = l ++ n) (hn : ∀ x ∈ n, P x) : Grows P l l' :=
  h ▸ ⟨fun _ hx => List.mem_append_left _ hx, fun x hx => (List.mem_append.mp hx).imp id (hn x)⟩

def Clean (μ : TSt) (ρ : Nat) : Prop := ρ ∉ μ.errored ∧ ∀ e ∈ μ.written, e.2.1 = ρ → e.2.2.2 = true

def WrittenTo (μ : TSt) (d ρ : Nat) : Prop := ∃ e ∈ μ.written, e.1 = d ∧ e.2.1 = ρ

/-- a record travelling down the pipeline: clean, and written to every destination in `pre` -/
def Active (μ : TSt) (pre : List Nat) (ρ : Nat) : Prop := Clean μ ρ ∧ ∀ d ∈ pre, WrittenTo μ d ρ

/-- a record filtered by a processor -/
def Filtered (μ : TSt) (ρ : Nat) : Prop := Clean μ ρ ∧ ρ ∈ μ.filtered

end Conduit.Funnel
