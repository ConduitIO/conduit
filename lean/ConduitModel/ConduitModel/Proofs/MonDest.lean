import ConduitModel.Proofs.MonTaskDefs

/-!
# The `.write` event of the monitor

What the proofs about `DestinationTask.Do` (Proofs/MonSDest.lean, Proofs/MonGDest.lean) need of the event
itself: the entries it books (`mem_entriesW`), and `write_silent_of`: it adds no violation when every entry already written to the destination has a root
not above the roots of the write and a tag that no record of the write carries, and the roots of the
write are in order.
-/
namespace Conduit.Funnel
open Conduit.Funnel.Mon

theorem mono_nil (last : Nat) : Mon.step.mono last [] = true := by
  unfold Mon.step.mono; rfl

theorem mono_cons (last : Nat) (r : Rec) (rs : List Rec) :
    Mon.step.mono last (r :: rs) = (decide (last ≤ root r) && Mon.step.mono (root r) rs) := by
  rw [Mon.step.mono]

theorem mono_of_sorted : ∀ (recs : List Rec) (last : Nat), (∀ r ∈ recs, last ≤ root r) →
    (∀ (i j : Nat) (a c : Rec), i < j → recs[i]? = some a → recs[j]? = some c → root a ≤ root c) →
    Mon.step.mono last recs = true := by
  intro recs
  induction recs with
  | nil => intro last _ _; exact mono_nil last
  | cons r rs ih =>
    intro last h1 h2
    rw [mono_cons, Bool.and_eq_true]
    refine ⟨by simpa using h1 r List.mem_cons_self, ih (root r) ?_ ?_⟩
    · intro r' hr'
      obtain ⟨j, hj⟩ := List.getElem?_of_mem hr'
      exact h2 0 (j + 1) r r' (by omega) rfl (by simpa using hj)
    · intro i j a c hij ha hc
      exact h2 (i + 1) (j + 1) a c (by omega) (by simpa using ha) (by simpa using hc)

theorem mem_entriesW {scr : List (Nat × List Reply)} {t c : Nat} {recs : List Rec} {e : Nat × Nat × Nat × Bool} :
    e ∈ entriesW scr t c recs ↔
      ∃ (j : Nat) (r : Rec), recs[j]? = some r ∧ e = (t, root r, r.tag, confirmed scr t c j (recs.map (·.pos))) := by
  unfold entriesW
  rw [List.mem_filterMap]
  constructor
  · rintro ⟨j, _, hj⟩
    cases hr : recs[j]? with
    | none => rw [hr] at hj; cases hj
    | some r =>
      rw [hr] at hj
      simp only [Option.map_some, Option.some.injEq] at hj
      exact ⟨j, r, hr, hj.symm⟩
  · rintro ⟨j, r, hr, he⟩
    refine ⟨j, ?_, ?_⟩
    · rw [List.mem_range]; exact (List.getElem?_eq_some_iff.mp hr).1
    · rw [hr, he]; rfl

theorem destReply_none {o : Option Reply} (h : (destReply o).1 = none) : o = some (.dest none (destReply o).2) := by
  cases o with
  | none => cases h
  | some r =>
    cases r with
    | proc out => cases h
    | dest w a =>
      simp only [destReply] at h ⊢
      rw [h]

theorem write_silent_of {scr : List (Nat × List Reply)} {μ : TSt} {d : Nat} {recs : List Rec}
    (hprev : ∀ e ∈ μ.written, e.1 = d → ∀ r ∈ recs, e.2.1 ≤ root r ∧ e.2.2.1 ≠ r.tag)
    (hord : ∀ (i j : Nat) (a c : Rec), i < j → recs[i]? = some a → recs[j]? = some c → root a ≤ root c) :
    (writeT scr μ d recs).tv = μ.tv := by
  have hprev' : ∀ e ∈ prevW μ d recs, ∀ r ∈ recs, e.2.1 ≤ root r ∧ e.2.2.1 ≠ r.tag := by
    intro e he
    unfold prevW at he
    rw [List.mem_filter] at he
    simp only [Bool.and_eq_true, beq_iff_eq] at he
    exact hprev e he.1 he.2.1
  have hdup : dupW μ d recs = false := by
    apply eq_false_of_ne_true
    intro hd
    unfold dupW at hd
    simp only [List.any_eq_true, beq_iff_eq] at hd
    obtain ⟨r, hr, e, he, heq⟩ := hd
    exact (hprev' e he r hr).2 heq
  have hmono : Mon.step.mono (lastRootW μ d recs) recs = true := by
    apply mono_of_sorted _ _ _ hord
    intro r hr
    unfold lastRootW
    cases hl : (prevW μ d recs).getLast? with
    | none => exact Nat.zero_le _
    | some e => exact (hprev' e (List.mem_of_getLast? hl) r hr).1
  simp only [writeT, hdup, hmono, if_true, if_false, Bool.false_eq_true, List.append_nil]

end Conduit.Funnel
