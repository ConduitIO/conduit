import ConduitModel.Proofs.BatchFlags

/-!
`SplitRecord` (batch.go): totality under the `splittable` guard, the exact effect on the four
parallel slices, invariant preservation, "nothing below active index `i` moved", and the
necessity of the guard.
-/
namespace Conduit.Funnel

theorem countFilter_append (a c : List Status) : countFilter (a ++ c) = countFilter a + countFilter c := by
  simp [countFilter, List.filter_append]

theorem getElem?_ins_lt {α} {l xs : List α} {k q : Nat} (hq : q < k) (hk : k ≤ l.length) :
    (l.take k ++ xs ++ l.drop k)[q]? = l[q]? := by
  have h1 : q < (l.take k).length := by simp; omega
  rw [List.append_assoc, List.getElem?_append_left h1, List.getElem?_take]
  simp [hq]

theorem length_ins {α} (l xs : List α) (k : Nat) :
    (l.take k ++ xs ++ l.drop k).length = l.length + xs.length := by
  rw [List.length_append, List.length_append, Nat.add_right_comm, ← List.length_append, List.take_append_drop]

theorem length_replace {α} {l xs : List α} {p : Nat} (hp : p < l.length) (hx : 1 ≤ xs.length) :
    (l.take p ++ xs ++ l.drop (p + 1)).length = l.length + (xs.length - 1) := by
  rw [List.length_append, List.length_append, List.length_take, List.length_drop, Nat.min_eq_left (Nat.le_of_lt hp)]
  omega

theorem mem_ins {α} {l xs : List α} {k : Nat} {a : α} :
    a ∈ l.take k ++ xs ++ l.drop k ↔ a ∈ l ∨ a ∈ xs := by
  constructor
  · intro h
    rcases List.mem_append.mp h with h | h
    · rcases List.mem_append.mp h with h | h
      · exact .inl (List.mem_of_mem_take h)
      · exact .inr h
    · exact .inl (List.mem_of_mem_drop h)
  · rintro (h | h)
    · rw [← List.take_append_drop k l] at h
      rcases List.mem_append.mp h with h | h
      · exact List.mem_append.mpr (.inl (List.mem_append.mpr (.inl h)))
      · exact List.mem_append.mpr (.inr h)
    · exact List.mem_append.mpr (.inl (List.mem_append.mpr (.inr h)))

theorem countFilter_ins (st : List Status) (k n : Nat) :
    countFilter (st.take k ++ List.replicate n ({} : Status) ++ st.drop k) = countFilter st := by
  rw [countFilter_append, countFilter_append, countFilter_replicate_default, Nat.add_zero, ← countFilter_append,
    List.take_append_drop]

theorem notFilt_ins_lt {st : List Status} {k n q : Nat} (hq : q < k) (hk : k ≤ st.length) :
    notFilt (st.take k ++ List.replicate n ({} : Status) ++ st.drop k) q = notFilt st q := by
  unfold notFilt
  rw [getElem?_ins_lt hq hk]

theorem runsOK_ins {h : Heap} {m : Nat} {rs : List (Option Nat)} (hr : runsOK h m (some rs)) {k : Nat}
    {rid : Nat} (hrid : rid < h.size) (n : Nat) :
    runsOK h (m + n) (some (rs.take k ++ List.replicate n (some rid) ++ rs.drop k)) := by
  refine ⟨?_, ?_⟩
  · rw [length_ins, hr.1, List.length_replicate]
  · intro r hm
    rcases mem_ins.mp hm with hm | hm
    · exact hr.2 r hm
    · rw [(List.mem_replicate.mp hm).2]; simp [runIdOK, hrid]

/-- the postcondition of `SplitRecord` on active index `i` = physical index `p` -/
structure SplitPost (h : Heap) (b : Batch) (i p : Nat) (recs : List Rec) (h' : Heap) (b' : Batch) : Prop where
  wf : b'.WF h'
  size : h.size ≤ h'.size
  recs_eq : b'.recs = b.recs.take p ++ recs ++ b.recs.drop (p + 1)
  st_eq : b'.st = b.st.take (p + 1) ++ List.replicate (recs.length - 1) ({} : Status) ++ b.st.drop (p + 1)
  pos_eq : b'.pos = b.pos.take (p + 1) ++ List.replicate (recs.length - 1) none ++ b.pos.drop (p + 1)
  fc : b'.filterCount = b.filterCount
  tainted : b'.tainted = b.tainted
  below : Below i b b'
  nAct : b'.nAct = b.nAct + (recs.length - 1)

/-- the tail of `SplitRecord` once the run id is known -/
def splitTail (h : Heap) (b : Batch) (p rid : Nat) (recs : List Rec) : Heap × Batch :=
  (h.set! rid { h[rid]! with total := h[rid]!.total + recs.length - 1 },
   { b with
      recs := b.recs.take p ++ recs ++ b.recs.drop (p+1),
      st := b.st.take (p+1) ++ List.replicate (recs.length - 1) ({} : Status) ++ b.st.drop (p+1),
      pos := b.pos.take (p+1) ++ List.replicate (recs.length - 1) none ++ b.pos.drop (p+1),
      runs := some ((b.runs.getD []).take (p+1) ++ List.replicate (recs.length - 1) (some rid) ++ (b.runs.getD []).drop (p+1)) })

theorem splitTail_post {h : Heap} {b : Batch} (hwf : b.WF h) {i p : Nat} (hip : (actList b.st)[i]? = some p)
    {rs : List (Option Nat)} (hruns : b.runs = some rs) {rid : Nat} (hrid : rid < h.size) {recs : List Rec}
    (hr : 1 ≤ recs.length) :
    SplitPost h b i p recs (splitTail h b p rid recs).1 (splitTail h b p rid recs).2 := by
  have hp : p < b.st.length := (actList_getElem?_iff.mp hip).1
  have ha := hwf.1
  have hro := ha.runs_ok
  rw [hruns] at hro
  have hsz : (splitTail h b p rid recs).1.size = h.size := by simp [splitTail]
  have hst' : (splitTail h b p rid recs).2.st.length = b.st.length + (recs.length - 1) := by
    show (b.st.take (p+1) ++ List.replicate (recs.length - 1) ({} : Status) ++ b.st.drop (p+1)).length = _
    rw [length_ins, List.length_replicate]
  have hpos' : (splitTail h b p rid recs).2.pos.length = b.pos.length + (recs.length - 1) := by
    show (b.pos.take (p+1) ++ List.replicate (recs.length - 1) none ++ b.pos.drop (p+1)).length = _
    rw [length_ins, List.length_replicate]
  have hrecs' : (splitTail h b p rid recs).2.recs.length = b.recs.length + (recs.length - 1) :=
    length_replace (ha.st_len ▸ hp) hr
  -- an active index below `i` sits physically below `p`, where nothing moved
  have hbelow : Below i b (splitTail h b p rid recs).2 := by
    refine ⟨fun k hk => ?_, fun k q hk hkq hs => ?_⟩
    · have hk' : k < (actList b.st).length := Nat.lt_trans hk (List.getElem?_eq_some_iff.mp hip).1
      have hkq := List.getElem?_eq_getElem hk'
      have hlt := (actList_lt_iff hkq hip).mp hk
      rw [hkq]
      exact actList_getElem?_agree (by rw [hst']; exact Nat.le_add_right _ _)
        (fun q hq => notFilt_ins_lt (Nat.lt_succ_of_le (Nat.le_trans hq (Nat.le_of_lt hlt))) hp) hkq
    · have hlt : q < p + 1 := Nat.lt_succ_of_lt ((actList_lt_iff hkq hip).mp hk)
      have e1 : (splitTail h b p rid recs).2.pos[q]? = b.pos[q]? :=
        getElem?_ins_lt hlt (by rw [ha.pos_len, ← ha.st_len]; exact hp)
      have e2 : (splitTail h b p rid recs).2.runAt q = b.runAt q := by
        simp only [Batch.runAt, splitTail, hruns, Option.getD_some]
        rw [getElem?_ins_lt hlt (by rw [hro.1, ← ha.st_len]; exact hp)]
      simp only [Batch.splittableAt, e1, e2] at hs ⊢
      exact hs
  refine ⟨⟨⟨?_, ?_, ?_, ?_⟩, ?_⟩, Nat.le_of_eq hsz.symm, rfl, rfl, rfl, rfl, rfl, hbelow, ?_⟩
  · rw [hst', hrecs', ha.st_len]
  · rw [hpos', hrecs', ha.pos_len]
  · rw [hrecs']
    show runsOK _ _ (some ((b.runs.getD []).take (p+1) ++ List.replicate (recs.length - 1) (some rid) ++ (b.runs.getD []).drop (p+1)))
    rw [hruns, Option.getD_some]
    exact runsOK_ins (runsOK_mono (Nat.le_of_eq hsz.symm) hro) (hsz ▸ hrid) _
  · intro kv hkv
    obtain ⟨x, hx, hxk⟩ := ha.split_keys kv hkv
    exact ⟨x, mem_ins.mpr (.inl hx), hxk⟩
  · show b.filterCount = countFilter (b.st.take (p+1) ++ List.replicate (recs.length - 1) ({} : Status) ++ b.st.drop (p+1))
    rw [countFilter_ins]; exact hwf.2
  · have h1 := length_actList b.st
    have h2 := length_actList (splitTail h b p rid recs).2.st
    have h3 : countFilter (splitTail h b p rid recs).2.st = countFilter b.st := countFilter_ins _ _ _
    unfold Batch.nAct
    omega

theorem splitRecord_existing {h : Heap} {b : Batch} {i p : Nat} {recs : List Rec} (hp : b.phys i = .ok p)
    (h1 : p < b.recs.length) (h2 : p < b.st.length) (h3 : p < b.pos.length)
    {rs : List (Option Nat)} (hruns : b.runs = some rs) {r : Nat} (hr : rs[p]? = some (some r)) :
    b.splitRecord h i recs = .ok (splitTail h b p r recs) := by
  have h4 : p < rs.length := (List.getElem?_eq_some_iff.mp hr).1
  have c1 : ¬ (p + 1 > b.recs.length ∨ p + 1 > b.st.length ∨ p + 1 > b.pos.length) := by omega
  have c2 : ¬ (p + 1 > rs.length) := by omega
  have e1 : idx rs p "runs[i]" = .ok (some r) := idx_eq_ok_iff.mpr hr
  unfold Batch.splitRecord
  rw [hp]
  simp only [bind, Except.bind, idx_ok _ h3, hruns, e1, pure, Except.pure, c1, c2, if_false, Option.getD_some]
  simp only [splitTail, hruns, Option.getD_some]

def withNewRun (b : Batch) (p rid : Nat) : Batch :=
  { b with
    split := if (lookup b.split (keyOf (b.pos[p]?.getD none))).isNone then b.split ++ [(keyOf (b.pos[p]?.getD none), b.recs[p]?.getD default)] else b.split,
    runs := some ((b.runs.getD (b.recs.map fun _ => none)).set p (some rid)) }

def newRun (b : Batch) (p : Nat) : SplitRun :=
  { origPos := b.pos[p]?.getD none,
    origRec := (lookup b.split (keyOf (b.pos[p]?.getD none))).getD (b.recs[p]?.getD default), total := 1 }

theorem splitRecord_new {h : Heap} {b : Batch} {i p : Nat} {recs : List Rec} (hp : b.phys i = .ok p)
    (h1 : p < b.recs.length) (h2 : p < b.st.length) (h3 : p < b.pos.length)
    (hruns : ∀ rs, b.runs = some rs → rs.length = b.recs.length ∧ rs[p]? = some none) (hpos : b.pos[p]? ≠ some none) :
    b.splitRecord h i recs = .ok (splitTail (h.push (newRun b p)) (withNewRun b p h.size) p h.size recs) := by
  have c1 : ¬ (p + 1 > b.recs.length ∨ p + 1 > b.st.length ∨ p + 1 > b.pos.length) := by omega
  have hne : (b.pos[p] == none) = false := by
    cases hx : b.pos[p] with
    | none => exact absurd (by rw [List.getElem?_eq_getElem h3, hx]) hpos
    | some k => rfl
  unfold Batch.splitRecord
  rw [hp]
  cases hr : b.runs with
  | none =>
    have h5 : p < (b.recs.map fun _ => (none : Option Nat)).length := by simpa using h1
    have c2 : ¬ (p + 1 > ((b.recs.map fun _ => (none : Option Nat)).set p (some h.size)).length) := by
      simp only [List.length_set]; omega
    simp only [bind, Except.bind, idx_ok _ h3, idx_ok _ h1, pure, Except.pure, c1, if_false, Option.getD_none, Option.getD_some, hne,
      Bool.false_eq_true, hr, setAt_ok _ _ h5, c2]
    simp only [splitTail, withNewRun, newRun, hr, Option.getD_none, List.getElem?_eq_getElem h3, List.getElem?_eq_getElem h1, Option.getD_some]
    split <;> rfl
  | some rs =>
    obtain ⟨hlen, hnone⟩ := hruns rs hr
    have e1 : idx rs p "runs[i]" = .ok none := idx_eq_ok_iff.mpr hnone
    have h5 : p < rs.length := by omega
    have c2 : ¬ (p + 1 > (rs.set p (some h.size)).length) := by
      simp only [List.length_set]; omega
    simp only [bind, Except.bind, idx_ok _ h3, idx_ok _ h1, pure, Except.pure, c1, if_false, Option.getD_some, hne,
      Bool.false_eq_true, hr, setAt_ok _ _ h5, c2, e1]
    simp only [splitTail, withNewRun, newRun, hr, List.getElem?_eq_getElem h3, List.getElem?_eq_getElem h1, Option.getD_some]
    split <;> rfl

theorem withNewRun_WF {h : Heap} {b : Batch} (hwf : b.WF h) {p : Nat} (hp : p < b.pos.length) (x : SplitRun) :
    (withNewRun b p h.size).WF (h.push x) := by
  have ha := hwf.1
  refine ⟨⟨ha.st_len, ha.pos_len, ?_, ?_⟩, hwf.2⟩
  · show runsOK _ b.recs.length (some ((b.runs.getD (b.recs.map fun _ => none)).set p (some h.size)))
    have hro := ha.runs_ok
    refine ⟨?_, ?_⟩
    · rw [List.length_set]
      cases hr : b.runs with
      | none => simp
      | some rs => rw [hr] at hro; simpa using hro.1
    · intro r hm
      rcases List.mem_or_eq_of_mem_set hm with hm | rfl
      · cases hr : b.runs with
        | none =>
          rw [hr] at hm
          simp only [Option.getD_none, List.mem_map] at hm
          obtain ⟨_, _, rfl⟩ := hm
          rfl
        | some rs =>
          rw [hr] at hm hro
          exact runIdOK_mono (by simp) (hro.2 r hm)
      · simp [runIdOK]
  · intro kv hkv
    have hmem : b.pos[p]?.getD none ∈ b.pos := by
      rw [List.getElem?_eq_getElem hp]; exact List.getElem_mem hp
    by_cases hl : (lookup b.split (keyOf (b.pos[p]?.getD none))).isNone = true
    · have hkv' : kv ∈ b.split ++ [(keyOf (b.pos[p]?.getD none), b.recs[p]?.getD default)] := by
        simpa [withNewRun, hl] using hkv
      rcases List.mem_append.mp hkv' with hkv' | hkv'
      · exact ha.split_keys kv hkv'
      · rw [List.mem_singleton.mp hkv']
        exact ⟨_, hmem, rfl⟩
    · have hkv' : kv ∈ b.split := by simpa [withNewRun, hl] using hkv
      exact ha.split_keys kv hkv'

theorem withNewRun_splittable {b : Batch} {p rid q : Nat}
    (hs : b.splittableAt q = true) : (withNewRun b p rid).splittableAt q = true := by
  have hrun : (b.runAt q).isSome = true → ((withNewRun b p rid).runAt q).isSome = true := by
    intro h
    cases hr : b.runs with
    | none => simp [Batch.runAt, hr] at h
    | some rs =>
      simp only [Batch.runAt, hr] at h
      simp only [Batch.runAt, withNewRun, hr, Option.getD_some, List.getElem?_set]
      by_cases hpq : p = q
      · subst hpq
        have : p < rs.length := by
          cases hx : rs[p]? with
          | none => rw [hx] at h; simp at h
          | some _ => exact (List.getElem?_eq_some_iff.mp hx).1
        simp [this]
      · simpa [hpq] using h
  simp only [Batch.splittableAt, Bool.or_eq_true] at hs ⊢
  rcases hs with hs | hs
  · exact .inl hs
  · exact .inr (hrun hs)

theorem below_withNewRun (i : Nat) (b : Batch) (p rid : Nat) : Below i b (withNewRun b p rid) :=
  ⟨fun _ _ => rfl, fun _ _ _ _ hs => withNewRun_splittable hs⟩

theorem splitNew_post {h : Heap} {b : Batch} (hwf : b.WF h) {i p : Nat} (hip : (actList b.st)[i]? = some p)
    {recs : List Rec} (hr : 1 ≤ recs.length) :
    SplitPost h b i p recs (splitTail (h.push (newRun b p)) (withNewRun b p h.size) p h.size recs).1
      (splitTail (h.push (newRun b p)) (withNewRun b p h.size) p h.size recs).2 := by
  have hp : p < b.pos.length := by
    have := (actList_getElem?_iff.mp hip).1
    rw [hwf.1.pos_len, ← hwf.1.st_len]; exact this
  have hwf1 := withNewRun_WF hwf hp (newRun b p)
  have hpost := splitTail_post hwf1 (i := i) (p := p) hip (rs := _) rfl (rid := h.size) (by simp) hr
  obtain ⟨w, s, e1, e2, e3, e4, e5, bl, na⟩ := hpost
  have hs : h.size ≤ (h.push (newRun b p)).size := by simp
  exact ⟨w, Nat.le_trans hs s, e1, e2, e3, e4, e5, Below.trans (Nat.le_refl i) (below_withNewRun i b p h.size) bl, na⟩

/-- the two ways of `SplitRecord`: into the run the record has, or into a run allocated for it -/
theorem splitRecord_cases {h : Heap} {b : Batch} (hwf : b.WF h) {i p : Nat} (hip : (actList b.st)[i]? = some p)
    (recs : List Rec) (hs : b.splittableAt p = true) :
    (∃ rs r, b.runs = some rs ∧ rs[p]? = some (some r) ∧ r < h.size ∧
      b.splitRecord h i recs = .ok (splitTail h b p r recs)) ∨
    ((∀ rs, b.runs = some rs → rs.length = b.recs.length ∧ rs[p]? = some none) ∧ b.pos[p]? ≠ some none ∧
      b.splitRecord h i recs = .ok (splitTail (h.push (newRun b p)) (withNewRun b p h.size) p h.size recs)) := by
  obtain ⟨hi, hpe⟩ := List.getElem?_eq_some_iff.mp hip
  have hphys := phys_ok hwf.2 hi
  rw [hpe] at hphys
  have h2 : p < b.st.length := (actList_getElem?_iff.mp hip).1
  have h1 : p < b.recs.length := by rw [← hwf.1.st_len]; exact h2
  have h3 : p < b.pos.length := by rw [hwf.1.pos_len]; exact h1
  have hro := hwf.1.runs_ok
  by_cases hrun : ∃ rs r, b.runs = some rs ∧ rs[p]? = some (some r)
  · obtain ⟨rs, r, hruns, hrs⟩ := hrun
    rw [hruns] at hro
    have hrid : r < h.size := by
      have := hro.2 (some r) (List.mem_of_getElem? hrs)
      simpa [runIdOK] using this
    exact .inl ⟨rs, r, hruns, hrs, hrid, splitRecord_existing hphys h1 h2 h3 hruns hrs⟩
  · have hruns : ∀ rs, b.runs = some rs → rs.length = b.recs.length ∧ rs[p]? = some none := by
      intro rs hruns
      rw [hruns] at hro
      refine ⟨hro.1, ?_⟩
      have hlt : p < rs.length := by rw [hro.1]; exact h1
      rw [List.getElem?_eq_getElem hlt]
      cases hx : rs[p] with
      | none => rfl
      | some r => exact absurd ⟨rs, r, hruns, by rw [List.getElem?_eq_getElem hlt, hx]⟩ hrun
    have hra : b.runAt p = none := by
      unfold Batch.runAt
      cases hr' : b.runs with
      | none => rfl
      | some rs => simp [(hruns rs hr').2]
    have hpos : b.pos[p]? ≠ some none := by
      simpa [Batch.splittableAt, hra] using hs
    exact .inr ⟨hruns, hpos, splitRecord_new hphys h1 h2 h3 hruns hpos⟩

theorem splitRecord_ok_aux {h : Heap} {b : Batch} (hwf : b.WF h) {i p : Nat} (hip : (actList b.st)[i]? = some p)
    {recs : List Rec} (hs : b.splittableAt p = true) (hr : 1 ≤ recs.length) :
    ∃ (h' : Heap) (b' : Batch), b.splitRecord h i recs = .ok (h', b') ∧ SplitPost h b i p recs h' b' := by
  rcases splitRecord_cases hwf hip recs hs with ⟨rs, r, hruns, _, hrid, e⟩ | ⟨_, _, e⟩
  · exact ⟨_, _, e, splitTail_post hwf hip hruns hrid hr⟩
  · exact ⟨_, _, e, splitNew_post hwf hip hr⟩

/-- the guard is necessary: without a position and without a run, `SplitRecord` panics. -/
theorem splitRecord_panics_of_not_splittable {h : Heap} {b : Batch} (hwf : b.WF h) {i : Nat} (hi : i < b.nAct)
    {recs : List Rec} (hs : b.splittableAt ((actList b.st)[i]'hi) = false) :
    ∃ m, b.splitRecord h i recs = .error (.panic m) := by
  have hphys := phys_ok hwf.2 hi
  have h2 : (actList b.st)[i] < b.st.length := actList_lt hi
  generalize (actList b.st)[i] = p at hphys h2 hs
  have h1 : p < b.recs.length := by rw [← hwf.1.st_len]; exact h2
  have h3 : p < b.pos.length := by rw [hwf.1.pos_len]; exact h1
  have hro := hwf.1.runs_ok
  simp only [Batch.splittableAt, Bool.or_eq_false_iff] at hs
  obtain ⟨hpos, hrun⟩ := hs
  have hne : (b.pos[p] == none) = true := by
    rw [List.getElem?_eq_getElem h3] at hpos
    cases hx : b.pos[p] with
    | none => rfl
    | some k => rw [hx] at hpos; simp at hpos
  unfold Batch.splitRecord
  rw [hphys]
  cases hr : b.runs with
  | none =>
    simp only [bind, Except.bind, idx_ok _ h3, pure, Except.pure, hne, if_true]
    exact ⟨_, rfl⟩
  | some rs =>
    rw [hr] at hro
    have hlt : p < rs.length := by rw [hro.1]; exact h1
    have e1 : idx rs p "runs[i]" = .ok none := by
      apply idx_eq_ok_iff.mpr
      simp only [Batch.runAt, hr, List.getElem?_eq_getElem hlt, Option.join_some] at hrun
      rw [List.getElem?_eq_getElem hlt]
      cases hx : rs[p] with
      | none => rfl
      | some r => rw [hx] at hrun; simp at hrun
    simp only [bind, Except.bind, idx_ok _ h3, pure, Except.pure, hne, if_true, e1]
    exact ⟨_, rfl⟩

end Conduit.Funnel
