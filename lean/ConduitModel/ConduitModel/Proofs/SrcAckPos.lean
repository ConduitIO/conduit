import ConduitModel.Proofs.SrcAck

/-!
Position-level invariant of M3 under the engine-side read-order hypothesis (`runO`): what is
stored / snapshotted / delivered, compared by read index (`Ord` at the measure `Stored.posN`), and the
set of handled records.
-/
namespace Conduit.SrcAck

/-- every record at or before `x` has been handed to `Source.Ack` at some time -/
def Cov (s : St) (x : Stored) : Prop := ∀ r : Nat, 1 ≤ r → r ≤ x.posN → r ∈ s.handled

theorem Cov.mono {s : St} {x y : Stored} (h : Cov s y) (hle : x.posN ≤ y.posN) : Cov s x :=
  fun r h1 h2 => h r h1 (Nat.le_trans h2 hle)

/-- Everything up to the instance's position has been handled; the store and the snapshots lie at or below it
(`ord`), so they are covered as well. -/
structure InvO (s : St) : Prop where
  ord : Ord Stored.posN BPos s
  covInst : Cov s s.inst
  covOpened : ∀ o ∈ s.opened, ∀ r : Nat, 1 ≤ r → r ≤ o.getD 0 → r ∈ s.handled

theorem InvO.covStore {s : St} (hi : InvO s) : Cov s s.store := hi.covInst.mono hi.ord.store

theorem InvO.covGens {s : St} (hi : InvO s) (i : Nat) (g : Gen) (hg : s.gens[i]? = some g) : Cov s g.snap :=
  hi.covInst.mono (hi.ord.gens i g hg)

theorem invO_init : InvO init := by
  constructor <;> first | (constructor <;> simp [init, Stored.posN]) | (simp [init, Cov, Stored.posN] <;> omega)

theorem ackOk_spec {s : St} {ps : List Pos} (h : ackOk s ps = true) :
    ps ≠ [] ∧ (∀ p : Nat, p ∈ ps ↔ s.inst.posN + 1 ≤ p ∧ p < s.inst.posN + 1 + ps.length) ∧
    ps.getLast? = some (s.inst.posN + ps.length) := by
  simp only [ackOk, Bool.and_eq_true, bne_iff_ne, ne_eq, beq_iff_eq] at h
  obtain ⟨hne, heq⟩ := h
  refine ⟨hne, ?_, ?_⟩
  · intro p
    conv => lhs; rw [heq]
    rw [List.mem_range'_1]
  · have hl : 0 < ps.length := List.length_pos_iff.mpr hne
    rw [List.getLast?_eq_getElem?]
    conv => lhs; rw [heq]
    rw [List.getElem?_range']
    · simp only [List.length_range']
      congr 1; omega
    · simp only [List.length_range']; omega

/-- the order by read position is `Ord.step`; the coverage is touched by `Source.Ack` (the new positions continue
the handled ones without a gap) and by a restart (reopened at the store) only -/
theorem invO_step {c : Cfg} {s s' : St} {e : Ev} (hi : InvO s) (hv : Inv s) (hok : evOk s e = true)
    (h : step c s e = some s') : InvO s' := by
  have hs := step_sound h
  have hack : ∀ ps last, e = .ack ps → ps.getLast? = some last →
      (∀ p : Nat, p ∈ ps ↔ s.inst.posN + 1 ≤ p ∧ p < s.inst.posN + 1 + ps.length) ∧
      Stored.posN ⟨s.nextSeq + 1, some last⟩ = s.inst.posN + ps.length := fun ps last he hl => by
    subst he
    obtain ⟨_, hmem, hlast⟩ := ackOk_spec hok
    exact ⟨hmem, by simp [Stored.posN, Option.some.inj (hl.symm.trans hlast)]⟩
  have ho := hi.ord.step BPos.mono hv hs fun ps last he hl => by
    obtain ⟨hmem, hnew⟩ := hack ps last he hl
    exact ⟨by omega, fun p hp => by have := (hmem p).mp hp; omega⟩
  cases hs with
  | ack ps last _ _ _ hl =>
    obtain ⟨hmem, hnew⟩ := hack ps last rfl hl
    refine ⟨ho, fun r hr1 hr2 => ?_, fun o ho r hr1 hr2 => List.mem_append_left _ (hi.covOpened o ho r hr1 hr2)⟩
    show r ∈ s.handled ++ ps
    replace hr2 : r ≤ Stored.posN ⟨s.nextSeq + 1, some last⟩ := hr2
    by_cases hh : r ≤ s.inst.posN
    · exact List.mem_append_left _ (hi.covInst r hr1 hh)
    · apply List.mem_append_right; rw [hmem]; omega
  | restart =>
    refine ⟨ho, hi.covStore, fun o ho r hr1 hr2 => ?_⟩
    rcases List.mem_append.mp ho with ho | ho
    · exact hi.covOpened o ho r hr1 hr2
    · rw [List.mem_singleton.mp ho] at hr2; exact hi.covStore r hr1 hr2
  | callbackAck =>
    rw [onFlushedOk_eq] at ho ⊢
    exact ⟨ho, hi.covInst, hi.covOpened⟩
  | _ => exact ⟨ho, hi.covInst, hi.covOpened⟩

theorem invO_reach {c : Cfg} {s : St} (h : ReachO c s) : InvO s ∧ Inv s := by
  obtain ⟨evs, h⟩ := h
  rw [runO_eq] at h
  exact stepG_induct (P := fun s => InvO s ∧ Inv s)
    (fun _ _ _ hi hok hs => ⟨invO_step hi.1 hi.2 hok hs, inv_step hi.2 hs⟩) evs _ _ ⟨invO_init, inv_init⟩ h

theorem ReachO.reach {c : Cfg} {s : St} (h : ReachO c s) : Reach c s := by
  obtain ⟨evs, h⟩ := h
  exact .of_guard (runO_eq .. ▸ h)

end Conduit.SrcAck
