import ConduitModel.Proofs.ProvCell

/-!
C15 convergence, the whole plan: `Build(old, c)` is looked at cell by cell (`Proofs/ProvCell`): the
actions it holds for one entity of `c` are the ones `prepare…` returns for it, and run from the
record the old configuration was exported from they leave a record carrying the entity; the
export of a state determines its records and conversely.
-/
namespace Conduit.Ctl

theorem preparePr_cell (v : Variant) (o n : Option ProcCfg) (pt par : Nat) (y : Id)
    (ho : ∀ po, o = some po → po.id = y) (hn : ∀ pn, n = some pn → pn.id = y) :
    ∀ a ∈ preparePr v o n pt par, a.cell = .pr y := by
  intro a ha
  unfold preparePr at ha
  split at ha
  · simp at ha; subst ha; simp [Act.cell, hn _ rfl]
  · simp at ha; subst ha; simp [Act.cell, ho _ rfl]
  · split at ha
    · cases ha
    · split at ha
      · simp at ha; rcases ha with rfl | rfl
        · simp [Act.cell, ho _ rfl]
        · simp [Act.cell, hn _ rfl]
      · simp at ha; subst ha; simp [Act.cell, hn _ rfl]
  · cases ha

theorem prepareCn_cell (o n : Option ConnCfg) (pid : Id) (x : Id)
    (ho : ∀ co, o = some co → co.id = x) (hn : ∀ cn, n = some cn → cn.id = x) :
    ∀ a ∈ prepareCn o n pid, a.cell = .cn x := by
  intro a ha
  unfold prepareCn at ha
  split at ha
  · simp at ha; subst ha; simp [Act.cell, hn _ rfl]
  · simp at ha; subst ha; simp [Act.cell, ho _ rfl]
  · split at ha
    · cases ha
    · split at ha
      · simp at ha; subst ha; simp [Act.cell, hn _ rfl]
      · simp at ha; rcases ha with rfl | rfl
        · simp [Act.cell, ho _ rfl]
        · simp [Act.cell, hn _ rfl]
  · cases ha

theorem preparePl_cell (prov : Nat) (old new : Option PipeCfg) : ∀ a ∈ preparePl prov old new, a.cell = .pls := by
  intro a ha
  unfold preparePl at ha
  split at ha
  · simp at ha; subst ha; rfl
  · simp at ha; subst ha; rfl
  · split at ha
    · cases ha
    · simp at ha; subst ha; rfl
  · cases ha

def PrMatches (r : Pr) (pn : ProcCfg) : Prop :=
  r.plugin = pn.plugin ∧ r.settings = pn.settings ∧ r.workers = pn.workers ∧ r.cond = pn.cond

def CnMatches (r : Cn) (cn : ConnCfg) : Prop :=
  r.typ = cn.typ ∧ r.plugin = cn.plugin ∧ r.name = cn.name ∧ r.settings = cn.settings ∧ r.procs = ids cn.procs

theorem procToCfg_of_matches (v : Variant) (hv : v.condExported = true) (r : Pr) (pn : ProcCfg) (h : PrMatches r pn) :
    procToCfg v pn.id r = pn := by
  obtain ⟨a, b, c, d⟩ := h
  cases pn; simp [procToCfg, hv] at *; exact ⟨a, b, c, d⟩

theorem matches_of_procToCfg (v : Variant) (hv : v.condExported = true) (i : Id) (r : Pr) : PrMatches r (procToCfg v i r) := by
  simp [PrMatches, procToCfg, hv]

theorem exportProcs_ok (v : Variant) (hv : v.condExported = true) (m : Mem) (l : List ProcCfg)
    (h : ∀ pn ∈ l, ∃ r, m.prs pn.id = some r ∧ PrMatches r pn) : exportProcs v m (ids l) = .ok l := by
  induction l with
  | nil => rfl
  | cons pn rest ih =>
    obtain ⟨r, hr, hm⟩ := h pn List.mem_cons_self
    have := ih (fun q hq => h q (List.mem_cons_of_mem _ hq))
    simp only [ids, List.map_cons, exportProcs, hr]
    simp only [ids] at this
    rw [this, procToCfg_of_matches v hv r pn hm]

theorem exportProcs_inv (v : Variant) (m : Mem) : ∀ (idl : List Id) (l : List ProcCfg), exportProcs v m idl = .ok l →
    ids l = idl ∧ ∀ pn ∈ l, ∃ r, m.prs pn.id = some r ∧ pn = procToCfg v pn.id r := by
  intro idl
  induction idl with
  | nil => intro l h; simp [exportProcs] at h; subst h; exact ⟨rfl, by simp⟩
  | cons i rest ih =>
    intro l h
    simp only [exportProcs] at h
    cases hr : m.prs i with
    | none => simp [hr] at h
    | some r =>
      simp only [hr] at h
      cases he : exportProcs v m rest with
      | error e => simp [he] at h
      | ok l' =>
        simp only [he] at h
        have : l = procToCfg v i r :: l' := by injection h with h; exact h.symm
        subst this
        obtain ⟨a, b⟩ := ih l' he
        refine ⟨by simp [ids, procToCfg] at a ⊢; exact a, ?_⟩
        intro pn hpn
        rcases List.mem_cons.1 hpn with rfl | hpn
        · exact ⟨r, by simpa [procToCfg] using hr, by simp [procToCfg]⟩
        · exact b pn hpn

theorem exportConns_ok (v : Variant) (hv : v.condExported = true) (m : Mem) (l : List ConnCfg)
    (h : ∀ cn ∈ l, (∃ r, m.cns cn.id = some r ∧ CnMatches r cn) ∧ ∀ pn ∈ cn.procs, ∃ q, m.prs pn.id = some q ∧ PrMatches q pn) :
    exportConns v m (cids l) = .ok l := by
  induction l with
  | nil => rfl
  | cons cn rest ih =>
    obtain ⟨⟨r, hr, a1, a2, a3, a4, a5⟩, hp⟩ := h cn List.mem_cons_self
    have := ih (fun q hq => h q (List.mem_cons_of_mem _ hq))
    have hprocs := exportProcs_ok v hv m cn.procs hp
    simp only [cids, List.map_cons, exportConns, hr]
    simp only [cids] at this
    rw [a5, hprocs]
    simp only [this]
    cases cn; simp at *; exact ⟨a1, a2, a3, a4⟩

theorem exportConns_inv (v : Variant) (m : Mem) : ∀ (idl : List Id) (l : List ConnCfg), exportConns v m idl = .ok l →
    cids l = idl ∧ ∀ cn ∈ l, ∃ r, m.cns cn.id = some r ∧ CnMatches r cn ∧ ∀ pn ∈ cn.procs, ∃ q, m.prs pn.id = some q ∧ pn = procToCfg v pn.id q := by
  intro idl
  induction idl with
  | nil => intro l h; simp [exportConns] at h; subst h; exact ⟨rfl, by simp⟩
  | cons i rest ih =>
    intro l h
    simp only [exportConns] at h
    cases hr : m.cns i with
    | none => simp [hr] at h
    | some r =>
      simp only [hr] at h
      cases hp : exportProcs v m r.procs with
      | error e => simp [hp] at h
      | ok ps =>
        simp only [hp] at h
        cases he : exportConns v m rest with
        | error e => simp [he] at h
        | ok l' =>
          simp only [he] at h
          injection h with h
          subst h
          obtain ⟨a, b⟩ := ih l' he
          obtain ⟨p1, p2⟩ := exportProcs_inv v m r.procs ps hp
          refine ⟨by simp [cids] at a ⊢; exact a, ?_⟩
          intro cn hcn
          rcases List.mem_cons.1 hcn with rfl | hcn
          · exact ⟨r, hr, ⟨rfl, rfl, rfl, rfl, p1.symm⟩, p2⟩
          · exact b cn hcn

/-- the references below pipeline `pid` are intact: its connectors exist and point back to it,
their processors and the pipeline's processors exist and point back to their parent. (The
downward half of the C14 invariant `Refs`, for one pipeline.) -/
structure PlRefs (m : Mem) (pid : Id) : Prop where
  conn : ∀ p cid, m.pls pid = some p → cid ∈ p.conns → ∃ r, m.cns cid = some r ∧ r.pipeline = pid ∧
           ∀ rid ∈ r.procs, ∃ q, m.prs rid = some q ∧ q.ptype = 1 ∧ q.parent = cid
  proc : ∀ p rid, m.pls pid = some p → rid ∈ p.procs → ∃ q, m.prs rid = some q ∧ q.ptype = 2 ∧ q.parent = pid

theorem plRefs_of_refs (m : Mem) (h : Refs m) (pid : Id) : PlRefs m pid := by
  constructor
  · intro p cid hp hc
    obtain ⟨r, hr, hpp⟩ := h.plConn pid p cid hp hc
    exact ⟨r, hr, hpp, fun rid hrid => h.cnProc cid r rid hr hrid⟩
  · intro p rid hp hr
    exact h.plProc pid p rid hp hr

/-- the memory holds exactly the configuration `c` (on every configuration field). -/
structure Target (m : Mem) (c : PipeCfg) : Prop where
  pl : ∃ p, m.pls c.id = some p ∧ p.name = c.name ∧ p.desc = c.desc ∧ p.dlq = c.dlq ∧
         p.conns = cids c.conns ∧ p.procs = ids c.procs
  cn : ∀ cn ∈ c.conns, ∃ r, m.cns cn.id = some r ∧ CnMatches r cn
  cpr : ∀ cn ∈ c.conns, ∀ pn ∈ cn.procs, ∃ q, m.prs pn.id = some q ∧ PrMatches q pn
  pr : ∀ pn ∈ c.procs, ∃ q, m.prs pn.id = some q ∧ PrMatches q pn

structure TargetRefs (m : Mem) (c : PipeCfg) : Prop where
  cn : ∀ cn ∈ c.conns, ∀ r, m.cns cn.id = some r → r.pipeline = c.id
  cpr : ∀ cn ∈ c.conns, ∀ pn ∈ cn.procs, ∀ q, m.prs pn.id = some q → q.ptype = 1 ∧ q.parent = cn.id
  pr : ∀ pn ∈ c.procs, ∀ q, m.prs pn.id = some q → q.ptype = 2 ∧ q.parent = c.id

theorem plRefs_of_target (m : Mem) (c : PipeCfg) (h : Target m c) (hr : TargetRefs m c) : PlRefs m c.id := by
  obtain ⟨p, hp, _, _, _, a4, a5⟩ := h.pl
  constructor
  · intro p' cid hp' hc
    rw [hp] at hp'; cases hp'
    rw [a4] at hc
    obtain ⟨cn, hcn, rfl⟩ := List.mem_map.1 hc
    obtain ⟨r, hr1, _, _, _, _, e5⟩ := h.cn cn hcn
    refine ⟨r, hr1, hr.cn cn hcn r hr1, ?_⟩
    intro rid hrid
    rw [e5] at hrid
    obtain ⟨pn, hpn, rfl⟩ := List.mem_map.1 hrid
    obtain ⟨q, hq, _⟩ := h.cpr cn hcn pn hpn
    exact ⟨q, hq, hr.cpr cn hcn pn hpn q hq⟩
  · intro p' rid hp' hrid
    rw [hp] at hp'; cases hp'
    rw [a5] at hrid
    obtain ⟨pn, hpn, rfl⟩ := List.mem_map.1 hrid
    obtain ⟨q, hq, _⟩ := h.pr pn hpn
    exact ⟨q, hq, hr.pr pn hpn q hq⟩

theorem exportPl_of_target (v : Variant) (hv : v.condExported = true) (m : Mem) (c : PipeCfg) (h : Target m c) :
    exportPl v m c.id = .ok (some c) := by
  obtain ⟨p, hp, a1, a2, a3, a4, a5⟩ := h.pl
  unfold exportPl
  simp only [hp, a4, a5]
  rw [exportConns_ok v hv m c.conns (fun cn hcn => ⟨h.cn cn hcn, h.cpr cn hcn⟩), exportProcs_ok v hv m c.procs h.pr]
  simp only [a1, a2, a3]

theorem exportPl_inv (v : Variant) (m : Mem) (pid : Id) (o : PipeCfg) (h : exportPl v m pid = .ok (some o)) :
    ∃ p, m.pls pid = some p ∧ o.id = pid ∧ o.name = p.name ∧ o.desc = p.desc ∧ o.dlq = p.dlq ∧
      cids o.conns = p.conns ∧ ids o.procs = p.procs ∧
      (∀ cn ∈ o.conns, ∃ r, m.cns cn.id = some r ∧ CnMatches r cn ∧ ∀ pn ∈ cn.procs, ∃ q, m.prs pn.id = some q ∧ pn = procToCfg v pn.id q) ∧
      (∀ pn ∈ o.procs, ∃ q, m.prs pn.id = some q ∧ pn = procToCfg v pn.id q) := by
  unfold exportPl at h
  cases hp : m.pls pid with
  | none => simp [hp] at h
  | some p =>
    simp only [hp] at h
    cases hc : exportConns v m p.conns with
    | error e => simp [hc] at h
    | ok cs =>
      simp only [hc] at h
      cases hr : exportProcs v m p.procs with
      | error e => simp [hr] at h
      | ok ps =>
        simp only [hr] at h
        injection h with h; injection h with h
        subst h
        obtain ⟨c1, c2⟩ := exportConns_inv v m p.conns cs hc
        obtain ⟨r1, r2⟩ := exportProcs_inv v m p.procs ps hr
        exact ⟨p, rfl, rfl, rfl, rfl, rfl, c1, r1, c2, r2⟩

theorem exportPl_none (v : Variant) (m : Mem) (pid : Id) (h : exportPl v m pid = .ok none) : m.pls pid = none := by
  unfold exportPl at h
  cases hp : m.pls pid with
  | none => rfl
  | some p =>
    simp only [hp] at h
    cases hc : exportConns v m p.conns with
    | error e => simp [hc] at h
    | ok cs =>
      simp only [hc] at h
      cases hr : exportProcs v m p.procs <;> simp [hr] at h

theorem nodup_of_nodupB : ∀ (l : List Id), nodupB l = true → l.Nodup
  | [], _ => List.nodup_nil
  | x :: xs, h => by
    simp [nodupB] at h
    exact List.nodup_cons.2 ⟨h.1, nodup_of_nodupB xs h.2⟩

/-- the flags under which a processor's `Condition` is carried by the import. -/
structure CondOk (v : Variant) : Prop where
  exported : v.condExported = true
  applied : v.condUpdated = true ∨ v.condRecreates = true


def oldConns (old : Option PipeCfg) : List ConnCfg := (old.map (·.conns)).getD []
def oldProcs (old : Option PipeCfg) : List ProcCfg := (old.map (·.procs)).getD []
def oldProcsOf (oc : List ConnCfg) (x : Id) : List ProcCfg := ((findConn oc x).map (·.procs)).getD []
def allProcIds (cs : List ConnCfg) : List Id := cs.flatMap fun x => ids x.procs

/-- the processor list a configuration has under parent `(pt, par)`: of connector `par`, or of the pipeline. -/
def procsAt (cfg : Option PipeCfg) (pt : Nat) (par : Id) : List ProcCfg :=
  if pt = 1 then oldProcsOf (oldConns cfg) par else oldProcs cfg

def PlMatches (p : Pl) (c : PipeCfg) : Prop :=
  p.name = c.name ∧ p.desc = c.desc ∧ p.dlq = c.dlq ∧ p.conns = cids c.conns ∧ p.procs = ids c.procs

/-- A place of a configuration with what the configuration has there: the pipeline record, a connector, or a
processor under its parent. Both configurations of an import are read through their places: the old one for the
deletions (`Slot.del`) and for what memory holds before (`exported_holds`), the new one for the rest of the plan
(`Slot.acts`) and for what memory holds afterwards. -/
inductive Slot where
  | pl (c : PipeCfg)
  | cn (x : ConnCfg)
  | pr (pn : ProcCfg) (pt : Nat) (par : Id)

def Slot.cell : Slot → Cell
  | .pl _ => .pls
  | .cn x => .cn x.id
  | .pr pn .. => .pr pn.id

def Slot.parent : Slot → Nat × Id
  | .pr _ pt par => (pt, par)
  | _ => (0, 0)

/-- in the order the builder visits them. -/
def slots (c : PipeCfg) : List Slot :=
  .pl c :: (c.conns.flatMap fun cn => .cn cn :: cn.procs.map (.pr · 1 cn.id)) ++ c.procs.map (.pr · 2 c.id)

def oslots (old : Option PipeCfg) : List Slot := (old.map slots).getD []

/-- what the builder prepares for a place of the new configuration. -/
def Slot.acts (v : Variant) (prov : Nat) (old : Option PipeCfg) (pid : Id) : Slot → List Act
  | .pl c => preparePl prov old (some c)
  | .cn x => prepareCn (findConn (oldConns old) x.id) (some x) pid
  | .pr pn pt par => preparePr v (findProc (procsAt old pt par) pn.id) (some pn) pt par

/-- and for a place of the old one: its deletion, if `c` has nothing there. -/
def Slot.del (c : PipeCfg) (pid : Id) : Slot → List Act
  | .pl _ => []
  | .cn x => if (findConn c.conns x.id).isNone then [.deleteCn x pid] else []
  | .pr pn pt par => if (findProc (procsAt (some c) pt par) pn.id).isNone then [.deletePr pn pt par] else []

def delActs (old : Option PipeCfg) (c : PipeCfg) : List Act :=
  match old with
  | some o => ((slots o).flatMap (Slot.del c o.id)).reverse
  | none => []

/-- the plan: the deletions, place by place of the old configuration (innermost first), then place by place of the new one. -/
theorem build_split (v : Variant) (prov : Nat) (old : Option PipeCfg) (c : PipeCfg) :
    build v prov old c = delActs old c ++ (slots c).flatMap (Slot.acts v prov old c.id) := by
  have hn : buildNew v prov old c = (slots c).flatMap (Slot.acts v prov old c.id) := by
    simp [buildNew, slots, Slot.acts, procsAt, oldProcsOf, oldConns, oldProcs, List.flatMap_append, List.flatMap_cons, List.flatMap_map,
      List.flatMap_assoc]
  have ho : ∀ o, buildOldFwd v o (some c) = (slots o).flatMap (Slot.del c o.id) := fun o => by
    simp [buildOldFwd, slots, Slot.del, procsAt, oldProcsOf, oldConns, oldProcs, prepareCn, preparePr, List.flatMap_append,
      List.flatMap_cons, List.flatMap_map, List.flatMap_assoc]
  cases old <;> simp only [build, delActs, hn, ho]

theorem Slot.acts_cell (v : Variant) (prov : Nat) (old : Option PipeCfg) (pid : Id) (s : Slot) :
    ∀ a ∈ s.acts v prov old pid, a.cell = s.cell := by
  cases s with
  | pl c => exact preparePl_cell prov old (some c)
  | cn x => exact prepareCn_cell _ _ pid x.id (fun co h => (find?_key_some ConnCfg.id h).1) (fun _ h => by cases h; rfl)
  | pr pn pt par =>
    exact preparePr_cell v _ _ pt par pn.id (fun po h => (find?_key_some ProcCfg.id h).1) (fun _ h => by cases h; rfl)

theorem mem_slots {c : PipeCfg} {s : Slot} : s ∈ slots c ↔
    s = .pl c ∨ (∃ cn ∈ c.conns, s = .cn cn ∨ ∃ pn ∈ cn.procs, .pr pn 1 cn.id = s) ∨ ∃ pn ∈ c.procs, .pr pn 2 c.id = s := by
  simp [slots]

/-- the entity of the slot is in memory as the configuration has it, under its parent (`pid`: the pipeline). -/
def Slot.Holds (pid : Id) : Slot → Mem → Prop
  | .pl c, μ => ∃ p, μ.pls pid = some p ∧ PlMatches p c
  | .cn x, μ => ∃ r, μ.cns x.id = some r ∧ CnMatches r x ∧ r.pipeline = pid
  | .pr pn pt par, μ => ∃ q, μ.prs pn.id = some q ∧ PrMatches q pn ∧ q.ptype = pt ∧ q.parent = par

theorem Slot.Holds.same {pid : Id} {s : Slot} {μ μ' : Mem} (h : s.cell.Same μ μ') (hs : s.Holds pid μ) : s.Holds pid μ' := by
  cases s with
  | pl c => obtain ⟨p, hp, hm⟩ := hs; exact ⟨p, by rw [h.1]; exact hp, hm⟩
  | cn x => obtain ⟨r, hr, hm⟩ := hs; exact ⟨r, (show μ'.cns x.id = μ.cns x.id from h).trans hr, hm⟩
  | pr pn pt par => obtain ⟨q, hq, hm⟩ := hs; exact ⟨q, (show μ'.prs pn.id = μ.prs pn.id from h).trans hq, hm⟩

/-- what memory holds in one cell has one parent. -/
theorem Slot.Holds.parent {pid : Id} {s s' : Slot} {μ : Mem} (h : s.Holds pid μ) (h' : s'.Holds pid μ) (e : s.cell = s'.cell) :
    s.parent = s'.parent := by
  cases s <;> cases s' <;> simp only [Slot.cell, reduceCtorEq, Cell.pr.injEq] at e <;> try rfl
  obtain ⟨q, hq, _, a, b⟩ := h
  obtain ⟨q', hq', _, a', b'⟩ := h'
  rw [e, hq'] at hq; cases hq
  subst a b a' b'; rfl

/-- The action(s) prepared for one desired processor `pn`, run from a memory that holds what the old configuration
has at its place: they succeed and leave `pn` there. -/
theorem procOne (v : Variant) (hc : CondOk v) (pid : Id) (pt par : Nat) (fo : Option ProcCfg) (pn : ProcCfg) (μ : Mem)
    (hval : procCfgValid pn = true) (hfo : ∀ po, fo = some po → po.id = pn.id ∧ (Slot.pr po pt par).Holds pid μ) :
    PreAll v μ (preparePr v fo (some pn) pt par) ∧ (Slot.pr pn pt par).Holds pid (effAll v μ (preparePr v fo (some pn) pt par)) := by
  simp [procCfgValid] at hval
  obtain ⟨hknown, hw⟩ := hval
  have hw0 : ¬ pn.workers = 0 := by omega
  have hcreate : Act.pre v (.createPr pn pt par) μ := ⟨by omega, hknown⟩
  have hcreated : ∀ μ' : Mem, ∃ q, (Act.eff v (.createPr pn pt par) μ').prs pn.id = some q ∧ PrMatches q pn ∧ q.ptype = pt ∧ q.parent = par := by
    intro μ'
    refine ⟨{ plugin := pn.plugin, settings := pn.settings, workers := if pn.workers = 0 then 1 else pn.workers,
              cond := pn.cond, ptype := pt, parent := par, prov := 1 }, by simp [Act.eff, Map.set], ?_, rfl, rfl⟩
    simp [PrMatches, hw0]
  cases fo with
  | none => exact ⟨⟨hcreate, trivial⟩, hcreated μ⟩
  | some po =>
    obtain ⟨hid, q, hq, hm, hpt, hpar⟩ := hfo po rfl
    rw [hid] at hq
    unfold preparePr
    by_cases heq : po = pn
    · simp only [heq, if_true]
      exact ⟨trivial, q, hq, by rw [heq] at hm; exact hm, hpt, hpar⟩
    · simp only [heq, if_false]
      by_cases hre : v.condRecreates = true ∧ po.cond ≠ pn.cond
      · rw [if_pos hre]
        exact ⟨⟨trivial, hcreate, trivial⟩, hcreated _⟩
      · rw [if_neg hre]
        have hpl : pn.plugin ≠ 0 := by intro e; simp [prPluginKnown, e] at hknown
        refine ⟨⟨⟨by rw [hq]; rfl, hpl⟩, trivial⟩, ?_⟩
        simp only [effAll, Act.eff, Slot.Holds]
        rw [updPr_prs, hq]
        refine ⟨_, rfl, ⟨rfl, rfl, rfl, ?_⟩, hpt, hpar⟩
        -- the condition: passed by the update, or unchanged because a change would have re-created
        by_cases hu : v.condUpdated = true
        · simp [hu]
        · have hr : v.condRecreates = true := by rcases hc.applied with h | h; exact absurd h hu; exact h
          have : po.cond = pn.cond := Decidable.byContradiction fun e => hre ⟨hr, e⟩
          simp [hu]; rw [hm.2.2.2, this]

theorem connOne (v : Variant) (hcopies : v.updConnCopies = true) (pid : Id) (fo : Option ConnCfg) (cn : ConnCfg) (μ : Mem)
    (hval : connCfgValid cn = true) (hfo : ∀ co, fo = some co → co.id = cn.id ∧ (Slot.cn co).Holds pid μ) :
    PreAll v μ (prepareCn fo (some cn) pid) ∧ (Slot.cn cn).Holds pid (effAll v μ (prepareCn fo (some cn) pid)) := by
  simp [connCfgValid] at hval
  obtain ⟨⟨⟨⟨htyp, hpl⟩, hn0⟩, hn99⟩, _⟩ := hval
  have hcreate : ∀ μ' : Mem, Act.pre v (.createCn cn pid) μ' := fun _ => ⟨hn0, hn99, hpl, htyp⟩
  have hcreated : ∀ μ' : Mem, ∃ r, (Act.eff v (.createCn cn pid) μ').cns cn.id = some r ∧ CnMatches r cn ∧ r.pipeline = pid := by
    intro μ'
    refine ⟨{ typ := cn.typ, plugin := cn.plugin, name := cn.name, settings := cn.settings, pipeline := pid, prov := 1,
              state := 0, procs := ids cn.procs }, by simp [Act.eff, Map.set], ?_, rfl⟩
    simp [CnMatches]
  cases fo with
  | none => exact ⟨⟨hcreate μ, trivial⟩, hcreated μ⟩
  | some co =>
    obtain ⟨hid, r, hr, ⟨a1, a2, a3, a4, a5⟩, hpp⟩ := hfo co rfl
    rw [hid] at hr
    unfold prepareCn
    dsimp only
    by_cases heq : co.id = cn.id ∧ co.typ = cn.typ ∧ co.plugin = cn.plugin ∧ co.name = cn.name ∧
        co.settings = cn.settings ∧ co.procs.map (·.id) = cn.procs.map (·.id)
    · rw [if_pos heq]
      obtain ⟨_, b1, b2, b3, b4, b5⟩ := heq
      exact ⟨trivial, r, hr, ⟨by rw [← b1]; exact a1, by rw [← b2]; exact a2, by rw [← b3]; exact a3,
        by rw [← b4]; exact a4, by rw [a5]; exact b5⟩, hpp⟩
    · rw [if_neg heq]
      by_cases hup : co.id = cn.id ∧ co.typ = cn.typ
      · rw [if_pos hup]
        refine ⟨⟨⟨by rw [hr]; rfl, hcopies⟩, trivial⟩, ?_⟩
        simp only [effAll, Act.eff, Slot.Holds]
        rw [updCn_cns, hr]
        exact ⟨_, rfl, ⟨by rw [← hup.2]; exact a1, rfl, rfl, rfl, rfl⟩, hpp⟩
      · rw [if_neg hup]
        exact ⟨⟨trivial, hcreate _, trivial⟩, hcreated _⟩

theorem plOne (v : Variant) (prov : Nat) (μ : Mem) (c : PipeCfg) (old : Option PipeCfg)
    (hnone : old = none → μ.pls c.id = none) (hsome : ∀ o, old = some o → o.id = c.id ∧ (Slot.pl o).Holds c.id μ)
    (hn0 : c.name ≠ 0) (hn99 : c.name ≠ 99)
    (hnames : μ.names c.name = true → ∃ p, μ.pls c.id = some p ∧ p.name = c.name) (hdlq : dlqValid c.dlq = true) :
    PreAll v μ (preparePl prov old (some c)) ∧ (Slot.pl c).Holds c.id (effAll v μ (preparePl prov old (some c))) := by
  constructor
  · cases old with
    | none =>
      have hfree : μ.names c.name = false := by
        cases hx : μ.names c.name with
        | false => rfl
        | true => obtain ⟨p, hp, _⟩ := hnames hx; rw [hnone rfl] at hp; cases hp
      exact ⟨⟨by simp [plValid, hn0, hn99, hfree], hdlq⟩, trivial⟩
    | some o =>
      obtain ⟨_, p, hp, _⟩ := hsome o rfl
      unfold preparePl; dsimp only
      split
      · trivial
      · refine ⟨⟨p, hp, hn0, ?_, hdlq⟩, trivial⟩
        rintro ⟨hx, hne⟩
        obtain ⟨p', hp', e⟩ := hnames hx
        rw [hp] at hp'; cases hp'; exact hne e
  · cases old with
    | none =>
      refine ⟨_, by simp [preparePl, effAll, Act.eff, Map.set]; rfl, rfl, rfl, rfl, rfl, rfl⟩
    | some o =>
      obtain ⟨_, p, hp, e1, e2, e3, e4, e5⟩ := hsome o rfl
      unfold preparePl; dsimp only
      split
      · rename_i heq
        obtain ⟨_, b1, b2, b3, b4, b5⟩ := heq
        exact ⟨p, hp, e1.trans b1, e2.trans b2, e3.trans b3, e4.trans b4, e5.trans b5⟩
      · simp only [effAll, Act.eff, hp]
        exact ⟨_, by simp [Map.set]; rfl, rfl, rfl, rfl, rfl, rfl⟩

theorem filter_cell_nil {L : List Act} {c : Cell} (h : ∀ a ∈ L, a.cell ≠ c) : L.filter (·.cell = c) = [] :=
  List.filter_eq_nil_iff.2 fun a ha => by simpa using h a ha

theorem filter_cell_self {L : List Act} {c : Cell} (h : ∀ a ∈ L, a.cell = c) : L.filter (·.cell = c) = L :=
  List.filter_eq_self.2 fun a ha => by simpa using h a ha

/-- Of segments that each hold one cell, the cells pairwise distinct, a segment is the sublist of its cell. -/
theorem filter_flatMap_one {β} (cell : β → Cell) (f : β → List Act) (hf : ∀ b, ∀ a ∈ f b, a.cell = cell b) : ∀ bs : List β,
    bs.Pairwise (fun b b' => cell b ≠ cell b') → ∀ b ∈ bs, (bs.flatMap f).filter (·.cell = cell b) = f b := by
  intro bs
  induction bs with
  | nil => nofun
  | cons x r ih =>
    intro hp b hb
    obtain ⟨hx, hr⟩ := List.pairwise_cons.1 hp
    rw [List.flatMap_cons, List.filter_append]
    rcases List.mem_cons.1 hb with rfl | hb
    · rw [filter_cell_self (hf b), filter_cell_nil, List.append_nil]
      intro a ha e
      obtain ⟨b', hb', ha⟩ := List.mem_flatMap.1 ha
      exact hx b' hb' ((hf b' a ha).symm.trans e).symm
    · rw [filter_cell_nil fun a ha e => hx b hb ((hf x a ha).symm.trans e), List.nil_append]
      exact ih hr b hb

theorem preAll_of_always (v : Variant) (L : List Act) (h : ∀ a ∈ L, ∀ μ, a.pre v μ) : ∀ m, PreAll v m L := by
  induction L with
  | nil => intro _; trivial
  | cons a r ih => intro m; exact ⟨h a List.mem_cons_self m, ih (fun b hb => h b (List.mem_cons_of_mem _ hb)) _⟩

theorem slots_cells (c : PipeCfg) (hndc : (cids c.conns).Nodup)
    (hndall : (allProcIds c.conns ++ ids c.procs).Nodup) : (slots c).Pairwise fun s s' => s.cell ≠ s'.cell := by
  obtain ⟨hcp, hp, hdisj⟩ := List.nodup_append.1 hndall
  obtain ⟨hcp1, hcp2⟩ := List.pairwise_flatMap.1 hcp
  unfold slots
  refine List.pairwise_cons.2 ⟨fun s hs e => ?_, List.pairwise_append.2 ⟨List.pairwise_flatMap.2 ⟨fun cn hcn => ?_, ?_⟩, ?_, ?_⟩⟩
  · rcases List.mem_append.1 hs with hs | hs
    · obtain ⟨_, _, hs⟩ := List.mem_flatMap.1 hs
      rcases List.mem_cons.1 hs with rfl | hs
      · cases e
      · obtain ⟨_, _, rfl⟩ := List.mem_map.1 hs; cases e
    · obtain ⟨_, _, rfl⟩ := List.mem_map.1 hs; cases e
  · refine List.pairwise_cons.2 ⟨fun s hs e => ?_, List.pairwise_map.2 ((List.pairwise_map.1 (hcp1 cn hcn)).imp fun h e => h (Cell.pr.inj e))⟩
    obtain ⟨_, _, rfl⟩ := List.mem_map.1 hs
    cases e
  · refine ((List.pairwise_map.1 hndc).and hcp2).imp fun {cn cn'} ⟨h1, h2⟩ s hs s' hs' e => ?_
    rcases List.mem_cons.1 hs with rfl | hs <;> rcases List.mem_cons.1 hs' with rfl | hs'
    · exact h1 (Cell.cn.inj e)
    · obtain ⟨_, _, rfl⟩ := List.mem_map.1 hs'; cases e
    · obtain ⟨_, _, rfl⟩ := List.mem_map.1 hs; cases e
    · obtain ⟨pn, hpn, rfl⟩ := List.mem_map.1 hs
      obtain ⟨pn', hpn', rfl⟩ := List.mem_map.1 hs'
      exact h2 _ (List.mem_map_of_mem hpn) _ (List.mem_map_of_mem hpn') (Cell.pr.inj e)
  · exact List.pairwise_map.2 ((List.pairwise_map.1 hp).imp fun h e => h (Cell.pr.inj e))
  · intro s hs s' hs' e
    obtain ⟨pn', hpn', rfl⟩ := List.mem_map.1 hs'
    obtain ⟨cn, hcn, hs⟩ := List.mem_flatMap.1 hs
    rcases List.mem_cons.1 hs with rfl | hs
    · cases e
    · obtain ⟨pn, hpn, rfl⟩ := List.mem_map.1 hs
      exact hdisj _ (List.mem_flatMap.2 ⟨_, hcn, List.mem_map_of_mem hpn⟩) _ (List.mem_map_of_mem hpn') (Cell.pr.inj e)

structure CfgValid (m : Mem) (c : PipeCfg) : Prop where
  name0 : c.name ≠ 0
  name99 : c.name ≠ 99
  nameFree : m.names c.name = true → ∃ p, m.pls c.id = some p ∧ p.name = c.name
  dlq : dlqValid c.dlq = true
  conns : ∀ cn ∈ c.conns, connCfgValid cn = true
  procs : ∀ pn ∈ c.procs, procCfgValid pn = true
  connIds : (cids c.conns).Nodup
  procIds : (allProcIds c.conns ++ ids c.procs).Nodup

theorem cfgValid_parts (m : Mem) (c : PipeCfg) (h : cfgValid m c = true) : CfgValid m c := by
  unfold cfgValid at h
  simp only [Bool.and_eq_true, Bool.or_eq_true, Bool.not_eq_true', decide_eq_true_eq, List.all_eq_true] at h
  obtain ⟨⟨⟨⟨⟨⟨⟨a1, a2⟩, a3⟩, a4⟩, a5⟩, a6⟩, a7⟩, a8⟩ := h
  refine ⟨a1, a2, ?_, a4, a5, a6, nodup_of_nodupB _ a7, nodup_of_nodupB _ a8⟩
  intro hn
  rcases a3 with a3 | a3
  · rw [hn] at a3; cases a3
  · cases hp : m.pls c.id with
    | none => rw [hp] at a3; cases a3
    | some p => rw [hp] at a3; exact ⟨p, rfl, by simpa using a3⟩

theorem slots_pr {c : PipeCfg} {pn : ProcCfg} {pt : Nat} {par : Id} (hs : .pr pn pt par ∈ slots c) :
    (pt = 1 ∨ pt = 2 ∧ par = c.id) ∧ ((cids c.conns).Nodup → pn ∈ procsAt (some c) pt par) := by
  rcases mem_slots.1 hs with h | ⟨cn, hcn, h | ⟨_, hpn, h⟩⟩ | ⟨_, hpn, h⟩ <;> cases h
  · exact ⟨.inl rfl, fun hnd => by simpa [procsAt, oldProcsOf, oldConns, find_self_conn _ hnd cn hcn] using hpn⟩
  · exact ⟨.inr ⟨rfl, rfl⟩, fun _ => hpn⟩

theorem slots_cn {c : PipeCfg} {x : ConnCfg} (hs : .cn x ∈ slots c) : x ∈ c.conns := by
  rcases mem_slots.1 hs with h | ⟨cn, hcn, h | ⟨_, _, h⟩⟩ | ⟨_, _, h⟩ <;> cases h
  exact hcn

/-- `Export` reads the configuration off memory: with the references below the pipeline intact, memory holds
every place of the exported configuration. -/
theorem exported_holds (v : Variant) (hv : v.condExported = true) (m : Mem) (pid : Id) (old : Option PipeCfg) (h : PlRefs m pid)
    (hex : exportPl v m pid = .ok old) : (∀ o, old = some o → o.id = pid) ∧ ∀ s ∈ oslots old, s.Holds pid m := by
  cases old with
  | none => exact ⟨nofun, nofun⟩
  | some o =>
    obtain ⟨p, hp, hid, e1, e2, e3, hcn, hpr, hcs, hps⟩ := exportPl_inv v m pid o hex
    refine ⟨fun _ e => by cases e; exact hid, fun s hs => ?_⟩
    have pr : ∀ po q, m.prs po.id = some q → po = procToCfg v po.id q → PrMatches q po := fun po q _ e => by
      have := matches_of_procToCfg v hv po.id q; rwa [← e] at this
    rcases mem_slots.1 hs with rfl | ⟨co, hco, rfl | ⟨po, hpo, rfl⟩⟩ | ⟨po, hpo, rfl⟩
    · exact ⟨p, hp, e1.symm, e2.symm, e3.symm, hcn.symm, hpr.symm⟩
    · obtain ⟨r, hr, hm, _⟩ := hcs co hco
      obtain ⟨r', hr', hpp, _⟩ := h.conn p co.id hp (by rw [← hcn]; exact List.mem_map_of_mem hco)
      rw [hr] at hr'; cases hr'
      exact ⟨r, hr, hm, hpp⟩
    · obtain ⟨r, hr, hm, hq⟩ := hcs co hco
      obtain ⟨r', hr', _, hrp⟩ := h.conn p co.id hp (by rw [← hcn]; exact List.mem_map_of_mem hco)
      rw [hr] at hr'; cases hr'
      obtain ⟨q, hq1, hq2⟩ := hq po hpo
      obtain ⟨q', hq', a, b⟩ := hrp po.id (by rw [hm.2.2.2.2]; exact List.mem_map_of_mem hpo)
      rw [hq1] at hq'; cases hq'
      exact ⟨q, hq1, pr po q hq1 hq2, a, b⟩
    · obtain ⟨q, hq1, hq2⟩ := hps po hpo
      obtain ⟨q', hq', a, b⟩ := h.proc p po.id hp (by rw [← hpr]; exact List.mem_map_of_mem hpo)
      rw [hq1] at hq'; cases hq'
      exact ⟨q, hq1, pr po q hq1 hq2, a, b.trans hid.symm⟩

/-- what the builder finds in the old configuration for a place of `c` is a place of the old configuration, in the
same cell under the same parent. -/
theorem found_slot (old : Option PipeCfg) (c : PipeCfg) (hid : ∀ o, old = some o → o.id = c.id) :
    (∀ (x : ConnCfg) co, findConn (oldConns old) x.id = some co → .cn co ∈ oslots old ∧ co.id = x.id) ∧
    (∀ pn pt par po, .pr pn pt par ∈ slots c → findProc (procsAt old pt par) pn.id = some po →
      .pr po pt par ∈ oslots old ∧ po.id = pn.id) := by
  cases old with
  | none => simp [oldConns, oldProcs, procsAt, oldProcsOf, findConn, findProc]
  | some o =>
    refine ⟨fun x co hf => ?_, fun pn pt par po hs hf => ?_⟩
    · obtain ⟨e, hin⟩ := find?_key_some ConnCfg.id (show findConn o.conns x.id = some co from hf)
      exact ⟨mem_slots.2 (.inr (.inl ⟨co, hin, .inl rfl⟩)), e⟩
    · obtain ⟨e, hin⟩ := find?_key_some ProcCfg.id hf
      refine ⟨mem_slots.2 ?_, e⟩
      rcases (slots_pr hs).1 with rfl | ⟨rfl, rfl⟩
      · cases hfc : findConn o.conns par with
        | none => simp [procsAt, oldProcsOf, oldConns, hfc] at hin
        | some co =>
          obtain ⟨e', hco⟩ := find?_key_some ConnCfg.id hfc
          exact .inr (.inl ⟨co, hco, .inr ⟨po, by simpa [procsAt, oldProcsOf, oldConns, hfc] using hin, by rw [e']⟩⟩)
      · exact .inr (.inr ⟨po, by simpa [procsAt, oldProcs] using hin, by rw [hid o rfl]⟩)

def Act.deletes : Act → Bool
  | .deleteCn .. | .deletePr .. => true
  | _ => false

theorem Act.deletes_cell {a : Act} (h : a.deletes = true) : a.cell ≠ .pls := by
  cases a <;> simp [Act.deletes] at h <;> simp [Act.cell]

/-- The deletion pass: an action of it always succeeds and deletes what the old configuration has at a place where
`c` has nothing (with distinct connector ids, no place of `c` in that cell has the same parent). -/
theorem delActs_mem (v : Variant) (old : Option PipeCfg) (c : PipeCfg) : ∀ a ∈ delActs old c,
    (∀ μ, a.pre v μ) ∧ a.deletes = true ∧ ∃ so ∈ oslots old, a.cell = so.cell ∧
      ((cids c.conns).Nodup → ∀ s ∈ slots c, s.cell = so.cell → s.parent ≠ so.parent) := by
  cases old with
  | none => nofun
  | some o =>
    intro a ha
    obtain ⟨so, hso, ha⟩ := List.mem_flatMap.1 (List.mem_reverse.1 ha)
    cases so with
    | pl _ => cases ha
    | cn x =>
      simp only [Slot.del] at ha
      split at ha
      · rename_i hn
        cases List.mem_singleton.1 ha
        refine ⟨fun _ => trivial, rfl, _, hso, rfl, fun _ s hs e _ => ?_⟩
        cases s with
        | cn x' => exact (find?_key_none ConnCfg.id).1 (Option.isNone_iff_eq_none.1 hn) x' (slots_cn hs) (Cell.cn.inj e)
        | _ => cases e
      · cases ha
    | pr pn pt par =>
      simp only [Slot.del] at ha
      split at ha
      · rename_i hn
        cases List.mem_singleton.1 ha
        refine ⟨fun _ => trivial, rfl, _, hso, rfl, fun hndc s hs e ep => ?_⟩
        cases s with
        | pr pn' pt' par' =>
          cases ep
          exact (find?_key_none ProcCfg.id).1 (Option.isNone_iff_eq_none.1 hn) pn' ((slots_pr hs).2 hndc) (Cell.pr.inj e)
        | _ => cases e
      · cases ha

/-- what the convergence theorem assumes of code variant, state and configuration. -/
structure ConvReady (v : Variant) (m : Mem) (c : PipeCfg) (old : Option PipeCfg) : Prop where
  cond : CondOk v
  copies : v.updConnCopies = true
  exp : exportPl v m c.id = .ok old
  valid : cfgValid m c = true
  refs : PlRefs m c.id

theorem holds_target {m : Mem} {c : PipeCfg} (h : ∀ s ∈ slots c, s.Holds c.id m) : Target m c ∧ TargetRefs m c := by
  have fcn := fun cn (hcn : cn ∈ c.conns) => h (.cn cn) (mem_slots.2 (.inr (.inl ⟨cn, hcn, .inl rfl⟩)))
  have fcp := fun cn (hcn : cn ∈ c.conns) pn (hpn : pn ∈ cn.procs) => h (.pr pn 1 cn.id)
    (mem_slots.2 (.inr (.inl ⟨cn, hcn, .inr ⟨pn, hpn, rfl⟩⟩)))
  have fpr := fun pn (hpn : pn ∈ c.procs) => h (.pr pn 2 c.id) (mem_slots.2 (.inr (.inr ⟨pn, hpn, rfl⟩)))
  refine ⟨⟨h (.pl c) List.mem_cons_self, ?_, ?_, ?_⟩, ⟨?_, ?_, ?_⟩⟩
  · intro cn h'
    obtain ⟨r, a, b, _⟩ := fcn cn h'; exact ⟨r, a, b⟩
  · intro cn h' pn hpn
    obtain ⟨q, a, b, _⟩ := fcp cn h' pn hpn; exact ⟨q, a, b⟩
  · intro pn hpn
    obtain ⟨q, a, b, _⟩ := fpr pn hpn; exact ⟨q, a, b⟩
  · intro cn h' r hr
    obtain ⟨r', a, _, b⟩ := fcn cn h'; rw [a] at hr; cases hr; exact b
  · intro cn h' pn hpn q hq
    obtain ⟨q', a, _, b⟩ := fcp cn h' pn hpn; rw [a] at hq; cases hq; exact b
  · intro pn hpn q hq
    obtain ⟨q', a, _, b⟩ := fpr pn hpn; rw [a] at hq; cases hq; exact b

/-- The import on memory, in general: from a memory that holds the configuration `old` at its places — however that
came about —, every action of `Build(old, c)` has its precondition when its turn comes, and the memory after all of
them holds `c` at its places. -/
theorem import_holds (v : Variant) (prov : Nat) (m : Mem) (c : PipeCfg) (old : Option PipeCfg) (hc : CondOk v)
    (hcp : v.updConnCopies = true) (hv : cfgValid m c = true) (hnone : old = none → m.pls c.id = none)
    (hid : ∀ o, old = some o → o.id = c.id) (hold : ∀ s ∈ oslots old, s.Holds c.id m) :
    PreAll v m (build v prov old c) ∧ ∀ s ∈ slots c, s.Holds c.id (effAll v m (build v prov old c)) := by
  have V := cfgValid_parts m c hv
  obtain ⟨fcn, fpr⟩ := found_slot old c hid
  have hD := delActs_mem v old c
  let μ0 := effAll v m (delActs old c)
  -- the deletions leave alone what the old configuration has at a place of `c`: a deletion in that cell would be of
  -- an entity under the same parent (memory holds both), which `c` has
  have old_at : ∀ s ∈ slots c, ∀ so ∈ oslots old, so.cell = s.cell → so.parent = s.parent → so.Holds c.id μ0 := by
    intro s hs so hso ec ep
    refine .same (effAll_skip v so.cell _ (fun a ha e => ?_) m) (hold so hso)
    obtain ⟨_, _, sd, hsd, ea, hno⟩ := hD a ha
    exact hno V.connIds s hs (ec.symm.trans (e.symm.trans ea))
      (ep.symm.trans ((hold so hso).parent (hold sd hsd) (e.symm.trans ea)))
  -- each slot's actions, run from there
  have one : ∀ s ∈ slots c, PreAll v μ0 (s.acts v prov old c.id) ∧ s.Holds c.id (effAll v μ0 (s.acts v prov old c.id)) := by
    intro s hs
    rcases mem_slots.1 hs with rfl | ⟨cn, hcn, rfl | ⟨pn, hpn, rfl⟩⟩ | ⟨pn, hpn, rfl⟩
    · obtain ⟨kpl, knm⟩ : μ0.pls = m.pls ∧ μ0.names = m.names := effAll_skip v .pls _ (fun a ha => Act.deletes_cell (hD a ha).2.1) m
      exact plOne v prov μ0 c old (fun e => by rw [kpl]; exact hnone e)
        (fun o e => ⟨hid o e, old_at _ hs (.pl o) (by subst e; exact List.mem_cons_self) rfl rfl⟩)
        V.name0 V.name99 (by rw [kpl, knm]; exact V.nameFree) V.dlq
    · exact connOne v hcp c.id _ cn μ0 (V.conns cn hcn) fun co hf =>
        let ⟨h1, h2⟩ := fcn cn co hf; ⟨h2, old_at _ hs _ h1 (congrArg Cell.cn h2) rfl⟩
    · have hval : procCfgValid pn = true := by
        have := V.conns cn hcn
        simp [connCfgValid] at this; exact this.2 pn hpn
      exact procOne v hc c.id 1 cn.id _ pn μ0 hval fun po hf =>
        let ⟨h1, h2⟩ := fpr pn 1 cn.id po hs hf; ⟨h2, old_at _ hs _ h1 (congrArg Cell.pr h2) rfl⟩
    · exact procOne v hc c.id 2 c.id _ pn μ0 (V.procs pn hpn) fun po hf =>
        let ⟨h1, h2⟩ := fpr pn 2 c.id po hs hf; ⟨h2, old_at _ hs _ h1 (congrArg Cell.pr h2) rfl⟩
  -- the rest of the plan is the product of these
  have seg := filter_flatMap_one Slot.cell _ (Slot.acts_cell v prov old c.id) _ (slots_cells c V.connIds V.procIds)
  rw [build_split, preAll_append, effAll_append]
  refine ⟨⟨preAll_of_always v _ (fun a ha => (hD a ha).1) m, preAll_cells v _ μ0 fun a ha => ?_⟩, fun s hs =>
    .same (seg s hs ▸ effAll_cell v s.cell _ μ0) (one s hs).2⟩
  obtain ⟨s, hs, ha⟩ := List.mem_flatMap.1 ha
  rw [s.acts_cell v prov old c.id a ha, seg s hs]; exact (one s hs).1

theorem converge_mem (v : Variant) (prov : Nat) (m : Mem) (c : PipeCfg) (old : Option PipeCfg)
    (h : ConvReady v m c old) :
    PreAll v m (build v prov old c) ∧ Target (effAll v m (build v prov old c)) c ∧
    TargetRefs (effAll v m (build v prov old c)) c := by
  obtain ⟨hid, hold⟩ := exported_holds v h.cond.exported m c.id old h.refs h.exp
  obtain ⟨hp, hs⟩ := import_holds v prov m c old h.cond h.copies h.valid (fun e => exportPl_none v m c.id (e ▸ h.exp)) hid hold
  exact ⟨hp, holds_target hs⟩

end Conduit.Ctl
