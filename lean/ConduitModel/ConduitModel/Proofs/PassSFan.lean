import ConduitModel.Proofs.PassSPipe

/-!
# Fan-out on batches with split runs

`validateRunsWholeBeforeFanOut` makes every run of the batch whole and untouched; then
`originalBatch()` lists exactly the forwarded keys of the batch (`fan_keys`), `clone()` gives each
branch fresh copies of the runs with the same accounting (`clone_SInv`), and the branches vote
through `.run (.multi id (.run p))`, for which `mContract` applies.
-/
namespace Conduit.Funnel

theorem cnt_zip (r : Nat) : ∀ (rs : List (Option Nat)) (pos : List PosV), rs.length = pos.length →
    cnt r (rs.zip pos) = ((rs.filterMap id).filter (· == r)).length := by
  intro rs
  induction rs with
  | nil => intro pos _; rfl
  | cons x t ih =>
    intro pos hl
    cases pos with
    | nil => simp at hl
    | cons q pt =>
      have hl' : t.length = pt.length := by simpa using hl
      rw [List.zip_cons_cons]
      cases x with
      | none =>
        rw [cnt_cons_none, ih pt hl']
        simp
      | some r2 =>
        rw [cnt_cons_some, ih pt hl']
        by_cases he : r2 = r
        · subst he; simp
        · simp [he]

theorem runsWhole_acc {h : Heap} {rest : Nat → Nat} {b : Batch} (hi : SInv h rest b) (hw : runsWhole h b = true) :
    ∀ r : Nat, 0 < cnt r b.view → (h[r]!).terminal = 0 ∧ rest r = 0 := by
  intro r hr
  obtain ⟨rs, hruns⟩ := hi.runs
  have hro := hi.wf.1.runs_ok
  rw [hruns] at hro
  have hv := Batch.view_of_runs hruns
  have hc := cnt_zip r rs b.pos (by rw [hro.1, hi.wf.1.pos_len])
  rw [← hv] at hc
  obtain ⟨hlt, hok⟩ := hi.acc r hr
  unfold runsWhole at hw
  rw [hruns] at hw
  dsimp only at hw
  rw [List.all_eq_true] at hw
  have hmem : r ∈ rs.filterMap id := by
    have : 0 < ((rs.filterMap id).filter (· == r)).length := by rw [← hc]; exact hr
    obtain ⟨x, hx⟩ := List.exists_mem_of_length_pos this
    have h1 := (List.mem_filter.mp hx).1
    have h2 : x = r := by simpa using (List.mem_filter.mp hx).2
    rw [← h2]; exact h1
  have := hw r hmem
  have hget : h[r]? = some (h[r]!) := by
    simp [getElem!_pos, hlt]
  rw [hget] at this
  simp only [Option.map_some, Option.getD_some, decide_eq_true_eq] at this
  rw [← hc] at this
  have hacc := hok.acc
  omega

theorem maNew_chk_nonnil : ∀ (ps : List PosV) (seen : List Nat), maNew.chk seen ps = none → ∀ p ∈ ps, p ≠ none := by
  intro ps
  induction ps with
  | nil => intro _ _ p hp; cases hp
  | cons q ps ih =>
    intro seen h p hp
    unfold maNew.chk at h
    split at h
    · cases h
    · rename_i hne
      split at h
      · cases h
      · rcases List.mem_cons.mp hp with he | he
        · rw [he]
          intro hq
          apply hne
          rw [hq]; rfl
        · exact ih _ h p he

theorem maNew_nonnil {M : Nat} {ps : List PosV} {m : MA} (h : maNew M ps = .ok m) : ∀ p ∈ ps, p ≠ none := by
  unfold maNew at h
  split at h
  · cases h
  · rename_i hc; exact maNew_chk_nonnil ps [] hc

theorem headKeys_zip : ∀ (rs : List (Option Nat)) (pos : List PosV), rs.length = pos.length →
    headKeys (rs.zip pos) = keys (pos.filter (· != none)) := by
  intro rs
  induction rs with
  | nil => intro pos hl; have : pos = [] := List.length_eq_zero_iff.mp (by simpa using hl.symm); subst this; rfl
  | cons x t ih =>
    intro pos hl
    cases pos with
    | nil => simp at hl
    | cons q pt =>
      have hl' : t.length = pt.length := by simpa using hl
      rw [List.zip_cons_cons]
      cases q with
      | none => simp only [headKeys, ih pt hl']; rfl
      | some k => simp only [headKeys, ih pt hl']; simp [keys]

theorem original_pos {h : Heap} {b : Batch} (hwf : b.WF h) (hs : b.split.length ≠ 0) :
    b.original.pos = b.pos.filter (· != none) := by
  unfold Batch.original
  simp only [hs, if_false]
  show List.map _ (List.filter _ _) = _
  have : ∀ (pos : List PosV) (l : List (Rec × Status)), pos.length = l.length →
      List.map (fun (x : PosV × Rec × Status) => match x with | (p, _, _) => p)
        (List.filter (fun (x : PosV × Rec × Status) => match x with | (p, _) => p != none) (pos.zip l)) =
      pos.filter (· != none) := by
    intro pos
    induction pos with
    | nil => intro l _; rfl
    | cons q pt ih =>
      intro l hl
      cases l with
      | nil => simp at hl
      | cons y lt =>
        rw [List.zip_cons_cons]
        have hl' : pt.length = lt.length := by simpa using hl
        cases q with
        | none => simp [ih lt hl']
        | some k => simp [ih lt hl']
  exact this b.pos (b.recs.zip b.st) (by simp [hwf.1.pos_len, hwf.1.st_len])

theorem clone_ren {h : Heap} {b : Batch} {rs : List (Option Nat)} (hwf : b.WF h) (hruns : b.runs = some rs) :
    ∃ ρ : Nat → Nat,
      (b.clone h).2.view = b.view.map (ren ρ) ∧
      (∀ a c : Nat, a < h.size → c < h.size → ρ a = ρ c → a = c) ∧
      (∀ id : Nat, id < h.size → (b.clone h).1[ρ id]! = h[id]!) ∧
      (∀ id : Nat, 0 < cnt id b.view → h.size ≤ ρ id ∧ ρ id < (b.clone h).1.size) ∧
      (∀ i : Nat, i < h.size → (b.clone h).1[i]! = h[i]!) ∧ h.size ≤ (b.clone h).1.size ∧
      (∀ id : Nat, id < h.size → ρ id < (b.clone h).1.size) ∧
      (b.clone h).2 = { b with runs := some (rs.map (Option.map ρ)) } := by
  obtain ⟨ρ, R⟩ := clone_spec hwf hruns
  have hsz := R.size
  refine ⟨ρ, ?_, R.inj, fun id hid => ?_, fun id hid => ?_, R.old, hsz, fun id hid => ?_, R.batch⟩
  · rw [R.batch]
    unfold Batch.view
    simp only [hruns, Option.getD_some]
    rw [List.zip_map_left]
    exact List.map_congr_left fun x _ => rfl
  · rcases R.copy id hid with h1 | h1
    · rw [h1]; exact R.old id hid
    · exact h1.2.2
  · have hmem : some id ∈ rs := by
      have hv := Batch.view_of_runs hruns
      rw [hv] at hid
      obtain ⟨x, hx, hx1⟩ := List.countP_pos_iff.mp hid
      have : x.1 = some id := by simpa using hx1
      rw [← this]; exact (List.of_mem_zip hx).1
    obtain ⟨h1, h2⟩ := R.fresh id hmem
    rcases R.copy id h1 with h3 | h3
    · omega
    · exact ⟨h3.1, h3.2.1⟩
  · rcases R.copy id hid with h1 | h1
    · rw [h1]; omega
    · exact h1.2.1

theorem clone_SInv {h : Heap} {rest : Nat → Nat} {b : Batch} (hi : SInv h rest b)
    (hwhole : ∀ r : Nat, 0 < cnt r b.view → (h[r]!).terminal = 0 ∧ rest r = 0) :
    SInv (b.clone h).1 (fun _ => 0) (b.clone h).2 ∧
    fk (b.clone h).1 (fun _ => 0) (b.clone h).2.view = fk h rest b.view ∧
    h.size ≤ (b.clone h).1.size ∧ (∀ i : Nat, i < h.size → (b.clone h).1[i]! = h[i]!) ∧
    (∀ rid : Nat, rid < h.size → cnt rid (b.clone h).2.view = 0) := by
  obtain ⟨rs, hruns⟩ := hi.runs
  obtain ⟨ρ, hv, hinj, hcopy, hfresh, hold, hsz, hlt', e⟩ := clone_ren hi.wf hruns
  have hruns' : ∃ rs', (b.clone h).2.runs = some rs' := ⟨_, congrArg Batch.runs e⟩
  obtain ⟨w1, _, _, w4, _, _⟩ := C08_aligned_clone hi.wf
  have hids : ∀ r : Nat, 0 < cnt r b.view → r < h.size := fun r hr => (hi.acc r hr).1
  have hinjv : ∀ a c : Nat, 0 < cnt a b.view → 0 < cnt c b.view → ρ a = ρ c → a = c :=
    fun a c ha hc he => hinj a c (hids a ha) (hids c hc) he
  have hzero : ∀ rid : Nat, rid < h.size → cnt rid (b.clone h).2.view = 0 := by
    intro rid hlt
    apply Classical.byContradiction
    intro hne
    rw [hv] at hne
    obtain ⟨r, h1, h2⟩ := cnt_ren_pos ρ b.view rid (by omega)
    have := (hfresh r h2).1
    omega
  refine ⟨⟨w1, by rw [w4]; exact hi.ne, hruns', ?_, ?_, fun _ _ => rfl, ?_, ?_⟩, ?_, hsz, hold, hzero⟩
  · intro x hx hx1
    rw [hv, List.mem_map] at hx
    obtain ⟨y, hy, rfl⟩ := hx
    exact hi.nopos y hy (Option.map_eq_none_iff.mp hx1)
  · intro r' hr'
    rw [hv] at hr'
    obtain ⟨r, h1, h2⟩ := cnt_ren_pos ρ b.view r' hr'
    subst h1
    obtain ⟨g1, g2⟩ := hi.acc r h2
    refine ⟨(hfresh r h2).2, ?_⟩
    rw [hcopy r g1, hv, cnt_ren ρ (fun r => 0 < cnt r b.view) hinjv b.view (fun _ h => h) r h2]
    have := (hwhole r h2).2
    rw [this] at g2
    exact g2
  · obtain ⟨prev, seen, hsh, hp1, hp2⟩ := hi.shape
    refine ⟨prev.map ρ, seen.map ρ, ?_, ?_, ?_⟩
    · rw [hv]
      exact shape_ren ρ (fun r => r < h.size) hinj h _ b.view prev seen hsh
        (fun r hr => ⟨hids r hr, by rw [hcopy r (hids r hr)]⟩) (fun r hr => hp2 r (hp1 r hr)) hp2
    · intro r' hr'
      obtain ⟨r, rfl, rfl⟩ := Option.map_eq_some_iff.mp hr'
      exact List.mem_map_of_mem (hp1 r rfl)
    · intro r' hr'
      rw [List.mem_map] at hr'
      obtain ⟨r, hr, rfl⟩ := hr'
      exact hlt' r (hp2 r hr)
  · intro r' t ht
    rw [hv] at ht
    obtain ⟨⟨ro, q⟩, t0, hbv, h1, _⟩ := List.map_eq_cons_iff.mp ht
    obtain ⟨r, rfl, rfl⟩ := Option.map_eq_some_iff.mp (congrArg Prod.fst h1)
    obtain rfl : q = none := congrArg Prod.snd h1
    have hc : 0 < cnt r b.view := by rw [hbv, cnt_cons_some]; simp
    rw [hcopy r (hids r hc)]
    exact hi.headless r t0 hbv
  · rw [hv]
    exact fk_ren ρ (fun r => 0 < cnt r b.view) hinjv h _ rest (fun _ => 0)
      (fun r hr => by rw [hcopy r (hids r hr)]) (fun r hr => by simp [(hwhole r hr).2]) b.view (fun _ h => h)

/-- `originalBatch()` keeps the non-nil positions (all of them, when there was no split: `maNew`
refuses a nil position) -/
theorem original_pos_of_maNew {h : Heap} {b : Batch} {M : Nat} {ma : MA} (hwf : b.WF h)
    (hma : maNew M b.original.pos = .ok ma) : b.original.pos = b.pos.filter (· != none) := by
  by_cases hsp : b.split.length = 0
  · rw [original_of_split_nil (List.length_eq_zero_iff.mp hsp)] at hma ⊢
    exact (List.filter_eq_self.mpr fun p hp => by simpa using maNew_nonnil hma p hp).symm
  · exact original_pos hwf hsp

theorem fan_keys {h : Heap} {rest : Nat → Nat} {b : Batch} {M : Nat} {ma : MA} (hi : SInv h rest b)
    (hwhole : ∀ r : Nat, 0 < cnt r b.view → (h[r]!).terminal = 0 ∧ rest r = 0)
    (hma : maNew M b.original.pos = .ok ma) : keys b.original.pos = fk h rest b.view := by
  obtain ⟨rs, hruns⟩ := hi.runs
  have hro := hi.wf.1.runs_ok
  rw [hruns] at hro
  have hv := Batch.view_of_runs hruns
  have hhk : headKeys b.view = keys (b.pos.filter (· != none)) := by
    rw [hv]; exact headKeys_zip rs b.pos (by rw [hro.1, hi.wf.1.pos_len])
  have horig : keys b.original.pos = headKeys b.view := by
    rw [hhk, original_pos_of_maNew hi.wf hma]
  obtain ⟨prev, seen, hsh, hp1, _⟩ := hi.shape
  have := shape_fk h rest b.view prev seen hsh hp1 (fun r hr => (hwhole r hr).2)
  rw [this, horig]
  -- no headless start
  cases hbv : b.view with
  | nil => rfl
  | cons x t =>
    obtain ⟨ro, q⟩ := x
    cases ro with
    | none => rfl
    | some r =>
      cases q with
      | some k => rfl
      | none =>
        exfalso
        have h1 := hi.headless r t hbv
        have h2 := (hwhole r (by rw [hbv, cnt_cons_some]; simp)).1
        omega

theorem SInv.frame {h h2 : Heap} {rest : Nat → Nat} {b : Batch} (hi : SInv h rest b) (hsz : h.size ≤ h2.size)
    (hsame : ∀ rid : Nat, 0 < cnt rid b.view → h2[rid]! = h[rid]!) : SInv h2 rest b := by
  refine ⟨hi.wf.mono_heap hsz, hi.ne, hi.runs, hi.nopos, ?_, fun r hr => hi.restok r (by omega), ?_, ?_⟩
  · intro r hr
    obtain ⟨g1, g2⟩ := hi.acc r hr
    exact ⟨by omega, by rw [hsame r hr]; exact g2⟩
  · obtain ⟨prev, seen, hsh, hp1, hp2⟩ := hi.shape
    exact ⟨prev, seen, shape_heap h h2 _ _ _ hsh (fun r hr => by rw [hsame r hr]), hp1, fun r hr => by have := hp2 r hr; omega⟩
  · intro r t ht
    rw [hsame r (by rw [ht, cnt_cons_some]; simp)]
    exact hi.headless r t ht

def HFr (s s' : PS) : Prop := s.heap.size ≤ s'.heap.size ∧ ∀ rid : Nat, rid < s.heap.size → s'.heap[rid]! = s.heap[rid]!

theorem HFr.refl (s : PS) : HFr s s := ⟨Nat.le_refl _, fun _ _ => rfl⟩
theorem HFr.trans {a b c : PS} (h1 : HFr a b) (h2 : HFr b c) : HFr a c :=
  ⟨Nat.le_trans h1.1 h2.1, fun rid hr => (h2.2 rid (Nat.lt_of_lt_of_le hr h1.1)).trans (h1.2 rid hr)⟩

/-- what every branch needs of the fan-out batch: its invariant, whole runs, the forwarded keys -/
structure BrI (rest : Nat → Nat) (b : Batch) (K : List Nat) (s : PS) : Prop where
  inv : SInv s.heap rest b
  whole : ∀ r : Nat, 0 < cnt r b.view → (s.heap[r]!).terminal = 0 ∧ rest r = 0
  keq : fk s.heap rest b.view = K

theorem BrI.frame {rest : Nat → Nat} {b : Batch} {K : List Nat} {s s' : PS} (hb : BrI rest b K s) (hf : HFr s s') :
    BrI rest b K s' := by
  have hsame : ∀ rid : Nat, 0 < cnt rid b.view → s'.heap[rid]! = s.heap[rid]! :=
    fun rid hr => hf.2 rid (hb.inv.acc rid hr).1
  refine ⟨hb.inv.frame hf.1 hsame, fun r hr => by rw [hsame r hr]; exact hb.whole r hr, ?_⟩
  rw [← hb.keq]
  exact fk_congr _ _ _ _ (fun r hr => by rw [hsame r hr])

/-- one branch of a fan-out under any contract: it runs on the clone and owns only the clone's runs,
which are fresh, so it forwards the batch's keys and leaves what was in the heap before the clone untouched -/
theorem SPipe.branch {fuel : Nat} (hP : SPipe fuel) {p : Acker} (C : Contract p) {n : TaskNode} {b : Batch}
    {rest : Nat → Nat} {s s2 : PS} {rb : Except Stop Unit} (hi : SInv s.heap rest b)
    (hwhole : ∀ r : Nat, 0 < cnt r b.view → (s.heap[r]!).terminal = 0 ∧ rest r = 0)
    (hv : C.Valid { s with heap := (b.clone s.heap).1 })
    (hd : exec (doTaskAttempt fuel n (b.clone s.heap).2 (.run p) none false) { s with heap := (b.clone s.heap).1 } = (rb, s2)) :
    HFr s s2 ∧ Res C (fk s.heap rest b.view) { s with heap := (b.clone s.heap).1 } s2 rb := by
  obtain ⟨c1, c2, c3, c4, c5⟩ := clone_SInv hi hwhole
  have hres := hP p C n _ none false _ s2 rb (fun _ => 0) hv c1 hd
  refine ⟨⟨Nat.le_trans c3 hres.fr.size,
    fun rid hlt => (hres.fr.keep rid (Nat.lt_of_lt_of_le hlt c3) (c5 rid hlt)).trans (c4 rid hlt)⟩, ?_⟩
  rw [← c2]
  exact hres.res

section
variable {p : Acker} (C : Contract p) (id : Nat)

/-- the branches on a batch of whole runs: besides the tally's view, nothing that existed in the
ledger at `s0` is touched (each branch works on fresh copies of the runs) -/
theorem sbranches_spec (hle : C.top ≤ id) (F : Nat) (hP : ∀ f, f ≤ F → SPipe f) (nexts : List TaskNode)
    (b : Batch) (rest : Nat → Nat) (K : List Nat) (s0 : PS) :
    ∀ (fuel : Nat), fuel ≤ F + 1 → ∀ (order : List Nat) (errs : Option Err) (pan : Option String) (s s' : PS)
      (r : Except Stop Unit), MValid (runContract C) id s → HFr s0 s ∧ BrI rest b K s →
      exec (branches fuel nexts order b (.multi id (.run p)) errs pan) s = (r, s') →
      MSafe (runContract C) id s s' ∧ (HFr s0 s' ∧ BrI rest b K s') ∧ (r = .ok () → errs = none ∧ pan = none ∧
        MDone (runContract C) id ((List.replicate (cntValid nexts.length order) K).flatten) s s') := by
  have hle' : (runContract C).top ≤ id := hle
  refine branches_loop (runContract C) id hle' nexts b K (fun s => HFr s0 s ∧ BrI rest b K s) F ?_
  intro f n s s2 rb hf _ hv ⟨hf0, hbi⟩ hd
  have hq1 : Q s { s with heap := (b.clone s.heap).1 } := ⟨rfl, rfl, fun h => h⟩
  have hd1 := MDone.of_quiet hv hle' (hq1.quiet _)
  obtain ⟨hf2, hs12, hdb⟩ := SPipe.branch (hP f hf) (mContract (runContract C) id hle') hbi.inv hbi.whole (hd1.safe.ok hv) hd
  refine ⟨hd1.safe.trans hs12, ⟨hf0.trans hf2, hbi.frame hf2⟩, fun hrb => ?_⟩
  have hdb := hdb hrb
  rw [hbi.keq] at hdb
  simpa using hd1.trans hdb

end

theorem sfan_spec (fuel : Nat) (hP : ∀ f, f ≤ fuel → SPipe f) : SFan fuel := by
  intro p C node b s s' r rest ma order restO h2 hv hi hw hcv hma h
  have hwhole := runsWhole_acc hi hw
  have hK := fan_keys hi hwhole hma
  obtain ⟨hfr, hres⟩ : HFr s s' ∧ Res (runContract C) (keys b.original.pos) s s' r := by
    refine fan_res restO (by omega) hv hma fun hv1 => ?_
    obtain ⟨q1, ⟨q2, _⟩, q3⟩ := sbranches_spec C s.mas.size (C.valid_top hv) fuel hP node.next b rest
      (keys b.original.pos) _ fuel (by omega) order none none _ s' r hv1 ⟨HFr.refl _, hi, hwhole, hK.symm⟩ h
    exact ⟨q2, q1, fun hr => by have := (q3 hr).2.2; rwa [hcv] at this⟩
  refine ⟨hK ▸ hres, ⟨hfr.1, fun rid hlt _ => hfr.2 rid hlt, fun rid hlt => by rw [hfr.2 rid hlt]⟩, fun _ rid hc hrest => ?_⟩
  have := (hwhole rid hc).2
  omega

/-- The task recursion meets the handler contract on EVERY task tree, with split runs, for every fuel. -/
theorem spipe_full (fuel : Nat) : SPipe fuel :=
  (spipe_all sfan_spec fuel fuel (Nat.le_refl _)).1

end Conduit.Funnel
