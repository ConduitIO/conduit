import ConduitModel.Spec.Codec
import ConduitModel.Proofs.Base64
import ConduitModel.Proofs.Json
import ConduitModel.Proofs.Time

/-! The field decoders invert the field encoders; canonical maps survive `SMap.ofList` and the `any`
re-marshal; the three document decoders invert their encoders. At the end: the store's key prefixes
(`trimKey_storeKey`, `keyPrefixes_incomparable`) and what `Init` starts after a restart (`initStatus_*`, `mem_starts_init`). -/
namespace Conduit.Codec

theorem SMap.ins_append {α : Type} (k : Str) (v : α) : ∀ (acc : SMap α),
    (∀ kv ∈ acc, keyLt kv.1 k = true) → SMap.ins k v acc = acc ++ [(k, v)]
  | [], _ => rfl
  | (k', v') :: t, h => by
    have h1 : keyLt k' k = true := h (k', v') (by simp)
    have ih := SMap.ins_append k v t (fun kv hkv => h kv (by simp [hkv]))
    simp [SMap.ins, h1, ih]

theorem SMap.sorted_append_cons {α : Type} {acc t : SMap α} {k : Str} {v : α}
    (h : SMap.Sorted (acc ++ (k, v) :: t)) :
    (∀ kv ∈ acc, keyLt kv.1 k = true) ∧ SMap.Sorted ((acc ++ [(k, v)]) ++ t) :=
  ⟨fun kv hkv => (List.pairwise_append.mp h).2.2 kv hkv (k, v) (by simp), by simpa [SMap.Sorted] using h⟩

theorem SMap.foldl_ins_sorted {α : Type} : ∀ (l acc : SMap α), SMap.Sorted (acc ++ l) →
    l.foldl (fun m kv => SMap.ins kv.1 kv.2 m) acc = acc ++ l
  | [], acc, _ => by simp
  | (k, v) :: t, acc, h => by
    obtain ⟨hk, h'⟩ := SMap.sorted_append_cons h
    simp only [List.foldl]
    rw [SMap.ins_append k v acc hk, SMap.foldl_ins_sorted t _ h']
    simp

theorem SMap.ofList_sorted {α : Type} (m : SMap α) (h : SMap.Sorted m) : SMap.ofList m = m := by
  have := SMap.foldl_ins_sorted m [] (by simpa using h)
  simpa [SMap.ofList] using this

theorem SMap.sorted_map {α β : Type} (f : α → β) (m : SMap α) (h : SMap.Sorted m) :
    SMap.Sorted (m.map fun kv => (kv.1, f kv.2)) := by
  unfold SMap.Sorted at *
  rw [List.pairwise_map]
  exact h

@[simp] theorem except_ok_bind {ε α β : Type} (a : α) (f : α → Except ε β) : (Except.ok a >>= f) = f a := rfl
@[simp] theorem except_map_ok {ε α β : Type} (a : α) (f : α → β) : f <$> (Except.ok a : Except ε α) = Except.ok (f a) := rfl
@[simp] theorem except_pure {ε α : Type} (a : α) : (pure a : Except ε α) = Except.ok a := rfl

theorem decInt_encInt (n : Int64) : decInt (encInt n) = .ok n := by
  simp [decInt, encInt, Int64.ofInt_toInt]

theorem decStrs_map (l : List Str) : decStrs (l.map Json.str) = .ok l := by
  induction l with
  | nil => rfl
  | cons s t ih => simp [decStrs, decStr, ih]

theorem decStrList_enc (l : Option (List Str)) : decStrList (encStrList l) = .ok l := by
  cases l with
  | none => rfl
  | some l => simp [encStrList, decStrList, decStrs_map]

theorem decStrMembers_map (m : SMap Str) :
    decStrMembers (m.map fun kv => (kv.1, Json.str kv.2)) = .ok m := by
  induction m with
  | nil => rfl
  | cons kv t ih => cases kv; simp [decStrMembers, decStr, ih]

theorem decStrMap_enc (m : Option (SMap Str)) (h : optSorted m) : decStrMap (encStrMap m) = .ok m := by
  cases m with
  | none => rfl
  | some m =>
    simp only [encStrMap, decStrMap, decStrMembers_map]
    show Except.ok (some (SMap.ofList m)) = _
    rw [SMap.ofList_sorted m h]

theorem decBytes_enc (b : Option Bytes) : decBytes (encBytes b) = .ok b := by
  cases b with
  | none => rfl
  | some b => simp [encBytes, decBytes, b64Decode_encode]

theorem decBytesMembers_map (m : SMap (Option Bytes)) :
    decBytesMembers (m.map fun kv => (kv.1, encBytes kv.2)) = .ok m := by
  induction m with
  | nil => rfl
  | cons kv t ih => cases kv; simp [decBytesMembers, decBytes_enc, ih]

theorem decBytesMap_enc (m : Option (SMap (Option Bytes))) (h : optSorted m) :
    decBytesMap (encBytesMap m) = .ok m := by
  cases m with
  | none => rfl
  | some m =>
    simp only [encBytesMap, decBytesMap, decBytesMembers_map]
    show Except.ok (some (SMap.ofList m)) = _
    rw [SMap.ofList_sorted m h]

theorem decTime_enc (t : Time) (h : t.valid = true) : decTime (encTime t) = .ok t := by
  simp [decTime, encTime, parseTime_formatTime t h]

theorem reany_encBytes (b : Option Bytes) : (encBytes b).reany = encBytes b := by
  cases b <;> simp [encBytes, Json.reany]

theorem reanyMembers_sorted : ∀ (l acc : SMap Json), SMap.Sorted (acc ++ l) → (∀ kv ∈ l, kv.2.reany = kv.2) →
    Json.reanyMembers acc l = acc ++ l
  | [], acc, _, _ => by simp [Json.reanyMembers]
  | (k, v) :: t, acc, h, hv => by
    obtain ⟨hk, h'⟩ := SMap.sorted_append_cons h
    have e : v.reany = v := hv (k, v) (by simp)
    simp only [Json.reanyMembers, e]
    rw [SMap.ins_append k v acc hk, reanyMembers_sorted t _ h' (fun kv hkv => hv kv (by simp [hkv]))]
    simp

theorem reany_encBytesMap (m : Option (SMap (Option Bytes))) (h : optSorted m) :
    (encBytesMap m).reany = encBytesMap m := by
  cases m with
  | none => simp [encBytesMap, Json.reany]
  | some m =>
    simp only [encBytesMap, Json.reany]
    congr 1
    have hs := SMap.sorted_map encBytes m h
    have := reanyMembers_sorted (m.map fun kv => (kv.1, encBytes kv.2)) [] (by simpa using hs) (by
      intro kv hkv
      simp only [List.mem_map] at hkv
      obtain ⟨a, _, rfl⟩ := hkv
      exact reany_encBytes a.2)
    simpa using this

theorem key_inj (a b : String) : key a = key b ↔ a = b := by
  simp only [key, String.toList_inj]

theorem field_cons_self (k : Str) (v : Json) (t : List (Str × Json)) : Json.field k ((k, v) :: t) = v := by
  simp only [Json.field, if_true]

theorem field_cons_ne {k k' : Str} (h : k' ≠ k) (v : Json) (t : List (Str × Json)) :
    Json.field k ((k', v) :: t) = Json.field k t := by
  simp only [Json.field, h, if_false]

/- In the document proofs below `simp` looks a member up by walking the explicit member list with
`field_cons_self`/`field_cons_ne`; two member names are told apart as string literals (`key_inj`).
`-implicitDefEqProofs`: with the `rfl` lemmas about `Except` applied silently, the kernel would have to
redo every lookup by evaluating `String.toList`. -/

theorem decConnConfig_enc (c : ConnConfig) (h : optSorted c.settings) : decConnConfig (encConnConfig c) = .ok c := by
  cases c with
  | mk name settings =>
    have := decStrMap_enc settings h
    simp -implicitDefEqProofs [decConnConfig, encConnConfig, decObj, field_cons_self, field_cons_ne, key_inj,
      decStr, this]

theorem decConnState_enc (type : Int64) (st : ConnState) (hs : st.sorted) (hm : st.fits type) :
    decConnState type (encConnState st) = .ok st := by
  cases st with
  | none => rfl
  | source p =>
    simp only [ConnState.fits] at hm
    subst hm
    have e : (encConnState (.source p)).reany = encConnState (.source p) := by
      simp [encConnState, Json.reany, Json.reanyMembers, SMap.ins, reany_encBytes]
    simp only [decConnState, encConnState] at e ⊢
    simp -implicitDefEqProofs (config := {decide := true}) [e, decObj, field_cons_self, decBytes_enc]
  | destination ps =>
    simp only [ConnState.fits] at hm
    simp only [ConnState.sorted] at hs
    subst hm
    have e : (encConnState (.destination ps)).reany = encConnState (.destination ps) := by
      simp [encConnState, Json.reany, Json.reanyMembers, SMap.ins, reany_encBytesMap ps hs]
    simp only [decConnState, encConnState] at e ⊢
    simp -implicitDefEqProofs (config := {decide := true}) [e, decObj, field_cons_self, decBytesMap_enc ps hs]

theorem decConn_encConn (x : ConnInstance) (h : x.WF) : decConn (encConn x) = .ok x := by
  obtain ⟨h1, h2, h3, h4, h5, h6⟩ := h
  cases x with
  | mk id type config pipelineID plugin processorIDs state provisionedBy createdAt updatedAt lastActiveConfig =>
    have e1 := decConnConfig_enc config h1
    have e2 := decConnConfig_enc lastActiveConfig h2
    have e3 := decConnState_enc type state h3 h6
    have e4 := decTime_enc createdAt h4
    have e5 := decTime_enc updatedAt h5
    simp -implicitDefEqProofs [decConn, encConn, encConnWith, field_cons_self, field_cons_ne, key_inj, decStr,
      decInt_encInt, decStrList_enc, e1, e2, e3, e4, e5]

theorem decPipe_encPipe (x : PipeInstance) (h : x.WF) : decPipe (encPipe x) = .ok x := by
  obtain ⟨h1, h2, h3⟩ := h
  cases x with
  | mk id config error createdAt updatedAt provisionedBy dlq connectorIDs processorIDs status =>
    cases config; cases dlq
    have e1 := decStrMap_enc _ h1
    have e2 := decTime_enc createdAt h2
    have e3 := decTime_enc updatedAt h3
    simp -implicitDefEqProofs [decPipe, encPipe, field_cons_self, field_cons_ne, key_inj, decStr, decObj,
      decInt_encInt, decStrList_enc, e1, e2, e3]

theorem decProc_encProc (x : ProcInstance) (h : x.WF) : decProc (encProc x) = .ok x := by
  obtain ⟨h1, h2, h3⟩ := h
  cases x with
  | mk id createdAt updatedAt provisionedBy plugin condition parent config =>
    cases parent; cases config
    have e1 := decStrMap_enc _ h1
    have e2 := decTime_enc createdAt h2
    have e3 := decTime_enc updatedAt h3
    simp -implicitDefEqProofs [decProc, encProc, field_cons_self, field_cons_ne, key_inj, decStr, decObj,
      decInt_encInt, e1, e2, e3]

theorem quote_injective {a b : Str} (h : quote a = quote b) : a = b := by
  have h1 := unquote_quote a
  rw [h, unquote_quote] at h1
  exact (Option.some.inj h1).symm

theorem keyLt_trans {a b c : Str} (h1 : keyLt a b = true) (h2 : keyLt b c = true) : keyLt a c = true := by
  simp only [keyLt, decide_eq_true_eq] at *
  exact List.lt_trans h1 h2

theorem keyLt_irrefl (a : Str) : keyLt a a = false := by
  simp only [keyLt, decide_eq_false_iff_not]
  exact List.lt_irrefl _

/-- trichotomy of goccy's member order: two different keys are ordered one way or the other. -/
theorem keyLt_total {a b : Str} (h1 : keyLt a b = false) (h2 : a ≠ b) : keyLt b a = true := by
  simp only [keyLt, decide_eq_true_eq, decide_eq_false_iff_not] at *
  apply Decidable.byContradiction
  intro h3
  have e : quote a = quote b := List.le_antisymm (List.not_lt.mp h3) (List.not_lt.mp h1)
  exact h2 (quote_injective e)

theorem SMap.ins_keys {α : Type} (k : Str) (v : α) : ∀ (m : SMap α) (kv : Str × α), kv ∈ SMap.ins k v m → kv.1 = k ∨ kv ∈ m
  | [], kv, h => by simp [SMap.ins] at h; simp [h]
  | (k', v') :: t, kv, h => by
    unfold SMap.ins at h
    by_cases h1 : keyLt k' k = true
    · simp only [h1, if_true, List.mem_cons] at h
      rcases h with h | h
      · simp [h]
      · rcases SMap.ins_keys k v t kv h with h | h
        · exact Or.inl h
        · exact Or.inr (by simp [h])
    · by_cases h2 : k' = k
      · subst h2
        simp [h1] at h
        rcases h with h | h
        · simp [h]
        · exact Or.inr (by simp [h])
      · simp [h1, h2] at h
        rcases h with h | h | h
        · simp [h]
        · exact Or.inr (by simp [h])
        · exact Or.inr (by simp [h])

theorem SMap.ins_sorted {α : Type} (k : Str) (v : α) : ∀ (m : SMap α), SMap.Sorted m → SMap.Sorted (SMap.ins k v m)
  | [], _ => by simp [SMap.ins, SMap.Sorted]
  | (k', v') :: t, h => by
    have ht : SMap.Sorted t := (List.pairwise_cons.mp h).2
    have hh : ∀ kv ∈ t, keyLt k' kv.1 = true := (List.pairwise_cons.mp h).1
    unfold SMap.ins
    by_cases h1 : keyLt k' k = true
    · simp only [h1, if_true]
      apply List.pairwise_cons.mpr
      refine ⟨?_, SMap.ins_sorted k v t ht⟩
      intro kv hkv
      rcases SMap.ins_keys k v t kv hkv with e | e
      · rw [e]; exact h1
      · exact hh kv e
    · have h1' : keyLt k' k = false := by simpa using h1
      by_cases h2 : k' = k
      · subst h2
        simp [h1]
        exact List.pairwise_cons.mpr ⟨hh, ht⟩
      · simp [h1, h2]
        have hlt : keyLt k k' = true := keyLt_total h1' h2
        apply List.pairwise_cons.mpr
        refine ⟨?_, h⟩
        intro kv hkv
        simp only [List.mem_cons] at hkv
        rcases hkv with e | e
        · rw [e]; exact hlt
        · exact keyLt_trans hlt (hh kv e)

theorem SMap.ofList_is_sorted {α : Type} (l : List (Str × α)) : SMap.Sorted (SMap.ofList l) := by
  unfold SMap.ofList
  have : ∀ (l : List (Str × α)) (acc : SMap α), SMap.Sorted acc →
      SMap.Sorted (l.foldl (fun m kv => SMap.ins kv.1 kv.2 m) acc) := by
    intro l
    induction l with
    | nil => intro acc h; exact h
    | cons kv t ih => intro acc h; exact ih _ (SMap.ins_sorted kv.1 kv.2 acc h)
  exact this l [] (by simp [SMap.Sorted])

theorem field_perm {l1 l2 : List (Str × Json)} (h : l1.Perm l2) :
    (l1.map (·.1)).Nodup → ∀ k : Str, Json.field k l1 = Json.field k l2 := by
  induction h with
  | nil => intro _ _; rfl
  | cons x _ ih =>
    intro hn k
    obtain ⟨xk, xv⟩ := x
    simp only [List.map_cons, List.nodup_cons] at hn
    simp only [Json.field, ih hn.2 k]
  | swap x y l =>
    intro hn k
    obtain ⟨xk, xv⟩ := x
    obtain ⟨yk, yv⟩ := y
    simp only [List.map_cons, List.nodup_cons, List.mem_cons, not_or] at hn
    simp only [Json.field]
    by_cases h1 : yk = k <;> by_cases h2 : xk = k <;> simp [h1, h2]
    exact absurd (h1.trans h2.symm) hn.1.1
  | trans p _ ih1 ih2 =>
    intro hn k
    have hn2 := (List.Perm.nodup_iff (p.map (·.1))).mp hn
    rw [ih1 hn k, ih2 hn2 k]

theorem decConn_perm {l1 l2 : List (Str × Json)} (h : l1.Perm l2) (hn : (l1.map (·.1)).Nodup) :
    decConn (.obj l1) = decConn (.obj l2) := by
  have hf := field_perm h hn
  simp only [decConn, pure_bind, hf]

theorem decPipe_perm {l1 l2 : List (Str × Json)} (h : l1.Perm l2) (hn : (l1.map (·.1)).Nodup) :
    decPipe (.obj l1) = decPipe (.obj l2) := by
  have hf := field_perm h hn
  simp only [decPipe, pure_bind, hf]

theorem decProc_perm {l1 l2 : List (Str × Json)} (h : l1.Perm l2) (hn : (l1.map (·.1)).Nodup) :
    decProc (.obj l1) = decProc (.obj l2) := by
  have hf := field_perm h hn
  simp only [decProc, pure_bind, hf]

theorem trimKey_storeKey (pre : String) (id : Str) : trimKey pre (storeKey pre id) = id := by
  simp [trimKey, storeKey]

theorem isPrefixOf_append_false {p q : List Char} (h1 : p.isPrefixOf q = false) (h2 : q.isPrefixOf p = false)
    (r : List Char) : p.isPrefixOf (q ++ r) = false := by
  rw [← Bool.not_eq_true, List.isPrefixOf_iff_prefix] at *
  exact fun h => (List.prefix_or_prefix_of_prefix h (List.prefix_append q r)).elim h1 h2

/-- four string literals compared pairwise: evaluated by the kernel (`+kernel`), which reduces
`String.toList` of a literal directly. -/
theorem keyPrefixes_incomparable :
    ([connKeyPrefix, connPre041KeyPrefix, pipeKeyPrefix, procKeyPrefix].map String.toList).Pairwise
      fun p q => p.isPrefixOf q = false ∧ q.isPrefixOf p = false := by decide +kernel

theorem initStatus_id (p : PipeInstance) : (initStatus p).id = p.id := by unfold initStatus; split <;> rfl

theorem initStatus_stopped (p : PipeInstance) :
    (initStatus p).status = statusSystemStopped ↔ p.status = statusRunning ∨ p.status = statusSystemStopped := by
  unfold initStatus; split <;> simp [*]

/-- which pipelines a restart resumes: `lifecycle.Service.Init` calls `Start` for exactly the ids of the
pipelines stored as Running or SystemStopped -/
theorem mem_starts_init (ps : List PipeInstance) (id : Str) :
    id ∈ lifecycleStarts (pipelineInit ps) ↔
      ∃ q ∈ ps, q.id = id ∧ (q.status = statusRunning ∨ q.status = statusSystemStopped) := by
  simp [lifecycleStarts, pipelineInit, List.filter_map, Function.comp_def, initStatus_id, initStatus_stopped,
    and_assoc, and_comm]

theorem eq_of_mem_of_id_eq : ∀ (ps : List PipeInstance), (ps.map (·.id)).Nodup → ∀ a ∈ ps, ∀ b ∈ ps, a.id = b.id → a = b
  | [], _, a, ha, _, _, _ => by simp at ha
  | x :: t, hn, a, ha, b, hb, e => by
    simp only [List.map_cons, List.nodup_cons, List.mem_map, not_exists, not_and] at hn
    simp only [List.mem_cons] at ha hb
    rcases ha with ha | ha <;> rcases hb with hb | hb
    · rw [ha, hb]
    · subst ha; exact absurd e.symm (hn.1 b hb)
    · subst hb; exact absurd e (hn.1 a ha)
    · exact eq_of_mem_of_id_eq t hn.2 a ha b hb e

end Conduit.Codec
