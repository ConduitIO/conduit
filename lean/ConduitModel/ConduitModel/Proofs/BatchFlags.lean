import ConduitModel.Proofs.BatchBase

/-!
The flag mutators `Retry`/`Filter` and the range form of `setFlagNoErr` that `Ack` is: on indices in range each
returns the batch with the statuses `Batch.flagged`, and the invariant holds of it. Also what the other mutator
modules share: `Below` (the active indices below a call are untouched) and that the invariant survives a heap
that grows (`Batch.WF.mono_heap`).
-/
namespace Conduit.Funnel

theorem setFlagRange_eq_model (b : Batch) (f : Flag) (i j : Nat) :
    b.setFlagRange f i j = b.setFlagRangeP f i j := by
  unfold Batch.setFlagRange Batch.setFlagRangeP
  split
  · rfl
  · rw [← forIn_yield_foldlM]
    simp only [sfStep, bind_assoc]

theorem Batch.Aligned.with_st {h : Heap} {b : Batch} (ha : b.Aligned h) {st' : List Status}
    (hl : st'.length = b.st.length) (t : Bool) (fc : Nat) :
    ({ b with st := st', tainted := t, filterCount := fc } : Batch).Aligned h :=
  ⟨by simpa [hl] using ha.st_len, ha.pos_len, ha.runs_ok, ha.split_keys⟩

theorem Batch.WF.with_recs {h : Heap} {b : Batch} (hwf : b.WF h) {out : List Rec} (hl : out.length = b.recs.length) :
    ({ b with recs := out } : Batch).WF h :=
  ⟨⟨hwf.1.st_len.trans hl.symm, hwf.1.pos_len.trans hl.symm, hl ▸ hwf.1.runs_ok, hwf.1.split_keys⟩, hwf.2⟩

theorem physRange_single {st : List Status} {i : Nat} (hi : i < (actList st).length) :
    physRange st i (i+1) = [(actList st)[i]] := by
  apply List.ext_getElem?
  intro n
  simp only [physRange, List.getElem?_drop, List.getElem?_take]
  cases n with
  | zero => simp [hi]
  | succ n => simp

def Batch.flagged (b : Batch) (f : Flag) (i j : Nat) : List Status := setFlags f (physRange b.st i j) b.st

theorem setFlag1_ok {h : Heap} {b : Batch} (hwf : b.WF h) (f : Flag) {i : Nat} (hi : i < b.nAct) :
    b.setFlag1 f i = .ok { b with st := b.flagged f i (i+1) } := by
  unfold Batch.setFlag1
  rw [phys_ok hwf.2 hi]
  simp only [bind, Except.bind, setFlagAt_ok f (actList_lt hi), pure, Except.pure]
  rw [Batch.flagged, physRange_single hi]
  rfl

theorem setFlagRange_ok {h : Heap} {b : Batch} (hwf : b.WF h) (f : Flag) {i j : Nat} (hij : i < j) (hj : j ≤ b.nAct) :
    b.setFlagRange f i j = .ok { b with st := b.flagged f i j } := by
  rw [setFlagRange_eq_model]
  unfold Batch.setFlagRangeP
  have : ¬ i ≥ j := by omega
  simp only [this, if_false]
  rw [foldlM_sfStep hwf.2 f _ (by intro k hk; have := List.mem_range'_1.mp hk; omega) _ rfl,
    map_range'_physRange _ hj]
  rfl

theorem retry_ok {h : Heap} {b : Batch} (hwf : b.WF h) {i j : Nat} (hij : i < j) (hj : j ≤ b.nAct) :
    b.retry i j = .ok { b with st := b.flagged .retry i j, tainted := true } := by
  unfold Batch.retry
  rw [setFlagRange_ok hwf _ hij hj]; rfl

theorem filter1_ok {h : Heap} {b : Batch} (hwf : b.WF h) {i : Nat} (hi : i < b.nAct) :
    b.filter1 i = .ok { b with st := b.flagged .filter i (i+1), filterCount := b.filterCount + 1 } := by
  unfold Batch.filter1
  rw [setFlag1_ok hwf _ hi]; rfl

theorem filterRange_ok {h : Heap} {b : Batch} (hwf : b.WF h) {i j : Nat} (hij : i < j) (hj : j ≤ b.nAct) :
    b.filterRange i j = .ok { b with st := b.flagged .filter i j, filterCount := b.filterCount + (j - i) } := by
  unfold Batch.filterRange
  rw [setFlagRange_ok hwf _ hij hj]; rfl

theorem getElem?_flagged (b : Batch) (f : Flag) (i j q : Nat) :
    ((∃ k : Nat, i ≤ k ∧ k < j ∧ (actList b.st)[k]? = some q) → (b.flagged f i j)[q]? = b.st[q]?.map (setFlagP f)) ∧
    ((¬ ∃ k : Nat, i ≤ k ∧ k < j ∧ (actList b.st)[k]? = some q) → (b.flagged f i j)[q]? = b.st[q]?) := by
  rw [Batch.flagged, getElem?_setFlags]
  constructor
  · intro h; simp only [mem_physRange.mpr h, if_true]
  · intro h
    have : ¬ q ∈ physRange b.st i j := fun h' => h (mem_physRange.mp h')
    simp only [this, if_false]

theorem filtered_untouched (b : Batch) (f : Flag) (i j q : Nat) (s : Status) (hq : b.st[q]? = some s)
    (hs : s.flag = .filter) : (b.flagged f i j)[q]? = some s := by
  refine ((getElem?_flagged b f i j q).2 ?_).trans hq
  rintro ⟨k, _, _, hk⟩
  obtain ⟨h1, h2, _⟩ := actList_getElem?_iff.mp hk
  have := (notFilt_iff h1).mp h2
  obtain ⟨_, rfl⟩ := List.getElem?_eq_some_iff.mp hq
  exact this hs

theorem actList_flagged_of_ne {b : Batch} {f : Flag} (hf : f ≠ .filter) (i j : Nat) :
    actList (b.flagged f i j) = actList b.st := by
  unfold actList
  rw [Batch.flagged, length_setFlags]
  apply List.filter_congr
  intro q hq
  rw [notFilt_setFlags]
  by_cases h : q ∈ physRange b.st i j ∧ q < b.st.length
  · obtain ⟨s, hs, hsf⟩ := physRange_flag h.1
    simp only [h, and_self, if_true]
    have : notFilt b.st q = true := by
      obtain ⟨hq', rfl⟩ := List.getElem?_eq_some_iff.mp hs
      exact (notFilt_iff hq').mpr hsf
    simp [this, hf]
  · simp only [h, if_false]

theorem filter_take_drop {A : List Nat} (hA : A.Nodup) {i j : Nat} (hij : i ≤ j) :
    A.filter (fun q => !(((A.take j).drop i).contains q)) = A.take i ++ A.drop j := by
  generalize hM : (A.take j).drop i = M
  have e : A = A.take i ++ ((A.take j).drop i ++ A.drop j) := by
    have h1 : A.take i = (A.take j).take i := by rw [List.take_take]; congr 1; omega
    rw [h1, ← List.append_assoc, List.take_append_drop, List.take_append_drop]
  have hnd := hA
  rw [e] at hnd
  obtain ⟨_, hnd2, hd1⟩ := List.nodup_append.mp hnd
  obtain ⟨_, _, hd2⟩ := List.nodup_append.mp hnd2
  rw [hM] at e hnd hnd2 hd1 hd2
  conv => lhs; rw [e]
  simp only [List.filter_append]
  have f1 : (A.take i).filter (fun q => !(M.contains q)) = A.take i := by
    rw [List.filter_eq_self]
    intro a ha
    simp only [Bool.not_eq_true', List.contains_eq_mem, decide_eq_false_iff_not]
    intro hm
    exact hd1 a ha a (by simp [hm]) rfl
  have f2 : M.filter (fun q => !(M.contains q)) = [] := by
    rw [List.filter_eq_nil_iff]
    intro a ha
    simp [ha]
  have f3 : (A.drop j).filter (fun q => !(M.contains q)) = A.drop j := by
    rw [List.filter_eq_self]
    intro a ha
    simp only [Bool.not_eq_true', List.contains_eq_mem, decide_eq_false_iff_not]
    intro hm
    exact hd2 a hm a ha rfl
  rw [f1, f2, f3]; simp

/-- `Filter(i, j)` makes `activeRecordIndices` skip exactly the active records `i … j-1`. -/
theorem actList_flagged_filter (b : Batch) {i j : Nat} (hij : i ≤ j) :
    actList (b.flagged .filter i j) = (actList b.st).take i ++ (actList b.st).drop j := by
  have h1 : actList (b.flagged .filter i j) = (actList b.st).filter (fun q => !((physRange b.st i j).contains q)) := by
    unfold actList
    rw [Batch.flagged, length_setFlags, List.filter_filter]
    apply List.filter_congr
    intro q hq
    have hq : q < b.st.length := by simpa using hq
    rw [notFilt_setFlags]
    by_cases h : q ∈ physRange b.st i j
    · simp [h, hq]
    · simp [h]
  rw [h1, physRange]
  exact filter_take_drop ((actList_pairwise _).imp (fun h => Nat.ne_of_lt h)) hij

/-- `b'` looks like `b` to every active index below `i`: what end→start marking relies on. -/
structure Below (i : Nat) (b b' : Batch) : Prop where
  act : ∀ k : Nat, k < i → (actList b'.st)[k]? = (actList b.st)[k]?
  splittable : ∀ k p : Nat, k < i → (actList b.st)[k]? = some p → b.splittableAt p = true → b'.splittableAt p = true

theorem Below.trans {i j : Nat} {b b' b'' : Batch} (hij : j ≤ i) (h1 : Below i b b') (h2 : Below j b' b'') :
    Below j b b'' :=
  ⟨fun k hk => (h2.act k hk).trans (h1.act k (by omega)),
   fun k p hk hp hs => h2.splittable k p hk ((h1.act k (by omega)).trans hp) (h1.splittable k p (by omega) hp hs)⟩

theorem Below.nAct {i : Nat} {b b' : Batch} (h : Below i b b') (hi : i ≤ b.nAct) : i ≤ b'.nAct := by
  cases i with
  | zero => omega
  | succ k =>
    have h1 := h.act k (by omega)
    have hk : k < (actList b.st).length := hi
    rw [List.getElem?_eq_getElem hk] at h1
    have := (List.getElem?_eq_some_iff.mp h1).1
    exact this

theorem Below.of_st {i : Nat} {b b' : Batch} (hpos : b'.pos = b.pos) (hruns : b'.runs = b.runs)
    (hact : ∀ k : Nat, k < i → (actList b'.st)[k]? = (actList b.st)[k]?) : Below i b b' :=
  ⟨hact, fun k p _ _ hs => by simpa [Batch.splittableAt, Batch.runAt, hpos, hruns] using hs⟩

theorem act_filtered (b : Batch) {i j : Nat} (hij : i ≤ j) {k : Nat} (hk : k < i) :
    (actList (b.flagged .filter i j))[k]? = (actList b.st)[k]? := by
  rw [actList_flagged_filter b hij]
  by_cases h : k < (actList b.st).length
  · rw [List.getElem?_append_left (by rw [List.length_take]; exact Nat.lt_min.mpr ⟨hk, h⟩),
      List.getElem?_take, if_pos hk]
  · rw [List.getElem?_eq_none (Nat.le_of_not_lt h), List.getElem?_eq_none]
    rw [List.length_append, List.length_take, List.length_drop]
    omega

theorem nAct_filtered (b : Batch) {i j : Nat} (hij : i ≤ j) (hj : j ≤ b.nAct) (fc : Nat) :
    ({ b with st := b.flagged .filter i j, filterCount := fc } : Batch).nAct = b.nAct - (j - i) := by
  show (actList (b.flagged .filter i j)).length = _
  rw [actList_flagged_filter b hij, List.length_append, List.length_take, List.length_drop]
  unfold Batch.nAct at hj ⊢
  omega

theorem WF_flagged {h : Heap} {b : Batch} (hwf : b.WF h) {f : Flag} (hf : f ≠ .filter) (i j : Nat) (t : Bool) :
    ({ b with st := b.flagged f i j, tainted := t } : Batch).WF h := by
  refine ⟨hwf.1.with_st (by simp [Batch.flagged]) _ _, ?_⟩
  show b.filterCount = countFilter (b.flagged f i j)
  have h1 := length_actList b.st
  have h2 := length_actList (b.flagged f i j)
  rw [actList_flagged_of_ne hf, show (b.flagged f i j).length = b.st.length from length_setFlags ..] at h2
  have := hwf.2
  omega

theorem WF_filtered {h : Heap} {b : Batch} (hwf : b.WF h) {i j : Nat} (hij : i ≤ j) (hj : j ≤ b.nAct) :
    ({ b with st := b.flagged .filter i j, filterCount := b.filterCount + (j - i) } : Batch).WF h := by
  refine ⟨hwf.1.with_st (by simp [Batch.flagged]) _ _, ?_⟩
  show b.filterCount + (j - i) = countFilter (b.flagged .filter i j)
  have h1 := length_actList b.st
  have h2 := length_actList (b.flagged .filter i j)
  have h3 : (actList (b.flagged .filter i j)).length = b.nAct - (j - i) := nAct_filtered b hij hj 0
  rw [show (b.flagged .filter i j).length = b.st.length from length_setFlags ..] at h2
  have := hwf.2
  unfold Batch.nAct at hj h3
  omega

theorem runIdOK_mono {h h' : Heap} (hs : h.size ≤ h'.size) {r : Option Nat} (hr : runIdOK h r = true) : runIdOK h' r = true := by
  cases r with
  | none => rfl
  | some id => simp [runIdOK] at hr ⊢; omega

theorem runsOK_mono {h h' : Heap} (hs : h.size ≤ h'.size) {n : Nat} {r : Option (List (Option Nat))}
    (hr : runsOK h n r) : runsOK h' n r := by
  cases r with
  | none => trivial
  | some rs => exact ⟨hr.1, fun r hm => runIdOK_mono hs (hr.2 r hm)⟩

theorem Batch.Aligned.mono_heap {h h' : Heap} (hs : h.size ≤ h'.size) {b : Batch} (ha : b.Aligned h) : b.Aligned h' :=
  ⟨ha.st_len, ha.pos_len, runsOK_mono hs ha.runs_ok, ha.split_keys⟩

theorem Batch.WF.mono_heap {h h' : Heap} (hs : h.size ≤ h'.size) {b : Batch} (hwf : b.WF h) : b.WF h' :=
  ⟨hwf.1.mono_heap hs, hwf.2⟩

theorem countFilter_congr {st st' : List Status} (hl : st'.length = st.length)
    (h : ∀ q : Nat, notFilt st' q = notFilt st q) : countFilter st' = countFilter st ∧ actList st' = actList st := by
  have h2 : actList st' = actList st := by
    unfold actList
    rw [hl]
    exact List.filter_congr (fun q _ => h q)
  have := length_actList st
  have := length_actList st'
  rw [h2] at this
  exact ⟨by omega, h2⟩

end Conduit.Funnel
