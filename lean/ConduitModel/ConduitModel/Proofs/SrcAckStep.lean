import ConduitModel.Proofs.SrcAck

/-!
What a single step of M3 can change: for each history / store field, the one event that writes it.
-/
namespace Conduit.SrcAck

theorem step_store {c : Cfg} {s s' : St} {e : Ev} (h : step c s e = some s') :
    s'.store = s.store ∨
    (∃ g, s.gens.getLast? = some g ∧ g.stat = .writing ∧ s'.store = g.snap ∧ e = .flushRes .ok) := by
  cases step_sound h with
  | commit g hg _ hw => exact .inr ⟨g, hg, hw, rfl, rfl⟩
  | callbackAck => exact .inl (onFlushedOk_eq _ _ ▸ rfl)
  | _ => exact .inl rfl

/-- the one write is the commit of the generation in flight, whose snapshot lies above the store -/
theorem Ord.store_mono {m : Stored → Nat} {B : AckRec → Nat → Prop} {c : Cfg} {s s' : St} {e : Ev}
    (h : Ord m B s) (hs : SrcAck.step c s e = some s') : m s.store ≤ m s'.store := by
  rcases step_store hs with heq | ⟨g, hg, hw, heq, _⟩
  · rw [heq]; exact Nat.le_refl _
  · rw [List.getLast?_eq_getElem?] at hg
    rw [heq]; exact h.gensWr _ g hg hw

theorem step_commits {c : Cfg} {s s' : St} {e : Ev} (h : step c s e = some s') :
    s'.commits = s.commits ∨ (s'.commits = s.commits ++ [s'.store] ∧ e = .flushRes .ok) := by
  cases step_sound h with
  | commit => exact .inr ⟨rfl, rfl⟩
  | callbackAck => exact .inl (onFlushedOk_eq _ _ ▸ rfl)
  | _ => exact .inl rfl

theorem step_delivered {c : Cfg} {s s' : St} {e : Ev} (h : step c s e = some s') :
    s'.delivered = s.delivered ∨
    (∃ a rest, s.deferred = a :: rest ∧ s'.delivered = s.delivered ++ [a] ∧ e = .deliver true) := by
  cases step_sound h with
  | deliverOk a rest hd => exact .inr ⟨a, rest, hd, rfl, rfl⟩
  | callbackAck => exact .inl (onFlushedOk_eq _ _ ▸ rfl)
  | _ => exact .inl rfl

theorem step_opened {c : Cfg} {s s' : St} {e : Ev} (h : step c s e = some s') (hne : e ≠ .restart) :
    s'.opened = s.opened := by
  cases step_sound h with
  | restart => exact absurd rfl hne
  | callbackAck => exact onFlushedOk_eq _ _ ▸ rfl
  | _ => rfl

end Conduit.SrcAck
