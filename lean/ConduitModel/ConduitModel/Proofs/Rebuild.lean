import ConduitModel.Model.Rebuild
import ConduitModel.Proofs.TreeBuilt

/-!
What a build attempt reserves, as the relation `Adds` composed along the reservation loops (`Adds.seq`,
`Adds.andThen`, `reserveConns_adds`).
-/
namespace Conduit.Rebuild
open Conduit.Funnel

/-- processor ids of the connectors of kind `k`, in reservation order -/
def kindProcIds (k : ConnKind) (cs : List ConnCfg) : List Nat :=
  ((cs.filter (·.kind = k)).map fun c => procIds c.procs).flatten

theorem kindProcIds_cons (k : ConnKind) (c : ConnCfg) (cs : List ConnCfg) :
    kindProcIds k (c :: cs) = if c.kind = k then procIds c.procs ++ kindProcIds k cs else kindProcIds k cs := by
  unfold kindProcIds
  by_cases h : c.kind = k <;> simp [h]

/-- `h` is `held` with a prefix of `l` pushed in front (so reversed), its members distinct and not
in `held`; the whole of `l` when `ok` holds. What every reserving loop of a build attempt does to
the reservations, whether it fails or not. -/
def Adds (l held h : List Nat) (ok : Prop) : Prop :=
  ∃ pre, pre <+: l ∧ pre.Nodup ∧ (∀ x ∈ pre, x ∉ held) ∧ h = pre.reverse ++ held ∧ (ok → pre = l)

theorem Adds.none {l held : List Nat} {ok : Prop} (h : ok → l = []) : Adds l held held ok :=
  ⟨[], List.nil_prefix, List.nodup_nil, nofun, rfl, fun hk => (h hk).symm⟩

theorem Adds.weaken {l held h : List Nat} {ok ok' : Prop} (a : Adds l held h ok) (hk : ok' → ok) : Adds l held h ok' := by
  obtain ⟨pre, h1, h2, h3, h4, h5⟩ := a
  exact ⟨pre, h1, h2, h3, h4, fun k => h5 (hk k)⟩

theorem Adds.seq {l₁ l₂ held h₁ h₂ : List Nat} {ok : Prop} (a : Adds l₁ held h₁ True) (b : Adds l₂ h₁ h₂ ok) :
    Adds (l₁ ++ l₂) held h₂ ok := by
  obtain ⟨_, -, n1, f1, rfl, c1⟩ := a
  obtain ⟨pre, p2, n2, f2, rfl, c2⟩ := b
  cases c1 trivial
  refine ⟨l₁ ++ pre, (List.prefix_append_right_inj l₁).mpr p2, ?_, fun x hx hm => ?_, by simp, fun k => by rw [c2 k]⟩
  · exact nodup_append_of n1 n2 fun x hx hm => f2 x hx (List.mem_append_left _ (List.mem_reverse.mpr hm))
  · rcases List.mem_append.mp hx with hx | hx
    · exact f1 x hx hm
    · exact f2 x hx (List.mem_append_right _ hm)

theorem Adds.stop {l₁ held h : List Nat} {ok : Prop} (a : Adds l₁ held h ok) (l₂ : List Nat) :
    Adds (l₁ ++ l₂) held h False := by
  obtain ⟨pre, h1, h2, h3, h4, -⟩ := a
  exact ⟨pre, h1.trans (List.prefix_append ..), h2, h3, h4, nofun⟩

/-- A reserving loop and then the rest of the attempt: a failure of the loop ends the attempt with what the
loop had reserved, otherwise the rest goes on from there. -/
theorem Adds.andThen {l₁ l₂ held : List Nat} {r : Option BuildErr × List Nat} {k : List Nat → Outcome × List Nat}
    (a : Adds l₁ held r.2 (r.1 = .none)) (b : ∀ h, Adds l₂ h (k h).2 ((k h).1 = .ok)) :
    Adds (l₁ ++ l₂) held (match r with | (.some e, h) => (Outcome.err e, h) | (.none, h) => k h).2
      ((match r with | (.some e, h) => (Outcome.err e, h) | (.none, h) => k h).1 = .ok) := by
  obtain ⟨_ | e, h⟩ := r
  · exact (a.weaken fun _ => rfl).seq (b h)
  · exact (a.stop _).weaken nofun

theorem reserve_adds (ps : List ProcRef) : ∀ held, Adds (procIds ps) held (reserve held ps).2 ((reserve held ps).1 = none) := by
  induction ps with
  | nil => exact fun held => .none fun _ => rfl
  | cons p ps ih =>
    intro held
    obtain ⟨id, found⟩ := p
    rw [reserve]
    cases found with
    | false => exact .none nofun
    | true =>
      cases hc : held.contains id with
      | true => exact .none nofun
      | false =>
        have one : Adds [id] held (id :: held) True :=
          ⟨[id], List.prefix_rfl, List.nodup_cons.mpr ⟨nofun, List.nodup_nil⟩, fun x hx => by
            rw [List.mem_singleton.mp hx]; simpa using hc, rfl, fun _ => rfl⟩
        exact one.seq (ih (id :: held))

theorem reserve_err (ps : List ProcRef) : ∀ (held h : List Nat) (e : BuildErr), reserve held ps = (some e, h) →
    ∃ pre, pre <+: procIds ps ∧ h = pre.reverse ++ held := by
  intro held h e he
  obtain ⟨pre, h1, -, -, h4, -⟩ := reserve_adds ps held
  rw [he] at h4
  exact ⟨pre, h1, h4⟩

theorem reserveConns_adds (k : ConnKind) (openC : List Nat) (cs : List ConnCfg) : ∀ held,
    Adds (kindProcIds k cs) held (reserveConns k openC held cs).2 ((reserveConns k openC held cs).1 = none) := by
  induction cs with
  | nil => exact fun held => .none fun _ => rfl
  | cons c cs ih =>
    intro held
    rw [reserveConns, kindProcIds_cons]
    by_cases hm : c.kind = .missing
    · rw [if_pos hm]; exact .none nofun
    · rw [if_neg hm]
      by_cases hck : c.kind = k
      · rw [if_neg (fun h : c.kind ≠ k => h hck), if_pos hck]
        cases ho : openC.contains c.id with
        | true => exact .none nofun
        | false =>
          have a := reserve_adds c.procs held
          rw [if_neg Bool.false_ne_true]
          rcases hr : reserve held c.procs with ⟨eo, h1⟩
          rw [hr] at a
          cases eo with
          | some e => exact (a.stop _).weaken nofun
          | none => exact (a.weaken fun _ => rfl).seq (ih h1)
      · rw [if_pos hck, if_neg hck]; exact ih held

theorem added_append (a held : List Nat) : added held (a ++ held) = a := by
  simp [added]

theorem kindProcIds_source (cs : List ConnCfg) : kindProcIds .source cs = srcProcIds cs := rfl

theorem kindProcIds_dest (cs : List ConnCfg) : kindProcIds .dest cs = dstProcIds cs := rfl

end Conduit.Rebuild
