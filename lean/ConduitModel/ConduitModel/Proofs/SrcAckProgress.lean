import ConduitModel.Proofs.SrcAckHealthy

/-!
Progress of a graceful stop in M3 (C06 "the stop always completes while plugins and store
respond"): in every state of a healthy run in which `Source.Teardown` has begun and not yet
returned, some event that satisfies the C06 hypotheses (no timeout, no failure) is enabled and
strictly decreases the variant `V` — so under weak fairness Teardown returns.
-/
namespace Conduit.SrcAck

def b2n (b : Bool) : Nat := if b then 1 else 0

def lastNotRun (s : St) : Bool :=
  match s.gens.getLast? with
  | some g => g.cbSt == .notRun
  | none => false

/-- remaining statements of Teardown (weight 100 each), then: a batch still to be flushed, a write in
flight, the latest callback outstanding, acks awaiting durability / delivery, the delivery
goroutine still running -/
def V (s : St) : Nat :=
  100 * s.td.rank + 8 * b2n s.batch.isSome + 4 * b2n (!noWriting s) + 2 * b2n (lastNotRun s) +
  4 * s.pending.length + 3 * s.deferred.length + b2n (!s.dgDone)

theorem b2n_le (b : Bool) : b2n b ≤ 1 := by cases b <;> simp [b2n]

theorem noWriting_false {s : St} (h : noWriting s = false) (hv : Inv s) :
    ∃ g, s.gens.getLast? = some g ∧ g.stat = .writing := by
  obtain ⟨g, hg, hw⟩ := List.all_eq_false.mp h
  obtain ⟨i, hi, rfl⟩ := List.mem_iff_getElem.mp hg
  have hw : s.gens[i].stat = .writing := by simpa using hw
  have hgi := List.getElem?_eq_getElem hi
  -- the generation being written is the last one
  have hidx := hv.gensLast i _ hgi hw
  exact ⟨_, by rw [List.getLast?_eq_getElem?, show s.gens.length - 1 = i by omega]; exact hgi, hw⟩

theorem noWriting_after_commit {s : St} (hv : Inv s) (x : Gen)
    (hx : x.stat ≠ .writing) : (s.gens.set (s.gens.length - 1) x).all (fun g => g.stat != .writing) = true := by
  rw [List.all_eq_true]
  intro y hy
  obtain ⟨j, hj, rfl⟩ := List.mem_iff_getElem.mp hy
  have hj' : (s.gens.set (s.gens.length - 1) x)[j]? = some (s.gens.set (s.gens.length - 1) x)[j] :=
    List.getElem?_eq_getElem hj
  rcases getElem?_set_cases hj' with ⟨hne, h1⟩ | ⟨_, h2⟩
  · have : (s.gens.set (s.gens.length - 1) x)[j].stat ≠ .writing := by
      intro hw
      have := hv.gensLast j _ h1 hw
      omega
    simpa using this
  · rw [h2]; simpa using hx

theorem drain_length (d : Nat) (l : List AckRec) : (drain d l).1.length + (drain d l).2.length = l.length := by
  have := congrArg List.length (drain_append d l)
  simpa using this

theorem V_eq {s t : St} (h1 : t.td = s.td) (h2 : t.batch = s.batch) (h3 : t.pending = s.pending)
    (h4 : t.deferred = s.deferred) (h5 : t.dgDone = s.dgDone) :
    V t = 100 * s.td.rank + 8 * b2n s.batch.isSome + 4 * b2n (!noWriting t) + 2 * b2n (lastNotRun t) +
      4 * s.pending.length + 3 * s.deferred.length + b2n (!s.dgDone) := by
  simp only [V, h1, h2, h3, h4, h5]

/-- a write is in flight: the store answers (successfully) and the variant drops -/
theorem prog_flush {c : Cfg} {s : St} (hv : Inv s) (hal : s.alive = true) (hw : noWriting s = false) :
    ∃ e s', evHealthy c s e = true ∧ step c s e = some s' ∧ V s' < V s := by
  obtain ⟨g, hg, hgw⟩ := noWriting_false hw hv
  have hlen := length_ne_zero_of_getLast? hg
  have key : ∀ t : St, t = { setGen s (s.gens.length - 1) { g with stat := .ok } with
        store := g.snap, commits := s.commits ++ [g.snap] } → V t < V s := by
    intro t ht
    have hnw : noWriting t = true := by
      rw [ht]; exact noWriting_after_commit hv _ (by simp)
    have hln : lastNotRun t = lastNotRun s := by
      rw [ht]
      simp only [lastNotRun, setGen]
      rw [getLast?_set, hg]
      have : s.gens.length - 1 + 1 = s.gens.length := by omega
      simp [this]
    rw [V_eq (s := s) (t := t) (by rw [ht]; rfl) (by rw [ht]; rfl) (by rw [ht]; rfl) (by rw [ht]; rfl) (by rw [ht]; rfl)]
    simp only [V, hnw, hln, hw]
    simp [b2n]
  exact ⟨_, _, rfl, step_complete (.commit g hg hal hgw), key _ rfl⟩

/-- Teardown's statements that only move its program counter on write fields `V` does not read -/
theorem V_phase {s : St} {t t' : Td} {cl ss esc pu : Bool} {n : Nat} (htd : s.td = t)
    (hr : decide (t'.rank < t.rank) = true) :
    V { s with closed := cl, streamStopped := ss, escalating := esc, pluginUp := pu, teardowns := n,
               td := t' } < V s := by
  have := of_decide_eq_true hr
  simp only [V, noWriting, lastNotRun, htd]
  omega

theorem V_trigger {s t : St} (b : Stored × Option Nat) (hb : s.batch = some b) (hr : t.td.rank ≤ s.td.rank)
    (h2 : t.batch = none) (h3 : t.pending = s.pending) (h4 : t.deferred = s.deferred) (h5 : t.dgDone = s.dgDone)
    (hnw : noWriting s = true) : V t < V s := by
  have a1 := b2n_le (!noWriting t)
  have a2 := b2n_le (lastNotRun t)
  simp only [V, hb, h2, h3, h4, h5, hnw]
  simp only [b2n, Option.isSome_some, Option.isSome_none, if_true, Bool.not_true, Bool.false_eq_true, if_false]
  simp only [b2n] at a1 a2
  omega

theorem set_all_stat {l : List Gen} {i : Nat} {g x : Gen} (hg : l[i]? = some g) (hx : x.stat = g.stat) :
    (l.set i x).all (fun g => g.stat != .writing) = l.all (fun g => g.stat != .writing) := by
  induction l generalizing i with
  | nil => simp
  | cons y ys ih =>
    cases i with
    | zero =>
      simp only [List.getElem?_cons_zero, Option.some.injEq] at hg
      subst hg
      simp [List.set, hx]
    | succ n =>
      simp only [List.getElem?_cons_succ] at hg
      simp only [List.set, List.all_cons, ih hg]

/-- the callback of the latest (committed) generation runs: its acks move on, the variant drops -/
theorem prog_callback {c : Cfg} {s : St} (hal : s.alive = true) (g : Gen)
    (hg : s.gens.getLast? = some g) (hst : g.stat = .ok) (hnr : g.cbSt = .notRun) (hcl : s.closed = false) :
    ∃ e s', evHealthy c s e = true ∧ step c s e = some s' ∧ V s' < V s := by
  have hgi : s.gens[s.gens.length - 1]? = some g := by rw [← List.getLast?_eq_getElem?]; exact hg
  have hlen := length_ne_zero_of_getLast? hg
  have hlast1 : s.gens.length - 1 + 1 = s.gens.length := by omega
  have hlnr : lastNotRun s = true := by simp [lastNotRun, hg, hnr]
  have key : ∀ t : St, t.td = s.td → t.batch = s.batch → t.dgDone = s.dgDone →
      t.gens = s.gens.set (s.gens.length - 1) { g with cbSt := .done } →
      4 * t.pending.length + 3 * t.deferred.length ≤ 4 * s.pending.length + 3 * s.deferred.length →
      V t < V s := by
    intro t h1 h2 h5 h6 hle
    have hnw : noWriting t = noWriting s := by
      simp only [noWriting, h6]
      exact set_all_stat hgi rfl
    have hln : lastNotRun t = false := by
      simp only [lastNotRun, h6]
      rw [getLast?_set]
      simp [hlast1]
    simp only [V, h1, h2, h5, hnw, hln, hlnr]
    simp only [b2n, if_true, Bool.false_eq_true, if_false]
    omega
  cases hcb : g.cb with
  | none =>
    exact ⟨_, _, rfl, step_complete (.callbackOpen _ g hgi hal hnr hst hcb), key _ rfl rfl rfl rfl (Nat.le_refl _)⟩
  | some q =>
    refine ⟨_, _, rfl, step_complete (.callbackAck _ g q hgi hal hnr hst hcb), ?_⟩
    have hd := drain_length (if q > s.durable then q else s.durable) s.pending
    rw [onFlushedOk_eq]
    refine key _ rfl rfl rfl rfl ?_
    simp only [setGen, hcl, Bool.false_eq_true, if_false, List.length_append]
    omega

/-- C06 progress: Teardown has begun and not returned ⇒ a healthy event is enabled that lowers `V` -/
theorem teardown_progress {c : Cfg} {s : St} (ha : InvAll s)
    (hmid : 1 ≤ s.td.rank ∧ s.td.rank ≤ 9) :
    ∃ e s', evHealthy c s e = true ∧ step c s e = some s' ∧ V s' < V s := by
  obtain ⟨hv, ht, hh⟩ := ha
  have hal := hh.alive
  have hne : ¬ s.escalating = true := by simp [hh.noEsc.1]
  have fire : ∀ {e s'}, evHealthy c s e = true → Step c s e s' → V s' < V s →
      ∃ e s', evHealthy c s e = true ∧ step c s e = some s' ∧ V s' < V s :=
    fun he hs hv => ⟨_, _, he, step_complete hs, hv⟩
  cases htd : s.td with
  | idle => rw [htd] at hmid; simp [Td.rank] at hmid
  | done ok => rw [htd] at hmid; simp [Td.rank] at hmid
  | begun =>
    by_cases hw : noWriting s = true
    · by_cases hm : s.mustTrigger = true
      · -- the threshold flush an Ack is waiting for
        cases hbt : s.batch with
        | none => exact absurd hbt (hv.mustB hm)
        | some b => exact fire rfl (.trigger b hbt hal hw) (V_trigger b hbt (Nat.le_refl _) rfl rfl rfl rfl hw)
      · cases hbt : s.batch with
        | none => exact fire rfl (.tdFlushEmpty hal htd hm hbt) (V_phase htd rfl)
        | some b =>
          exact fire rfl (.tdFlush b hal htd hm hbt hw) (V_trigger b hbt (by simp [htd, Td.rank]) rfl rfl rfl rfl hw)
    · exact prog_flush hv hal (by simpa using hw)
  | flushed => exact fire rfl (.tdSnap hal htd) (V_phase htd rfl)
  | waiting og =>
    have wait : (∀ g, s.gens.getLast? = some g → g.writeDone = true ∧ g.callbacksDone = true) → _ := fun h =>
      fire rfl (.tdWaited false og htd hal (.inr ((waitIdx_iff (hh.waitIdx og htd)).mpr h)))
        (V_phase htd rfl)
    cases hg : s.gens.getLast? with
    | none => exact wait (by rw [hg]; nofun)
    | some g =>
      have hgi : s.gens[s.gens.length - 1]? = some g := by rw [← List.getLast?_eq_getElem?]; exact hg
      rcases hh.gensOkW _ g hgi with hwr | hok
      · -- the final flush is still being written
        refine prog_flush hv hal ?_
        cases hq : noWriting s with
        | false => rfl
        | true => exact absurd hwr ((noWriting_iff s).mp hq _ g hgi)
      · cases hcs : g.cbSt with
        | notRun =>
          have hcl : s.closed = false := by rw [ht.clo, htd]; simp [Td.rank]
          exact prog_callback hal g hg hok hcs hcl
        | blocked => exact nomatch hok.symm.trans (hv.blockedF _ g hgi hcs)
        | done =>
          refine wait fun g' hg' => ?_
          cases hg.symm.trans hg'
          simp [Gen.writeDone, Gen.callbacksDone, hok, hcs]
  | waited => exact fire rfl (.closeQueue hal htd) (V_phase htd rfl)
  | closedQ =>
    by_cases hdg : s.dgDone = true
    · exact fire rfl (.tdDrained false hal htd (.inr hdg)) (V_phase htd rfl)
    · have hup : s.pluginUp = true := by rw [ht.pup, htd]; rfl
      have hss : ¬ s.streamStopped = true := by rw [ht.sst, htd]; simp [Td.rank]
      have hcl : s.closed = true := by rw [ht.clo, htd]; simp [Td.rank]
      cases hdf : s.deferred with
      | nil =>
        refine fire rfl (.dgExit hal hdg hcl hdf hne) ?_
        have hdg' : s.dgDone = false := by simpa using hdg
        simp only [V, noWriting, lastNotRun, hdg']
        simp [b2n]
      | cons a rest =>
        refine fire rfl (.deliverOk a rest hdf hal hdg hne hup (by simp [hh.noEsc.2]) hss) ?_
        simp only [V, noWriting, lastNotRun, hdf, List.length_cons]
        omega
  | drained => exact fire rfl (.stopStream hal htd) (V_phase htd rfl)
  | stopped =>
    have hdg : s.dgDone = true := hh.drainedD (by rw [htd]; simp [Td.rank])
    exact fire rfl (.join hal htd hdg) (V_phase htd rfl)
  | joined =>
    have hbn : s.batch = none := hh.flushedB (by rw [htd]; simp [Td.rank])
    have hm : ¬ s.mustTrigger = true := fun hq => hv.mustB hq hbn
    exact fire rfl (.pluginTeardown true hal htd hm hbn) (V_phase htd rfl)

end Conduit.SrcAck
