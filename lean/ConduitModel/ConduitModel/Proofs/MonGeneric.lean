import ConduitModel.Proofs.PassStep
import ConduitModel.Spec.FunnelRun

/-!
# A generic invariant-preservation theorem for the engine

A state predicate `I` that
* does not look at the split-run heap, the fan-out tallies and the remaining fan-out orders, and
* is preserved by the four operations that touch the event log, the scripts or the DLQ window —
  `procDo`, `destDo … none`, `workerAck`, `workerNack` —
is preserved by the whole task recursion (`doTaskAttempt`, `taintedLoop`, `doNextTask`, `branches`)
and by every ack/nack handler chain (`ackerCall`, `releaseLoop`, `voteLoop`), for every fuel, tree,
batch and outcome (`pipeline_keeps_inv`, `ackers_keep_inv`), hence by `runBatches` (`runBatches_keeps`).
For an invariant of the log and the scripts the four operations come down to three kinds of writes
(`Prims.of_events`). Instances: the log only grows (`runBatches_log_mono`), script consistency
(`prims_SC`, Proofs/MonFacts.lean).
-/
namespace Conduit.Funnel

/-- `t` differs from `s` at most in heap, tallies and remaining fan-out orders -/
structure SameObs (s t : PS) : Prop where
  log : t.log = s.log
  scripts : t.scripts = s.scripts
  win : t.win = s.win
  thr : t.thr = s.thr
  size : t.size = s.size
  dlqTask : t.dlqTask = s.dlqTask

/-- what `pipeline_keeps_inv` and `ackers_keep_inv` ask of an invariant -/
structure Prims (I : PS → Prop) : Prop where
  frame : ∀ s t : PS, SameObs s t → I s → I t
  proc : ∀ (task : Nat) (b : Batch), Spec I (procDo task b) (fun _ => True)
  dest : ∀ (task : Nat) (b : Batch), Spec I (destDo task b none) (fun _ => True)
  ack : ∀ b : Batch, Spec I (workerAck b) (fun _ => True)
  nack : ∀ (b : Batch) (task : Nat), Spec I (workerNack b task) (fun _ => True)

section
variable {I : PS → Prop} (hI : Prims I)
include hI

theorem keeps_modify (f : PS → PS) (hf : ∀ s, SameObs s (f s)) : Spec I (modify f : M PUnit) (fun _ => True) :=
  Spec.modify f (fun t ht => hI.frame t (f t) (hf t) ht) trivial

theorem keeps_set (s0 s1 : PS) (h0 : I s0) (h : SameObs s0 s1) : Spec I (set s1 : M PUnit) (fun _ => True) :=
  Spec.set s1 (hI.frame s0 s1 h h0) trivial

end

theorem ackers_keep_inv {I : PS → Prop} (hI : Prims I) (fuel : Nat) :
    (∀ (acker : Acker) (b : Batch) (a : Bool) (t : Nat), Spec I (ackerCall fuel acker b a t) (fun _ => True)) ∧
    (∀ (id : Nat) (parent : Acker), Spec I (releaseLoop fuel id parent) (fun _ => True)) ∧
    (∀ (parent : Acker) (batch : Batch) (a : Bool) (t i : Nat), Spec I (voteLoop fuel parent batch a t i) (fun _ => True)) := by
  -- the handlers' own writes go to a tally or a ledger entry only
  obtain ⟨hA, hR, hV⟩ := ackers_keep (I := I) (fun _ => True) (fun _ => True) (fun _ _ _ _ _ _ => trivial)
    (fun _ _ _ => ⟨trivial, trivial⟩) (fun _ => ⟨trivial, trivial⟩)
    (fun _ _ _ _ _ _ s => hI.frame s _ ⟨rfl, rfl, rfl, rfl, rfl, rfl⟩) (fun _ _ _ s => hI.frame s _ ⟨rfl, rfl, rfl, rfl, rfl, rfl⟩)
    hI.ack hI.nack fuel
  exact ⟨fun k b a t => hA k b a t trivial fun _ _ => trivial, fun id p => hR id p trivial fun _ _ => trivial,
    fun p b a t i => hV p b a t i trivial fun _ _ => trivial⟩

theorem taskDo_keeps {I : PS → Prop} (hI : Prims I) (node : TaskNode) (b : Batch) :
    Spec I (taskDo node b) (fun _ => True) := by
  unfold taskDo
  split
  · exact hI.proc _ _
  · exact hI.dest _ _
  · exact Spec.pure _ trivial

theorem pipeline_keeps_inv {I : PS → Prop} (hI : Prims I) : ∀ fuel : Nat,
    (∀ (node : TaskNode) (b : Batch) (a : Acker) (retry : Option RetryAttempt) (skipDo : Bool),
      Spec I (doTaskAttempt fuel node b a retry skipDo) (fun _ => True)) ∧
    (∀ (node : TaskNode) (b : Batch) (a : Acker) (retry : Option RetryAttempt) (i : Nat),
      Spec I (taintedLoop fuel node b a retry i) (fun _ => True)) ∧
    (∀ (node : TaskNode) (b : Batch) (a : Acker), Spec I (doNextTask fuel node b a) (fun _ => True)) ∧
    (∀ (nexts : List TaskNode) (order : List Nat) (b : Batch) (a : Acker) (errs : Option Err) (pan : Option String),
      Spec I (branches fuel nexts order b a errs pan) (fun _ => True)) := by
  intro fuel
  induction fuel with
  | zero =>
    refine ⟨?_, ?_, ?_, ?_⟩
    · intro node b a retry skipDo; rw [doTaskAttempt_zero]; exact Spec.throw _
    · intro node b a retry i; rw [taintedLoop_zero]; exact Spec.throw _
    · intro node b a; rw [doNextTask_zero]; exact Spec.throw _
    · intro nexts order b a errs pan; rw [branches_zero]; exact Spec.throw _
  | succ fuel ih =>
    obtain ⟨ihD, ihT, ihN, ihB⟩ := ih
    have ihA := (ackers_keep_inv hI fuel).1
    refine ⟨?_, ?_, ?_, ?_⟩
    · intro node b a retry skipDo
      rw [doTaskAttempt]
      refine Spec.ite (Spec.bind (Spec.pure _ trivial) ?rest)
        (Spec.bind (Spec.tryCatch (taskDo_keeps hI node b) fun e => ?_) ?rest)
      · intro b1 _
        exact Spec.ite (Spec.ite (ihA _ _ _ _) (ihN _ _ _)) (ihT _ _ _ _ _)
      · cases e <;> exact Spec.throw _
    · intro node b a retry i
      rw [taintedLoop]
      refine Spec.ite (Spec.pure _ trivial) ?_
      apply Spec.bind (Spec.liftR_top _); intro sb _
      apply Spec.bind (Spec.liftR_top _); intro s0 _
      have next : ∀ _ : Unit, True → Spec I (taintedLoop fuel node b a retry (i + sb.pos.length)) (fun _ => True) :=
        fun _ _ => ihT _ _ _ _ _
      cases s0.flag with
      | ack => exact Spec.ite (Spec.bind (ihA _ _ _ _) next) (Spec.bind (ihN _ _ _) next)
      | filter => exact Spec.ite (Spec.bind (ihA _ _ _ _) next) (Spec.bind (ihN _ _ _) next)
      | nack => exact Spec.bind (ihA _ _ _ _) next
      | retry =>
        apply Spec.bind (Spec.liftR_top _); intro sb' _
        cases retry with
        | none => exact Spec.ite (Spec.throw_bind _ _) (Spec.bind (ihD _ _ _ _ _) next)
        | some r =>
          exact Spec.ite (Spec.throw_bind _ _) (Spec.ite (Spec.throw_bind _ _) (Spec.bind (ihD _ _ _ _ _) next))
    · intro node b a
      rw [doNextTask]
      split
      · exact Spec.pure _ trivial
      · exact ihD _ _ _ _ _
      · apply Spec.get_bind; intro s0 h0
        refine Spec.ite (Spec.throw_bind _ _) ?_
        dsimp only
        split
        · exact Spec.throw _
        · exact Spec.bind (keeps_set hI s0 _ h0 (by exact ⟨rfl, rfl, rfl, rfl, rfl, rfl⟩)) fun _ _ => ihB _ _ _ _ _ _
    · intro nexts order b a errs pan
      cases order with
      | nil =>
        unfold branches
        split
        · exact Spec.throw _
        · exact Spec.throw _
        · exact Spec.pure _ trivial
      | cons k rest =>
        rw [branches]
        split
        · exact ihB _ _ _ _ _ _
        · apply Spec.get_bind; intro s0 h0
          dsimp only
          apply Spec.bind (keeps_set hI s0 _ h0 (by exact ⟨rfl, rfl, rfl, rfl, rfl, rfl⟩)); intro _ _
          -- a failing branch does not stop the others: its outcome is only recorded
          apply Spec.bind (P := fun _ => True)
            (Spec.tryCatch (Spec.bind (ihD _ _ _ _ _) fun _ _ => Spec.pure _ trivial) fun e => Spec.pure _ trivial)
          intro res _
          split <;> exact ihB _ _ _ _ _ _

theorem runPass_keeps {I : PS → Prop} (hI : Prims I) (fuel : Nat) (tree : TaskNode) (recs : List Rec) :
    Spec I (runPass fuel tree recs) (fun _ => True) :=
  (pipeline_keeps_inv hI fuel).1 _ _ _ _ _


theorem runBatches_keeps {I : PS → Prop} (hI : Prims I) (fuel : Nat) (tree : TaskNode) :
    ∀ batches : List (List Rec), Spec I (runBatches fuel tree batches) (fun _ => True) := by
  intro batches
  induction batches with
  | nil => exact Spec.pure _ trivial
  | cons b bs ih =>
    unfold runBatches
    apply Spec.bind (P := fun _ => True)
    · exact keeps_modify hI _ (fun s => ⟨rfl, rfl, rfl, rfl, rfl, rfl⟩)
    intro _ _
    apply Spec.bind (P := fun _ => True) (runPass_keeps hI fuel tree b)
    intro _ _
    exact ih

/-- the task an event counts a call for -/
def evTask : Ev → Option Nat
  | .pcall t _ => some t
  | .write t _ => some t
  | .dlqw t _ => some t
  | .sack _ => none

theorem procDo_shape (t : Nat) (b : Batch) (s : PS) :
    ∃ hp : Heap,
      exec (procDo t b) s =
        ((procDoP s.heap b (procOut (nextReply s.scripts t))).map (·.2),
          { s with log := s.log.push (.pcall t b.active), scripts := popScripts s.scripts t, heap := hp }) ∧
      (∀ (h' : Heap) (b' : Batch), procDoP s.heap b (procOut (nextReply s.scripts t)) = .ok (h', b') → hp = h') := by
  obtain ⟨hp, h1, h2⟩ := procDo_eq_model t b s
  refine ⟨hp, ?_, ?_⟩
  · have h1' : exec (procDo t b) s = _ := h1
    rw [h1']
    simp only [popReplyP_eq]
  · intro h' b' hb
    apply h2 h' b'
    simp only [popReplyP_eq]
    exact hb

theorem destDo_shape (t : Nat) (b : Batch) (s : PS) :
    exec (destDo t b none) s =
      (destDoP b (destReply (nextReply s.scripts t)).1 (destReply (nextReply s.scripts t)).2,
        { s with log := s.log.push (.write t b.active), scripts := popScripts s.scripts t }) := by
  have h1 : exec (destDo t b none) s = _ := destDo_eq_model t b none s
  rw [h1]
  simp only [popReplyP_eq]

/-- The four emitters write nothing but this: a task event together with the pop of that task's next
reply, an ack to the source, or neither. An invariant of log and scripts that these three keep is
kept by the engine. -/
theorem Prims.of_events {I : PS → Prop}
    (same : ∀ s t : PS, t.log = s.log → t.scripts = s.scripts → I s → I t)
    (event : ∀ (s t : PS) (e : Ev) (task : Nat), evTask e = some task → t.log = s.log.push e →
      t.scripts = popScripts s.scripts task → I s → I t)
    (sack : ∀ (s t : PS) (ps : List PosV), t.log = s.log.push (.sack ps) → t.scripts = s.scripts → I s → I t) :
    Prims I where
  frame := fun s t h hs => same s t h.log h.scripts hs
  proc := fun task b t ht => by
    refine ⟨?_, fun _ _ => trivial⟩
    obtain ⟨hp, h1, _⟩ := procDo_shape task b t
    rw [h1]
    exact event t _ (.pcall task b.active) task rfl rfl rfl ht
  dest := fun task b t ht => by
    refine ⟨?_, fun _ _ => trivial⟩
    rw [destDo_shape]
    exact event t _ (.write task b.active) task rfl rfl rfl ht
  ack := (worker_keeps (fun s _ => same s _ rfl rfl) (fun s _ => event s _ _ s.dlqTask rfl rfl rfl)
    fun s _ => sack s _ _ rfl rfl).1
  nack := (worker_keeps (fun s _ => same s _ rfl rfl) (fun s _ => event s _ _ s.dlqTask rfl rfl rfl)
    fun s _ => sack s _ _ rfl rfl).2

theorem prims_logPrefix (L : List Ev) : Prims (fun t => L <+: t.log.toList) :=
  Prims.of_events (fun _ _ hl _ h => by rw [hl]; exact h)
    (fun _ _ _ _ _ hl _ h => by rw [hl, Array.toList_push]; exact h.trans (List.prefix_append _ _))
    (fun _ _ _ hl _ h => by rw [hl, Array.toList_push]; exact h.trans (List.prefix_append _ _))

theorem runBatches_log_mono (fuel : Nat) (tree : TaskNode) (batches : List (List Rec)) (s : PS) :
    s.log.toList <+: (exec (runBatches fuel tree batches) s).2.log.toList :=
  (runBatches_keeps (prims_logPrefix s.log.toList) fuel tree batches s (List.prefix_refl _)).1

end Conduit.Funnel
