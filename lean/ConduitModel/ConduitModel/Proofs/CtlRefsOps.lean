import ConduitModel.Proofs.CtlRefs
import ConduitModel.Proofs.CtlStore

/-!
`MInv` is preserved by the successful effect of every operation (API and environment): the
success half of the inductive step of C14's reference-consistency theorem. A failed call outside
the F7 triggers changes nothing (all-or-nothing); `C14_inv_step` puts the two halves together.
-/
namespace Conduit.Ctl

theorem run_ok_elim (f : Svc) (s : St) (hok : (f.run s).1 = .ok ()) :
    f.pre s.mem = none ∧ (f.run s).2.mem = f.upd s.mem :=
  let ⟨hp, e⟩ := Svc.run_ok_inv hok; ⟨hp, by rw [e]; exact stepOk_mem f s⟩

theorem guarded_ok_elim (g : Mem → Except Err Unit) (f : Svc) (s : St) (hok : (guarded g f s).1 = .ok ()) :
    g s.mem = .ok () ∧ f.pre s.mem = none ∧ (guarded g f s).2.mem = f.upd s.mem :=
  let ⟨hg, hp, e⟩ := guarded_ok_inv hok; ⟨hg, hp, by rw [e]; exact stepOk_mem f s⟩

theorem orch_ok_elim {β} (g : Mem → Except Err β) (steps : β → List Step) (s : St)
    (hok : (orch g steps s).1 = .ok ()) :
    ∃ b, g s.mem = .ok b ∧ PreOk s.mem (steps b) ∧ (orch g steps s).2.mem = applySteps s.mem (steps b) := by
  obtain ⟨b, s', hg, hpre, rfl, e⟩ := orch_ok_inv g steps s hok
  exact ⟨b, hg, hpre, by rw [e]; exact okRun_mem _ _⟩

theorem cnCreate_pre_typ {id typ plugin pid name settings prov state : Nat} {m : Mem}
    (h : (svcCnCreate id typ plugin pid name settings prov state).pre m = none) : typ = 1 ∨ typ = 2 := by
  simp only [svcCnCreate] at h
  by_cases h1 : typ = 1
  · exact Or.inl h1
  · by_cases h2 : typ = 2
    · exact Or.inr h2
    · split at h
      · cases h
      · split at h
        · cases h
        · simp [h1, h2] at h

theorem prCreate_pre_plugin {id plugin ptype parent settings : Nat} {workers : Int} {prov cond : Nat} {m : Mem}
    (h : (svcPrCreate id plugin ptype parent settings workers prov cond).pre m = none) : plugin ≠ 0 := by
  simp only [svcPrCreate] at h
  split at h
  · cases h
  · split at h
    · rename_i hk; intro e; subst e; simp [prPluginKnown] at hk
    · cases h

theorem plCreate_pre_free {id name desc prov : Nat} {m : Mem} (h : (svcPlCreate id name desc prov).pre m = none) :
    m.names name = false := by
  cases hv : plValid m.names name
  · simp [svcPlCreate, hv] at h
  · simp [plValid] at hv; exact hv.1.2

theorem getPl_bind_ok {m : Mem} {id : Id} {f : Pl → Except Err Unit} {u : Unit} (h : (getPl m id >>= f) = .ok u) :
    ∃ p, m.pls id = some p := let ⟨p, hp, _⟩ := bind_ok.1 h; ⟨p, getPl_ok.1 hp⟩

theorem getCn_bind_ok {m : Mem} {id : Id} {f : Cn → Except Err Unit} {u : Unit} (h : (getCn m id >>= f) = .ok u) :
    ∃ c, m.cns id = some c := let ⟨c, hc, _⟩ := bind_ok.1 h; ⟨c, getCn_ok.1 hc⟩

/-- Each body, when it succeeds, has passed its guards and its calls' validations, and memory is what the
calls' mutations make of it (`run_ok_elim`, `guarded_ok_elim`, `orch_ok_elim`, `andThen_ok_inv`): one of the
effects whose `MInv` lemma is in `Proofs/CtlRefs.lean`. -/
theorem opBody_ok_minv (v : Variant) (n : Nat) (op : Op) (s0 : St) (h : MInv n s0.mem)
    (hok : (opBody v n op s0).1 = .ok ()) : MInv (n + 1) (opBody v n op s0).2.mem := by
  have up := fun {m : Mem} (h : MInv n m) => h.mono (Nat.le_succ n)
  cases op with
  | plCreate name desc =>
    obtain ⟨hpre, hm⟩ := run_ok_elim _ s0 hok
    exact hm ▸ h.plCreate name desc 0 (plCreate_pre_free hpre)
  | envPl name =>
    obtain ⟨hpre, hm⟩ := run_ok_elim _ s0 hok
    exact hm ▸ h.plCreate name 0 1 (plCreate_pre_free hpre)
  | plUpdate i name desc =>
    obtain ⟨_, hpre, hm⟩ := guarded_ok_elim _ _ s0 hok
    exact hm ▸ up (h.plUpdate v i name desc hpre)
  | plUpdateDLQ i d =>
    obtain ⟨_, _, hm⟩ := guarded_ok_elim _ _ s0 hok
    exact hm ▸ up (h.updPl i _ fun p => ⟨rfl, rfl, rfl⟩)
  | envStatus i st =>
    obtain ⟨_, hm⟩ := run_ok_elim _ s0 hok
    exact hm ▸ up (h.updPl i _ fun p => ⟨rfl, rfl, rfl⟩)
  | plDelete i =>
    obtain ⟨hg, _, hm⟩ := guarded_ok_elim _ _ s0 hok
    obtain ⟨p, hgp, h1, h2⟩ : ∃ p, plGuards s0.mem i = .ok p ∧ p.conns = [] ∧ p.procs = [] := by simpa using hg
    exact hm ▸ up (h.plDelete (plGuards_ok.1 hgp).1 h1 h2)
  | cnCreate typ plugin pid name settings =>
    obtain ⟨b, hg, hpre, hm⟩ := orch_ok_elim _ _ s0 hok
    obtain ⟨p, hgp, _⟩ := bind_ok.1 hg
    exact hm ▸ h.cnCreate v typ plugin pid name settings 0 (plGuards_ok.1 hgp).1 (cnCreate_pre_typ hpre.1)
  | envCn typ pid name settings =>
    obtain ⟨h1, h2, h3⟩ := andThen_ok_inv _ _ s0 hok
    obtain ⟨hg, hpre, hm1⟩ := guarded_ok_elim _ _ s0 h1
    obtain ⟨_, hm2⟩ := run_ok_elim _ _ h2
    obtain ⟨p, hp⟩ := getPl_bind_ok hg
    exact h3 ▸ hm2 ▸ hm1 ▸ h.cnCreate v typ 1 pid name settings 1 hp (cnCreate_pre_typ hpre)
  | cnUpdate i plugin name settings =>
    obtain ⟨b, _, _, hm⟩ := orch_ok_elim _ _ s0 hok
    exact hm ▸ up (h.updCn i _ fun c => ⟨rfl, rfl, rfl⟩)
  | envState i st =>
    obtain ⟨_, hm⟩ := run_ok_elim _ s0 hok
    exact hm ▸ up (h.updCn i _ fun c => ⟨rfl, rfl, rfl⟩)
  | cnDelete i =>
    obtain ⟨c, hg, _, hm⟩ := orch_ok_elim _ _ s0 hok
    obtain ⟨hc, _, hprocs, p, hp, _⟩ := cnGuardsDelete_ok.1 hg
    exact hm ▸ up (h.cnDelete v hc hprocs hp)
  | prCreate plugin ptype parent settings workers cond =>
    obtain ⟨b, hg, hpre, hm⟩ := orch_ok_elim _ _ s0 hok
    obtain ⟨p, hpp, _⟩ := bind_ok.1 hg
    exact hm ▸ h.prCreate v plugin ptype parent settings workers 0 cond (prCreate_pre_plugin hpre.1)
      ((procPipeline_ok.1 hpp).imp (fun ⟨a, b⟩ => ⟨a, p, b⟩) (fun ⟨a, c, hc, _⟩ => ⟨a, c, hc⟩))
  | envPr ptype parent settings =>
    have hatt : (if ptype = 2 then svcPlAddProc v parent n else svcCnAddProc v parent n) = (attachStep v ptype parent n).act := by
      unfold attachStep; split <;> rfl
    simp only [opBody, hatt] at hok ⊢
    obtain ⟨h1, h2, h3⟩ := andThen_ok_inv _ _ s0 hok
    obtain ⟨hg, hpre, hm1⟩ := guarded_ok_elim _ _ s0 h1
    obtain ⟨_, hm2⟩ := run_ok_elim _ _ h2
    refine h3 ▸ hm2 ▸ hm1 ▸ h.prCreate v 1 ptype parent settings 0 1 0 (by decide) ?_
    split at hg
    · exact .inl ⟨‹_›, getPl_bind_ok hg⟩
    · split at hg
      · exact .inr ⟨‹_›, getCn_bind_ok hg⟩
      · cases hg
  | prUpdate i plugin settings workers =>
    obtain ⟨r, hg, hpre, hm⟩ := orch_ok_elim _ _ s0 hok
    have hpl : plugin ≠ 0 := by
      have := hpre.1
      simp only [svcPrUpdate, (prGuards_ok.1 hg).1] at this
      intro e; simp [e] at this
    exact hm ▸ up (h.updPr i _ fun r => ⟨hpl, rfl, rfl⟩)
  | prDelete i =>
    obtain ⟨r, hg, _, hm⟩ := orch_ok_elim _ _ s0 hok
    exact hm ▸ up (h.prDelete v (prGuards_ok.1 hg).1)

end Conduit.Ctl
