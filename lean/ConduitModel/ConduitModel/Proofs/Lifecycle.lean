import ConduitModel.Model.Lifecycle

/-!
M5 (lifecycle control plane): one inductive invariant `Inv` of the full event system (all failures,
all interleavings, both engines, every combination of the fix flags).

`Step` says once what each event does (guards, successor); the invariants go by cases on it.
Most clauses of `Inv` speak of one run at a time (`RunOk`), and a step replaces one run
(`Inv.setRun`), allocates one (`Inv.newRun`) or rewrites a few global fields (`Inv.setEntry`,
`Inv.setTimers`; `Inv.congr` for the fields `Inv` does not read).
-/
namespace Conduit.Lifecycle

@[simp] theorem setRun_runs (s : State) (n : Nat) (r : Run) (i : Nat) :
    (s.setRun n r).runs i = if i = n then r else s.runs i := rfl
@[simp] theorem setRun_next (s : State) (n : Nat) (r : Run) : (s.setRun n r).next = s.next := rfl
@[simp] theorem setRun_entry (s : State) (n : Nat) (r : Run) : (s.setRun n r).entry = s.entry := rfl
@[simp] theorem setRun_status (s : State) (n : Nat) (r : Run) : (s.setRun n r).status = s.status := rfl
@[simp] theorem setRun_eng (s : State) (n : Nat) (r : Run) : (s.setRun n r).eng = s.eng := rfl
@[simp] theorem setRun_fx (s : State) (n : Nat) (r : Run) : (s.setRun n r).fx = s.fx := rfl
@[simp] theorem setRun_cfg (s : State) (n : Nat) (r : Run) : (s.setRun n r).cfg = s.cfg := rfl
@[simp] theorem setRun_timers (s : State) (n : Nat) (r : Run) : (s.setRun n r).timers = s.timers := rfl
@[simp] theorem setRun_cnt (s : State) (n : Nat) (r : Run) : (s.setRun n r).cnt = s.cnt := rfl
@[simp] theorem setRun_now (s : State) (n : Nat) (r : Run) : (s.setRun n r).now = s.now := rfl
@[simp] theorem setRun_shutdown (s : State) (n : Nat) (r : Run) : (s.setRun n r).shutdown = s.shutdown := rfl
@[simp] theorem setRun_stopIntent (s : State) (n : Nat) (r : Run) : (s.setRun n r).stopIntent = s.stopIntent := rfl
@[simp] theorem setRun_badRestarts (s : State) (n : Nat) (r : Run) : (s.setRun n r).badRestarts = s.badRestarts := rfl
@[simp] theorem setRun_userBusy (s : State) (n : Nat) (r : Run) : (s.setRun n r).userBusy = s.userBusy := rfl
@[simp] theorem setRun_terminalErr (s : State) (n : Nat) (r : Run) : (s.setRun n r).terminalErr = s.terminalErr := rfl
@[simp] theorem setRun_nextTid (s : State) (n : Nat) (r : Run) : (s.setRun n r).nextTid = s.nextTid := rfl

/-- the cleanup goroutine is on the recovery path (has decided to recover / sleeps / restarts). -/
def recoverish : CPc → Bool
  | .decided .recover | .backoff _ _ | .nested _ => true
  | _ => false

theorem anyHolds_false {s : State} (h : anyHolds s = false) (i : Nat) (hi : i < s.next) :
    (s.runs i).holds = false := by
  unfold anyHolds at h
  rw [List.any_eq_false] at h
  have := h i (List.mem_range.mpr hi)
  simpa using this

def timersOf (s : State) (ch : Nat) : List Timer := s.timers.filter fun t => t.chain = ch

/-- The inductive invariant of the full event system. -/
structure Inv (s : State) : Prop where
  /-- run ids `≥ next` are unused. -/
  fresh : ∀ i, s.next ≤ i → s.runs i = {}
  /-- connector guards are held only by runs whose nodes are alive (Teardown releases them). -/
  holdsAlive : ∀ i, (s.runs i).holds = true → (s.runs i).nodesAlive = true
  /-- at most one run holds the connector guards. -/
  oneHolder : ∀ i j, (s.runs i).holds = true → (s.runs j).holds = true → i = j
  /-- a cleanup goroutine is on the recovery path only if the switch saw a non-fatal error. -/
  recoverNonFatal : ∀ i, recoverish (s.runs i).cpc = true → ∃ c, (s.runs i).cerr = some c ∧ c.isFatal = false
  /-- pending decrement timers of a chain never outnumber its attempt counter … -/
  timersLeCnt : ∀ ch, (timersOf s ch).length ≤ s.cnt ch
  /-- … nor the configured retry limit. -/
  timersLeMax : ∀ ch m, s.cfg.maxRetries = some m → (timersOf s ch).length ≤ m
  /-- a sleeping recovery wakes no earlier than MinDelay and is scheduled no later than MaxDelay
  after StatusRecovering was written. -/
  delayBounds : ∀ i w t, (s.runs i).cpc = .backoff w t →
      (s.runs i).recAt + s.cfg.minDelay ≤ w ∧ w ≤ (s.runs i).recAt + s.cfg.maxDelay ∧ (s.runs i).recAt ≤ s.now
  /-- v2 with the `keepIntent` fix: a run that was asked to stop gracefully stays marked. -/
  stopMarked : s.eng = .v2 → s.fx.v2KeepIntent = true → ∀ i, (s.runs i).stopReq = true → (s.runs i).intentional = true
  /-- a tomb reason that the node goroutine only *returned* exists only in v1 without the fix. -/
  pendingOnlyV1 : (s.eng = .v2 ∨ s.fx.v1KillBeforeDone = true) → ∀ i, (s.runs i).tombPending = none
  /-- a recovery's nested run is younger than the run that restarts it. -/
  parentLt : ∀ i p, (s.runs i).starter = .recov p → p < i
  /-- the map entry is a run that exists. -/
  entryLt : ∀ m, s.entry = some m → m < s.next

theorem inv_init (eng : Engine) (cfg : Cfg) (fx : Fixes) : Inv (init eng cfg fx) := by
  constructor <;> intros <;> simp_all [init, recoverish, timersOf]

theorem holds_false_of_anyHolds {s : State} (hi : Inv s) (h : anyHolds s = false) (i : Nat) :
    (s.runs i).holds = false := by
  by_cases hlt : i < s.next
  · exact anyHolds_false h i hlt
  · have := hi.fresh i (by omega)
    simp [this]

theorem exceeded_false {cfg : Cfg} {a : Nat} (h : exceeded cfg a = false) :
    ∀ m, cfg.maxRetries = some m → a ≤ m := by
  intro m hm
  simp [exceeded, hm] at h
  exact h

theorem filter_eraseIdx_length {α} (p : α → Bool) : ∀ (l : List α) (i : Nat) (x : α), l[i]? = some x →
    (l.filter p).length = ((l.eraseIdx i).filter p).length + (if p x then 1 else 0)
  | [], i, x, h => by simp at h
  | a :: l, 0, x, h => by
    simp at h; subst h
    by_cases hp : p a <;> simp [hp]
  | a :: l, i + 1, x, h => by
    have ih := filter_eraseIdx_length p l i x (by simpa using h)
    by_cases hp : p a <;> simp [hp] <;> omega

theorem markRestarted_timersOf (ts : List Timer) (tid ch : Nat) :
    ((markRestarted ts tid).filter fun t => t.chain = ch).length = (ts.filter fun t => t.chain = ch).length := by
  induction ts with
  | nil => rfl
  | cons t ts ih =>
    simp only [markRestarted, List.map_cons, List.filter_cons] at ih ⊢
    by_cases ht : t.id = tid <;> by_cases hc : t.chain = ch <;> simp [ht, hc, ih]

theorem ite_none_eq_some {c : Prop} [Decidable c] {e : Option Nat} {m : Nat}
    (h : (if c then none else e) = some m) : e = some m := by
  split at h
  · cases h
  · exact h

/-- one arm of an `if … then some a else …` cascade (`split` on the whole cascade is slow: its cost
doubles with every arm). -/
theorem of_ite_some {α : Type} {c : Prop} [Decidable c] {a x : α} {rest : Option α}
    (h : (if c then some a else rest) = some x) : a = x ∨ ¬ c ∧ rest = some x := by
  split at h
  · exact .inl (Option.some.inj h)
  · exact .inr ⟨‹_›, h⟩

theorem isSome_ite_some {α : Type} {c : Prop} [Decidable c] {a : α} {rest : Option α}
    (h : rest.isSome = true) : (if c then some a else rest).isSome = true := by
  split
  · rfl
  · exact h

/-- What a step does, as far as the invariants need it.  `step` computes the successor; to prove that
a step preserves something one wants its guards as hypotheses and the successor in the form
`s.setRun n r` with a few global fields rewritten, not an unfolded `stepXxx`.  `Step` is weaker
than `step` (only `Step.of_step` holds): one constructor per event and outcome, the guards that some
proof uses as hypotheses, the successor spelled out, and left free what no invariant reads:
which engine takes which arm of `buildOk` / `writeRunning` (both arms are constructors whatever
`s.eng` is), the attempt chain a build inherits, `terminalErr` after a failed build, the wait target,
`stopIntent` after a graceful StopAll, and `shutdown` after StopAll (only that it stays set once set).
The map entry after a rollback or delete is only known to be the old one or none, and the five ways in
which the recovery wake-up gives up are one constructor whose new `cpc` is any one off the recovery
path. -/
inductive Step (s : State) : Event → State → Prop
  | startRunning : Step s .startUser s
  | startUser : Step s .startUser
      { s.setRun s.next { starter := .user, phase := .building, chain := s.next } with
        next := s.next + 1, userBusy := some s.next, stopIntent := false }
  | buildOk1 n ch : (s.runs n).phase = .building → n < s.next → anyHolds s = false →
      Step s (.buildOk n)
        { s.setRun n { s.runs n with phase := .built, nodesAlive := true, chain := ch } with terminalErr := none }
  | buildOk2 n ch : (s.runs n).phase = .building → n < s.next → anyHolds s = false →
      Step s (.buildOk n)
        { s.setRun n { s.runs n with phase := .built, nodesAlive := true, holds := true, chain := ch,
                                     cpc := .waiting } with terminalErr := none }
  | buildFail n late te : n < s.next →
      Step s (.buildFail n late)
        { notifyStarter (s.setRun n { s.runs n with phase := .failed }) n false with terminalErr := te }
  | publish n : (s.runs n).phase = .built →
      Step s (.publish n) { s.setRun n { s.runs n with phase := .published } with entry := some n }
  | runningOk1 n : (s.runs n).phase = .published →
      Step s (.writeRunning n true)
        (notifyStarter ({ s with status := .running, lastWriter := some n }.setRun n
          { s.runs n with phase := .started, cpc := .waiting }) n true)
  | runningOk2 n : (s.runs n).phase = .published →
      Step s (.writeRunning n true)
        (notifyStarter ({ s with status := .running, lastWriter := some n }.setRun n
          { s.runs n with phase := .started }) n true)
  | runningFail n e : (s.runs n).phase = .published → (∀ m, e = some m → s.entry = some m) →
      Step s (.writeRunning n false)
        (notifyStarter { { s with status := .running, lastWriter := some n }.setRun n
          { s.runs n with phase := .failedLive } with entry := e } n false)
  | startReturn : Step s .startReturn { s with userBusy := none }
  | openOk n : (s.runs n).nodesAlive = true → anyHolds s = false →
      Step s (.openOk n) (s.setRun n { s.runs n with holds := true })
  | nodeExitPending n c : s.eng = .v1 → s.fx.v1KillBeforeDone = false → (s.runs n).nodesAlive = true →
      Step s (.nodeExit n c)
        (s.setRun n { s.runs n with
          nodesAlive := false, holds := false,
          tombPending := if (s.runs n).tomb = none then (s.runs n).tombPending <|> some c
                         else (s.runs n).tombPending })
  | nodeExit n c : ¬(s.eng = .v1 ∧ s.fx.v1KillBeforeDone = false) → (s.runs n).nodesAlive = true →
      Step s (.nodeExit n c)
        (s.setRun n { s.runs n with nodesAlive := false, holds := false, tomb := (s.runs n).tomb <|> some c })
  | tombRecord n : (s.runs n).tombPending ≠ none →
      Step s (.tombRecord n)
        (s.setRun n { s.runs n with tomb := (s.runs n).tomb <|> (s.runs n).tombPending, tombPending := none })
  | nodeExitClean n : (s.runs n).nodesAlive = true →
      Step s (.nodeExitClean n)
        (s.setRun n { s.runs n with
          nodesAlive := false, holds := false,
          gracefulNode := (s.runs n).gracefulNode || ((s.runs n).sysReason && s.eng = .v1) })
  | sourceEof n : (s.runs n).nodesAlive = true →
      Step s (.sourceEof n) (s.setRun n { s.runs n with nodesAlive := false, holds := false })
  | stop f : Step s (.stop f) (stopState s f)
  | stopAllIdle f sd : (s.shutdown = true → sd = true) → Step s (.stopAll f) { s with shutdown := sd }
  | stopAllForce m sd : (s.shutdown = true → sd = true) → s.entry = some m →
      Step s (.stopAll true) { forceState { s with shutdown := sd } m with stopIntent := true }
  | stopAllGraceful m sd b : (s.shutdown = true → sd = true) → s.entry = some m →
      Step s (.stopAll false) { gracefulState { s with shutdown := sd } m true with stopIntent := b }
  | cleanupWake n sink : (s.runs n).cpc = .waiting →
      Step s (.cleanupWake n sink)
        (s.setRun n { s.runs n with cpc := .decided (classify s (s.runs n) ((s.runs n).tomb <|> sink)),
                                    cerr := (s.runs n).tomb <|> sink })
  | statusOk n a : (s.runs n).cpc = .decided a → a ≠ .recover →
      Step s (.writeStatus n true) ({ s with status := a.status }.setRun n { s.runs n with cpc := .tail1 a.err })
  | statusFail n a : (s.runs n).cpc = .decided a → a ≠ .recover →
      Step s (.writeStatus n false)
        ({ s with status := a.status }.setRun n
          { s.runs n with cpc := .doneNoTail, tomb := (s.runs n).tomb <|> some Cause.storeErr })
  | recoverFail n d : (s.runs n).cpc = .decided .recover →
      Step s (.recoverBegin n d false)
        ({ s with status := .recovering }.setRun n { s.runs n with cpc := .decided (.degrade .storeErr) })
  | recoverExhausted n d : (s.runs n).cpc = .decided .recover →
      exceeded s.cfg (s.cnt (s.runs n).chain + 1) = true →
      Step s (.recoverBegin n d true)
        ({ s with status := .recovering,
                  cnt := fun c => if c = (s.runs n).chain then s.cnt (s.runs n).chain + 1 else s.cnt c }.setRun n
          { s.runs n with cpc := .decided (.degrade .cannotRecover) })
  | recoverBackoff n d : (s.runs n).cpc = .decided .recover → s.cfg.minDelay ≤ d → d ≤ s.cfg.maxDelay →
      exceeded s.cfg (s.cnt (s.runs n).chain + 1) = false →
      Step s (.recoverBegin n d true)
        { { s with status := .recovering,
                   cnt := fun c => if c = (s.runs n).chain then s.cnt (s.runs n).chain + 1 else s.cnt c }.setRun n
            { s.runs n with cpc := .backoff (s.now + d) s.nextTid, recAt := s.now } with
          timers := s.timers ++ [{ id := s.nextTid, chain := (s.runs n).chain, fireAt := s.now + d + s.cfg.window }],
          nextTid := s.nextTid + 1 }
  | giveUp n w t c : (s.runs n).cpc = .backoff w t → w ≤ s.now → recoverish c = false →
      Step s (.backoffElapsed n) (s.setRun n { s.runs n with cpc := c })
  | restart n w t : (s.runs n).cpc = .backoff w t → w ≤ s.now → s.entry = some n →
      ¬(s.eng = .v2 ∧ s.fx.v2RecheckStop ∧ (s.runs n).forced) → ¬(s.eng = .v2 ∧ s.shutdown) →
      ¬(s.eng = .v2 ∧ s.fx.v2RecheckStop ∧ (s.runs n).intentional) →
      Step s (.backoffElapsed n)
        { (s.setRun n { s.runs n with cpc := .nested s.next }).setRun s.next
            { starter := .recov n, phase := .building, chain := s.next } with
          next := s.next + 1, restarts := s.restarts + 1,
          badRestarts := s.badRestarts + (if s.stopIntent then 1 else 0),
          timers := markRestarted s.timers t }
  | setTerminalErr n e : (s.runs n).cpc = .tail1 e →
      Step s (.setTerminalErr n) { s.setRun n { s.runs n with cpc := .tail2 e } with terminalErr := some e }
  | deleteEntry n e en : (s.runs n).cpc = .tail2 e → (∀ m, en = some m → s.entry = some m) →
      Step s (.deleteEntry n)
        { s.setRun n { s.runs n with cpc := .done, tomb := (s.runs n).tomb <|> e } with entry := en }
  | tick d : Step s (.tick d) { s with now := s.now + d }
  | attemptDecay i t : s.timers[i]? = some t →
      Step s (.attemptDecay i)
        { s with timers := s.timers.eraseIdx i, cnt := fun c => if c = t.chain then s.cnt c - 1 else s.cnt c }
  | waitBegin w tgt : Step s (.waitBegin w) { s with waits := fun i => if i = w then some tgt else s.waits i }
  | waitReturn w r : Step s (.waitReturn w r) { s with waits := fun i => if i = w then none else s.waits i }

theorem Step.of_step {s s' : State} {e : Event} (h : step s e = some s') : Step s e s' := by
  cases e <;> simp only [step] at h
  case startUser =>
    unfold stepStartUser at h
    split at h
    · cases h
    · split at h <;> cases h
      · exact .startRunning
      · exact .startUser
  case buildOk n =>
    simp only [stepBuildOk, Option.ite_none_left_eq_some, Option.some.injEq, not_or, ge_iff_le, Nat.not_le,
      Bool.not_eq_true, Decidable.not_not] at h
    obtain ⟨⟨hp, hn, hany⟩, rfl⟩ := h
    split
    · exact .buildOk1 n _ hp hn hany
    · exact .buildOk2 n _ hp hn hany
  case buildFail n late =>
    simp only [stepBuildFail] at h
    obtain ⟨hg, h⟩ := Option.ite_none_left_eq_some.mp h
    have hn : n < s.next := Nat.lt_of_not_le fun hle => hg (.inr (.inl hle))
    cases late <;> cases h
    · exact .buildFail n false _ hn
    · exact .buildFail n true none hn
  case publish n =>
    simp only [stepPublish, Option.ite_none_left_eq_some, Option.some.injEq, Decidable.not_not] at h
    obtain ⟨hp, rfl⟩ := h
    exact .publish n hp
  case writeRunning n ok =>
    simp only [stepWriteRunning] at h
    obtain ⟨hp, h⟩ := Option.ite_none_left_eq_some.mp h
    have hp := Decidable.not_not.mp hp
    cases ok <;> simp only [Bool.false_eq_true, ↓reduceIte, Option.some.injEq] at h <;> subst h <;> split
    · exact .runningFail n _ hp fun m hm => ite_none_eq_some hm
    · exact .runningFail n s.entry hp fun m hm => hm
    · exact .runningOk1 n hp
    · exact .runningOk2 n hp
  case startReturn =>
    simp only [stepStartReturn] at h
    split at h
    · cases h
    · split at h <;> cases h
      exact .startReturn
  case openOk n =>
    simp only [stepOpenOk, Option.ite_none_left_eq_some, Option.some.injEq, not_or, Bool.not_eq_true',
      Bool.not_eq_false, Bool.not_eq_true] at h
    obtain ⟨⟨-, hal, -, hany⟩, rfl⟩ := h
    exact .openOk n hal hany
  case nodeExit n c =>
    simp only [stepNodeExit] at h
    split at h
    · cases h
    · rename_i hg
      have hal : (s.runs n).nodesAlive = true := by
        cases ha : (s.runs n).nodesAlive
        · exact absurd (.inl (by rw [ha]; rfl)) hg
        · rfl
      split at h <;> cases h
      · rename_i hv; exact .nodeExitPending n c hv.1 (by simpa using hv.2) hal
      · rename_i hv; exact .nodeExit n c (fun hv' => hv ⟨hv'.1, by simp [hv'.2]⟩) hal
  case tombRecord n =>
    simp only [stepTombRecord] at h
    split at h <;> cases h
    exact .tombRecord n ‹_›
  case nodeExitClean n =>
    simp only [stepNodeExitClean, Option.ite_none_left_eq_some, Option.some.injEq, not_or, Bool.not_eq_true',
      Bool.not_eq_false] at h
    obtain ⟨⟨hal, -⟩, rfl⟩ := h
    exact .nodeExitClean n hal
  case sourceEof n =>
    simp only [stepSourceEof, Option.ite_none_left_eq_some, Option.some.injEq, not_or, Bool.not_eq_true',
      Bool.not_eq_false] at h
    obtain ⟨⟨-, hal⟩, rfl⟩ := h
    exact .sourceEof n hal
  case stop f =>
    unfold stepStop at h
    split at h
    · cases h
    · split at h <;> cases h
      exact .stop f
  case stopAll f =>
    unfold stepStopAll at h
    split at h
    · cases h
    · extract_lets s0 at h
      obtain ⟨sd, hsd, e0⟩ : ∃ sd, (s.shutdown = true → sd = true) ∧ s0 = { s with shutdown := sd } := by
        simp only [s0]
        split
        · exact ⟨s.shutdown, id, rfl⟩
        · exact ⟨true, fun _ => rfl, rfl⟩
      clear_value s0
      subst e0
      split at h
      · cases h; exact .stopAllIdle f sd hsd
      · rename_i m he
        split at h
        · cases h; exact .stopAllIdle f sd hsd
        · split at h
          · rename_i hf; cases hf; cases h; exact .stopAllForce m sd hsd he
          · rename_i hf
            cases eq_false_of_ne_true hf
            split at h <;> cases h
            exact .stopAllGraceful m sd _ hsd he
  case cleanupWake n sink =>
    simp only [stepCleanupWake] at h
    split at h
    · cases h
    · rename_i hg
      have hc : (s.runs n).cpc = .waiting := Decidable.not_not.mp fun hc => hg (.inl hc)
      split at h
      · cases h
      · split at h <;> cases h
        exact .cleanupWake n sink hc
  case writeStatus n ok =>
    simp only [stepWriteStatus] at h
    split at h
    · rename_i a ha
      obtain ⟨hne, h⟩ := Option.ite_none_left_eq_some.mp h
      cases ok <;> simp only [Bool.false_eq_true, ↓reduceIte, Option.some.injEq] at h <;> subst h
      · exact .statusFail n a ha hne
      · exact .statusOk n a ha hne
    · cases h
  case recoverBegin n d ok =>
    simp only [stepRecoverBegin] at h
    obtain ⟨hg, h⟩ := Option.ite_none_left_eq_some.mp h
    simp only [not_or, Nat.not_lt, Decidable.not_not] at hg
    obtain ⟨hcpc, hmin, hmax⟩ := hg
    cases ok <;> simp only [Bool.not_false, Bool.not_true, Bool.false_eq_true, ↓reduceIte] at h
    · cases h; exact .recoverFail n d hcpc
    · split at h <;> cases h
      · exact .recoverExhausted n d hcpc ‹_›
      · exact .recoverBackoff n d hcpc hmin hmax (eq_false_of_ne_true ‹_›)
  case backoffElapsed n =>
    simp only [stepBackoffElapsed] at h
    split at h
    · rename_i w t hb
      obtain ⟨hw, h⟩ := Option.ite_none_left_eq_some.mp h
      have hw := Nat.le_of_not_lt hw
      obtain rfl | ⟨c1, h⟩ := of_ite_some h
      · exact .giveUp n w t _ hb hw rfl
      obtain rfl | ⟨c2, h⟩ := of_ite_some h
      · exact .giveUp n w t _ hb hw rfl
      obtain rfl | ⟨c3, h⟩ := of_ite_some h
      · exact .giveUp n w t _ hb hw rfl
      obtain rfl | ⟨c4, h⟩ := of_ite_some h
      · exact .giveUp n w t _ hb hw rfl
      obtain rfl | ⟨-, h⟩ := of_ite_some h
      · exact .giveUp n w t _ hb hw rfl
      cases h
      exact .restart n w t hb hw (Decidable.not_not.mp c1) c2 c3 c4
    · cases h
  case setTerminalErr n =>
    simp only [stepSetTerminalErr] at h
    split at h <;> cases h
    exact .setTerminalErr n _ ‹_›
  case deleteEntry n =>
    simp only [stepDeleteEntry] at h
    split at h <;> cases h
    refine .deleteEntry n _ _ ‹_› fun m hm => ?_
    split at hm
    · exact ite_none_eq_some hm
    · split at hm
      · exact ite_none_eq_some hm
      · cases hm
  case tick d =>
    split at h <;> cases h
    exact .tick d
  case attemptDecay i =>
    simp only [stepAttemptDecay] at h
    split at h
    · cases h
    · split at h <;> cases h
      exact .attemptDecay i _ ‹_›
  case waitBegin w =>
    simp only [stepWaitBegin] at h
    split at h <;> cases h
    exact .waitBegin w _
  case waitReturn w r =>
    unfold stepWaitReturn at h
    split at h
    · cases h
    · split at h <;> cases h
      exact .waitReturn w r
    · split at h <;> cases h
      exact .waitReturn w r

/-- What `Inv` asks of the single run `r` standing at index `i` (all its clauses but `fresh`,
`oneHolder`, the two timer clauses and `entryLt`). -/
structure RunOk (eng : Engine) (fx : Fixes) (cfg : Cfg) (now : Nat) (i : Nat) (r : Run) : Prop where
  holdsAlive : r.holds = true → r.nodesAlive = true
  recovery : recoverish r.cpc = true → (∃ c, r.cerr = some c ∧ c.isFatal = false) ∧
      ∀ w t, r.cpc = .backoff w t → r.recAt + cfg.minDelay ≤ w ∧ w ≤ r.recAt + cfg.maxDelay ∧ r.recAt ≤ now
  stopMarked : eng = .v2 → fx.v2KeepIntent = true → r.stopReq = true → r.intentional = true
  noPending : eng = .v2 ∨ fx.v1KillBeforeDone = true → r.tombPending = none
  parentLt : ∀ p, r.starter = .recov p → p < i

section general
variable {s s' : State}

theorem Inv.runOk (hi : Inv s) (i : Nat) : RunOk s.eng s.fx s.cfg s.now i (s.runs i) :=
  ⟨hi.holdsAlive i, fun h => ⟨hi.recoverNonFatal i h, hi.delayBounds i⟩, fun e k => hi.stopMarked e k i,
    fun h => hi.pendingOnlyV1 h i, hi.parentLt i⟩

theorem Inv.lt_next (hi : Inv s) {n : Nat} (h : s.runs n ≠ {}) : n < s.next :=
  Nat.lt_of_not_le fun hle => h (hi.fresh n hle)

theorem Inv.lt_of_cpc (hi : Inv s) {n : Nat} {c : CPc} (h : (s.runs n).cpc = c) (hc : c ≠ .unreg := by nofun) :
    n < s.next :=
  hi.lt_next fun h0 => hc (by rw [← h, h0])

theorem Inv.lt_of_phase (hi : Inv s) {n : Nat} {p : Phase} (h : (s.runs n).phase = p)
    (hp : p ≠ .building := by nofun) : n < s.next :=
  hi.lt_next fun h0 => hp (by rw [← h, h0])

theorem Inv.lt_of_alive (hi : Inv s) {n : Nat} (h : (s.runs n).nodesAlive = true) : n < s.next :=
  hi.lt_next fun h0 => by rw [h0] at h; cases h

/-- `Inv` reads nine fields of the state; the others (status, terminalErr, shutdown, userBusy, waits,
nextTid and the ghosts) may change freely. -/
theorem Inv.congr (hi : Inv s)
    (h : (s'.runs, s'.next, s'.entry, s'.timers, s'.cnt, s'.cfg, s'.now, s'.eng, s'.fx) =
         (s.runs, s.next, s.entry, s.timers, s.cnt, s.cfg, s.now, s.eng, s.fx)) : Inv s' := by
  cases s; cases s'
  simp only [Prod.mk.injEq] at h
  obtain ⟨rfl, rfl, rfl, rfl, rfl, rfl, rfl, rfl, rfl⟩ := h
  exact ⟨hi.1, hi.2, hi.3, hi.4, hi.5, hi.6, hi.7, hi.8, hi.9, hi.10, hi.11⟩

/-- The shape almost every step has: one existing run is replaced.  The new value must satisfy the
per-run clauses, and may hold the connector guards only if the old one did (the default) or nobody does. -/
theorem Inv.setRun (hi : Inv s) {n : Nat} {r : Run} (hn : n < s.next) (hr : RunOk s.eng s.fx s.cfg s.now n r)
    (hh : r.holds = true → (s.runs n).holds = true ∨ anyHolds s = false := by exact .inl) :
    Inv (s.setRun n r) where
  fresh i hle := by
    have : s.next ≤ i := hle
    rw [setRun_runs, if_neg (by omega)]; exact hi.fresh i hle
  holdsAlive i := by
    rw [setRun_runs]; split
    · exact hr.holdsAlive
    · exact hi.holdsAlive i
  oneHolder i j := by
    have other : ∀ k, k ≠ n → r.holds = true → (s.runs k).holds = true → False := fun k hk h1 h2 =>
      (hh h1).elim (fun h => hk (hi.oneHolder k n h2 h))
        (fun h => by rw [holds_false_of_anyHolds hi h k] at h2; cases h2)
    simp only [setRun_runs]
    intro h1 h2
    by_cases hin : i = n <;> by_cases hjn : j = n <;> simp only [hin, hjn, if_true, if_false] at h1 h2
    · rw [hin, hjn]
    · exact (other j hjn h1 h2).elim
    · exact (other i hin h2 h1).elim
    · exact hi.oneHolder i j h1 h2
  recoverNonFatal i := by
    rw [setRun_runs]; split
    · exact fun h => (hr.recovery h).1
    · exact hi.recoverNonFatal i
  timersLeCnt := hi.timersLeCnt
  timersLeMax := hi.timersLeMax
  delayBounds i w t := by
    rw [setRun_runs]; split
    · exact fun h => (hr.recovery (by rw [h]; rfl)).2 w t h
    · exact hi.delayBounds i w t
  stopMarked e k i := by
    rw [setRun_runs]; split
    · exact hr.stopMarked e k
    · exact hi.stopMarked e k i
  pendingOnlyV1 h i := by
    rw [setRun_runs]; split
    · exact hr.noPending h
    · exact hi.pendingOnlyV1 h i
  parentLt i := by
    rw [setRun_runs]; split
    · rename_i h; rw [h]; exact hr.parentLt
    · exact hi.parentLt i
  entryLt := hi.entryLt

theorem runOk_new {i c : Nat} {st : Starter} (hp : ∀ p, st = .recov p → p < i) :
    RunOk s.eng s.fx s.cfg s.now i { starter := st, phase := .building, chain := c } :=
  ⟨nofun, nofun, fun _ _ h => (nomatch h), fun _ => rfl, hp⟩

theorem Inv.newRun (hi : Inv s) {r : Run} (hr : RunOk s.eng s.fx s.cfg s.now s.next r) (hh : r.holds = false) :
    Inv { s.setRun s.next r with next := s.next + 1 } := by
  have h1 : Inv { s with next := s.next + 1 } :=
    { hi with
      fresh := fun i (hle : s.next + 1 ≤ i) => hi.fresh i (by omega)
      entryLt := fun m hm => Nat.lt_succ_of_lt (hi.entryLt m hm) }
  exact (h1.setRun (n := s.next) (Nat.lt_succ_self _) hr fun h => by rw [hh] at h; cases h).congr rfl

theorem Inv.setEntry (hi : Inv s) {e : Option Nat} (he : ∀ m, e = some m → m < s.next) :
    Inv { s with entry := e } :=
  { hi with entryLt := he }

theorem Inv.setTimers (hi : Inv s) {ts : List Timer} {cnt : Nat → Nat}
    (hc : ∀ ch, (ts.filter fun t => t.chain = ch).length ≤ cnt ch)
    (hm : ∀ ch m, s.cfg.maxRetries = some m → (ts.filter fun t => t.chain = ch).length ≤ m) :
    Inv { s with timers := ts, cnt := cnt } :=
  { hi with timersLeCnt := hc, timersLeMax := hm }

theorem inv_notifyStarter (hi : Inv s) (n : Nat) (ok : Bool) : Inv (notifyStarter s n ok) := by
  unfold notifyStarter
  split
  · exact hi
  · rename_i p hp
    have hn : n < s.next := hi.lt_next fun h0 => by rw [h0] at hp; cases hp
    have hlt := hi.parentLt n p hp
    cases ok <;> exact hi.setRun (by omega) { hi.runOk p with recovery := nofun }

theorem inv_forceState (hi : Inv s) {m : Nat} (hm : m < s.next) : Inv (forceState s m) :=
  hi.setRun hm { hi.runOk m with }

/-- v1 has no `stopMarked` obligation; v2 either sets `intentional` with `stopReq`, or finds `stopReq`
already set and, under the keepIntent fix, leaves `intentional` as the invariant found it. -/
theorem inv_gracefulState (hi : Inv s) {m : Nat} (hm : m < s.next) (sys : Bool) :
    Inv (gracefulState s m sys) := by
  have hr := hi.runOk m
  unfold gracefulState
  split
  · rename_i heng
    split
    · exact hi.setRun hm { hr with stopMarked := fun h => by rw [heng] at h; cases h }
    · exact hi
  · by_cases hreq : (s.runs m).stopReq = true
    · rw [if_pos hreq]
      exact hi.setRun hm { hr with stopMarked := fun e k q => (if_pos k).trans (hr.stopMarked e k q) }
    · rw [if_neg hreq]
      exact hi.setRun hm { hr with stopMarked := fun _ _ _ => rfl }

theorem inv_stopState (hi : Inv s) (f : Bool) : Inv (stopState s f) := by
  unfold stopState
  split
  · exact hi
  · rename_i m he
    have hm := hi.entryLt m he
    split
    · exact hi
    · cases f
      · exact (inv_gracefulState hi hm false).congr rfl
      · exact (inv_forceState hi hm).congr rfl

theorem recoverish_decided {a : Action} (h : recoverish (.decided a) = true) : a = .recover := by
  cases a <;> first | rfl | cases h

theorem classify_recover {r : Run} {err : Option Cause} (h : classify s r err = .recover) :
    ∃ c, err = some c ∧ c.isFatal = false := by
  unfold classify at h
  split at h
  · split at h <;> cases h
  · split at h
    · cases h
    · exact ⟨_, rfl, eq_false_of_ne_true ‹_›⟩
  · split at h <;> cases h
  · split at h
    · cases h
    · exact ⟨_, rfl, eq_false_of_ne_true ‹_›⟩

theorem classify_fatal {r : Run} {c : Cause} (hf : c.isFatal = true) : classify s r (some c) = .degrade c := by
  cases h : s.eng <;> simp [classify, h, hf]

end general

end Conduit.Lifecycle
