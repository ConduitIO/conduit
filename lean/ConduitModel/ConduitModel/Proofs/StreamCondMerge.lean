import ConduitModel.Model.StreamCondMerge
import ConduitModel.Spec.StreamCondMerge

/-
C09 (condition merge): the merge loop of `condMerge` computes the reference merge `spec` without
ever indexing out of range, and `spec` is aligned.
-/
namespace Conduit.Stream.CondMerge

variable {ρ τ : Type}

theorem keptOf_length (cs : List Cond) (rs : List ρ) (h : cs.length = rs.length) :
    (keptOf cs rs).length = keptCount cs := by
  fun_induction keptOf cs rs <;> simp_all [keptCount]

theorem errOf_eq (cs : List Cond) (rs : List ρ) (h : cs.length = rs.length) :
    errOf cs rs = hasErr cs := by
  fun_induction errOf cs rs <;> simp_all [hasErr]

theorem passOf_ge (cs : List Cond) (rs : List ρ) (i : Nat) :
    ∀ x ∈ passOf cs rs i, i ≤ x := by
  fun_induction passOf cs rs i with
  | case4 _ _ _ i ih => exact fun x hx => Nat.le_of_succ_le (ih x hx)
  | case5 _ _ _ i ih =>
    intro x hx
    rcases List.mem_cons.mp hx with rfl | hx
    · exact Nat.le_refl _
    · exact Nat.le_of_succ_le (ih x hx)
  | _ => nofun

theorem passOf_length_le (cs : List Cond) (rs : List ρ) (i : Nat) :
    (passOf cs rs i).length ≤ rs.length := by
  fun_induction passOf cs rs i <;> simp_all <;> omega

/-- all records pass through: the "no records are kept" shortcut coincides with `spec`. -/
theorem spec_all_pass (cs : List Cond) (rs : List ρ) (ts : List τ) (i : Nat)
    (hlen : cs.length = rs.length) (h : (passOf cs rs i).length = rs.length) :
    spec cs rs ts = rs.map .single := by
  fun_induction passOf cs rs i generalizing ts with
  | case1 rs => cases rs <;> simp_all [spec]
  | case2 => simp at hlen
  | case3 => simp at h
  | case4 cs r rs i ih => have := passOf_length_le cs rs (i+1); simp at h; omega
  | case5 cs r rs i ih => simp_all [spec]

/-- what the loop appends from loop index `i` on, given the remaining conditions/records and the
not yet consumed part `os` of `outRecs`. After a condition error the pass-through list is
exhausted, so the loop consumes one element of `os` per remaining iteration. -/
def specO : List Cond → List ρ → List (Out ρ τ) → List (Out ρ τ)
  | [], _, _ => []
  | _ :: _, [], _ => []
  | .pass :: cs, r :: rs, os => .single r :: specO cs rs os
  | .keep :: cs, _ :: rs, o :: os => o :: specO cs rs os
  | .keep :: _, _ :: _, [] => []
  | .err :: _, _ :: rs, os => os.take (rs.length + 1)

theorem mergeLoop_nil_pass (recs : List ρ) (outRecs : List (Out ρ τ)) :
    ∀ (fuel i next : Nat) (merged : List (Out ρ τ)), next ≤ outRecs.length →
      mergeLoop recs outRecs fuel i next [] merged = .ok (merged ++ (outRecs.drop next).take fuel) := by
  intro fuel
  induction fuel with
  | zero => intro i next merged _; simp [mergeLoop]
  | succ fuel ih =>
    intro i next merged hn
    rw [mergeLoop]
    have h0 : ¬ (0 < ([] : List Nat).length ∧ ([] : List Nat)[0]? = some i) := by simp
    rw [if_neg h0]
    by_cases he : next = outRecs.length
    · rw [if_pos he]; simp [he]
    · rw [if_neg he]
      have hlt : next < outRecs.length := by omega
      rw [List.getElem?_eq_getElem hlt]
      simp only []
      rw [ih (i+1) (next+1) _ (by omega), List.drop_eq_getElem_cons hlt, List.take_succ_cons]
      simp

theorem mergeLoop_spec (recs : List ρ) (outRecs : List (Out ρ τ)) (cs : List Cond) (rs : List ρ) (i next : Nat)
    (merged : List (Out ρ τ)) (hlen : cs.length = rs.length) (hdrop : recs.drop i = rs) (hn : next ≤ outRecs.length) :
    mergeLoop recs outRecs rs.length i next (passOf cs rs i) merged
      = .ok (merged ++ specO cs rs (outRecs.drop next)) := by
  -- the loop reads `recs[i]`, the head of what is left of the records
  have step : ∀ {r rs i}, recs.drop i = r :: rs → recs[i]? = some r ∧ recs.drop (i+1) = rs := fun {r rs i} h => by
    have h0 : (recs.drop i)[0]? = some r := by rw [h]; rfl
    rw [← List.drop_drop, h]; exact ⟨by simpa using h0, rfl⟩
  fun_induction passOf cs rs i generalizing next merged with
  | case1 rs => cases rs <;> simp_all [mergeLoop, specO]
  | case2 => simp at hlen
  | case3 => rw [mergeLoop_nil_pass recs outRecs _ _ next merged hn]; simp [specO]
  | case4 cs r rs i ih =>
    obtain ⟨hri, hdrop'⟩ := step hdrop
    rw [List.length_cons, mergeLoop, if_neg fun ⟨_, h⟩ => by
      have := passOf_ge cs rs (i+1) i (List.mem_of_getElem? h); omega]
    by_cases he : next = outRecs.length
    · rw [if_pos he]; simp [he, specO]
    · have hlt : next < outRecs.length := by omega
      rw [if_neg he, List.getElem?_eq_getElem hlt]
      simp only []
      rw [ih (next+1) _ (by simpa using hlen) hdrop' (by omega), List.drop_eq_getElem_cons hlt]
      simp [specO]
  | case5 cs r rs i ih =>
    obtain ⟨hri, hdrop'⟩ := step hdrop
    rw [List.length_cons, mergeLoop, if_pos (by simp), hri]
    simp only [List.drop_succ_cons, List.drop_zero]
    rw [ih next _ (by simpa using hlen) hdrop' hn]
    simp [specO]

/-- the condition error the code appends to `outRecs`: only when every kept record has a result. -/
def extra (cs : List Cond) (n : Nat) : List (Out ρ τ) :=
  if hasErr cs = true ∧ n = keptCount cs then [Out.condErr] else []

@[simp] theorem extra_nil (n : Nat) : (extra [] n : List (Out ρ τ)) = [] := by simp [extra, hasErr]
@[simp] theorem extra_pass (cs : List Cond) (n : Nat) :
    (extra (Cond.pass :: cs) n : List (Out ρ τ)) = extra cs n := rfl
@[simp] theorem extra_keep_succ (cs : List Cond) (n : Nat) :
    (extra (Cond.keep :: cs) (n+1) : List (Out ρ τ)) = extra cs n := by simp [extra, hasErr, keptCount]
@[simp] theorem extra_keep_zero (cs : List Cond) :
    (extra (Cond.keep :: cs) 0 : List (Out ρ τ)) = [] := by simp [extra, keptCount]
@[simp] theorem extra_err_zero (cs : List Cond) :
    (extra (Cond.err :: cs) 0 : List (Out ρ τ)) = [Out.condErr] := by simp [extra, hasErr, keptCount]

theorem extra_length_le (cs : List Cond) (n : Nat) :
    (extra cs n : List (Out ρ τ)).length ≤ (hasErr cs).toNat := by
  unfold extra
  by_cases h1 : hasErr cs = true <;> by_cases h2 : n = keptCount cs <;> simp [h1, h2]

/-- `outRecs` as built by the code (`raw` mapped, plus the condition error when every kept
record has a result) makes the loop's output the reference merge. -/
theorem specO_eq_spec (cs : List Cond) (rs : List ρ) (ts : List τ)
    (hlen : cs.length = rs.length) (hk : ts.length ≤ keptCount cs) :
    specO cs rs (ts.map (Out.res (ρ := ρ)) ++ extra cs ts.length) = spec cs rs ts := by
  fun_induction spec cs rs ts <;> simp_all [specO, keptCount]

theorem spec_length_le (cs : List Cond) (rs : List ρ) (ts : List τ) :
    (spec cs rs ts).length ≤ cs.length := by
  fun_induction spec cs rs ts <;> simp_all <;> omega

theorem spec_aligned (cs : List Cond) (rs : List ρ) (ts : List τ) : Aligned cs rs ts (spec cs rs ts) := by
  refine ⟨spec_length_le cs rs ts, ?_⟩
  fun_induction spec cs rs ts with
  | case3 cs r rs ts ih | case4 cs r rs t ts ih =>
    intro j x h
    cases j with
    | zero => cases h; simp [rank]
    | succ j => simpa [rank] using ih j x h
  | case6 =>
    intro j x h
    cases j with
    | zero => cases h; simp
    | succ j => cases h
  | _ => nofun

theorem spec_full_length (cs : List Cond) (rs : List ρ) (ts : List τ)
    (hlen : cs.length = rs.length) (hk : ts.length = keptCount cs) (he : hasErr cs = false) :
    (spec cs rs ts).length = cs.length := by
  fun_induction spec cs rs ts <;> simp_all [keptCount, hasErr]

theorem kept_err_le_length (cs : List Cond) :
    keptCount cs + (hasErr cs).toNat ≤ cs.length := by
  induction cs with
  | nil => simp [keptCount, hasErr]
  | cons c cs ih => cases c <;> simp [keptCount, hasErr] <;> omega

/-- what the plugin returns (`raw`), as `condMerge` computes it: it is not called when no record
is kept. -/
def rawOf (conds : List Cond) (recs : List ρ) (plugin : List ρ → List τ) : List τ :=
  if 0 < (keptOf conds recs).length then plugin (keptOf conds recs) else []

theorem condMerge_eq (conds : List Cond) (recs : List ρ) (plugin : List ρ → List τ)
    (hlen : conds.length = recs.length) :
    condMerge conds recs plugin =
      .ok (if keptCount conds < (rawOf conds recs plugin).length then [Out.moreErr]
           else spec conds recs (rawOf conds recs plugin)) := by
  have hK := keptOf_length conds recs hlen
  have hE := errOf_eq conds recs hlen
  unfold condMerge
  simp only []
  rw [show (if 0 < (keptOf conds recs).length then plugin (keptOf conds recs) else [])
        = rawOf conds recs plugin from rfl, hK, hE]
  generalize rawOf conds recs plugin = raw
  by_cases hmore : keptCount conds < raw.length
  · simp [hmore]
  · rw [if_neg hmore, if_neg hmore]
    have hk : raw.length ≤ keptCount conds := by omega
    have hout : (if hasErr conds = true ∧ (List.map (Out.res (ρ := ρ)) raw).length = keptCount conds
                  then List.map Out.res raw ++ [Out.condErr] else List.map Out.res raw)
                = raw.map (Out.res (ρ := ρ)) ++ extra conds raw.length := by
      unfold extra
      by_cases hc : hasErr conds = true ∧ raw.length = keptCount conds
      · simp [hc]
      · have hc' : ¬ (hasErr conds = true ∧ (List.map (Out.res (ρ := ρ)) raw).length = keptCount conds) := by
          simpa using hc
        rw [if_neg hc', if_neg hc]; simp
    rw [hout]
    have hO := specO_eq_spec conds recs raw hlen hk
    have hloop := mergeLoop_spec recs (raw.map (Out.res (ρ := ρ)) ++ extra conds raw.length)
        conds recs 0 0 [] hlen (by simp) (by simp)
    simp only [List.nil_append, List.drop_zero, hO] at hloop
    by_cases hall : (passOf conds recs 0).length = recs.length
    · rw [if_pos hall, spec_all_pass conds recs raw 0 hlen hall]
    · rw [if_neg hall]
      by_cases hp : 0 < (passOf conds recs 0).length
      · rw [if_pos hp, hloop]
      · rw [if_neg hp]
        -- no pass-through record at all: `outRecs` itself is the reference merge
        have hp0 : passOf conds recs 0 = [] := List.eq_nil_of_length_eq_zero (by omega)
        rw [hp0, mergeLoop_nil_pass _ _ _ _ _ _ (by simp)] at hloop
        simp only [List.nil_append, List.drop_zero, Except.ok.injEq] at hloop
        rw [← hloop, List.take_of_length_le]
        have h1 := extra_length_le (ρ := ρ) (τ := τ) conds raw.length
        have h2 := kept_err_le_length conds
        simp only [List.length_append, List.length_map]
        omega

end Conduit.Stream.CondMerge
