import ConduitModel.Proofs.MonSSrc
import ConduitModel.Proofs.MonProc

/-!
# The kids of the rows of a batch after `ProcessorTask.Do`, and their parents

`KidF` is what the monitor proof reads off `KidsOK` (Proofs/MonSRows.lean) about the kids of one row; `PMap` is the
effect `ProcEff` as a parent map: every row of the new batch is a kid, at a known offset, of a row of the old one
(`PMap.decode`, `PMap.encode`), and `smOf` hands it the source of its parent.
-/
namespace Conduit.Funnel
open Conduit.Funnel.Mon

namespace SProc

/-- the index in `kids.flatten` where the `p`-th list starts (`ls` = the lengths) -/
def off (ls : List Nat) (p : Nat) : Nat := (ls.take p).sum

/-- the list the `k`-th element of the flattened list belongs to -/
def parOf : List Nat → Nat → Nat
  | [], _ => 0
  | l :: ls, k => if k < l then 0 else parOf ls (k - l) + 1

theorem off_zero (ls : List Nat) : off ls 0 = 0 := by simp [off]

theorem off_cons_succ (l : Nat) (ls : List Nat) (p : Nat) : off (l :: ls) (p + 1) = l + off ls p := by
  simp [off, List.take_succ_cons, List.sum_cons]

theorem take_succ_eq {α} (l : List α) (p : Nat) (hp : p < l.length) : l.take (p+1) = l.take p ++ [l[p]] := by
  rw [List.take_add_one, List.getElem?_eq_getElem hp]; rfl

theorem off_succ {ls : List Nat} {p : Nat} (hp : p < ls.length) : off ls (p + 1) = off ls p + ls[p] := by
  unfold off
  rw [take_succ_eq ls p hp, List.sum_append]
  simp

theorem off_ge_len {ls : List Nat} {p : Nat} (hp : ls.length ≤ p) : off ls p = ls.sum := by
  unfold off; rw [List.take_of_length_le hp]

theorem off_mono_add (ls : List Nat) (p : Nat) : ∀ n : Nat, off ls p ≤ off ls (p + n) := by
  intro n
  induction n with
  | zero => exact Nat.le_refl _
  | succ n ih =>
    by_cases hp : p + n < ls.length
    · rw [← Nat.add_assoc, off_succ hp]; omega
    · rw [off_ge_len (by omega : ls.length ≤ p + (n + 1))]
      rw [off_ge_len (by omega : ls.length ≤ p + n)] at ih
      exact ih

theorem off_mono (ls : List Nat) {p q : Nat} (h : p ≤ q) : off ls p ≤ off ls q := by
  obtain ⟨n, rfl⟩ := Nat.exists_eq_add_of_le h
  exact off_mono_add ls p n

theorem parOf_spec : ∀ (ls : List Nat) (k : Nat), k < ls.sum →
    parOf ls k < ls.length ∧ off ls (parOf ls k) ≤ k ∧ k < off ls (parOf ls k + 1) := by
  intro ls
  induction ls with
  | nil => intro k hk; simp at hk
  | cons l ls ih =>
    intro k hk
    rw [List.sum_cons] at hk
    unfold parOf
    by_cases h : k < l
    · simp only [h, if_true]
      refine ⟨by simp, by simp [off_zero], ?_⟩
      rw [off_cons_succ, off_zero]; omega
    · simp only [h, if_false]
      obtain ⟨a1, a2, a3⟩ := ih (k - l) (by omega)
      refine ⟨by simp; omega, ?_, ?_⟩
      · rw [off_cons_succ]; omega
      · rw [off_cons_succ]; omega

theorem off_unique {ls : List Nat} {p p' k : Nat} (h1 : off ls p ≤ k) (h2 : k < off ls (p + 1))
    (h3 : off ls p' ≤ k) (h4 : k < off ls (p' + 1)) : p = p' := by
  rcases Nat.lt_trichotomy p p' with h | h | h
  · have := off_mono ls (by omega : p + 1 ≤ p'); omega
  · exact h
  · have := off_mono ls (by omega : p' + 1 ≤ p); omega

theorem parOf_off {ls : List Nat} {p j : Nat} (hp : p < ls.length) (hj : j < ls[p]) : parOf ls (off ls p + j) = p := by
  have h1 : off ls (p + 1) = off ls p + ls[p] := off_succ hp
  have h2 : off ls (p + 1) ≤ ls.sum := by
    rw [← off_ge_len (Nat.le_refl ls.length)]; exact off_mono ls (by omega)
  obtain ⟨_, a2, a3⟩ := parOf_spec ls (off ls p + j) (by omega)
  exact off_unique a2 a3 (by omega) (by omega)

theorem flatten_off {α} : ∀ (kids : List (List α)) (p j : Nat) (ks : List α) (x : α), kids[p]? = some ks → ks[j]? = some x →
    kids.flatten[off (kids.map List.length) p + j]? = some x := by
  intro kids
  induction kids with
  | nil => intro p j ks x h; simp at h
  | cons k0 kids ih =>
    intro p j ks x h1 h2
    cases p with
    | zero =>
      simp only [List.getElem?_cons_zero] at h1
      cases h1
      rw [off_zero, Nat.zero_add, List.flatten_cons, List.getElem?_append_left (List.getElem?_eq_some_iff.mp h2).1]
      exact h2
    | succ p =>
      simp only [List.getElem?_cons_succ] at h1
      rw [List.map_cons, off_cons_succ, List.flatten_cons, Nat.add_assoc, List.getElem?_append_right (by omega)]
      rw [show k0.length + (off (kids.map List.length) p + j) - k0.length = off (kids.map List.length) p + j by omega]
      exact ih p j ks x h1 h2

theorem flatten_decode {α} (kids : List (List α)) {k : Nat} {x : α} (h : kids.flatten[k]? = some x) :
    ∃ (p j : Nat) (ks : List α), p = parOf (kids.map List.length) k ∧ kids[p]? = some ks ∧ ks[j]? = some x ∧
      k = off (kids.map List.length) p + j := by
  have hk : k < (kids.map List.length).sum := by
    rw [← List.length_flatten]; exact (List.getElem?_eq_some_iff.mp h).1
  obtain ⟨a1, a2, a3⟩ := parOf_spec _ k hk
  generalize parOf (kids.map List.length) k = p at a1 a2 a3
  rw [List.length_map] at a1
  rw [off_succ (by rw [List.length_map]; exact a1)] at a3
  simp only [List.getElem_map] at a3
  have hj : k - off (kids.map List.length) p < kids[p].length := by omega
  have := flatten_off kids p _ kids[p] _ (List.getElem?_eq_getElem a1) (List.getElem?_eq_getElem hj)
  rw [show off (kids.map List.length) p + (k - off (kids.map List.length) p) = k by omega, h] at this
  refine ⟨p, k - off (kids.map List.length) p, kids[p], rfl, List.getElem?_eq_getElem a1, ?_, by omega⟩
  rw [List.getElem?_eq_getElem hj]; exact this.symm

theorem off_ge_idx {ls : List Nat} (h1 : ∀ x ∈ ls, 1 ≤ x) : ∀ p : Nat, p ≤ ls.length → p ≤ off ls p := by
  intro p
  induction p with
  | zero => intro _; exact Nat.zero_le _
  | succ p ih =>
    intro hp
    have hlt : p < ls.length := by omega
    rw [off_succ hlt]
    have := h1 ls[p] (List.getElem_mem _)
    have := ih (by omega)
    omega

theorem off_adj {ls : List Nat} (h1 : ∀ x ∈ ls, 1 ≤ x) {p p' j j' : Nat} (hp : p < ls.length) (hp' : p' < ls.length)
    (hj : j < ls[p]) (hj' : j' < ls[p']) (he : off ls p + j + 1 = off ls p' + j') :
    (p' = p ∧ j' = j + 1) ∨ (p' = p + 1 ∧ j' = 0 ∧ j + 1 = ls[p]) := by
  have e1 := off_succ hp
  have e2 := off_succ hp'
  rcases Nat.lt_trichotomy p p' with h | h | h
  · right
    have m1 := off_mono ls (by omega : p + 1 ≤ p')
    by_cases h2 : p' = p + 1
    · subst h2; omega
    · exfalso
      have hp1 : p + 1 < ls.length := by omega
      have e3 := off_succ hp1
      have := h1 ls[p+1] (List.getElem_mem _)
      have m2 := off_mono ls (by omega : p + 1 + 1 ≤ p')
      omega
  · subst h; left; omega
  · exfalso
    have m1 := off_mono ls (by omega : p' + 1 ≤ p)
    omega

theorem off_le_par {ls : List Nat} {p p' j j' : Nat}
    (he : off ls p + j ≤ off ls p' + j') (hp' : p' < ls.length) (hj' : j' < ls[p']) : p ≤ p' := by
  apply Classical.byContradiction
  intro h
  have e2 := off_succ hp'
  have m1 := off_mono ls (by omega : p' + 1 ≤ p)
  omega

theorem sum_eq_zero_iff {ls : List Nat} (h1 : ∀ x ∈ ls, 1 ≤ x) : ls.sum = 0 ↔ ls.length = 0 := by
  constructor
  · intro h
    have := off_ge_idx h1 ls.length (Nat.le_refl _)
    rw [off_ge_len (Nat.le_refl _)] at this
    omega
  · intro h
    have : ls = [] := List.length_eq_zero_iff.mp h
    subst this; rfl


theorem row_run_lt {h : Heap} {b : Batch} {rs : List (Option Nat)} (hwf : b.WF h) (hvb : VB b rs) {k rid : Nat} {row : Row}
    (hk : b.rows[k]? = some row) (hr : row.run = some rid) : rid < h.size := by
  obtain ⟨_, _, _, h4⟩ := rows_fields hvb hk
  have hro := hwf.1.runs_ok
  rw [hvb.runs] at hro
  have := hro.2 _ (List.mem_of_getElem? h4)
  rw [hr] at this
  simpa [runIdOK] using this

theorem active_root {G : Ctx} {h : Heap} {b : Batch} {rs : List (Option Nat)} {sm : List Nat} (hwf : b.WF h) (hvb : VB b rs)
    (hm : SrcMap G h b sm) {a : Nat} {r : Rec} (ha : b.active[a]? = some r) : RootsOf G sm 0 (Mon.root r) := by
  obtain ⟨p, row, _, g2, g3, _⟩ := active_row hwf hvb ha
  obtain ⟨q, src, f1, f2, _, f4⟩ := SM.srcOf hm g2
  exact ⟨p, q, src, Nat.zero_le _, f1, f2, by rw [← f4, g3]⟩

theorem row_inact {b : Batch} {rs : List (Option Nat)} (hvb : VB b rs) {p : Nat} {row : Row}
    (hp : b.rows[p]? = some row) (hn : p ∉ actList b.st) : row.st.flag = .filter := by
  apply Classical.byContradiction
  intro hf
  obtain ⟨a, ha⟩ := row_act hvb hp hf
  exact hn (List.mem_of_getElem? ha)


/-- `rid` is a run allocated by the call for the run-less row `row` -/
def FreshRun (h h' : Heap) (split' : List (Nat × Rec)) (row : Row) (rid : Nat) : Prop :=
  h.size ≤ rid ∧ rid < h'.size ∧ row.pos ≠ none ∧ (h'[rid]!).origPos = row.pos ∧
    ((h'[rid]!).origRec = row.r ∨ ∃ e ∈ split', e.1 = keyOf row.pos ∧ (h'[rid]!).origRec = e.2) ∧
    (h'[rid]!).nacked = false ∧ (h'[rid]!).terminal = 0

/-- the kids `ks` of row `p` of batch `b` (reply `out`), in the form the monitor proof uses -/
structure KidF (h h' : Heap) (b : Batch) (out : List PR) (split' : List (Nat × Rec)) (p : Nat) (row : Row)
    (ks : List Row) : Prop where
  ne : ks ≠ []
  run : ∀ row' ∈ ks, row'.run = row.run ∨ ∃ rid, row'.run = some rid ∧ row.run = none ∧ FreshRun h h' split' row rid
  runs_same : 2 ≤ ks.length → ∃ rid, ∀ row' ∈ ks, row'.run = some rid
  pos : ∀ row' ∈ ks, row'.run = none → row'.pos = row.pos
  recs : ks.map (·.r) = [row.r] ∨ ∃ (a : Nat) (o : PR), (actList b.st)[a]? = some p ∧ out[a]? = some o ∧ ks.map (·.r) = outRecs o
  flag1 : ∀ row' ∈ ks, row'.st.flag ≠ .filter → row.st.flag ≠ .filter
  flag2 : ∀ row' ∈ ks, row'.st.flag = .filter → row.st.flag = .filter ∨
    ∃ (a : Nat) (o : PR), (actList b.st)[a]? = some p ∧ out[a]? = some o ∧ (o = .filter ∨ o = .multi [])
  err : ∀ (a : Nat) (e : Option Err), (actList b.st)[a]? = some p → out[a]? = some (.error e) →
    ∀ row' ∈ ks, row'.st.flag = .nack ∧ row'.run = row.run
  splitk : ∀ (a : Nat) (ms : List Rec), (actList b.st)[a]? = some p → out[a]? = some (.multi ms) → 2 ≤ ms.length →
    ∀ row' ∈ ks, ∃ rid, row'.run = some rid

theorem kidF_inactive {h h' : Heap} {b : Batch} {out : List PR} {split' : List (Nat × Rec)} {p : Nat} {row : Row}
    (hn : p ∉ actList b.st) : KidF h h' b out split' p row [row] := by
  have hm : ∀ row' ∈ [row], row' = row := fun row' h => List.mem_singleton.mp h
  refine ⟨by simp, ?_, ?_, ?_, Or.inl rfl, ?_, ?_, ?_, ?_⟩
  · intro row' h; rw [hm row' h]; exact Or.inl rfl
  · intro h; simp at h
  · intro row' h _; rw [hm row' h]
  · intro row' h hf; rw [hm row' h] at hf; exact hf
  · intro row' h hf; rw [hm row' h] at hf; exact Or.inl hf
  · intro a e ha; exact absurd (List.mem_of_getElem? ha) hn
  · intro a ms ha; exact absurd (List.mem_of_getElem? ha) hn

theorem pieceRows_get {row : Row} {rid : Nat} {ms : List Rec} {sts : List Status} {j : Nat} {row' : Row}
    (h : (pieceRows row rid ms sts)[j]? = some row') :
    j < ms.length ∧ row' = { r := ms[j]?.getD default, st := sts[j]?.getD default, pos := if j = 0 then row.pos else none, run := some rid } := by
  rw [getElem?_pieceRows] at h
  split at h
  · exact ⟨‹_›, (Option.some.inj h).symm⟩
  · cases h

theorem pieceRows_recs (row : Row) (rid : Nat) (ms : List Rec) (sts : List Status) :
    (pieceRows row rid ms sts).map (·.r) = ms := by
  apply List.ext_getElem?
  intro j
  unfold pieceRows
  rw [List.map_map, List.getElem?_map]
  by_cases hj : j < ms.length
  · rw [List.getElem?_range hj]; simp [hj]
  · rw [List.getElem?_eq_none_iff.mpr (by simpa using hj), List.getElem?_eq_none_iff.mpr (by omega)]; rfl

theorem kidF_active {h h' : Heap} {b : Batch} {rs : List (Option Nat)} {out : List PR} {split' : List (Nat × Rec)}
    {p a : Nat} {row : Row} {o : PR} {ks : List Row} (hwf : b.WF h) (hvb : VB b rs)
    (ha : (actList b.st)[a]? = some p) (hp : b.rows[p]? = some row) (ho : (padOut b.nAct out)[a]? = some o)
    (hk : KidsOK h h' split' row o ks) : KidF h h' b out split' p row ks := by
  have hact : row.st.flag ≠ .filter := (act_row hwf hvb ha hp).2
  -- the reply for `p`, as an entry of `out`
  have huniq : ∀ (a' : Nat) (o' : PR), (actList b.st)[a']? = some p → out[a']? = some o' → o' = o := by
    intro a' o' ha' ho'
    have := actList_inj ha' ha
    subst this
    rw [padOut_lt (List.getElem?_eq_some_iff.mp ho').1, ho'] at ho
    exact Option.some.inj ho
  have hout : o ≠ .nil → out[a]? = some o := fun hne => padOut_out ho hne
  rcases hk.elim with ⟨row', rfl, k1⟩ | ⟨r1, r2, ms, rid, sts, rfl, hlen, rfl, hfl, hnew⟩
  · have hm : ∀ x ∈ [row'], x = row' := fun x hx => List.mem_singleton.mp hx
    refine ⟨by simp, ?_, ?_, ?_, ?_, fun _ _ _ => hact, ?_, ?_, ?_⟩
    · intro x hx; rw [hm x hx]; exact Or.inl k1.run
    · intro hl; simp at hl
    · intro x hx _; rw [hm x hx]; exact k1.pos
    · rcases k1.repl with h1 | h1 | h1
      · exact Or.inl (by rw [List.map_singleton, h1])
      · exact Or.inr ⟨a, o, ha, hout (by rw [h1]; exact fun hh => nomatch hh), by rw [h1]; rfl⟩
      · exact Or.inr ⟨a, o, ha, hout (by rw [h1]; exact fun hh => nomatch hh), by rw [h1]; rfl⟩
    · intro x hx hf
      rw [hm x hx] at hf
      rcases k1.fil hf with h1 | h1
      · exact Or.inl h1
      · exact Or.inr ⟨a, o, ha, hout (by rcases h1 with h | h <;> rw [h] <;> exact fun hh => nomatch hh), h1⟩
    · intro a' e ha' ho' x hx
      rw [hm x hx]
      exact ⟨k1.err e (huniq a' _ ha' ho').symm, k1.run⟩
    · intro a' ms' ha' ho' hl
      have := k1.one ms' (huniq a' _ ha' ho').symm
      omega
  · have hrun : ∀ row' ∈ pieceRows row rid (r1 :: r2 :: ms) sts, row'.run = some rid := by
      intro row' hm
      obtain ⟨j, hj⟩ := List.getElem?_of_mem hm
      rw [(pieceRows_get hj).2]
    refine ⟨?_, ?_, fun _ => ⟨rid, hrun⟩, ?_, ?_, fun _ _ _ => hact, ?_, ?_, fun _ _ _ _ _ row' hm => ⟨rid, hrun row' hm⟩⟩
    · intro he
      have := congrArg List.length he
      rw [length_pieceRows] at this
      simp at this
    · intro row' hm
      rw [hrun row' hm]
      rcases hnew with ⟨h1, _⟩ | ⟨h1, h2, h3, h4, h5, h6, h7, h8, _⟩
      · exact Or.inl h1.symm
      · exact Or.inr ⟨rid, rfl, h1, h2, h3, h4, h5, h6, h7, h8⟩
    · intro row' hm hn; rw [hrun row' hm] at hn; cases hn
    · exact Or.inr ⟨a, _, ha, hout (fun hh => nomatch hh), pieceRows_recs _ _ _ _⟩
    · intro row' hm hf
      obtain ⟨j, hj⟩ := List.getElem?_of_mem hm
      obtain ⟨hjl, hrow'⟩ := pieceRows_get hj
      have hjs : j < sts.length := by rw [hlen]; exact hjl
      have hst : row'.st = sts[j] := by rw [hrow']; simp [hjs]
      rw [hst] at hf
      rcases hfl j _ (List.getElem?_eq_getElem hjs) with h1 | h1
      · by_cases hj0 : j = 0
        · simp only [hj0, if_true] at h1
          left; rw [← h1]; simp only [hj0] at hf; exact hf
        · simp only [hj0, if_false] at h1
          rw [h1] at hf; cases hf
      · rw [h1] at hf; cases hf
    · intro a' e ha' ho'; cases huniq a' _ ha' ho'


theorem KidF.keep {h h' : Heap} {b : Batch} {out : List PR} {split' : List (Nat × Rec)} {p : Nat} {row : Row} {ks : List Row}
    (hk : KidF h h' b out split' p row ks) {row' : Row} (hm : row' ∈ ks) {rid : Nat} (hr : row.run = some rid) :
    row'.run = some rid := by
  rcases hk.run row' hm with h1 | ⟨_, _, h2, _⟩
  · rw [h1]; exact hr
  · rw [hr] at h2; cases h2

theorem KidF.old {h h' : Heap} {b : Batch} {out : List PR} {split' : List (Nat × Rec)} {p : Nat} {row : Row} {ks : List Row}
    (hk : KidF h h' b out split' p row ks) {row' : Row} (hm : row' ∈ ks) {rid : Nat} (hr : row'.run = some rid)
    (hlt : rid < h.size) : row.run = some rid := by
  rcases hk.run row' hm with h1 | ⟨rid', h1, _, h3, _⟩
  · rw [← h1]; exact hr
  · rw [hr] at h1; cases h1; omega

theorem KidF.new {h h' : Heap} {b : Batch} {rs : List (Option Nat)} {out : List PR} {split' : List (Nat × Rec)} {p : Nat}
    {row : Row} {ks : List Row} (hwf : b.WF h) (hvb : VB b rs) (hp : b.rows[p]? = some row)
    (hk : KidF h h' b out split' p row ks) {row' : Row} (hm : row' ∈ ks) {rid : Nat} (hr : row'.run = some rid)
    (hge : h.size ≤ rid) : row.run = none ∧ FreshRun h h' split' row rid := by
  rcases hk.run row' hm with h1 | ⟨rid', h1, h2, h3⟩
  · rw [hr] at h1
    have := row_run_lt hwf hvb hp h1.symm
    omega
  · rw [hr] at h1; cases h1; exact ⟨h2, h3⟩

theorem KidF.none {h h' : Heap} {b : Batch} {out : List PR} {split' : List (Nat × Rec)} {p : Nat} {row : Row} {ks : List Row}
    (hk : KidF h h' b out split' p row ks) {row' : Row} (hm : row' ∈ ks) (hr : row'.run = none) :
    row.run = none ∧ row'.pos = row.pos := by
  refine ⟨?_, hk.pos row' hm hr⟩
  rcases hk.run row' hm with h1 | ⟨rid', h1, _⟩
  · rw [← h1]; exact hr
  · rw [hr] at h1; cases h1

theorem mem_map_r {ks : List Row} {row' : Row} (hm : row' ∈ ks) : row'.r ∈ ks.map (·.r) :=
  List.mem_map.mpr ⟨row', hm, rfl⟩

theorem KidF.root {h h' : Heap} {b : Batch} {rs : List (Option Nat)} {out : List PR} {split' : List (Nat × Rec)} {p : Nat}
    {row : Row} {ks : List Row} (hwf : b.WF h) (hvb : VB b rs) (hp : b.rows[p]? = some row)
    (hok : pcallOK b.active out = true)
    (hk : KidF h h' b out split' p row ks) {row' : Row} (hm : row' ∈ ks) : Mon.root row'.r = Mon.root row.r := by
  have hmem := mem_map_r hm
  rcases hk.recs with h1 | ⟨a, o, ha, ho, h1⟩
  · rw [h1, List.mem_singleton] at hmem; rw [hmem]
  · rw [h1] at hmem
    exact ok_outRecs hok (act_row hwf hvb ha hp).1 ho _ hmem

theorem flatMap_disj {α β} {l : List α} {f : α → List β} (hn : (l.flatMap f).Nodup) {i j : Nat} {x y : α}
    (hi : l[i]? = some x) (hj : l[j]? = some y) (hne : i ≠ j) {t : β} (h1 : t ∈ f x) (h2 : t ∈ f y) : False := by
  unfold List.Nodup at hn
  rw [List.pairwise_flatMap] at hn
  have hp := List.pairwise_iff_getElem.mp hn.2
  obtain ⟨hi1, hi2⟩ := List.getElem?_eq_some_iff.mp hi
  obtain ⟨hj1, hj2⟩ := List.getElem?_eq_some_iff.mp hj
  rcases Nat.lt_or_gt_of_ne hne with hlt | hlt
  · exact hp i j hi1 hj1 hlt t (by rw [hi2]; exact h1) t (by rw [hj2]; exact h2) rfl
  · exact hp j i hj1 hi1 hlt t (by rw [hj2]; exact h2) t (by rw [hi2]; exact h1) rfl

theorem KidF.tag_seen {h h' : Heap} {b : Batch} {rs : List (Option Nat)} {out : List PR} {split' : List (Nat × Rec)} {p : Nat}
    {row : Row} {ks : List Row} (hwf : b.WF h) (hvb : VB b rs) (hp : b.rows[p]? = some row)
    (hk : KidF h h' b out split' p row ks) {row' : Row} (hm : row' ∈ ks) :
    row'.r.tag = row.r.tag ∨ row'.r.tag ∈ outTags b.active out := by
  have hmem := mem_map_r hm
  rcases hk.recs with h1 | ⟨a, o, ha, ho, h1⟩
  · rw [h1, List.mem_singleton] at hmem; left; rw [hmem]
  · rw [h1] at hmem
    right
    have hz : (b.active.zip out)[a]? = some (row.r, o) :=
      List.getElem?_zip_eq_some.mpr ⟨(act_row hwf hvb ha hp).1, ho⟩
    unfold outTags
    rw [List.mem_flatMap]
    exact ⟨(row.r, o), List.mem_of_getElem? hz, List.mem_map.mpr ⟨_, hmem, rfl⟩⟩

theorem KidF.key {κ : Nat → Nat} {h h' : Heap} {b : Batch} {rs : List (Option Nat)} {out : List PR} {split' : List (Nat × Rec)}
    {p : Nat} {row : Row} {ks : List Row} (hwf : b.WF h) (hvb : VB b rs) (hp : b.rows[p]? = some row)
    (hk : KidF h h' b out split' p row ks) {row' : Row} (hm : row' ∈ ks) :
    κ row'.r.tag = κ row.r.tag ∨
      ∃ (a : Nat) (x : Rec × PR), (actList b.st)[a]? = some p ∧ (b.active.zip out)[a]? = some x ∧ κ row'.r.tag ∈ segK κ x := by
  have hmem := mem_map_r hm
  rcases hk.recs with h1 | ⟨a, o, ha, ho, h1⟩
  · rw [h1, List.mem_singleton] at hmem; left; rw [hmem]
  · rw [h1] at hmem
    by_cases he : κ row'.r.tag = κ row.r.tag
    · exact Or.inl he
    · right
      have hz : (b.active.zip out)[a]? = some (row.r, o) :=
        List.getElem?_zip_eq_some.mpr ⟨(act_row hwf hvb ha hp).1, ho⟩
      refine ⟨a, (row.r, o), ha, hz, ?_⟩
      unfold segK
      rw [List.mem_filter]
      exact ⟨List.mem_map.mpr ⟨_, hmem, rfl⟩, by simpa using he⟩

theorem mem_segs {κ : Nat → Nat} {recs : List Rec} {out : List PR} {a : Nat} {x : Rec × PR} {k : Nat}
    (hz : (recs.zip out)[a]? = some x) (ht : k ∈ segK κ x) : k ∈ (recs.zip out).flatMap (segK κ) :=
  List.mem_flatMap.mpr ⟨x, List.mem_of_getElem? hz, ht⟩

theorem KidF.keys_nodup {κ : Nat → Nat} {h h' : Heap} {b : Batch} {rs : List (Option Nat)} {out : List PR}
    {split' : List (Nat × Rec)} {p : Nat} {row : Row} {ks : List Row} {seen : List Nat} (hwf : b.WF h) (hvb : VB b rs)
    (hp : b.rows[p]? = some row) (hfr : KeyCall κ seen b.active out)
    (hk : KidF h h' b out split' p row ks) : (ks.map (κ ·.r.tag)).Nodup := by
  have e : ks.map (κ ·.r.tag) = (ks.map (·.r)).map (κ ·.tag) := by rw [List.map_map]; rfl
  rw [e]
  rcases hk.recs with h1 | ⟨a, o, ha, ho, h1⟩
  · rw [h1]; simp
  · rw [h1]
    have hz : (b.active.zip out)[a]? = some (row.r, o) :=
      List.getElem?_zip_eq_some.mpr ⟨(act_row hwf hvb ha hp).1, ho⟩
    exact hfr.kids _ (List.mem_of_getElem? hz)

/-- the parent-map form of `ProcEff.kids`: `kids[p]` = the kids of row `p` -/
structure PMap (h h' : Heap) (b b1 : Batch) (out : List PR) (kids : List (List Row)) : Prop where
  len : kids.length = b.rows.length
  flat : b1.rows = kids.flatten
  kid : ∀ (p : Nat) (row : Row), b.rows[p]? = some row →
    ∃ ks, kids[p]? = some ks ∧ KidF h h' b out b1.split p row ks

theorem pmap_of_eff {h h' : Heap} {b b1 : Batch} {rs : List (Option Nat)} {out : List PR} (hwf : b.WF h) (hvb : VB b rs)
    (hpe : ProcEff h b (padOut b.nAct out) h' b1) : ∃ kids, PMap h h' b b1 out kids := by
  obtain ⟨kids, hl, hfl, hin, hac⟩ := hpe.kids
  refine ⟨kids, by rw [hl, rows_length], hfl, ?_⟩
  intro p row hp
  by_cases hm : p ∈ actList b.st
  · obtain ⟨a, ha⟩ := List.getElem?_of_mem hm
    have hal : a < (padOut b.nAct out).length := by
      rw [hpe.padlen]; exact (List.getElem?_eq_some_iff.mp ha).1
    obtain ⟨ks, h1, h2⟩ := hac a p row _ ha hp (List.getElem?_eq_getElem hal)
    exact ⟨ks, h1, kidF_active hwf hvb ha hp (List.getElem?_eq_getElem hal) h2⟩
  · exact ⟨[row], hin p row hp hm, kidF_inactive hm⟩

/-- the new source map: every kid gets the source of its parent -/
def smOf (kids : List (List Row)) (sm : List Nat) : List Nat :=
  (List.range kids.flatten.length).map fun k => (sm[parOf (kids.map List.length) k]?).getD 0

theorem smOf_length (kids : List (List Row)) (sm : List Nat) : (smOf kids sm).length = kids.flatten.length := by
  simp [smOf]

namespace PMap
variable {h h' : Heap} {b b1 : Batch} {out : List PR} {kids : List (List Row)}

theorem lens_get (_hm : PMap h h' b b1 out kids) {p : Nat} {ks : List Row} (hk : kids[p]? = some ks) :
    ∃ hp : p < (kids.map List.length).length, (kids.map List.length)[p] = ks.length := by
  obtain ⟨h1, h2⟩ := List.getElem?_eq_some_iff.mp hk
  exact ⟨by rw [List.length_map]; exact h1, by rw [List.getElem_map, h2]⟩

theorem lens_pos (hm : PMap h h' b b1 out kids) : ∀ x ∈ kids.map List.length, 1 ≤ x := by
  intro x hx
  obtain ⟨ks, hks, rfl⟩ := List.mem_map.mp hx
  obtain ⟨p, hp⟩ := List.getElem?_of_mem hks
  have hlt : p < b.rows.length := by rw [← hm.len]; exact (List.getElem?_eq_some_iff.mp hp).1
  obtain ⟨ks', h1, h2⟩ := hm.kid p _ (List.getElem?_eq_getElem hlt)
  rw [hp] at h1; cases h1
  cases ks with
  | nil => exact absurd rfl h2.ne
  | cons _ _ => simp

theorem decode (hm : PMap h h' b b1 out kids) {sm : List Nat} (hsl : sm.length = b.rows.length) {k : Nat} {row' : Row}
    (hk : b1.rows[k]? = some row') :
    ∃ (p j : Nat) (row : Row) (ks : List Row) (q : Nat), b.rows[p]? = some row ∧ kids[p]? = some ks ∧ ks[j]? = some row' ∧
      k = off (kids.map List.length) p + j ∧ sm[p]? = some q ∧ (smOf kids sm)[k]? = some q ∧
      KidF h h' b out b1.split p row ks := by
  have hkl : k < kids.flatten.length := by rw [← hm.flat]; exact (List.getElem?_eq_some_iff.mp hk).1
  rw [hm.flat] at hk
  obtain ⟨p, j, ks, hp, h1, h2, h3⟩ := flatten_decode kids hk
  have hlt : p < b.rows.length := by rw [← hm.len]; exact (List.getElem?_eq_some_iff.mp h1).1
  obtain ⟨ks', g1, g2⟩ := hm.kid p _ (List.getElem?_eq_getElem hlt)
  rw [h1] at g1; cases g1
  have hq : p < sm.length := by rw [hsl]; exact hlt
  refine ⟨p, j, _, ks, sm[p], List.getElem?_eq_getElem hlt, h1, h2, h3, List.getElem?_eq_getElem hq, ?_, g2⟩
  unfold smOf
  rw [List.getElem?_map, List.getElem?_range hkl, Option.map_some, ← hp, List.getElem?_eq_getElem hq]
  rfl

theorem encode (hm : PMap h h' b b1 out kids) {p j : Nat} {ks : List Row} {row' : Row} (h1 : kids[p]? = some ks)
    (h2 : ks[j]? = some row') : b1.rows[off (kids.map List.length) p + j]? = some row' := by
  rw [hm.flat]; exact flatten_off kids p j ks row' h1 h2

theorem adj (hm : PMap h h' b b1 out kids) {p p' j j' : Nat} {ks ks' : List Row} (h1 : kids[p]? = some ks)
    (h2 : kids[p']? = some ks') (hj : j < ks.length) (hj' : j' < ks'.length)
    (he : off (kids.map List.length) p + j + 1 = off (kids.map List.length) p' + j') :
    (p' = p ∧ j' = j + 1) ∨ (p' = p + 1 ∧ j' = 0 ∧ j + 1 = ks.length) := by
  obtain ⟨a1, a2⟩ := hm.lens_get h1
  obtain ⟨b1', b2⟩ := hm.lens_get h2
  have := off_adj hm.lens_pos a1 b1' (by rw [a2]; exact hj) (by rw [b2]; exact hj') he
  rw [a2] at this; exact this

theorem le_par (hm : PMap h h' b b1 out kids) {p p' j j' : Nat} {ks' : List Row}
    (h2 : kids[p']? = some ks') (hj' : j' < ks'.length)
    (he : off (kids.map List.length) p + j ≤ off (kids.map List.length) p' + j') : p ≤ p' := by
  obtain ⟨b1', b2⟩ := hm.lens_get h2
  exact off_le_par he b1' (by rw [b2]; exact hj')

theorem par_unique (hm : PMap h h' b b1 out kids) {p p' j j' : Nat} {ks ks' : List Row} (h1 : kids[p]? = some ks)
    (h2 : kids[p']? = some ks') (hj : j < ks.length) (hj' : j' < ks'.length)
    (he : off (kids.map List.length) p + j = off (kids.map List.length) p' + j') : p = p' ∧ j = j' := by
  have a := hm.le_par h2 hj' (Nat.le_of_eq he)
  have c := hm.le_par h1 hj (Nat.le_of_eq he.symm)
  have : p = p' := by omega
  subst this
  exact ⟨rfl, by omega⟩

theorem first (hm : PMap h h' b b1 out kids) {p j : Nat} (he : 0 = off (kids.map List.length) p + j)
    (hp : p < kids.length) : p = 0 ∧ j = 0 := by
  have := off_ge_idx hm.lens_pos p (by rw [List.length_map]; omega)
  omega

theorem last (hm : PMap h h' b b1 out kids) {p j : Nat} {ks : List Row} (h1 : kids[p]? = some ks) (hj : j < ks.length)
    (he : b1.rows.length - 1 = off (kids.map List.length) p + j) : p = b.rows.length - 1 := by
  have hp : p < kids.length := (List.getElem?_eq_some_iff.mp h1).1
  apply Classical.byContradiction
  intro hne
  have hp1 : p + 1 < kids.length := by rw [hm.len] at hp ⊢; omega
  have hlt : p + 1 < b.rows.length := by rw [← hm.len]; exact hp1
  obtain ⟨ks', g1, g2⟩ := hm.kid (p + 1) _ (List.getElem?_eq_getElem hlt)
  have hne' : 0 < ks'.length := by
    cases ks' with
    | nil => exact absurd rfl g2.ne
    | cons _ _ => simp
  have := hm.encode g1 (List.getElem?_eq_getElem hne')
  have hl := (List.getElem?_eq_some_iff.mp this).1
  obtain ⟨a1, a2⟩ := hm.lens_get h1
  have := off_succ a1
  rw [a2] at this
  omega

end PMap


/-- every run allocated by the call has a piece in the new batch -/
def FreshRuns (h h' : Heap) (b1 : Batch) : Prop := ∀ rid : Nat, h.size ≤ rid → rid < h'.size → 0 < cnt rid b1.view

theorem lt_of_get {α} {l : List α} {j : Nat} {x : α} (h : l[j]? = some x) : j < l.length :=
  (List.getElem?_eq_some_iff.mp h).1

end SProc

end Conduit.Funnel
