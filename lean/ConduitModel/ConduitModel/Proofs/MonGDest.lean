import ConduitModel.Proofs.MonGKey
import ConduitModel.Proofs.MonDest

/-!
# `DestinationTask.Do` against an abstract handler contract, on a batch that may carry split records

`destDo_monG`, from `write_silentS`, `destDo_rows` and the `DestEff` lemmas (Proofs/MonSDest.lean), which do
not mention the handler chain; what is added is the base invariant (`Base.write`), the `QStep` and the
contract's invariant.
-/
namespace Conduit.Funnel
open Conduit.Funnel.Mon

variable {κ : Nat → Nat}

theorem Base.write {G : Ctx} {s s' : PS} {d : Nat} {recs : List Rec} (hB : Base G s)
    (hlog : s'.log = s.log.push (.write d recs)) (hscr : s'.scripts = popScripts s.scripts d)
    (htv : (G.mu s').tv = []) (hdd : d ∈ dests G.tree) : Base G s' ∧ G.errT s' = G.errT s := by
  have hmu : G.mu s' = writeT G.scripts (G.mu s) d recs := mu_push G s s' _ hlog
  have hE : G.errT s' = G.errT s := by
    rw [errT_push G s s' _ hlog]
    simp [errNew]
  refine ⟨⟨htv, hB.sc.event (.write d recs) d rfl hlog hscr, ?_, ?_, ?_,
    fun hg => by rw [hscr]; exact (hB.ns hg).pop d⟩, hE⟩
  · intro e he
    rw [hmu] at he
    rcases List.mem_append.mp he with he | he
    · exact hB.wr e he
    · obtain ⟨j, r, hj, rfl⟩ := mem_entriesW.mp he
      rfl
  · intro x hx
    rw [hE] at hx
    exact hB.errIn x hx
  · intro e he
    rw [hmu] at he
    rcases List.mem_append.mp he with he | he
    · exact hB.wrIn e he
    · obtain ⟨j, r, hj, rfl⟩ := mem_entriesW.mp he
      exact hdd


theorem destDo_effG {G : Ctx} (hs : Src G) {s s' : PS} {r : Except Stop Batch} {b : Batch} {d p : Nat}
    {sub : List Nat} {sm : List Nat} {rs : List (Option Nat)}
    (hB : Base G s) (hws : WSeen G s) (hwf : b.WF s.heap) (hvb : VB b rs) (hm : SrcMap G s.heap b sm)
    (hfront : ∀ q : Nat, sm[0]? = some q → p = q) (haf : FlagsAF b)
    (htags : TagsK κ G s (d :: sub) b 0) (hbelow : WBelowG G p (G.mu s) (d :: sub)) (hinD : d ∈ dests G.tree)
    (h : exec (destDo d b none) s = (r, s')) :
    Base G s' ∧ WSeen G s' ∧ QStep G d true (RootsOf G sm 0) s s' ∧ G.errT s' = G.errT s ∧
    ∀ b1, r = .ok b1 → DestEff G s s' d b b1 ∧ (b1.tainted = false → FlagsAF b1) := by
  rw [destDo_shape] at h
  have hr : destDoP b (destReply (nextReply s.scripts d)).1 (destReply (nextReply s.scripts d)).2 = r :=
    (Prod.mk.inj h).1
  have hs' := (Prod.mk.inj h).2
  have hlog : s'.log = s.log.push (.write d b.active) := by rw [← hs']
  have hscr : s'.scripts = popScripts s.scripts d := by rw [← hs']
  have hheap : s'.heap = s.heap := by rw [← hs']
  have hmu : G.mu s' = writeT G.scripts (G.mu s) d b.active := mu_push G s s' _ hlog
  have hseen : Seen G s' = Seen G s := Seen.push_other _ hlog (fun _ _ hh => Ev.noConfusion hh)
  have htv : (G.mu s').tv = [] := by
    rw [hmu, write_silentS hs hwf hvb hm hfront haf htags hbelow]
    exact hB.safe
  obtain ⟨hbase, hE⟩ := hB.write hlog hscr htv hinD
  obtain ⟨hwr, _, hfil, hany, hok⟩ := mu_write G hlog
  have hwseen : WSeen G s' := by
    intro e he
    rw [hseen]
    rw [hwr, List.mem_append] at he
    rcases he with he | he
    · exact hws e he
    · obtain ⟨_, p, row, _, _, hrow, _, rfl⟩ := entriesW_row hwf hvb haf he
      exact htags.seen p row (Nat.zero_le _) hrow
  have hext : ExtT [d] [d] (RootsOf G sm 0) (G.view s) (G.view s') := by
    refine .of_fields (.of_eq hfil) (.of_eq hE) (.of_append hwr fun x hx => ?_)
    obtain ⟨_, p, row, _, _, hrow, _, rfl⟩ := entriesW_row hwf hvb haf hx
    obtain ⟨q, src, a1, a2, _, a4⟩ := SM.srcOf hm hrow
    exact ⟨List.mem_cons_self, p, q, src, Nat.zero_le _, a1, a2, a4.symm⟩
  have hq : QStep G d true (RootsOf G sm 0) s s' :=
    .of_push hs' rfl rfl (fun tk i h => by cases h) hext hany hok
  refine ⟨hbase, hwseen, hq, hE, ?_⟩
  intro b1 hb1
  rw [hb1] at hr
  exact destDo_rows hB.sc hwf hvb haf hlog hheap hr

theorem DestEff.cleanT {G : Ctx} {s s' : PS} {d : Nat} {b b1 : Batch} (he : DestEff G s s' d b b1)
    (hE : G.errT s' = G.errT s) {T D : List Nat} {ρ : Nat} (hcl : CleanT (G.view s) T D ρ)
    (hn : ∀ (p : Nat) (row row' : Row), b.rows[p]? = some row → b1.rows[p]? = some row' → root row.r = ρ →
      row'.st.flag ≠ .nack) : CleanT (G.view s') T D ρ := by
  refine ⟨fun t ht hx => hcl.1 t ht ?_, fun e hm hdD hroot => ?_⟩
  · have hx : (t, ρ) ∈ G.errT s' := hx
    rw [hE] at hx
    exact hx
  · rcases he.wr_new e hm with old | ⟨p, row, row', hrow, hrow', _, _, hr, _, hc⟩
    · exact hcl.2 e old hdD hroot
    · exact hc.resolve_right (hn p row row' hrow hrow' (by rw [← hr, hroot]))

theorem flight_of_effG {G : Ctx} (hs : Src G) {X : Acker} (C0 : MC G X) {s s' : PS} {b b1 : Batch} {d : Nat}
    {pre sub : List Nat} {rest : Nat → Nat} {doom : Nat → Prop} {nx : Nat} {sm : List Nat} {rs : List (Option Nat)}
    (hF : FlightGK κ C0 s pre pre True (d :: sub) rest doom nx b sm 0) (hd : d ∉ sub) (haf : FlagsAF b)
    (hvb : VB b rs) (he : DestEff G s s' d b b1) (hE : G.errT s' = G.errT s)
    (hinv : C0.Inv (nxJ sm nx 0) s') (hws : WSeen G s') (ht : TInv s'.heap rest b1 0) :
    FlightGK κ C0 s' pre (pre ++ [d]) False sub rest doom nx b1 sm 0 := by
  have hm := hF.srcmap
  have hwf := hF.tinv.wf
  have hlive : ∀ rid : Nat, LiveRun rest b1 0 rid → LiveRun rest b 0 rid := by
    intro rid hl
    unfold LiveRun at hl ⊢
    rw [he.view] at hl
    exact hl
  obtain ⟨rs1, hvb1⟩ := ht.vb
  have hsim := he.sim
  refine
    { inv := hinv, wseen := hws, tinv := ht, srcmap := hsim.srcmap hm,
      nextok := hsim.nextok (fun _ => rfl) hF.nextok, restlast := hsim.restlast hvb hvb1 (fun _ => rfl) hF.restlast,
      hdoom := hF.hdoom, hlin := ?hlin, htouch := ?htouch,
      ci := ?ci, splitlin := hsim.splitlin hF.splitlin, nosplit := hsim.nosplit hF.nosplit,
      facts := ⟨he.reach hm hF.facts.ack, he.filtered hF.facts.fil,
        fun k row' q src _ hk _ _ hfl => absurd hfl (he.no_retry haf hvb hk), ?clean⟩,
      tags := (hsim.tags hF.tags he.unw_st).written (fun _ hx => by rw [he.seen]; exact hx) (he.wr_ahead hd),
      below := below_written hF.below (he.wr_ahead hd),
      nackt := fun rid hl hn => by rw [he.heap] at hn ⊢; exact hF.nackt rid (hlive rid hl) hn }
  case hlin =>
    rw [he.heap]
    intro rid hl
    exact hF.hlin rid (hlive rid hl)
  case htouch =>
    rw [he.heap]
    intro rid hl h2 h3 d' hd'
    rcases hF.htouch rid (hlive rid hl) h2 h3 d' hd' with ⟨e, hm', a, c⟩ | hf
    · exact Or.inl ⟨e, he.wr_old e hm', a, c⟩
    · refine Or.inr ?_
      show _ ∈ (G.mu s').filtered
      rw [he.fil]; exact hf
  case ci =>
    rw [he.heap]
    intro rid hc hncl
    rw [List.drop_zero, he.view] at hc
    obtain ⟨hrid, k0, row0, hrow0, hrun0⟩ := cnt_pos_row hwf hvb hc
    have hlin0 := hF.hlin rid (Or.inl (by rw [List.drop_zero]; exact hc))
    by_cases hcl : CleanT (G.view s) C0.T C0.D (root (s.heap[rid]!).origRec)
    · apply Classical.byContradiction
      intro hno
      refine hncl (he.cleanT hE hcl fun p row row' hrow hrow' hroot hfl => hno (Or.inr (Or.inr ?_)))
      have hrun := hm.run_of_root hs hlin0 hrow0 hrun0 hrow hroot
      exact ⟨p, row', Nat.zero_le _, hrow', by rw [(he.upd hrow hrow').2.2.1]; exact hrun, hfl⟩
    · rcases hF.ci rid (by rw [List.drop_zero]; exact hc) hcl with h1 | h1 | ⟨k, row, _, hrow, _, hfl⟩
      · exact Or.inl h1
      · exact Or.inr (Or.inl h1)
      · exact absurd hfl (flagsAF_not_nack hvb haf hrow)
  case clean =>
    intro k row' q src _ hk hq hsrc hrun hnack
    obtain ⟨row, hrow, hu⟩ := he.rows1 k row' hk
    have hrun0 : row.run = none := by rw [← hu.2.2.1]; exact hrun
    refine he.cleanT hE (hF.facts.clean k row q src (Nat.zero_le _) hrow hq hsrc hrun0 (flagsAF_not_nack hvb haf hrow)) ?_
    intro p rowp rowp' hrowp hrowp' hroot
    obtain ⟨qp, srcp, b1', b2, _, b4⟩ := SM.srcOf hm hrowp
    have hqq : qp = q := hs.idx_of_root b2 hsrc (by rw [← b4, hroot])
    subst hqq
    have hkp : p = k := SM.norun_unique hm hq b1' hrow hrowp hrun0
    subst hkp
    rw [hk] at hrowp'
    exact Option.some.inj hrowp' ▸ hnack

theorem StepRelGK.of_destEff {G : Ctx} {s s' : PS} {b b1 : Batch} {d : Nat} {sm : List Nat}
    (he : DestEff G s s' d b b1) : StepRelGK κ G s b sm s' b1 sm := by
  refine ⟨fun _ h => h, ?_, ?_, fun x hx => by rw [he.seen]; exact hx,
    by rw [he.heap]; exact Nat.le_refl _, fun rid _ hc => ⟨by rw [he.heap], by rw [he.view]; exact hc⟩,
    fun rid _ => by rw [he.heap]; exact ⟨rfl, rfl⟩, fun rid => by rw [he.view]; exact Nat.le_refl _⟩
  · intro row' hmem
    obtain ⟨k, hk⟩ := List.getElem?_of_mem hmem
    obtain ⟨row, hrow, hu⟩ := he.rows1 k row' hk
    exact Or.inl ⟨row, List.mem_of_getElem? hrow, by rw [hu.1]⟩
  · intro e hm'
    rcases he.wr_new e hm' with old | ⟨p, row, _, hrow, _, _, _, _, htag, _⟩
    · exact Or.inl old
    · exact Or.inr ⟨row, List.mem_of_getElem? hrow, by rw [htag]⟩

theorem destDo_monG {G : Ctx} (hs : Src G) {X : Acker} (C0 : MC G X) {s s' : PS} {r : Except Stop Batch} {b : Batch}
    {d : Nat} {pre sub : List Nat} {rest : Nat → Nat} {doom : Nat → Prop} {nx : Nat} {sm : List Nat}
    (hF : FlightGK κ C0 s pre pre True (d :: sub) rest doom nx b sm 0) (hd : d ∉ sub)
    (haf : FlagsAF b)
    (hbelow : d ∈ C0.Below) (hinD : d ∈ dests G.tree)
    (h : exec (destDo d b none) s = (r, s')) :
    Base G s' ∧ WSeen G s' ∧ QStep G d true (RootsOf G sm 0) s s' ∧ C0.Inv (nxJ sm nx 0) s' ∧
    ∀ b1, r = .ok b1 →
      FlightGK κ C0 s' pre (pre ++ [d]) False sub rest doom nx b1 sm 0 ∧ StepRelGK κ G s b sm s' b1 sm ∧
      (b1.tainted = false → FlagsAF b1) := by
  obtain ⟨rs, hvb⟩ := hF.tinv.vb
  have hB : Base G s := C0.base hF.inv
  obtain ⟨hbase, hwseen, hq, hE, hrest⟩ :=
    destDo_effG hs hB hF.wseen hF.tinv.wf hvb hF.srcmap (fun _ => nxJ_of) haf hF.tags hF.below hinD h
  have hinv : C0.Inv (nxJ sm nx 0) s' := hF.quiet hs hq hbelow hbase
  refine ⟨hbase, hwseen, hq, hinv, ?_⟩
  intro b1 hb1
  obtain ⟨he, hflags⟩ := hrest b1 hb1
  have hstep := (destDo_sspec d b s s' r rest hF.tinv.sinv h).ok hb1
  exact ⟨flight_of_effG hs C0 hF hd haf hvb he hE hinv hwseen hstep.inv.tinv, StepRelGK.of_destEff he, hflags⟩

end Conduit.Funnel
