import ConduitModel.Proofs.MonSRows
import ConduitModel.Proofs.MonTaskDefs
import ConduitModel.Proofs.PassSPipe

/-!
# Monitor soundness with record splitting: definitions

* `pcallFresh`, `ftRun`, `FT` — the tag discipline of the harness generators as a checkable condition on the event
  log of a run: every tag a processor reply introduces (a modified record, the pieces of a split) is
  new in the case; `Seen G s` — the tags seen so far;
* `SrcMap` — the source record every row of a batch in flight stems from (`sm`, one index per row);
* `FactsS`, `TagsF`, `WBelowS` — what the monitor state knows about the rows of a batch;
* `HLin`, `HTouch`, `CI` — what the run ledger (heap) guarantees about the split runs;
* `OutS` — outcome of a computation responsible for the rows of a batch.
-/
namespace Conduit.Funnel
open Conduit.Funnel.Mon

/-! ## fresh tags -/

/-- the records a reply puts into the batch -/
def outRecs : PR → List Rec
  | .single r => [r]
  | .multi m => m
  | _ => []

/-- the tags of the records a processor call puts into the batch -/
def outTags (recs : List Rec) (out : List PR) : List Nat :=
  (recs.zip out).flatMap fun x => (outRecs x.2).map (·.tag)

/-- those of them that differ from the tag of their input record -/
def newTags (recs : List Rec) (out : List PR) : List Nat :=
  (recs.zip out).flatMap fun x => ((outRecs x.2).map (·.tag)).filter (· != x.1.tag)

/-- one processor call obeys the tag discipline: the outputs of one record carry distinct tags, and
every tag that is not the input's own is new and introduced once -/
def pcallFresh (seen : List Nat) (recs : List Rec) (out : List PR) : Bool :=
  (recs.zip out).all (fun x => decide ((outRecs x.2).map (·.tag)).Nodup) &&
  decide (newTags recs out).Nodup && (newTags recs out).all (fun t => !seen.contains t)

/-- every processor call of the log obeys the tag discipline (`seen` = tags seen so far) -/
def ftRun (scripts : List (Nat × List Reply)) : List Nat → List (Nat × Nat) → List Ev → Bool
  | _, _, [] => true
  | seen, calls, .pcall t recs :: rest =>
    pcallFresh seen recs (procOut (replyOfCall scripts t (callNoL calls t))) &&
      ftRun scripts (seen ++ outTags recs (procOut (replyOfCall scripts t (callNoL calls t)))) (bumpL calls t) rest
  | seen, calls, .write t _ :: rest => ftRun scripts seen (bumpL calls t) rest
  | seen, calls, .dlqw t _ :: rest => ftRun scripts seen (bumpL calls t) rest
  | seen, calls, .sack _ :: rest => ftRun scripts seen calls rest

/-- the tags seen after a log -/
def seenRun (scripts : List (Nat × List Reply)) : List Nat → List (Nat × Nat) → List Ev → List Nat
  | seen, _, [] => seen
  | seen, calls, .pcall t recs :: rest =>
    seenRun scripts (seen ++ outTags recs (procOut (replyOfCall scripts t (callNoL calls t)))) (bumpL calls t) rest
  | seen, calls, .write t _ :: rest => seenRun scripts seen (bumpL calls t) rest
  | seen, calls, .dlqw t _ :: rest => seenRun scripts seen (bumpL calls t) rest
  | seen, calls, .sack _ :: rest => seenRun scripts seen calls rest

/-- the log of `s` obeys the tag discipline -/
def FT (G : Ctx) (s : PS) : Prop := ftRun G.scripts (G.all.map (·.tag)) [] s.log.toList = true

/-- the tags seen so far: the tags of the source records and of every record a processor reply put
into a batch -/
def Seen (G : Ctx) (s : PS) : List Nat := seenRun G.scripts (G.all.map (·.tag)) [] s.log.toList

/-! ## rows and their sources -/

/-- the position key the ledger forwards for a row -/
def rowKey (h : Heap) (row : Row) : Nat :=
  match row.run with
  | some rid => keyOf (h[rid]!).origPos
  | none => keyOf row.pos

/-- `sm[k]` = index (in read order) of the source record row `k` stems from: consecutive sources,
rows of one source share a run -/
structure SrcMap (G : Ctx) (h : Heap) (b : Batch) (sm : List Nat) : Prop where
  len : sm.length = b.rows.length
  step : ∀ (k q q' : Nat), sm[k]? = some q → sm[k+1]? = some q' → q' = q ∨ q' = q + 1
  key : ∀ (k : Nat) (row : Row) (q : Nat), b.rows[k]? = some row → sm[k]? = some q →
    ∃ src, G.all[q]? = some src ∧ rowKey h row = keyR src ∧ root row.r = root src
  same : ∀ (k : Nat) (row row' : Row) (q : Nat), b.rows[k]? = some row → b.rows[k+1]? = some row' →
    sm[k]? = some q → sm[k+1]? = some q → ∃ rid, row.run = some rid ∧ row'.run = some rid

/-- the frontier after the batch: `nx` is the source of the last row if pieces of its run remain
outside the batch, the next source otherwise -/
def NextOK (rest : Nat → Nat) (b : Batch) (sm : List Nat) (nx : Nat) : Prop :=
  ∀ (row : Row) (q : Nat), b.rows.getLast? = some row → sm.getLast? = some q →
    (nx = q ∧ ∃ rid, row.run = some rid ∧ 0 < rest rid) ∨
    (nx = q + 1 ∧ ∀ rid, row.run = some rid → rest rid = 0)

/-- of the runs with a piece in the batch, only the run of the last row has pieces outside -/
def RestLast (rest : Nat → Nat) (b : Batch) : Prop :=
  ∀ rid : Nat, 0 < rest rid → 0 < cnt rid b.view → ∃ row, b.rows.getLast? = some row ∧ row.run = some rid

/-! ## facts about the rows -/

/-- written to every destination in `pre` -/
def Reach (μ : TSt) (pre : List Nat) (ρ : Nat) : Prop := ∀ d ∈ pre, WrittenTo μ d ρ

/-- every destination of the tree has seen the root or the root was filtered -/
def Touch (tree : TaskNode) (μ : TSt) (ρ : Nat) : Prop := ∀ d ∈ dests tree, WrittenTo μ d ρ ∨ ρ ∈ μ.filtered

/-- the tag was not written to any destination in `sub` -/
def Unw (μ : TSt) (sub : List Nat) (t : Nat) : Prop := ∀ e ∈ μ.written, e.1 ∈ sub → e.2.2.1 ≠ t

/-- what the monitor state knows about the rows `k ≥ i` of a batch in flight once the task of a node
has run: `pre` = the destinations before the node, `pre'` = those plus the node itself if it is a
destination, `nd` = "the node is not a destination" (a `retry` flag cannot come from a destination) -/
structure FactsS (G : Ctx) (μ : TSt) (pre pre' : List Nat) (nd : Prop) (b : Batch) (sm : List Nat) (i : Nat) : Prop where
  ack : ∀ (k : Nat) (row : Row) (q : Nat) (src : Rec), i ≤ k → b.rows[k]? = some row → sm[k]? = some q →
    G.all[q]? = some src → row.st.flag = .ack → Reach μ pre' (root src)
  fil : ∀ (k : Nat) (row : Row) (q : Nat) (src : Rec), i ≤ k → b.rows[k]? = some row → sm[k]? = some q →
    G.all[q]? = some src → row.st.flag = .filter → root src ∈ μ.filtered
  retry : ∀ (k : Nat) (row : Row) (q : Nat) (src : Rec), i ≤ k → b.rows[k]? = some row → sm[k]? = some q →
    G.all[q]? = some src → row.st.flag = .retry → Reach μ pre (root src) ∧ nd
  clean : ∀ (k : Nat) (row : Row) (q : Nat) (src : Rec), i ≤ k → b.rows[k]? = some row → sm[k]? = some q →
    G.all[q]? = some src → row.run = none → row.st.flag ≠ .nack → Clean μ (root src)

/-- the tags of the rows: distinct, seen, and those still to be written are new to the destinations
ahead -/
structure TagsF (G : Ctx) (s : PS) (sub : List Nat) (b : Batch) (i : Nat) : Prop where
  nodup : (b.rows.map (·.r.tag)).Nodup
  seen : ∀ (k : Nat) (row : Row), i ≤ k → b.rows[k]? = some row → row.r.tag ∈ Seen G s
  unw : ∀ (k : Nat) (row : Row), i ≤ k → b.rows[k]? = some row → row.st.flag = .ack ∨ row.st.flag = .retry →
    Unw (G.mu s) sub row.r.tag

/-- what was written to the destinations `sub` (those still ahead) belongs to records up to the
read frontier -/
def WBelowS (G : Ctx) (s : PS) (sub : List Nat) : Prop :=
  ∀ e ∈ (G.mu s).written, e.1 ∈ sub → NonPend G (nAcked s + 1) e.2.1

/-- every written tag has been seen -/
def WSeen (G : Ctx) (s : PS) : Prop := ∀ e ∈ (G.mu s).written, e.2.2.1 ∈ Seen G s

/-! ## the ledger -/

/-- the original record of a run is a descendant of the source record at the run's position -/
def HLin (G : Ctx) (h : Heap) : Prop :=
  ∀ rid : Nat, rid < h.size → ∃ src ∈ G.all, keyR src = keyOf (h[rid]!).origPos ∧ root (h[rid]!).origRec = root src

/-- a run that got an ack vote and no nack vote: every destination saw a piece, or a piece was filtered -/
def HTouch (G : Ctx) (μ : TSt) (h : Heap) : Prop :=
  ∀ rid : Nat, rid < h.size → 0 < (h[rid]!).terminal → (h[rid]!).nacked = false → Touch G.tree μ (root (h[rid]!).origRec)

/-- a run one of whose pieces failed (processor error, rejected by a destination) has a nack vote
already, or one of its pieces still to vote is flagged nack — in the batch (rows `≥ i`) or outside
(`doom`) -/
def CI (μ : TSt) (h : Heap) (doom : Nat → Prop) (b : Batch) (i : Nat) : Prop :=
  ∀ rid : Nat, 0 < cnt rid (b.view.drop i) → ¬ Clean μ (root (h[rid]!).origRec) →
    (h[rid]!).nacked = true ∨ doom rid ∨
      ∃ (k : Nat) (row : Row), i ≤ k ∧ b.rows[k]? = some row ∧ row.run = some rid ∧ row.st.flag = .nack

/-- the records remembered in the split map are descendants of the source record at their key -/
def SplitLin (G : Ctx) (b : Batch) : Prop :=
  ∀ e ∈ b.split, ∀ src ∈ G.all, keyR src = e.1 → root e.2 = root src

/-- a row without run has no entry in the split map (so the sub-batch of such rows is its own
`originalBatch()`) -/
def NoSplitKey (b : Batch) : Prop :=
  ∀ (k : Nat) (row : Row), b.rows[k]? = some row → row.run = none → lookup b.split (keyOf row.pos) = none

/-! ## outcomes -/

/-- `ρ` is the root of the source of a row `k ≥ i` -/
def RootsOf (G : Ctx) (sm : List Nat) (i : Nat) (ρ : Nat) : Prop :=
  ∃ (k q : Nat) (src : Rec), i ≤ k ∧ sm[k]? = some q ∧ G.all[q]? = some src ∧ root src = ρ

/-- outcome of a computation responsible for the rows `k ≥ i` of batch `b` -/
structure OutS (G : Ctx) (rest : Nat → Nat) (doom : Nat → Prop) (b : Batch) (sm : List Nat) (i nx : Nat)
    (s s' : PS) (r : Except Stop Unit) : Prop where
  safe : (G.mu s').tv = []
  ginv : r = .ok () → GInv G s'
  front : r = .ok () → i < sm.length → nAcked s' = nx
  front0 : r = .ok () → sm.length ≤ i → nAcked s' = nAcked s
  ext : r = .ok () → Ext (RootsOf G sm i) (G.mu s) (G.mu s')
  /-- every new `written` entry carries the tag of a row of the batch or a tag new at entry -/
  wtag : r = .ok () → ∀ e ∈ (G.mu s').written, e ∈ (G.mu s).written ∨
    (∃ (k : Nat) (row : Row), i ≤ k ∧ b.rows[k]? = some row ∧ row.r.tag = e.2.2.1) ∨ e.2.2.1 ∉ Seen G s
  wseen : r = .ok () → WSeen G s'
  hsize : r = .ok () → s.heap.size ≤ s'.heap.size
  hframe : r = .ok () → ∀ rid : Nat, rid < s.heap.size → cnt rid (b.view.drop i) = 0 → s'.heap[rid]! = s.heap[rid]!
  horig : r = .ok () → ∀ rid : Nat, rid < s.heap.size →
    (s'.heap[rid]!).origPos = (s.heap[rid]!).origPos ∧ (s'.heap[rid]!).origRec = (s.heap[rid]!).origRec
  lpost : r = .ok () → ∀ rid : Nat, 0 < cnt rid (b.view.drop i) → 0 < rest rid →
    RunOK (s'.heap[rid]!) (rest rid) ∧ 0 < (s'.heap[rid]!).terminal
  hlin : r = .ok () → HLin G s'.heap
  htouch : r = .ok () → HTouch G (G.mu s') s'.heap
  ci : r = .ok () → ∀ rid : Nat, 0 < cnt rid (b.view.drop i) → 0 < rest rid →
    ¬ Clean (G.mu s') (root (s'.heap[rid]!).origRec) → (s'.heap[rid]!).nacked = true ∨ doom rid

/-! ## a batch in flight -/

/-- Everything that is known about batch `b` (rows `k ≥ i` still to be handled) in engine state `s`:
`pre` / `pre'` / `nd` as in `FactsS`, `sub` = the destinations still ahead, `rest` / `doom` = the
pieces of the batch's runs that wait outside the batch (and whether one of them is flagged nack),
`nx` = the read frontier once the batch is done. -/
structure Flight (G : Ctx) (s : PS) (pre pre' : List Nat) (nd : Prop) (sub : List Nat) (rest : Nat → Nat)
    (doom : Nat → Prop) (nx : Nat) (b : Batch) (sm : List Nat) (i : Nat) : Prop where
  ginv : GInv G s
  wseen : WSeen G s
  tinv : TInv s.heap rest b i
  srcmap : SrcMap G s.heap b sm
  front : ∀ q : Nat, sm[i]? = some q → nAcked s = q
  nextok : NextOK rest b sm nx
  restlast : RestLast rest b
  hdoom : ∀ rid : Nat, doom rid → 0 < rest rid
  hlin : HLin G s.heap
  htouch : HTouch G (G.mu s) s.heap
  ci : CI (G.mu s) s.heap doom b i
  splitlin : SplitLin G b
  nosplit : NoSplitKey b
  facts : FactsS G (G.mu s) pre pre' nd b sm i
  tags : TagsF G s sub b i
  below : WBelowS G s sub

/-- what a task (`ProcessorTask.Do` / `DestinationTask.Do`) does, as far as the caller's frame is
concerned: `(s, b, sm)` before, `(s', b', sm')` after -/
structure StepRel (G : Ctx) (s : PS) (b : Batch) (sm : List Nat) (s' : PS) (b' : Batch) (sm' : List Nat) : Prop where
  nacked : nAcked s' = nAcked s
  ext : Ext (RootsOf G sm 0) (G.mu s) (G.mu s')
  roots : ∀ ρ, RootsOf G sm' 0 ρ → RootsOf G sm 0 ρ
  empty : sm'.length = 0 ↔ sm.length = 0
  /-- the tag of a row of the new batch is the tag of a row of the old batch, or new -/
  tagsub : ∀ row' ∈ b'.rows, (∃ row ∈ b.rows, row.r.tag = row'.r.tag) ∨ row'.r.tag ∉ Seen G s
  /-- a new `written` entry carries the tag of a row of the old batch -/
  wtag : ∀ e ∈ (G.mu s').written, e ∈ (G.mu s).written ∨ ∃ row ∈ b.rows, row.r.tag = e.2.2.1
  seen : ∀ x ∈ Seen G s, x ∈ Seen G s'
  hsize : s.heap.size ≤ s'.heap.size
  hframe : ∀ rid : Nat, rid < s.heap.size → cnt rid b.view = 0 → s'.heap[rid]! = s.heap[rid]! ∧ cnt rid b'.view = 0
  horig : ∀ rid : Nat, rid < s.heap.size →
    (s'.heap[rid]!).origPos = (s.heap[rid]!).origPos ∧ (s'.heap[rid]!).origRec = (s.heap[rid]!).origRec
  mono : ∀ rid : Nat, cnt rid b.view ≤ cnt rid b'.view

end Conduit.Funnel
