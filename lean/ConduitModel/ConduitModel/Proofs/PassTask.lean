import ConduitModel.Proofs.PassWorker

/-!
# Tasks are quiet, and without splitting replies they keep the positions of the batch

`taskDo` (source / processor / destination) never acknowledges anything; if no scripted reply
splits a record it leaves `positions`, `runs`, `splitRecords` of the batch alone and every nack it
sets carries an error (`BInv`). The general step, for any relation on heap and batch that every call of a
marking keeps (`ProcRel`): whatever `ProcessorTask.Do` returns, heap and batch moved along it (`procDo_rel`);
the split-run modules instantiate it with the ledger relation.
-/
namespace Conduit.Funnel

def NE (st : List Status) : Prop := ∀ x ∈ st, x.flag = .nack → x.err.isSome = true

/-- the batches the pipeline handles when nothing is ever split -/
structure BInv (b : Batch) : Prop where
  wf : b.WF #[]
  split : b.split = []
  runs : ∀ rs, b.runs = some rs → ∀ r ∈ rs, r = none
  ne : NE b.st

theorem WF_of_runs_none {h h' : Heap} {b : Batch} (hwf : b.WF h) (hr : ∀ rs, b.runs = some rs → ∀ r ∈ rs, r = none) :
    b.WF h' := by
  obtain ⟨⟨h1, h2, h3, h4⟩, h5⟩ := hwf
  refine ⟨⟨h1, h2, ?_, h4⟩, h5⟩
  cases hb : b.runs with
  | none => trivial
  | some rs =>
    rw [hb] at h3
    refine ⟨h3.1, fun r hm => ?_⟩
    rw [hr rs hb r hm]; rfl

theorem BInv.bok {b : Batch} (h : BInv b) : BOK b := by
  refine ⟨Or.inl h.split, ?_, h.wf.1.st_len, h.wf.1.pos_len⟩
  intro rs hrs
  have h3 := h.wf.1.runs_ok
  rw [hrs] at h3
  rw [List.eq_replicate_iff]
  exact ⟨h3.1, h.runs rs hrs⟩

theorem new_keys (recs : List Rec) : keys (Batch.new recs).pos = recs.map (fun r => keyOf r.pos) := by
  simp [keys, Batch.new, List.map_map, Function.comp_def]

theorem new_BInv (recs : List Rec) : BInv (Batch.new recs) := by
  refine ⟨new_WF _ recs, rfl, ?_, ?_⟩
  · intro rs hrs r hr
    simp only [Batch.new, Option.some.injEq] at hrs
    subst hrs
    simp at hr
    exact hr.2.symm
  · intro x hx hf
    simp only [Batch.new, List.mem_map] at hx
    obtain ⟨_, _, rfl⟩ := hx
    cases hf

/-- `b'` differs from `b` at most in records, statuses, `filterCount`, `tainted`; nacks keep errors. -/
structure Fr (b b' : Batch) : Prop where
  pos : b'.pos = b.pos
  split : b'.split = b.split
  runs : b'.runs = b.runs
  ne : NE b.st → NE b'.st

theorem Fr.refl (b : Batch) : Fr b b := ⟨rfl, rfl, rfl, id⟩
theorem Fr.trans {a b c : Batch} (h1 : Fr a b) (h2 : Fr b c) : Fr a c :=
  ⟨h2.pos.trans h1.pos, h2.split.trans h1.split, h2.runs.trans h1.runs, fun h => h2.ne (h1.ne h)⟩

theorem bind_ok {α β} {x : R α} {f : α → R β} {y : β} (h : (x >>= f) = .ok y) : ∃ a, x = .ok a ∧ f a = .ok y :=
  bind_eq_ok h

theorem foldlM_rel {α β} (Rl : β → β → Prop) (hrefl : ∀ b, Rl b b) (htrans : ∀ a b c, Rl a b → Rl b c → Rl a c)
    (f : β → α → R β) : ∀ (l : List α), (∀ b a b', a ∈ l → f b a = .ok b' → Rl b b') →
    ∀ init res, l.foldlM f init = .ok res → Rl init res := by
  intro l
  induction l with
  | nil => intro _ init res h; cases h; exact hrefl _
  | cons a l ih =>
    intro hstep init res h
    rw [List.foldlM_cons] at h
    obtain ⟨b1, h1, h2⟩ := bind_ok h
    exact htrans _ _ _ (hstep _ _ _ List.mem_cons_self h1)
      (ih (fun b a' b' hm => hstep b a' b' (List.mem_cons_of_mem _ hm)) b1 res h2)

theorem call_fr {c : BCall} {h h' : Heap} {b b' : Batch} (hwf : b.WF h)
    (hn : ∀ i errs, c = .nack i errs → ∀ e ∈ errs, e.isSome = true)
    (hsp : ∀ i m, c ≠ .split i m) (hr : c.run (h, b) = .ok (h', b')) : h' = h ∧ Fr b b' := by
  obtain ⟨rfl, M, _⟩ := call_eff hwf hsp hr
  refine ⟨rfl, M.pos, M.split, M.runs, fun hne =>
    M.st_forall hwf (P := fun s => s.flag = .nack → s.err.isSome = true) ?_ ?_ hne⟩
  · intro k row row' hT hP hf
    rcases BCall.T_st hT with h1 | h1 | ⟨_, h1 | ⟨i, errs, e, rfl, he, h1⟩⟩
    · rw [h1] at hf ⊢; exact hP hf
    · rw [h1] at hf; cases hf
    · rw [h1] at hf; cases hf
    · rw [h1]; exact hn i errs rfl e he
  · intro row row' hN hP hf
    rcases BCall.N_cases hN with rfl | ⟨_, _, i, errs, e, rfl, he, rfl⟩
    · exact hP hf
    · exact hn i errs rfl e he

theorem setFlagRange_fr {h : Heap} {b b' : Batch} (hwf : b.WF h) {f : Flag} (hf : f ≠ .nack) (hf' : f ≠ .filter) {i j : Nat}
    (hr : b.setFlagRange f i j = .ok b') : Fr b b' ∧ b'.recs = b.recs := by
  obtain ⟨hij, hj⟩ := setFlagRange_inrange hwf hr
  rw [setFlagRange_ok hwf f hij hj] at hr
  cases hr
  have M := flagged_inPlace (t := b.tainted) (fc := b.filterCount) (WF_flagged hwf hf' i j _) (fun k _ => congrArg (·[k]?) (actList_flagged_of_ne hf' i j))
  exact ⟨⟨rfl, rfl, rfl, fun hne => M.st_forall hwf (P := fun s => s.flag = .nack → s.err.isSome = true)
    (by rintro _ _ _ rfl _ hfl; exact absurd hfl hf) (by rintro _ _ rfl hP; exact hP) hne⟩, rfl⟩

def NoMulti (out : List PR) : Prop := ∀ pr ∈ out, ∀ m, pr = PR.multi m → m.length ≤ 1

def SplitsIn (S : List Rec → Prop) (out : List PR) : Prop := ∀ m, PR.multi m ∈ out → 2 ≤ m.length → S m

theorem SplitsIn.pad {S : List Rec → Prop} {out : List PR} (hn : SplitsIn S out) (n : Nat) : SplitsIn S (padOut n out) := by
  unfold padOut
  split
  · intro m hm
    rcases List.mem_append.mp hm with h | h
    · exact hn m h
    · cases (List.mem_replicate.mp h).2
  · exact hn

/-- a relation on `(heap, batch)` kept by the mutators that leave positions and runs alone, and by
`SplitRecord` into records satisfying `S` -/
structure ProcRel (Rl : Heap × Batch → Heap × Batch → Prop) (S : List Rec → Prop) : Prop where
  refl : ∀ x, Rl x x
  trans : ∀ a b c, Rl a b → Rl b c → Rl a c
  fr : ∀ (h h' : Heap) (b b' : Batch), (b.WF h → h' = h ∧ Fr b b' ∧ b'.WF h) → Rl (h, b) (h', b')
  split : ∀ (h h' : Heap) (b b' : Batch) (i : Nat) (m : List Rec), S m → 1 ≤ m.length →
    b.splitRecord h i m = .ok (h', b') → Rl (h, b) (h', b')

section
variable {Rl : Heap × Batch → Heap × Batch → Prop} {S : List Rec → Prop} (P : ProcRel Rl S)
include P

theorem call_rel {c : BCall} {s s' : Heap × Batch} (hn : ∀ i errs, c = .nack i errs → ∀ e ∈ errs, e.isSome = true)
    (hs : ∀ i m, c = .split i m → S m ∧ 1 ≤ m.length) (h : c.run s = .ok s') : Rl s s' := by
  obtain ⟨hp, b⟩ := s
  obtain ⟨hp', b'⟩ := s'
  by_cases hsp : ∃ i m, c = .split i m
  · obtain ⟨i, m, rfl⟩ := hsp
    exact P.split _ _ _ _ _ m (hs i m rfl).1 (hs i m rfl).2 h
  · refine P.fr _ _ _ _ fun hwf => ?_
    obtain ⟨rfl, hf⟩ := call_fr hwf hn (fun i m e => hsp ⟨i, m, e⟩) h
    exact ⟨rfl, hf, (call_WF hwf (fun i m e => absurd ⟨i, m, e⟩ hsp) h).1⟩

open Agree in
/-- the replay of a call list in a pass state, whatever it returns: heap and batch moved along `Rl` as far
as the last call that succeeded (a failing call leaves the state as it found it) -/
theorem replayCalls_rel : ∀ (cs : List BCall) (b : Batch) (s : PS),
    (∀ c ∈ cs, (∀ i errs, c = .nack i errs → ∀ e ∈ errs, e.isSome = true) ∧ ∀ i m, c = .split i m → S m ∧ 1 ≤ m.length) →
    ∃ b', Rl (s.heap, b) ((replayCalls cs b s).2.heap, b') ∧ ∀ b1, (replayCalls cs b s).1 = .ok b1 → b1 = b'
  | [], b, s, _ => ⟨b, P.refl _, fun _ h => by cases h; rfl⟩
  | c :: cs, b, s, hc => by
    rw [replayCalls]
    cases h : c.run (s.heap, b) with
    | error e => exact ⟨b, P.refl _, nofun⟩
    | ok hb =>
      obtain ⟨b', h1, h2⟩ := replayCalls_rel cs hb.2 { s with heap := hb.1 } fun c' hm => hc c' (List.mem_cons_of_mem _ hm)
      exact ⟨b', P.trans _ _ _ (call_rel P (hc c List.mem_cons_self).1 (hc c List.mem_cons_self).2 h) h1, h2⟩

end

theorem NoMulti.splitsIn {out : List PR} (hn : NoMulti out) : SplitsIn (fun _ => False) out :=
  fun m hm hl => by have := hn _ hm m rfl; omega

theorem Fr.procRel : ProcRel (fun x y => x.2.WF x.1 → Fr x.2 y.2 ∧ y.2.WF y.1) (fun _ => False) :=
  ⟨fun x hx => ⟨Fr.refl x.2, hx⟩, fun _ _ _ h1 h2 hx => ⟨(h1 hx).1.trans (h2 (h1 hx).2).1, (h2 (h1 hx).2).2⟩,
    fun _ _ _ _ hf hx => by obtain ⟨rfl, g⟩ := hf hx; exact g, fun _ _ _ _ _ _ hf => hf.elim⟩

theorem BInv.of_fr {b b' : Batch} {h : Heap} (hb : BInv b) (hf : Fr b b') (hwf : b'.WF h) : BInv b' := by
  have hr : ∀ rs, b'.runs = some rs → ∀ r ∈ rs, r = none := by
    intro rs hrs; rw [hf.runs] at hrs; exact hb.runs rs hrs
  exact ⟨WF_of_runs_none hwf hr, by rw [hf.split]; exact hb.split, hr, hf.ne hb.ne⟩

theorem Q.heap {σ t : PS} (h : Q σ t) (hp : Heap) : Q σ { t with heap := hp } := ⟨h.acked, h.mas, h.ns⟩

open Agree in
/-- `ProcessorTask.Do`, whatever it returns: it is quiet, and heap and batch moved along `Rl` to the batch
after the last call of `markBatchRecords` that succeeded — the batch it returns, when it returns. The
reply `out` splits only into records satisfying `S`. -/
theorem procDo_rel {Rl : Heap × Batch → Heap × Batch → Prop} {S : List Rec → Prop} (P : ProcRel Rl S) {task : Nat} {b : Batch}
    {s s' : PS} {r : Except Stop Batch} (hS : ∀ out, (NS s.scripts → NoMulti out) → SplitsIn S out)
    (h : exec (procDo task b) s = (r, s')) :
    Q s s' ∧ ∃ b', Rl (s.heap, b) (s'.heap, b') ∧ ∀ b1, r = .ok b1 → b1 = b' := by
  rw [procDo_exec] at h
  generalize hs0 : ({ s with log := s.log.push (.pcall task b.active) } : PS) = s0 at h
  have hq0 : Q s s0 := by rw [← hs0]; exact (Q.refl s).push _ rfl
  have hq1 := hq0.pop task
  have hh1 : (popReplyP s0 task).2.heap = s.heap := by rw [popReplyP_heap, ← hs0]
  have hnm : NS s.scripts → NoMulti (procOut (popReplyP s0 task).1) := fun hns => by
    cases ho : (popReplyP s0 task).1 with
    | none => intro pr hm; cases hm
    | some rp =>
      cases rp with
      | proc out => rw [popReplyP_eq] at ho; exact (hq0.ns hns).next ho
      | dest _ _ => intro pr hm; cases hm
  generalize (popReplyP s0 task).1 = o at h hnm
  generalize (popReplyP s0 task).2 = s1 at h hq1 hh1
  rw [procRest_exec] at h
  split at h
  · cases h; exact ⟨hq1, b, hh1 ▸ P.refl _, nofun⟩
  · split at h
    · cases h; exact ⟨hq1, b, hh1 ▸ P.refl _, nofun⟩
    · have hw := procCalls_windows (padOut b.active.length (procOut o))
      generalize groupCalls _ _ _ = cs at h hw
      obtain ⟨b', h1, h2⟩ := replayCalls_rel P cs b s1 fun c hc => ⟨(hw.mem hc).1, fun i m e =>
        ⟨(hS _ hnm).pad _ m ((hw.mem hc).2 i m e).1 ((hw.mem hc).2 i m e).2, Nat.le_of_succ_le ((hw.mem hc).2 i m e).2⟩⟩
      have hst : (replayCalls cs b s1).2 = _ := replayCalls_state cs b s1
      rw [h] at h1 h2 hst
      rw [hh1] at h1
      exact ⟨by rw [show s' = _ from hst]; exact hq1.heap _, b', h1, h2⟩

theorem procDo_spec (task : Nat) (b : Batch) (s s' : PS) (r : Except Stop Batch) (hb : BInv b)
    (hns : NS s.scripts) (h : exec (procDo task b) s = (r, s')) :
    Q s s' ∧ ∀ b', r = .ok b' → BInv b' ∧ b'.pos = b.pos := by
  obtain ⟨hq, b', hrel, hb'⟩ := procDo_rel Fr.procRel (fun out h => (h hns).splitsIn) h
  refine ⟨hq, fun b1 hb1 => ?_⟩
  cases hb' b1 hb1
  obtain ⟨hf, hw⟩ := hrel (WF_of_runs_none hb.wf hb.runs)
  exact ⟨hb.of_fr hf hw, hf.pos⟩

/-- `DestinationTask.Do` replays `Nack` calls that pass an error -/
theorem destDoP_fr {hp : Heap} {b b' : Batch} (hwf : b.WF hp) {werr : Option Err} {resps : List AckResp}
    (h : destDoP b werr resps = .ok b') : Fr b b' :=
  (foldlM_rel (fun b b' => b.WF hp → Fr b b' ∧ b'.WF hp) (fun _ hx => ⟨Fr.refl _, hx⟩)
    (fun _ _ _ h1 h2 hx => ⟨(h1 hx).1.trans (h2 (h1 hx).2).1, (h2 (h1 hx).2).2⟩) nack1 _
    (fun b ke b1 _ hst hx => by
      have hr : (BCall.nack ke.1 [some ke.2]).run (hp, b) = .ok (hp, b1) := run_ok hst
      exact ⟨(call_fr (c := .nack ke.1 [some ke.2]) hx (fun _ _ e x he => by cases e; rw [List.mem_singleton.mp he]; rfl)
        nofun hr).2, (call_WF (c := .nack ke.1 [some ke.2]) hx nofun hr).1⟩) _ _ (destDoP_replay h).2.2 hwf).1

theorem destDo_fr {task : Nat} {b : Batch} {s s' : PS} {r : Except Stop Batch} {hp : Heap} (hwf : b.WF hp)
    (h : exec (destDo task b none) s = (r, s')) : Qh s s' ∧ ∀ b', r = .ok b' → Fr b b' ∧ b'.WF hp := by
  have hq := (destDo_quiet s task b none s (Qh.refl s)).1
  rw [h] at hq
  refine ⟨hq, fun b' hb' => ?_⟩
  subst hb'
  have h1 : exec (destDo task b none) s = _ := destDo_eq_model task b none s
  rw [h1] at h
  dsimp only at h
  generalize (popReplyP _ task) = rp at h
  have g1 : destDoP b (destReply rp.1).1 (destReply rp.1).2 = .ok b' := congrArg Prod.fst h
  exact ⟨destDoP_fr hwf g1, (destDoP_ok hwf g1).2.2.1.wf⟩

theorem destDo_spec (task : Nat) (b : Batch) (s s' : PS) (r : Except Stop Batch) (hb : BInv b)
    (h : exec (destDo task b none) s = (r, s')) :
    Q s s' ∧ ∀ b', r = .ok b' → BInv b' ∧ b'.pos = b.pos := by
  obtain ⟨hq, hb'⟩ := destDo_fr hb.wf h
  exact ⟨hq.toQ, fun b' hr => ⟨hb.of_fr (hb' b' hr).1 (hb' b' hr).2, (hb' b' hr).1.pos⟩⟩

theorem taskDo_spec (node : TaskNode) (b : Batch) (s s' : PS) (r : Except Stop Batch) (hb : BInv b)
    (hns : NS s.scripts) (h : exec (taskDo node b) s = (r, s')) :
    Q s s' ∧ ∀ b', r = .ok b' → BInv b' ∧ b'.pos = b.pos := by
  unfold taskDo at h
  split at h
  · exact procDo_spec _ b s s' r hb hns h
  · exact destDo_spec _ b s s' r hb h
  · cases h
    exact ⟨Q.refl _, fun b' hb' => by cases hb'; exact ⟨hb, rfl⟩⟩

end Conduit.Funnel
