/-
An event system is a partial step function `step : σ → ε → Option σ`, and its run over an event list is
`List.foldlM step`. A model file spells its own `run` (by `match` or by `bind`, with or without a guard);
`run_eq` recognises it from its two defining equations, and each system states that connection once, so
that what is proved here about `foldlM` in `Option` serves all of them.
-/
namespace Conduit.EventSys

variable {σ τ ε : Type}

theorem run_eq {step : σ → ε → Option σ} {run : σ → List ε → Option σ}
    (hnil : ∀ s, run s [] = some s)
    (hcons : ∀ s e es, run s (e :: es) = (step s e).bind fun s' => run s' es) :
    ∀ (es : List ε) (s : σ), run s es = es.foldlM step s
  | [], s => hnil s
  | e :: es, s => by
    rw [hcons, List.foldlM_cons]
    cases step s e with
    | none => rfl
    | some s' => exact run_eq hnil hcons es s'

theorem run_cons {step : σ → ε → Option σ} {s s' : σ} {e : ε} {es : List ε} :
    (e :: es).foldlM step s = some s' ↔ ∃ s1, step s e = some s1 ∧ es.foldlM step s1 = some s' := by
  rw [List.foldlM_cons]; exact Option.bind_eq_some_iff

theorem run_append {step : σ → ε → Option σ} {s s' : σ} {l₁ l₂ : List ε} :
    (l₁ ++ l₂).foldlM step s = some s' ↔ ∃ s1, l₁.foldlM step s = some s1 ∧ l₂.foldlM step s1 = some s' := by
  rw [List.foldlM_append]; exact Option.bind_eq_some_iff

theorem run_split {step : σ → ε → Option σ} {s s' : σ} {pre post : List ε} {e : ε}
    (h : (pre ++ e :: post).foldlM step s = some s') :
    ∃ s₁ s₂, pre.foldlM step s = some s₁ ∧ step s₁ e = some s₂ ∧ post.foldlM step s₂ = some s' :=
  let ⟨s₁, h1, h⟩ := run_append.mp h
  let ⟨s₂, h2, h⟩ := run_cons.mp h
  ⟨s₁, s₂, h1, h2, h⟩

theorem run_induct_mem {step : σ → ε → Option σ} {P : σ → Prop} :
    ∀ (es : List ε) {s s' : σ}, (∀ s e s1, e ∈ es → P s → step s e = some s1 → P s1) → P s →
      es.foldlM step s = some s' → P s'
  | [], _, _, _, hp, h => Option.some.inj h ▸ hp
  | e :: es, _, _, hP, hp, h => by
    obtain ⟨s1, h1, h2⟩ := run_cons.mp h
    exact run_induct_mem es (fun s e s1 he => hP s e s1 (List.mem_cons_of_mem _ he))
      (hP _ e s1 List.mem_cons_self hp h1) h2

/-- `P` may mention the first state, so this is also the lifting of a reflexive transitive relation
(`P := R s`). -/
theorem run_induct {step : σ → ε → Option σ} {P : σ → Prop}
    (hP : ∀ s e s1, P s → step s e = some s1 → P s1) (es : List ε) {s s' : σ} (hp : P s)
    (h : es.foldlM step s = some s') : P s' :=
  run_induct_mem es (fun s e s1 _ => hP s e s1) hp h

def guarded (g : σ → ε → Bool) (step : σ → ε → Option σ) : σ → ε → Option σ :=
  fun s e => if g s e then step s e else none

theorem guarded_eq_some {g : σ → ε → Bool} {step : σ → ε → Option σ} {s s' : σ} {e : ε} :
    guarded g step s e = some s' ↔ g s e = true ∧ step s e = some s' := by
  unfold guarded; split <;> simp [*]

/-- Used for a restricted system in the full one and for a product in its components. -/
theorem run_sim {step : σ → ε → Option σ} {step' : τ → ε → Option τ} {f : σ → τ} {P : σ → Prop}
    (hP : ∀ s e s1, P s → step s e = some s1 → P s1)
    (hf : ∀ s e s1, P s → step s e = some s1 → step' (f s) e = some (f s1)) :
    ∀ (es : List ε) {s s' : σ}, P s → es.foldlM step s = some s' → es.foldlM step' (f s) = some (f s')
  | [], _, _, _, h => congrArg (fun x => x.map f) h
  | e :: es, _, _, hp, h => by
    obtain ⟨s1, h1, h2⟩ := run_cons.mp h
    exact run_cons.mpr ⟨_, hf _ e s1 hp h1, run_sim hP hf es (hP _ e s1 hp h1) h2⟩

theorem run_progress {step : σ → ε → Option σ} {I goal : σ → Prop} {good : ε → Prop} {v : σ → Nat}
    (hI : ∀ s e s1, I s → step s e = some s1 → I s1)
    (hstep : ∀ s, I s → ¬ goal s → ∃ e s1, good e ∧ step s e = some s1 ∧ v s1 < v s) :
    ∀ (n : Nat) (s : σ), I s → v s ≤ n →
      ∃ (es : List ε) (s' : σ), (∀ e ∈ es, good e) ∧ es.foldlM step s = some s' ∧ goal s' ∧ es.length ≤ n
  | 0, s, hi, hv => by
    refine Classical.byCases (fun hg : goal s => ⟨[], s, nofun, rfl, hg, Nat.le_refl _⟩) fun hg => ?_
    obtain ⟨_, _, _, _, hlt⟩ := hstep s hi hg
    omega
  | n + 1, s, hi, hv => by
    refine Classical.byCases (fun hg : goal s => ⟨[], s, nofun, rfl, hg, Nat.zero_le _⟩) fun hg => ?_
    obtain ⟨e, s1, he, h1, hlt⟩ := hstep s hi hg
    obtain ⟨es, s', hall, hr, hgoal, hlen⟩ := run_progress hI hstep n s1 (hI s e s1 hi h1) (by omega)
    exact ⟨e :: es, s', List.forall_mem_cons.mpr ⟨he, hall⟩, run_cons.mpr ⟨s1, h1, hr⟩, hgoal,
      Nat.succ_le_succ hlen⟩

end Conduit.EventSys

theorem Conduit.forall_mem_concat {α : Type} {p : α → Prop} {l : List α} {a : α} (hl : ∀ x ∈ l, p x) (ha : p a) :
    ∀ x ∈ l ++ [a], p x := fun x hx => by
  rcases List.mem_append.mp hx with hx | hx
  · exact hl x hx
  · rw [List.mem_singleton.mp hx]; exact ha
