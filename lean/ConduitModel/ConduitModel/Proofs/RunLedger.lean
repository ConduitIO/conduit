import ConduitModel.Spec.Arbiter

/-!
The ledger entry of a split run (`runVote`, `runOps` of `Spec/Arbiter.lean`) as a pure theory: what the entry
holds after any sequence of group votes and further splits (`runOps_state`), and that the run is forwarded at
most once (`runOps_once`).
-/
namespace Conduit.Funnel

theorem runVote_spec (r : SplitRun) (k : Nat) (a : Bool) (t : Nat) (e : Option Err) :
    (r.released = true → runVote r k a t e = (r, .err)) ∧
    (r.released = false →
      (runVote r k a t e).1.total = r.total ∧
      (runVote r k a t e).1.terminal = r.terminal + k ∧
      (runVote r k a t e).1.nacked = (r.nacked || !a) ∧
      (runVote r k a t e).1.released = decide (r.terminal + k = r.total) ∧
      (runVote r k a t e).2 =
        if r.terminal + k > r.total then .err
        else if r.terminal + k = r.total then (if (r.nacked || !a) = true then .nack else .ack)
        else .hold) := by
  constructor
  · intro h; simp [runVote, h]
  · intro h
    unfold runVote
    cases a <;> cases r.nacked <;>
      by_cases h1 : r.terminal + k > r.total <;> by_cases h2 : r.terminal + k = r.total <;>
      simp [h, h1, h2] <;> omega

theorem runOps_nil (r : SplitRun) : runOps r [] = (r, []) := rfl
theorem runOps_vote (r : SplitRun) (v : RVote) (ops : List RunOp) :
    runOps r (.vote v :: ops) =
      ((runOps (runVote r v.k v.isAck v.task v.err).1 ops).1,
       (runVote r v.k v.isAck v.task v.err).2 :: (runOps (runVote r v.k v.isAck v.task v.err).1 ops).2) := rfl
theorem runOps_grow (r : SplitRun) (d : Nat) (ops : List RunOp) :
    runOps r (.grow d :: ops) = runOps (runGrow r d) ops := rfl

theorem runOps_append : ∀ (a b : List RunOp) (r : SplitRun),
    runOps r (a ++ b) = ((runOps (runOps r a).1 b).1, (runOps r a).2 ++ (runOps (runOps r a).1 b).2)
  | [], _, _ => rfl
  | .vote v :: a, b, r => by simp only [List.cons_append, runOps_vote, runOps_append a]
  | .grow d :: a, b, r => by simp only [List.cons_append, runOps_grow, runOps_append a]

theorem opsSum_append (a b : List RunOp) : opsSum (a ++ b) = opsSum a + opsSum b := by
  induction a with
  | nil => simp [opsSum]
  | cons op a ih => cases op <;> simp [opsSum, ih]; omega

theorem opsGrow_append (a b : List RunOp) : opsGrow (a ++ b) = opsGrow a + opsGrow b := by
  induction a with
  | nil => simp [opsGrow]
  | cons op a ih => cases op <;> simp [opsGrow, ih]; omega

theorem opsAllAck_append (a b : List RunOp) : opsAllAck (a ++ b) = (opsAllAck a && opsAllAck b) := by
  induction a with
  | nil => simp [opsAllAck]
  | cons op a ih => cases op <;> simp [opsAllAck, ih, Bool.and_assoc]

theorem runOps_state : ∀ (ops : List RunOp) (r : SplitRun),
    (runOps r ops).1.total = r.total + opsGrow ops ∧
    (r.released = true → (runOps r ops).1.released = true) ∧
    ((runOps r ops).1.released = false →
      (runOps r ops).1.terminal = r.terminal + opsSum ops ∧
      (runOps r ops).1.nacked = (r.nacked || !opsAllAck ops)) := by
  intro ops
  induction ops with
  | nil => intro r; simp [runOps_nil, opsGrow, opsSum, opsAllAck]
  | cons op ops ih =>
    intro r
    cases op with
    | grow d =>
      simpa only [runOps_grow, opsGrow, opsSum, opsAllAck, runGrow, Nat.add_assoc] using ih (runGrow r d)
    | vote v =>
      rw [runOps_vote]
      obtain ⟨h1, h2, h3⟩ := ih (runVote r v.k v.isAck v.task v.err).1
      obtain ⟨s1, s2⟩ := runVote_spec r v.k v.isAck v.task v.err
      simp only [opsGrow, opsSum, opsAllAck]
      cases hr : r.released with
      | true =>
        have := s1 hr
        rw [this] at h1 h2 h3 ⊢
        refine ⟨h1, fun _ => h2 hr, ?_⟩
        intro hc; rw [h2 hr] at hc; cases hc
      | false =>
        obtain ⟨t1, t2, t3, t4, _⟩ := s2 hr
        refine ⟨by omega, (by intro h; cases h), ?_⟩
        intro hc
        obtain ⟨g1, g2⟩ := h3 hc
        refine ⟨by omega, ?_⟩
        rw [g2, t3]; cases r.nacked <;> cases v.isAck <;> simp

def RunOut.isRelease : RunOut → Bool
  | .ack | .nack => true
  | _ => false

theorem runOps_once : ∀ (ops : List RunOp) (r : SplitRun),
    (r.released = true → (runOps r ops).2.countP RunOut.isRelease = 0) ∧
    (r.released = false →
      (runOps r ops).2.countP RunOut.isRelease = if (runOps r ops).1.released then 1 else 0) := by
  intro ops
  induction ops with
  | nil => intro r; simp [runOps_nil]; intro h; simp [h]
  | cons op ops ih =>
    intro r
    cases op with
    | grow d => rw [runOps_grow]; exact ih (runGrow r d)
    | vote v =>
      rw [runOps_vote]
      obtain ⟨h1, h2⟩ := ih (runVote r v.k v.isAck v.task v.err).1
      obtain ⟨s1, s2⟩ := runVote_spec r v.k v.isAck v.task v.err
      constructor
      · intro hr
        rw [s1 hr] at h1 ⊢
        simp only [List.countP_cons, h1 hr]; rfl
      · intro hr
        obtain ⟨t1, t2, t3, t4, t5⟩ := s2 hr
        simp only [List.countP_cons]
        by_cases he : r.terminal + v.k = r.total
        · have hrel : (runVote r v.k v.isAck v.task v.err).1.released = true := by rw [t4]; simp [he]
          have hlatch := (runOps_state ops _).2.1 hrel
          have : ¬ r.terminal + v.k > r.total := by omega
          rw [h1 hrel, hlatch, t5, if_neg this, if_pos he]
          cases (r.nacked || !v.isAck) <;> simp [RunOut.isRelease]
        · have hrel : (runVote r v.k v.isAck v.task v.err).1.released = false := by rw [t4]; simp [he]
          rw [h2 hrel, t5]
          simp only [he, if_false]
          by_cases hg : r.terminal + v.k > r.total <;> simp [hg, RunOut.isRelease]

theorem runOps_snoc (r : SplitRun) (pre : List RunOp) (v : RVote) :
    (runOps r (pre ++ [.vote v])).2 =
      (runOps r pre).2 ++ [(runVote (runOps r pre).1 v.k v.isAck v.task v.err).2] := by
  rw [runOps_append, runOps_vote, runOps_nil]

theorem opsSum_votes (vs : List RVote) : opsSum (vs.map .vote) = (vs.map (·.k)).sum := by
  induction vs with
  | nil => rfl
  | cons v vs ih => simp [opsSum, ih]

theorem opsGrow_votes (vs : List RVote) : opsGrow (vs.map .vote) = 0 := by
  induction vs with
  | nil => rfl
  | cons v vs ih => simp [opsGrow, ih]

theorem opsAllAck_votes (vs : List RVote) : opsAllAck (vs.map .vote) = vs.all (·.isAck) := by
  induction vs with
  | nil => rfl
  | cons v vs ih => simp [opsAllAck, ih]

theorem runVotes_released_sum : ∀ (vs : List RVote) (r : SplitRun),
    (runVotes r vs).1.released = true → r.released = true ∨ r.total ≤ r.terminal + (vs.map (·.k)).sum := by
  intro vs
  induction vs with
  | nil => intro r h; exact Or.inl h
  | cons v vs ih =>
    intro r h
    simp only [runVotes, List.map_cons, runOps_vote] at h ih
    cases hr : r.released with
    | true => exact Or.inl rfl
    | false =>
      right
      obtain ⟨t1, t2, _, t4, _⟩ := (runVote_spec r v.k v.isAck v.task v.err).2 hr
      rcases ih _ h with g | g
      · rw [t4] at g; simp at g; simp only [List.map_cons, List.sum_cons]; omega
      · rw [t1, t2] at g; simp only [List.map_cons, List.sum_cons]; omega

theorem runVotes_length : ∀ (vs : List RVote) (r : SplitRun), (runVotes r vs).2.length = vs.length
  | [], _ => rfl
  | v :: vs, r => congrArg (· + 1) (runVotes_length vs _)

theorem runVerdict_ne_err {T s : Nat} {a : Bool} (h : s ≤ T) : runVerdict T s a ≠ .err := by
  unfold runVerdict; split
  · exact fun h => nomatch h
  · rw [if_pos (by omega)]; cases a <;> exact fun h => nomatch h

theorem runVote_verdict (r : SplitRun) (k : Nat) (a : Bool) (t : Nat) (e : Option Err)
    (hr : r.released = false) :
    (runVote r k a t e).2 = runVerdict r.total (r.terminal + k) (!r.nacked && a) := by
  rw [((runVote_spec r k a t e).2 hr).2.2.2.2]
  grind [runVerdict]

end Conduit.Funnel
