import ConduitModel.Proofs.MonKey
import ConduitModel.Proofs.MonPipe

/-!
# The source map of a batch in flight: general lemmas

`SM.*`: what `SrcMap` says of sources, runs and roots along the rows. `RowsSim`: a second batch with the
same rows up to the statuses and the names of the runs; the source map, the frontier clauses, the split
map and the keys carry over (a destination's nacks, a retried group flagged `ack` again, the clone of a
fan-out branch). Also here: counting the rows of a run (`cnt_drop_pos`, `cnt_pos`), `active_row` with `SProc.act_row` / `SProc.row_act`, and the split map
of a sub-batch (`sub_split`, `lookup_none_of_sub`).
-/
namespace Conduit.Funnel
open Conduit.Funnel.Mon

theorem rowKey_run {h : Heap} {row : Row} {rid : Nat} (hr : row.run = some rid) :
    rowKey h row = keyOf (h[rid]!).origPos := by
  unfold rowKey; rw [hr]

theorem rowKey_none {h : Heap} {row : Row} (hr : row.run = none) : rowKey h row = keyOf row.pos := by
  unfold rowKey; rw [hr]

namespace SProc

theorem act_row {h : Heap} {b : Batch} {rs : List (Option Nat)} (hwf : b.WF h) (hvb : VB b rs) {a p : Nat} {row : Row}
    (ha : (actList b.st)[a]? = some p) (hp : b.rows[p]? = some row) :
    b.active[a]? = some row.r ∧ row.st.flag ≠ .filter := by
  obtain ⟨f1, f2, _, _⟩ := rows_fields hvb hp
  obtain ⟨hlt, hst⟩ := List.getElem?_eq_some_iff.mp f2
  refine ⟨by rw [active_getElem? hwf ha]; exact f1, ?_⟩
  have hnf := (notFilt_iff hlt).mp (mem_actList.mp (List.mem_of_getElem? ha)).2
  rw [hst] at hnf; exact hnf

theorem row_act {b : Batch} {rs : List (Option Nat)} (hvb : VB b rs) {p : Nat} {row : Row}
    (hp : b.rows[p]? = some row) (hf : row.st.flag ≠ .filter) : ∃ a : Nat, (actList b.st)[a]? = some p := by
  obtain ⟨_, f2, _, _⟩ := rows_fields hvb hp
  obtain ⟨hlt, hst⟩ := List.getElem?_eq_some_iff.mp f2
  have hm : p ∈ actList b.st := mem_actList.mpr ⟨hlt, (notFilt_iff hlt).mpr (by rw [hst]; exact hf)⟩
  exact List.getElem?_of_mem hm

end SProc

theorem active_row {h : Heap} {b : Batch} {rs : List (Option Nat)} (hwf : b.WF h) (hvb : VB b rs) {j : Nat} {r : Rec}
    (hj : b.active[j]? = some r) :
    ∃ (p : Nat) (row : Row), (actList b.st)[j]? = some p ∧ b.rows[p]? = some row ∧ row.r = r ∧ row.st.flag ≠ .filter := by
  obtain ⟨p, hp, _⟩ := active_phys hwf hj
  have hrl : p < b.rows.length := by rw [rows_length, ← hvb.slen]; exact (mem_actList.mp (List.mem_of_getElem? hp)).1
  obtain ⟨g1, g2⟩ := SProc.act_row hwf hvb hp (List.getElem?_eq_getElem hrl)
  exact ⟨p, b.rows[p], hp, List.getElem?_eq_getElem hrl, Option.some.inj (g1.symm.trans hj), g2⟩

namespace SM
variable {G : Ctx} {h : Heap} {b : Batch} {sm : List Nat}

theorem le (hm : SrcMap G h b sm) : ∀ (d k q q' : Nat), sm[k]? = some q → sm[k + d]? = some q' → q ≤ q' ∧ q' ≤ q + d := by
  intro d
  induction d with
  | zero => intro k q q' h1 h2; rw [Nat.add_zero, h1] at h2; cases h2; omega
  | succ d ih =>
    intro k q q' h1 h2
    have hlt : k + d < sm.length := by
      have := (List.getElem?_eq_some_iff.mp h2).1
      omega
    obtain ⟨g1, g2⟩ := ih k q _ h1 (List.getElem?_eq_getElem hlt)
    have := hm.step (k + d) _ q' (List.getElem?_eq_getElem hlt) (by rw [Nat.add_assoc]; exact h2)
    omega

theorem le' (hm : SrcMap G h b sm) {k k' q q' : Nat} (hk : k ≤ k') (h1 : sm[k]? = some q) (h2 : sm[k']? = some q') :
    q ≤ q' ∧ q' ≤ q + (k' - k) := by
  have := le hm (k' - k) k q q' h1 (by rw [show k + (k' - k) = k' by omega]; exact h2)
  exact this

theorem same_run (hm : SrcMap G h b sm) : ∀ (d k : Nat) (q : Nat) (row row' : Row), 0 < d → sm[k]? = some q → sm[k + d]? = some q →
    b.rows[k]? = some row → b.rows[k + d]? = some row' → ∃ rid, row.run = some rid ∧ row'.run = some rid := by
  intro d
  induction d with
  | zero => intro k q row row' hd; omega
  | succ d ih =>
    intro k q row row' _ h1 h2 hr hr'
    have hlt : k + d < sm.length := by
      have := (List.getElem?_eq_some_iff.mp h2).1
      omega
    have hq : sm[k + d]? = some q := by
      obtain ⟨g1, _⟩ := le hm d k q _ h1 (List.getElem?_eq_getElem hlt)
      obtain ⟨g3, _⟩ := le hm 1 (k + d) _ q (List.getElem?_eq_getElem hlt) (by rw [Nat.add_assoc]; exact h2)
      rw [List.getElem?_eq_getElem hlt]
      congr 1; omega
    have hlr : k + d < b.rows.length := by rw [← hm.len]; exact hlt
    obtain ⟨rowd, hrowd⟩ : ∃ rowd, b.rows[k + d]? = some rowd := ⟨_, List.getElem?_eq_getElem hlr⟩
    obtain ⟨rid, a1, a2⟩ := hm.same (k + d) rowd row' q hrowd (by rw [Nat.add_assoc]; exact hr') hq
      (by rw [Nat.add_assoc]; exact h2)
    by_cases hd0 : d = 0
    · subst hd0
      rw [Nat.add_zero, hr] at hrowd
      cases hrowd
      exact ⟨rid, a1, a2⟩
    · obtain ⟨rid', c1, c2⟩ := ih k q row rowd (by omega) h1 hq hr hrowd
      rw [a1] at c2
      cases c2
      exact ⟨rid, c1, a2⟩

theorem same_run' (hm : SrcMap G h b sm) {k k' q : Nat} {row row' : Row} (hk : k ≠ k') (h1 : sm[k]? = some q)
    (h2 : sm[k']? = some q) (hr : b.rows[k]? = some row) (hr' : b.rows[k']? = some row') :
    ∃ rid, row.run = some rid ∧ row'.run = some rid := by
  rcases Nat.lt_or_gt_of_ne hk with hlt | hgt
  · have e : k + (k' - k) = k' := by omega
    exact same_run hm (k' - k) k q row row' (by omega) h1 (by rw [e]; exact h2) hr (by rw [e]; exact hr')
  · have e : k' + (k - k') = k := by omega
    obtain ⟨rid, a1, a2⟩ := same_run hm (k - k') k' q row' row (by omega) h2 (by rw [e]; exact h1) hr' (by rw [e]; exact hr)
    exact ⟨rid, a2, a1⟩

theorem norun_unique (hm : SrcMap G h b sm) {k k' q : Nat} {row row' : Row} (h1 : sm[k]? = some q) (h2 : sm[k']? = some q)
    (hr : b.rows[k]? = some row) (hr' : b.rows[k']? = some row') (hn : row.run = none) : k' = k := by
  apply Classical.byContradiction
  intro hne
  obtain ⟨rid, a1, _⟩ := same_run' hm (Ne.symm hne) h1 h2 hr hr'
  rw [hn] at a1; cases a1

theorem run_eq (hm : SrcMap G h b sm) {k k' q rid : Nat} {row row' : Row} (h1 : sm[k]? = some q) (h2 : sm[k']? = some q)
    (hr : b.rows[k]? = some row) (hr' : b.rows[k']? = some row') (hn : row.run = some rid) : row'.run = some rid := by
  by_cases hk : k = k'
  · subst hk; rw [hr] at hr'; cases hr'; exact hn
  · obtain ⟨rid', a1, a2⟩ := same_run' hm hk h1 h2 hr hr'
    rw [hn] at a1; cases a1; exact a2

theorem run_src (hs : Src G) (hm : SrcMap G h b sm) {k k' q q' rid : Nat} {row row' : Row} (h1 : sm[k]? = some q)
    (h2 : sm[k']? = some q') (hr : b.rows[k]? = some row) (hr' : b.rows[k']? = some row') (e1 : row.run = some rid)
    (e2 : row'.run = some rid) : q = q' := by
  obtain ⟨src, s1, k1, _⟩ := hm.key k row q hr h1
  obtain ⟨src', s2, k2, _⟩ := hm.key k' row' q' hr' h2
  apply hs.idx_of_key s1 s2
  rw [← k1, ← k2]
  unfold rowKey
  rw [e1, e2]

theorem run_root (hs : Src G) (hm : SrcMap G h b sm) {k rid q : Nat} {row : Row} {src : Rec}
    (hl : ∃ src ∈ G.all, keyR src = keyOf (h[rid]!).origPos ∧ root (h[rid]!).origRec = root src)
    (hr : b.rows[k]? = some row) (hrun : row.run = some rid) (hq : sm[k]? = some q) (hsrc : G.all[q]? = some src) :
    root (h[rid]!).origRec = root src := by
  obtain ⟨srcH, hmem, hk, hroot⟩ := hl
  obtain ⟨qH, hqH⟩ := List.getElem?_of_mem hmem
  obtain ⟨src', g1, g2, _⟩ := hm.key k row q hr hq
  rw [hsrc] at g1; cases g1
  rw [rowKey_run hrun] at g2
  have := hs.idx_of_key hqH hsrc (hk.trans g2)
  subst this
  rw [hsrc] at hqH; cases hqH
  exact hroot

theorem srcOf (hm : SrcMap G h b sm) {k : Nat} {row : Row} (hr : b.rows[k]? = some row) :
    ∃ q src, sm[k]? = some q ∧ G.all[q]? = some src ∧ rowKey h row = keyR src ∧ root row.r = root src := by
  have hk : k < sm.length := by rw [hm.len]; exact (List.getElem?_eq_some_iff.mp hr).1
  obtain ⟨src, a1, a2, a3⟩ := hm.key k row _ hr (List.getElem?_eq_getElem hk)
  exact ⟨_, src, List.getElem?_eq_getElem hk, a1, a2, a3⟩

theorem root_le (hs : Src G) (hm : SrcMap G h b sm) {k k' : Nat} {row row' : Row} (hk : k ≤ k')
    (hr : b.rows[k]? = some row) (hr' : b.rows[k']? = some row') : root row.r ≤ root row'.r := by
  obtain ⟨q, src, a1, a2, _, a4⟩ := srcOf hm hr
  obtain ⟨q', src', b1, b2, _, b4⟩ := srcOf hm hr'
  rw [a4, b4]
  obtain ⟨g1, _⟩ := le' hm hk a1 b1
  rcases Nat.lt_or_ge q q' with hlt | hge
  · exact Nat.le_of_lt (hs.root_lt a2 b2 hlt)
  · have : q = q' := by omega
    subst this
    rw [a2] at b2; cases b2; exact Nat.le_refl _

theorem heap {h' : Heap} (hm : SrcMap G h b sm)
    (ho : ∀ row ∈ b.rows, ∀ rid, row.run = some rid → (h'[rid]!).origPos = (h[rid]!).origPos) : SrcMap G h' b sm := by
  refine ⟨hm.len, hm.step, ?_, hm.same⟩
  intro k row q hr hq
  obtain ⟨src, a1, a2, a3⟩ := hm.key k row q hr hq
  refine ⟨src, a1, ?_, a3⟩
  rw [← a2]
  unfold rowKey
  cases hrun : row.run with
  | none => rfl
  | some rid => simp only []; rw [ho row (List.mem_of_getElem? hr) rid hrun]

end SM

def LinOf (G : Ctx) (h : Heap) (rid : Nat) : Prop :=
  ∃ src ∈ G.all, keyR src = keyOf (h[rid]!).origPos ∧ root (h[rid]!).origRec = root src

theorem row_of_root {G : Ctx} (hs : Src G) {h : Heap} {b : Batch} {sm : List Nat} (hm : SrcMap G h b sm)
    {rid k0 k q : Nat} {row0 : Row} {src : Rec} (hl : LinOf G h rid) (hr0 : b.rows[k0]? = some row0)
    (hrun0 : row0.run = some rid) (hq : sm[k]? = some q) (hsrc : G.all[q]? = some src)
    (hroot : root src = root (h[rid]!).origRec) : ∃ row, b.rows[k]? = some row ∧ row.run = some rid := by
  obtain ⟨q0, src0, a1, a2, _, _⟩ := SM.srcOf hm hr0
  have e0 := SM.run_root hs hm hl hr0 hrun0 a1 a2
  have hqq : q = q0 := hs.idx_of_root hsrc a2 (hroot.trans e0)
  subst hqq
  have hkr : k < b.rows.length := by rw [← hm.len]; exact (List.getElem?_eq_some_iff.mp hq).1
  obtain ⟨rowk, hrk⟩ : ∃ rowk, b.rows[k]? = some rowk := ⟨_, List.getElem?_eq_getElem hkr⟩
  refine ⟨rowk, hrk, ?_⟩
  exact SM.run_eq hm a1 hq hr0 hrk hrun0

theorem cnt_drop_pos {b : Batch} {rs : List (Option Nat)} (hb : VB b rs) {rid i : Nat} :
    0 < cnt rid (b.view.drop i) ↔ ∃ (k : Nat) (row : Row), i ≤ k ∧ b.rows[k]? = some row ∧ row.run = some rid := by
  unfold cnt
  rw [List.countP_pos_iff]
  constructor
  · rintro ⟨x, hx, hx2⟩
    obtain ⟨n, hn⟩ := List.getElem?_of_mem hx
    rw [List.getElem?_drop] at hn
    obtain ⟨row, hr, e1, _⟩ := view_rows hb hn
    refine ⟨i + n, row, by omega, hr, ?_⟩
    rw [e1]; simpa using hx2
  · rintro ⟨k, row, hk, hr, hrun⟩
    have hv := rows_view hb hr
    refine ⟨(row.run, row.pos), ?_, by simp [hrun]⟩
    apply List.mem_of_getElem? (i := k - i)
    rw [List.getElem?_drop, show i + (k - i) = k by omega]
    exact hv

theorem cnt_pos {b : Batch} {rs : List (Option Nat)} (hb : VB b rs) {rid : Nat} :
    0 < cnt rid b.view ↔ ∃ (k : Nat) (row : Row), b.rows[k]? = some row ∧ row.run = some rid := by
  have := cnt_drop_pos hb (rid := rid) (i := 0)
  simp only [List.drop_zero, Nat.zero_le, true_and] at this
  exact this

/-- `b'` has the rows of `b` up to the statuses and a renaming `ρ` of the runs, the ledger `h'` giving a
renamed run the original position it has in `h`: a batch whose statuses were rewritten (`ρ = id`; a
destination's nacks, a retried group flagged `ack` again), the clone handed to a branch of a fan-out
(`ρ` = run ↦ its copy). What a batch in flight says of the source map, the split map and the keys does
not read more of the rows than this keeps. -/
structure RowsSim (ρ : Nat → Nat) (h h' : Heap) (b b' : Batch) : Prop where
  len : b'.rows.length = b.rows.length
  row : ∀ (k : Nat) (row' : Row), b'.rows[k]? = some row' →
    ∃ row, b.rows[k]? = some row ∧ row'.r = row.r ∧ row'.pos = row.pos ∧ row'.run = row.run.map ρ
  pos : ∀ (k : Nat) (row : Row) (rid : Nat), b.rows[k]? = some row → row.run = some rid →
    (h'[ρ rid]!).origPos = (h[rid]!).origPos
  split : b'.split = b.split

namespace RowsSim
variable {ρ : Nat → Nat} {h h' : Heap} {b b' : Batch} {G : Ctx} {sm : List Nat}

theorem last (hr : RowsSim ρ h h' b b') {row' : Row} (hl : b'.rows.getLast? = some row') :
    ∃ row, b.rows.getLast? = some row ∧ row'.run = row.run.map ρ := by
  rw [List.getLast?_eq_getElem?, hr.len] at hl
  obtain ⟨row, g1, _, _, g4⟩ := hr.row _ row' hl
  exact ⟨row, by rw [List.getLast?_eq_getElem?]; exact g1, g4⟩

theorem srcmap (hr : RowsSim ρ h h' b b') (hm : SrcMap G h b sm) : SrcMap G h' b' sm := by
  refine ⟨by rw [hr.len]; exact hm.len, hm.step, ?_, ?_⟩
  · intro k row' q hk hq
    obtain ⟨row, g1, g2, g3, g4⟩ := hr.row k row' hk
    obtain ⟨src, a1, a2, a3⟩ := hm.key k row q g1 hq
    refine ⟨src, a1, ?_, by rw [g2]; exact a3⟩
    rw [← a2]
    unfold rowKey
    cases hrun : row.run with
    | none => rw [g4, hrun, g3]; rfl
    | some rid => rw [g4, hrun]; exact congrArg keyOf (hr.pos k row rid g1 hrun)
  · intro k r1 r2 q h1 h2 h3 h4
    obtain ⟨row1, a1, _, _, a4⟩ := hr.row k r1 h1
    obtain ⟨row2, c1, _, _, c4⟩ := hr.row (k + 1) r2 h2
    obtain ⟨rid, e1, e2⟩ := hm.same k row1 row2 q a1 c1 h3 h4
    exact ⟨ρ rid, by rw [a4, e1]; rfl, by rw [c4, e2]; rfl⟩

theorem nextok (hr : RowsSim ρ h h' b b') {rest rest' : Nat → Nat} (hrest : ∀ rid, rest' (ρ rid) = rest rid) {nx : Nat}
    (hn : NextOK rest b sm nx) : NextOK rest' b' sm nx := by
  intro row' q hl hq
  obtain ⟨row, g1, g4⟩ := hr.last hl
  rcases hn row q g1 hq with ⟨a1, rid, a2, a3⟩ | ⟨a1, a2⟩
  · exact Or.inl ⟨a1, ρ rid, by rw [g4, a2]; rfl, by rw [hrest]; exact a3⟩
  · refine Or.inr ⟨a1, fun rid' hrun => ?_⟩
    rw [g4] at hrun
    cases h0 : row.run with
    | none => rw [h0] at hrun; cases hrun
    | some rid =>
      rw [h0] at hrun
      rw [← Option.some.inj hrun, hrest]
      exact a2 rid h0

theorem fwd (hr : RowsSim ρ h h' b b') {k : Nat} {row : Row} (hk : b.rows[k]? = some row) :
    ∃ row', b'.rows[k]? = some row' ∧ row'.r = row.r ∧ row'.pos = row.pos ∧ row'.run = row.run.map ρ := by
  have hlt : k < b'.rows.length := by rw [hr.len]; exact (List.getElem?_eq_some_iff.mp hk).1
  obtain ⟨row0, g1, g⟩ := hr.row k _ (List.getElem?_eq_getElem hlt)
  rw [hk] at g1; cases g1
  exact ⟨_, List.getElem?_eq_getElem hlt, g⟩

theorem restlast (hr : RowsSim ρ h h' b b') {rs rs' : List (Option Nat)} (hvb : VB b rs) (hvb' : VB b' rs')
    {rest rest' : Nat → Nat} (hrest : ∀ rid, rest' (ρ rid) = rest rid) (hl : RestLast rest b) : RestLast rest' b' := by
  intro rid' hpos hc
  obtain ⟨k, row', hrow', hrun'⟩ := (cnt_pos hvb').mp hc
  obtain ⟨row, g1, _, _, g4⟩ := hr.row k row' hrow'
  rw [g4] at hrun'
  cases h0 : row.run with
  | none => rw [h0] at hrun'; cases hrun'
  | some rid =>
    rw [h0] at hrun'
    have e : ρ rid = rid' := Option.some.inj hrun'
    subst e
    obtain ⟨rowl, a1, a2⟩ := hl rid (by rw [← hrest]; exact hpos) ((cnt_pos hvb).mpr ⟨k, row, g1, h0⟩)
    rw [List.getLast?_eq_getElem?] at a1
    obtain ⟨rowl', c1, _, _, c4⟩ := hr.fwd a1
    exact ⟨rowl', by rw [List.getLast?_eq_getElem?, hr.len]; exact c1, by rw [c4, a2]; rfl⟩

theorem nosplit (hr : RowsSim ρ h h' b b') (hn : NoSplitKey b) : NoSplitKey b' := by
  intro k row' hk hrun
  obtain ⟨row, g1, _, g3, g4⟩ := hr.row k row' hk
  rw [hr.split, g3]
  refine hn k row g1 ?_
  rw [g4] at hrun
  cases h0 : row.run with
  | none => rfl
  | some x => rw [h0] at hrun; cases hrun

theorem splitlin (hr : RowsSim ρ h h' b b') (hl : SplitLin G b) : SplitLin G b' := by
  unfold SplitLin; rw [hr.split]; exact hl

theorem keys (hr : RowsSim ρ h h' b b') (κ : Nat → Nat) : b'.rows.map (κ ·.r.tag) = b.rows.map (κ ·.r.tag) := by
  apply List.ext_getElem?
  intro k
  rw [List.getElem?_map, List.getElem?_map]
  cases h1 : b'.rows[k]? with
  | none =>
    have : b.rows[k]? = none := by
      rw [List.getElem?_eq_none_iff] at h1 ⊢
      rw [← hr.len]; exact h1
    rw [this]
  | some row' =>
    obtain ⟨row, g1, g2, _⟩ := hr.row k row' h1
    rw [g1, Option.map_some, Option.map_some, g2]

/-- the keys of the rows, as far as the statuses that ask for a key not written ahead go -/
theorem tags (hr : RowsSim ρ h h' b b') {κ : Nat → Nat} {s : PS} {sub : List Nat} {i : Nat} (ht : TagsK κ G s sub b i)
    (hst : ∀ (k : Nat) (row row' : Row), b.rows[k]? = some row → b'.rows[k]? = some row' →
      row'.st.flag = .ack ∨ row'.st.flag = .retry → row.st.flag = .ack ∨ row.st.flag = .retry) :
    TagsK κ G s sub b' i := by
  refine ⟨by rw [hr.keys]; exact ht.nodup, ?_, ?_⟩
  · intro k row' hk hrow'
    obtain ⟨row, g1, g2, _⟩ := hr.row k row' hrow'
    rw [g2]; exact ht.seen k row hk g1
  · intro k row' hk hrow' hf
    obtain ⟨row, g1, g2, _⟩ := hr.row k row' hrow'
    rw [g2]; exact ht.unw k row hk g1 (hst k row row' g1 hrow' hf)

end RowsSim

theorem subSplit_foldl (sp : List (Nat × Rec)) (ps : List PosV) : ∀ (acc : List (Nat × Rec)),
    (∀ e ∈ acc, lookup sp e.1 = some e.2) →
    ∀ e ∈ ps.foldl (fun acc p => if (p == none) = true then acc else match lookup sp (keyOf p) with
        | some r => if (lookup acc (keyOf p)).isSome = true then acc else acc ++ [(keyOf p, r)]
        | none => acc) acc, lookup sp e.1 = some e.2 := by
  induction ps with
  | nil => intro acc ha e he; exact ha e he
  | cons p ps ih =>
    intro acc ha
    rw [List.foldl_cons]
    apply ih
    intro e he
    by_cases hpn : (p == none) = true
    · simp only [hpn, if_true] at he; exact ha e he
    · simp only [hpn] at he
      cases hlk : lookup sp (keyOf p) with
      | none => rw [hlk] at he; exact ha e he
      | some r =>
        rw [hlk] at he
        by_cases hl : (lookup acc (keyOf p)).isSome = true
        · simp only [hl, if_true] at he; exact ha e he
        · simp only [hl] at he
          rcases List.mem_append.mp he with hm | hm
          · exact ha e hm
          · simp only [List.mem_singleton] at hm
            rw [hm]; exact hlk

theorem sub_split {b sb : Batch} {i j : Nat} (h : b.sub i j = .ok sb) : ∀ e ∈ sb.split, lookup b.split e.1 = some e.2 := by
  rw [(sub_ok_fields h).split]
  intro e he
  by_cases hc : b.split.length ≠ 0
  · rw [if_pos hc] at he
    exact subSplit_foldl b.split _ [] (fun _ h => by cases h) e he
  · rw [if_neg hc] at he; cases he

theorem lookup_none_of_sub {b sb : Batch} {i j : Nat} (h : b.sub i j = .ok sb) {k : Nat} (hn : lookup b.split k = none) :
    lookup sb.split k = none := by
  cases hl : lookup sb.split k with
  | none => rfl
  | some r =>
    have := sub_split h (k, r) (lookup_mem hl)
    simp only at this
    rw [hn] at this; cases this

end Conduit.Funnel
