import ConduitModel.Model.PathCleanBytes
import ConduitModel.Proofs.PathClean

/-!
The byte-level `filepath.Clean` loop (`cleanBytes`) computes exactly the element-level model
(`clean`): the write buffer always spells the element stack, `dotdot` always marks the end of the
leading `..` run (or the root slash).
-/
namespace Conduit.Registry

/-- fold of the element-level step over the elements of an unread suffix. -/
def foldSegs (rooted : Bool) (stk : List Seg) (rest : Path) : List Seg :=
  (splitSlash rest).foldl (cleanStep rooted) stk

/-- what the write buffer holds for an element stack (top first). -/
def outOf (rooted : Bool) (stk : List Seg) : Path :=
  (if rooted then [slash] else []) ++ joinSlash stk.reverse

theorem cleanStep_nil (r : Bool) (stk : List Seg) : cleanStep r stk [] = stk := by simp [cleanStep]

theorem foldSegs_slash (r : Bool) (stk : List Seg) (rest : Path) :
    foldSegs r stk (slash :: rest) = foldSegs r stk rest := by
  simp [foldSegs, splitSlash_cons_slash, cleanStep_nil]

theorem foldSegs_nil (r : Bool) (stk : List Seg) : foldSegs r stk [] = stk := by
  simp [foldSegs, splitSlash, cleanStep_nil]

theorem elemEnd_cases {rest : Path} (h : elemEnd rest = true) : rest = [] ∨ ∃ r', rest = slash :: r' := by
  cases rest with
  | nil => exact Or.inl rfl
  | cons c r' => right; simp only [elemEnd, beq_iff_eq] at h; exact ⟨r', by rw [h]⟩

/-- consuming one whole element `e` (no separator inside) that is followed by a separator or the end. -/
theorem foldSegs_elem (r : Bool) (stk : List Seg) (e : Seg) (rest : Path) (he : slash ∉ e)
    (hend : elemEnd rest = true) : foldSegs r stk (e ++ rest) = foldSegs r (cleanStep r stk e) rest := by
  rcases elemEnd_cases hend with rfl | ⟨r', rfl⟩
  · simp [foldSegs, splitSlash_noslash e he, splitSlash, cleanStep_nil]
  · rw [foldSegs_slash]
    simp [foldSegs, splitSlash_append, splitSlash_noslash e he]

def pre (rooted : Bool) : Path := if rooted then [slash] else []

theorem outOf_nil (r : Bool) : outOf r [] = pre r := by simp [outOf, pre, joinSlash]

theorem outOf_cons (r : Bool) (e : Seg) (stk : List Seg) :
    outOf r (e :: stk) = if stk = [] then pre r ++ e else outOf r stk ++ slash :: e := by
  unfold outOf pre
  rw [List.reverse_cons, joinSlash_concat]
  by_cases h : stk = []
  · subst h; simp
  · have : stk.reverse ≠ [] := by simpa using h
    simp [h, this]

theorem outOf_length_le (r : Bool) (ns dots : List Seg) :
    (outOf r dots).length ≤ (outOf r (ns ++ dots)).length := by
  induction ns with
  | nil => simp
  | cons n ns ih =>
    rw [List.cons_append, outOf_cons]
    by_cases h : ns ++ dots = []
    · have hd : dots = [] := (List.append_eq_nil_iff.mp h).2
      subst hd; rw [if_pos h, outOf_nil]; simp
    · rw [if_neg h]; simp only [List.length_append, List.length_cons]; omega

theorem outOf_length_lt (r : Bool) (n : Seg) (ns dots : List Seg) (hn : n ≠ []) :
    (outOf r dots).length < (outOf r ((n :: ns) ++ dots)).length := by
  rw [List.cons_append, outOf_cons]
  have hpos : 0 < n.length := List.length_pos_iff.mpr hn
  by_cases h : ns ++ dots = []
  · have hd : dots = [] := (List.append_eq_nil_iff.mp h).2
    subst hd; rw [if_pos h, outOf_nil]; simp only [List.length_append]; omega
  · rw [if_neg h]
    have := outOf_length_le r ns dots
    simp only [List.length_append, List.length_cons]; omega

theorem backtrack_noslash (dd : Nat) (T : List Nat) (hT : dd ≤ T.length) :
    ∀ (l : List Nat), l ≠ [] → (∀ c ∈ l, c ≠ slash) →
      backtrack (l ++ T) dd = if dd < T.length then backtrack T dd else T := by
  intro l
  induction l with
  | nil => intro h; exact absurd rfl h
  | cons h t ih =>
    intro _ hall
    have hh : h ≠ slash := hall h (by simp)
    by_cases ht : t = []
    · subst ht
      simp only [List.cons_append, List.nil_append, backtrack]
      by_cases hlt : dd < T.length
      · simp [hlt, hh]
      · simp [hlt]
    · have := ih ht (fun c hc => hall c (by simp [hc]))
      simp only [List.cons_append, backtrack]
      have hlen : dd < (t ++ T).length := by
        have : 0 < t.length := List.length_pos_iff.mpr ht
        simp only [List.length_append]; omega
      rw [if_pos ⟨hlen, hh⟩]
      exact this

/-- the buffer spells the stack; `dotdot` is the length of what spells the leading `..` run
(non-rooted) or of the root slash (rooted). -/
def Rel (rooted : Bool) (stk : List Seg) (rout : List Nat) (dd : Nat) : Prop :=
  ∃ k ns, stk = ns ++ List.replicate k dotdotSeg ∧ (∀ s ∈ ns, Normal s) ∧ (rooted = true → k = 0) ∧
    rout = (outOf rooted stk).reverse ∧ dd = (outOf rooted (List.replicate k dotdotSeg)).length

theorem outOf_length_pre (r : Bool) (stk : List Seg) (h : ∀ s ∈ stk, s ≠ []) :
    (outOf r stk).length = (pre r).length ↔ stk = [] := by
  constructor
  · intro hl
    cases stk with
    | nil => rfl
    | cons e t =>
      exfalso
      have := outOf_length_lt r e t [] (h e (by simp))
      rw [outOf_nil, List.append_nil] at this
      omega
  · rintro rfl; rw [outOf_nil]

theorem rel_elems_ne_nil {k : Nat} {ns : List Seg} (hn : ∀ s ∈ ns, Normal s) :
    ∀ s ∈ ns ++ List.replicate k dotdotSeg, s ≠ [] := by
  intro s hs
  rcases List.mem_append.mp hs with h | h
  · exact (hn s h).1
  · rw [List.eq_of_mem_replicate h]; simp [dotdotSeg]

theorem outOf_push (r : Bool) (e : Seg) {stk : List Seg} (hne : ∀ s ∈ stk, s ≠ []) :
    (outOf r (e :: stk)).reverse = e.reverse ++
      (if (outOf r stk).length ≠ (pre r).length then slash :: (outOf r stk).reverse else (outOf r stk).reverse) := by
  rw [outOf_cons]
  by_cases hs : stk = []
  · subst hs; simp [outOf_nil]
  · rw [if_neg hs, if_pos (mt (outOf_length_pre r stk hne).mp hs)]; simp

theorem sep_test (r : Bool) (n : Nat) : (r = true ∧ n ≠ 1) ∨ (r = false ∧ n ≠ 0) ↔ n ≠ (pre r).length := by
  cases r <;> simp [pre]

/-- pushing a normal element; the `if` is the loop's test whether a separator has to be written first
(the buffer holds more than the root slash, resp. is not empty). -/
theorem rel_push {rooted : Bool} {stk : List Seg} {rout : List Nat} {dd : Nat} (h : Rel rooted stk rout dd)
    {e : Seg} (he : Normal e) :
    Rel rooted (e :: stk)
      (e.reverse ++ (if (rooted = true ∧ rout.length ≠ 1) ∨ (rooted = false ∧ rout.length ≠ 0) then slash :: rout else rout)) dd := by
  obtain ⟨k, ns, rfl, hn, hr, rfl, rfl⟩ := h
  refine ⟨k, e :: ns, by simp, ?_, hr, ?_, rfl⟩
  · intro s hs; simp only [List.mem_cons] at hs; rcases hs with rfl | hs; exact he; exact hn s hs
  · rw [outOf_push rooted e (rel_elems_ne_nil hn), List.length_reverse]
    simp only [sep_test]

/-- `out.w > dotdot` exactly when a normal element is on top. -/
theorem rel_can_backtrack {rooted : Bool} {k : Nat} {ns : List Seg} (hn : ∀ s ∈ ns, Normal s) :
    (outOf rooted (List.replicate k dotdotSeg)).length < (outOf rooted (ns ++ List.replicate k dotdotSeg)).length
      ↔ ns ≠ [] := by
  cases ns with
  | nil => simp
  | cons n t =>
    simp only [ne_eq, reduceCtorEq, not_false_eq_true, iff_true]
    exact outOf_length_lt rooted n t _ (hn n (by simp)).1

/-- popping the normal element on top = the byte-level backtracking. -/
theorem rel_pop {rooted : Bool} {k : Nat} {n : Seg} {ns : List Seg} (hn : ∀ s ∈ n :: ns, Normal s) :
    backtrack (outOf rooted ((n :: ns) ++ List.replicate k dotdotSeg)).reverse
        (outOf rooted (List.replicate k dotdotSeg)).length
      = (outOf rooted (ns ++ List.replicate k dotdotSeg)).reverse := by
  have hnn : Normal n := hn n (by simp)
  have hrev_ne : n.reverse ≠ [] := by simpa using hnn.1
  have hrev_ns : ∀ c ∈ n.reverse, c ≠ slash := by
    intro c hc hcs; exact normal_noslash hnn (by rw [← hcs]; simpa using hc)
  rw [List.cons_append, outOf_cons]
  by_cases hs : ns ++ List.replicate k dotdotSeg = []
  · have hk : List.replicate k dotdotSeg = [] := (List.append_eq_nil_iff.mp hs).2
    rw [if_pos hs, hs, hk, outOf_nil, List.reverse_append]
    rw [backtrack_noslash _ _ (by simp) _ hrev_ne hrev_ns]
    simp
  · rw [if_neg hs]
    have hle := outOf_length_le rooted ns (List.replicate k dotdotSeg)
    rw [List.reverse_append, List.reverse_cons]
    rw [List.append_assoc]
    rw [backtrack_noslash _ _ (by simp; omega) _ hrev_ne hrev_ns]
    have hlt : (outOf rooted (List.replicate k dotdotSeg)).length <
        ([slash] ++ (outOf rooted (ns ++ List.replicate k dotdotSeg)).reverse).length := by simp; omega
    rw [if_pos hlt]
    simp [backtrack]

theorem cleanStep_dot (r : Bool) (stk : List Seg) : cleanStep r stk dotSeg = stk := by simp [cleanStep]

theorem cleanStep_normal (r : Bool) (stk : List Seg) {e : Seg} (h : Normal e) : cleanStep r stk e = e :: stk := by
  unfold cleanStep
  rw [if_neg (fun x => x.elim h.1 h.2.1), if_neg (normal_ne_dotdot h)]

theorem takeWhile_noslash (l : Path) : slash ∉ l.takeWhile (· ≠ slash) := by
  induction l with
  | nil => simp
  | cons c t ih =>
    by_cases hc : c = slash
    · simp [List.takeWhile, hc]
    · simp only [List.takeWhile, ne_eq, hc, not_false_eq_true, decide_true, List.mem_cons, not_or]
      exact ⟨fun h => hc h.symm, ih⟩

theorem dropWhile_elemEnd (l : Path) : elemEnd (l.dropWhile (· ≠ slash)) = true := by
  induction l with
  | nil => rfl
  | cons c t ih =>
    by_cases hc : c = slash
    · subst hc; simp [List.dropWhile, elemEnd]
    · simp only [List.dropWhile, ne_eq, hc, not_false_eq_true, decide_true]; exact ih

theorem dropWhile_length_le (l : Path) : (l.dropWhile (· ≠ slash)).length ≤ l.length := by
  induction l with
  | nil => simp
  | cons c t ih =>
    simp only [List.dropWhile]
    split
    · simp only [List.length_cons]; omega
    · simp

/-- the byte-level loop computes the element-level fold. -/
theorem cleanLoop_eq (rooted : Bool) : ∀ (fuel : Nat) (rest : Path) (stk : List Seg) (rout : List Nat) (dd : Nat),
    rest.length < fuel → Rel rooted stk rout dd →
    cleanLoop rooted fuel rest rout dd = (outOf rooted (foldSegs rooted stk rest)).reverse := by
  intro fuel
  induction fuel with
  | zero => intro rest _ _ _ h; omega
  | succ fuel ih =>
    intro rest stk rout dd hfuel hrel
    cases rest with
    | nil =>
      obtain ⟨k, ns, -, -, -, hr, -⟩ := hrel
      simp only [cleanLoop, foldSegs_nil]; exact hr
    | cons c rest =>
      have hlen : rest.length < fuel := by simp only [List.length_cons] at hfuel; omega
      rw [cleanLoop]
      by_cases h1 : c = slash
      · subst h1
        rw [if_pos rfl, foldSegs_slash]
        exact ih rest stk rout dd hlen hrel
      · rw [if_neg h1]
        by_cases h2 : c = dotc ∧ elemEnd rest = true
        · rw [if_pos h2]
          obtain ⟨rfl, hend⟩ := h2
          have : foldSegs rooted stk (dotc :: rest) = foldSegs rooted stk rest := by
            have := foldSegs_elem rooted stk dotSeg rest (by decide) hend
            rw [cleanStep_dot] at this
            exact this
          rw [this]
          exact ih rest stk rout dd hlen hrel
        · rw [if_neg h2]
          by_cases h3 : c = dotc ∧ rest.head? = some dotc ∧ elemEnd (rest.drop 1) = true
          · rw [if_pos h3]
            obtain ⟨rfl, hhead, hend⟩ := h3
            cases rest with
            | nil => simp at hhead
            | cons d r2 =>
              simp only [List.head?_cons, Option.some.injEq] at hhead
              subst hhead
              simp only [List.drop_succ_cons, List.drop_zero] at hend ⊢
              have hlen2 : r2.length < fuel := by simp only [List.length_cons] at hlen; omega
              have hfold : foldSegs rooted stk (dotc :: dotc :: r2) = foldSegs rooted (cleanStep rooted stk dotdotSeg) r2 :=
                foldSegs_elem rooted stk dotdotSeg r2 (by decide) hend
              rw [hfold]
              obtain ⟨k, ns, rfl, hn, hr, rfl, rfl⟩ := hrel
              simp only [List.length_reverse]
              cases ns with
              | nil =>
                simp only [List.nil_append, Nat.lt_irrefl, if_false]
                cases rooted with
                | true =>
                  have hk : k = 0 := hr rfl
                  subst hk
                  simp only [List.replicate_zero, Bool.true_eq_false, if_false]
                  have : cleanStep true [] dotdotSeg = [] := by simp [cleanStep, dotdotSeg, dotSeg]
                  rw [this]
                  exact ih r2 [] _ _ hlen2 ⟨0, [], by simp, by simp, by simp, rfl, rfl⟩
                | false =>
                  simp only [if_true]
                  have hstep : cleanStep false (List.replicate k dotdotSeg) dotdotSeg = List.replicate (k + 1) dotdotSeg := by
                    cases k with
                    | zero => simp [cleanStep, dotdotSeg, dotSeg]
                    | succ k => simp [cleanStep, List.replicate_succ, dotdotSeg, dotSeg]
                  rw [hstep]
                  have hout : (outOf false (List.replicate (k + 1) dotdotSeg)).reverse =
                      dotc :: dotc :: (if 0 < (outOf false (List.replicate k dotdotSeg)).length
                        then slash :: (outOf false (List.replicate k dotdotSeg)).reverse
                        else (outOf false (List.replicate k dotdotSeg)).reverse) := by
                    rw [List.replicate_succ, outOf_push false dotdotSeg (stk := List.replicate k dotdotSeg) (rel_elems_ne_nil (ns := []) nofun)]
                    simp [pre, Nat.pos_iff_ne_zero, dotdotSeg]
                  rw [← hout]
                  refine ih r2 _ _ _ hlen2 ⟨k + 1, [], by simp, by simp, by simp, rfl, ?_⟩
                  simp
              | cons n ns' =>
                have hcan := (rel_can_backtrack (rooted := rooted) (k := k) hn).mpr (by simp)
                rw [if_pos hcan, rel_pop hn]
                have hstep : cleanStep rooted ((n :: ns') ++ List.replicate k dotdotSeg) dotdotSeg
                    = ns' ++ List.replicate k dotdotSeg := by
                  have hne : n ≠ dotdotSeg := normal_ne_dotdot (hn n (by simp))
                  unfold cleanStep
                  rw [if_neg (by simp [dotdotSeg, dotSeg]), if_pos rfl]
                  simp only [List.cons_append, if_neg hne]
                rw [hstep]
                exact ih r2 _ _ _ hlen2 ⟨k, ns', rfl, fun s hs => hn s (by simp [hs]), hr, rfl, rfl⟩
          · rw [if_neg h3]
            -- neither `.` nor `..`: what stands up to the next separator is a normal element and is pushed
            have hsplit : c :: rest = (c :: rest).takeWhile (· ≠ slash) ++ (c :: rest).dropWhile (· ≠ slash) :=
              (List.takeWhile_append_dropWhile).symm
            have hns := takeWhile_noslash (c :: rest)
            have hend := dropWhile_elemEnd (c :: rest)
            have hnormal : Normal ((c :: rest).takeWhile (· ≠ slash)) := by
              -- were the element `.` or `..`, the input would be those bytes and then an element end: `h2`, `h3`
              have hsp : ∃ r', c :: rest = (c :: rest).takeWhile (· ≠ slash) ++ r' ∧ elemEnd r' = true :=
                ⟨_, hsplit, hend⟩
              refine ⟨by simp [List.takeWhile, h1], ?_, ?_, hns⟩
              · intro heq
                rw [heq] at hsp
                obtain ⟨r', h, he⟩ := hsp
                cases h
                exact h2 ⟨rfl, he⟩
              · intro heq
                rw [heq] at hsp
                obtain ⟨r', h, he⟩ := hsp
                cases h
                exact h3 ⟨rfl, rfl, he⟩
            have hfold : foldSegs rooted stk (c :: rest)
                = foldSegs rooted ((c :: rest).takeWhile (· ≠ slash) :: stk) ((c :: rest).dropWhile (· ≠ slash)) := by
              conv => lhs; rw [hsplit]
              rw [foldSegs_elem rooted stk _ _ hns hend, cleanStep_normal rooted stk hnormal]
            rw [hfold]
            have hlen3 : ((c :: rest).dropWhile (· ≠ slash)).length < fuel := by
              have : ((c :: rest).dropWhile (· ≠ slash)).length ≤ rest.length := by
                simp only [List.dropWhile, ne_eq, h1, not_false_eq_true, decide_true]
                exact dropWhile_length_le rest
              omega
            exact ih _ _ _ _ hlen3 (rel_push hrel hnormal)

theorem rel_init_rooted : Rel true [] [slash] 1 := ⟨0, [], by simp, by simp, by simp, by simp [outOf, joinSlash], by simp [outOf, joinSlash]⟩
theorem rel_init_rel : Rel false [] [] 0 := ⟨0, [], by simp, by simp, by simp, by simp [outOf, joinSlash], by simp [outOf, joinSlash]⟩

/-- The byte-level loop of Go's `filepath.Clean` and the element-level model agree on every byte string. -/
theorem cleanBytes_eq_clean (p : Path) : cleanBytes p = clean p := by
  cases p with
  | nil => simp [cleanBytes, clean, cleanSegs, splitSlash, isAbs, cleanStep]
  | cons c rest =>
    unfold cleanBytes
    simp only []
    by_cases hc : c = slash
    · subst hc
      have hl := cleanLoop_eq true ((slash :: rest).length + 1) rest [] [slash] 1 (by simp only [List.length_cons]; omega) rel_init_rooted
      simp only [beq_self_eq_true, if_true]
      rw [hl]
      have habs : isAbs (slash :: rest) = true := by simp [isAbs]
      have hsegs : cleanSegs (slash :: rest) = (foldSegs true [] rest).reverse := by
        unfold cleanSegs foldSegs
        rw [habs, splitSlash_cons_slash, List.foldl_cons, cleanStep_nil]
      rw [clean_abs habs, hsegs]
      simp [outOf]
    · have hb : (c == slash) = false := by simpa using hc
      have hl := cleanLoop_eq false ((c :: rest).length + 1) (c :: rest) [] [] 0 (by simp) rel_init_rel
      simp only [hb, Bool.false_eq_true, if_false]
      rw [hl]
      have habs : isAbs (c :: rest) = false := by simp [isAbs, hc]
      have hsegs : cleanSegs (c :: rest) = (foldSegs false [] (c :: rest)).reverse := by
        unfold cleanSegs foldSegs; rw [habs]
      unfold clean
      simp only [habs, Bool.false_eq_true, if_false, hsegs]
      -- the buffer is empty exactly when no element is left
      obtain ⟨k, ns, hk, hn, -⟩ := cleanSegs_form (c :: rest)
      rw [hsegs] at hk
      have hne : ∀ s ∈ (foldSegs false [] (c :: rest)).reverse, s ≠ [] := by
        rw [hk]; intro s hs
        rcases List.mem_append.mp hs with h | h
        · rw [List.eq_of_mem_replicate h]; simp [dotdotSeg]
        · exact (hn s h).1
      have hiff : (outOf false (foldSegs false [] (c :: rest))).reverse = [] ↔ (foldSegs false [] (c :: rest)).reverse = [] := by
        rw [List.reverse_eq_nil_iff, List.reverse_eq_nil_iff, ← List.length_eq_zero_iff]
        exact outOf_length_pre false _ fun s hs => hne s (by simpa using hs)
      by_cases hempty : (foldSegs false [] (c :: rest)).reverse = []
      · rw [if_pos hempty, if_pos (hiff.mpr hempty)]
      · rw [if_neg hempty, if_neg (mt hiff.mp hempty)]
        simp [outOf]

end Conduit.Registry
