import ConduitModel.Spec.Errs

/-! Lemmas for C20.  The depth-first probe `first p` is `findSome? p` over the list
`reach` of reachable nodes, so what a wrapping layer does to a probe follows from what it does to
`reach` and from which node kinds the probe is blind to. -/
namespace Conduit.Errs

theorem findSome?_cons_or {α β : Type} (p : α → Option β) (x : α) (l : List α) :
    (x :: l).findSome? p = (p x).or (l.findSome? p) := by
  rw [List.findSome?_cons]; cases p x <;> rfl

mutual
theorem first_eq_findSome {α : Type} (p : Err → Option α) : ∀ e, first p e = (reach e).findSome? p
  | .leaf _ | .opaque _ | .status _ _ => by
    simp only [first, reach, findSome?_cons_or, List.findSome?_nil, Option.or_none]
  | .wrap _ e | .fatal e | .coded _ e => by
    simp only [first, reach, findSome?_cons_or, first_eq_findSome p e]
  | .join es => by
    simp only [first, reach, findSome?_cons_or, firstL_eq_findSome p es]
theorem firstL_eq_findSome {α : Type} (p : Err → Option α) : ∀ es, firstL p es = (reachL es).findSome? p
  | [] => rfl
  | e :: es => by
    simp only [firstL, reachL, List.findSome?_append, first_eq_findSome p e, firstL_eq_findSome p es]
end

theorem self_mem_reach : ∀ e : Err, e ∈ reach e
  | .leaf _ | .wrap _ _ | .opaque _ | .join _ | .fatal _ | .coded _ _ | .status _ _ => by simp [reach]

theorem first_isSome_iff {α : Type} (p : Err → Option α) (e : Err) :
    (first p e).isSome = true ↔ ∃ x ∈ reach e, (p x).isSome = true := by
  rw [first_eq_findSome, List.findSome?_isSome_iff]

theorem firstL_isSome_iff {α : Type} (p : Err → Option α) (es : List Err) :
    (firstL p es).isSome = true ↔ ∃ x ∈ reachL es, (p x).isSome = true := by
  rw [firstL_eq_findSome, List.findSome?_isSome_iff]

theorem mem_reachL {x : Err} : ∀ {es : List Err}, x ∈ reachL es ↔ ∃ e ∈ es, x ∈ reach e
  | [] => by simp [reachL]
  | e :: es => by simp [reachL, List.mem_append, mem_reachL (es := es)]

theorem firstL_isSome_any {α : Type} (p : Err → Option α) (es : List Err) :
    (firstL p es).isSome = es.any fun e => (first p e).isSome := by
  induction es with
  | nil => rfl
  | cons e es ih =>
    simp only [firstL, List.any_cons, ← ih]
    cases first p e <;> simp [Option.or]

mutual
theorem reach_trans : ∀ (w : Err) {e x : Err}, e ∈ reach w → x ∈ reach e → x ∈ reach w
  | .leaf _, e, x, he, hx | .opaque _, e, x, he, hx | .status _ _, e, x, he, hx => by
    simp only [reach, List.mem_singleton] at he; subst he; exact hx
  | .wrap _ w, e, x, he, hx | .fatal w, e, x, he, hx | .coded _ w, e, x, he, hx => by
    simp only [reach, List.mem_cons] at he ⊢
    rcases he with rfl | he
    · simpa [reach] using hx
    · exact Or.inr (reach_trans w he hx)
  | .join es, e, x, he, hx => by
    simp only [reach, List.mem_cons] at he ⊢
    rcases he with rfl | he
    · simpa [reach] using hx
    · exact Or.inr (reachL_trans es he hx)
theorem reachL_trans : ∀ (ws : List Err) {e x : Err}, e ∈ reachL ws → x ∈ reach e → x ∈ reachL ws
  | [], e, x, he, hx => by simp [reachL] at he
  | w :: ws, e, x, he, hx => by
    simp only [reachL, List.mem_append] at he ⊢
    rcases he with he | he
    · exact Or.inl (reach_trans w he hx)
    · exact Or.inr (reachL_trans ws he hx)
end

theorem errorAt_mid (pre post : List Val) (e : Err) : errorAt (pre ++ Val.err e :: post) pre.length = some e := by
  simp [errorAt]

theorem errorf_of_idx {fmt : List Nat} {pre post : List Val} {e : Err}
    (h : errorfIdx fmt (pre.length + 1 + post.length) = some pre.length) :
    errorf fmt (pre ++ Val.err e :: post) = .wrap "x" e := by
  have hl : (pre ++ Val.err e :: post).length = pre.length + 1 + post.length := by
    simp [List.length_append]; omega
  simp [errorf, errorfWraps, hl, h, errorAt_mid]

theorem filterMap_id_nones {α : Type} : ∀ {l : List (Option α)}, (∀ x ∈ l, x = none) → l.filterMap id = []
  | [], _ => rfl
  | x :: l, h => by
    have hx : x = none := h x (by simp)
    subst hx
    simpa using filterMap_id_nones (l := l) (fun y hy => h y (by simp [hy]))

theorem join_layer_pre_none {pre post : List E} {e : Err} (h : ∀ x ∈ pre, x = none) :
    (pre ++ some e :: post).filterMap id = e :: post.filterMap id := by
  simp [List.filterMap_append, filterMap_id_nones h]

theorem first_app_plain {α : Type} (p : Err → Option α) {l : Layer}
    (hw : ∀ k e, k ≠ "val" → p (.wrap k e) = none) (hf : l = .fatal → ∀ e, p (.fatal e) = none)
    (hj : ∀ es, p (.join es) = none)
    (hl : l.Plain) (e : Err) : first p (l.app e) = first p e := by
  cases l with
  | errorf fmt pre post =>
    simp only [Layer.app, errorf_of_idx hl, first, hw "x" e (by decide), Option.none_or]
  | std k => simp only [Layer.app, first, hw k e hl, Option.none_or]
  | fatal =>
    simp only [Layer.app]
    split
    · rfl
    · simp only [first, hf rfl, Option.none_or]
  | join pre post =>
    simp only [Layer.app, join_layer_pre_none hl.1, filterMap_id_nones hl.2, first, firstL, hj,
      Option.none_or, Option.or_none]
  | cwrap c => exact absurd hl (by simp [Layer.Plain])

/-- `hc` holds of a probe that is blind to coded nodes (`fun _ _ _ h => h`) and of the one that reads
the code, since `conduiterr.Wrap` passes an inner code through. -/
theorem first_app_keepsFirst {α : Type} (p : Err → Option α)
    (hw : ∀ k e, k ≠ "val" → p (.wrap k e) = none) (hf : ∀ e, p (.fatal e) = none)
    (hj : ∀ es, p (.join es) = none)
    (hc : ∀ c e a, first p e = some a → first p (cwrap c (some e)) = some a)
    {l : Layer} (hl : l.KeepsFirst) {e : Err} {a : α} (h : first p e = some a) :
    first p (l.app e) = some a := by
  cases l with
  | errorf fmt pre post =>
    simp only [Layer.app, errorf_of_idx hl, first, hw "x" e (by decide), Option.none_or, h]
  | std k => simp only [Layer.app, first, hw k e hl, Option.none_or, h]
  | fatal =>
    simp only [Layer.app]
    split
    · exact h
    · simp only [first, hf, Option.none_or, h]
  | join pre post =>
    simp only [Layer.app, join_layer_pre_none hl, first, firstL, hj, Option.none_or, h, Option.some_or]
  | cwrap c => exact hc c e a h

theorem codeNode_wrap (k e) : codeNode (.wrap k e) = none := rfl
theorem codeNode_fatal (e) : codeNode (.fatal e) = none := rfl
theorem codeNode_join (es) : codeNode (.join es) = none := rfl
theorem statusNode_wrap (k e) : statusNode (.wrap k e) = none := rfl
theorem statusNode_fatal (e) : statusNode (.fatal e) = none := rfl
theorem statusNode_join (es) : statusNode (.join es) = none := rfl
theorem statusNode_coded (c e) : statusNode (.coded c e) = none := rfl
theorem isNode_wrap (t k e) (h : k ≠ "val") : isNode t (.wrap k e) = none := by simp [isNode, h]
theorem isNode_fatal (t e) : isNode t (.fatal e) = none := rfl
theorem isNode_join (t es) : isNode t (.join es) = none := rfl
theorem isNode_coded (t c e) : isNode t (.coded c e) = none := rfl
theorem fatalNode_wrap (k e) : fatalNode (.wrap k e) = none := rfl
theorem fatalNode_join (es) : fatalNode (.join es) = none := rfl
theorem fatalNode_coded (c e) : fatalNode (.coded c e) = none := rfl

theorem mem_reach_app {l : Layer} (hl : l.Keeps) (e : Err) : e ∈ reach (l.app e) := by
  cases l with
  | errorf fmt pre post =>
    simp only [Layer.app, errorf_of_idx hl, reach, List.mem_cons]
    exact Or.inr (self_mem_reach e)
  | std k => simp only [Layer.app, reach, List.mem_cons]; exact Or.inr (self_mem_reach e)
  | fatal =>
    simp only [Layer.app]
    split
    · exact self_mem_reach e
    · simp only [reach, List.mem_cons]; exact Or.inr (self_mem_reach e)
  | join pre post =>
    simp only [Layer.app, reach, List.mem_cons]
    refine Or.inr (mem_reachL.mpr ⟨e, ?_, self_mem_reach e⟩)
    simp [List.mem_filterMap]
  | cwrap c =>
    simp only [Layer.app, cwrap, reach, List.mem_cons]; exact Or.inr (self_mem_reach e)

theorem mem_reach_applyAll : ∀ {ls : List Layer}, (∀ l ∈ ls, l.Keeps) → ∀ e : Err, e ∈ reach (applyAll ls e)
  | [], _, e => self_mem_reach e
  | l :: ls, h, e => by
    have h1 := mem_reach_app (h l (by simp)) (applyAll ls e)
    have h2 := mem_reach_applyAll (ls := ls) (fun x hx => h x (by simp [hx])) e
    exact reach_trans _ h1 h2

theorem first_isSome_mono {α : Type} (p : Err → Option α) {w e : Err} (h : e ∈ reach w)
    (hs : (first p e).isSome = true) : (first p w).isSome = true := by
  rw [first_isSome_iff] at hs ⊢
  obtain ⟨x, hx, hp⟩ := hs
  exact ⟨x, reach_trans w h hx, hp⟩

theorem lookup_of_mem_nodup : ∀ {reg : List (String × Nat)}, (reg.map Prod.fst).Nodup →
    ∀ {r : String} {g : Nat}, (r, g) ∈ reg → reg.lookup r = some g
  | [], _, _, _, h => by simp at h
  | (k, v) :: reg, hn, r, g, h => by
    simp only [List.map_cons, List.nodup_cons] at hn
    simp only [List.mem_cons, Prod.mk.injEq] at h
    rw [List.lookup_cons]
    by_cases hk : r = k
    · subst hk
      simp only [beq_self_eq_true]
      rcases h with h | h
      · simp [h.2]
      · exact absurd (List.mem_map.mpr ⟨(r, g), h, rfl⟩) hn.1
    · have : (r == k) = false := by simp [hk]
      simp only [this]
      rcases h with h | h
      · exact absurd h.1 hk
      · exact lookup_of_mem_nodup hn.2 h

theorem first_applyAll_keepsFirst {α : Type} (p : Err → Option α)
    (hw : ∀ k e, k ≠ "val" → p (.wrap k e) = none) (hf : ∀ e, p (.fatal e) = none)
    (hj : ∀ es, p (.join es) = none)
    (hc : ∀ c e a, first p e = some a → first p (cwrap c (some e)) = some a) :
    ∀ (ls : List Layer), (∀ l ∈ ls, l.KeepsFirst) → ∀ {e : Err} {a : α}, first p e = some a →
      first p (applyAll ls e) = some a
  | [], _, _, _, h => h
  | l :: ls, hl, _, _, h =>
    first_app_keepsFirst p hw hf hj hc (hl l (by simp))
      (first_applyAll_keepsFirst p hw hf hj hc ls (fun x hx => hl x (by simp [hx])) h)

theorem first_applyAll_plain {α : Type} (p : Err → Option α)
    (hw : ∀ k e, k ≠ "val" → p (.wrap k e) = none) (hf : ∀ e, p (.fatal e) = none)
    (hj : ∀ es, p (.join es) = none) :
    ∀ (ls : List Layer), (∀ l ∈ ls, l.Plain) → ∀ e : Err, first p (applyAll ls e) = first p e
  | [], _, _ => rfl
  | l :: ls, hl, e =>
    (first_app_plain p hw (fun _ => hf) hj (hl l (by simp)) _).trans
      (first_applyAll_plain p hw hf hj ls (fun x hx => hl x (by simp [hx])) e)

theorem isErr_applyAll_plain (t : Target) (ls : List Layer) (h : ∀ l ∈ ls, l.Plain) (e : Err) :
    isErr t (applyAll ls e) = isErr t e := by
  unfold isErr
  rw [first_applyAll_plain (isNode t) (fun k e hk => isNode_wrap t k e hk) (fun _ => rfl) (fun _ => rfl) ls h e]

theorem firstCoded_isSome (e : Err) : (firstCoded e).isSome = (getErr e).isSome := by
  unfold firstCoded getErr
  rw [Bool.eq_iff_iff, first_isSome_iff, first_isSome_iff]
  refine exists_congr fun x => and_congr_right fun _ => ?_
  cases x <;> exact Iff.rfl

end Conduit.Errs
