import ConduitModel.Proofs.PassSBase

/-!
# The block structure of the pieces of a batch

`ShapeFrom h prev seen l`: reading the pieces `l` left to right after a piece of run `prev`, with
the runs `seen` already begun: a record without run has a position; a tail piece (nil position)
directly follows a piece of its own run; a head piece (non-nil position) starts a run not seen
before and carries the run's original position. So the pieces of a run are contiguous and begin
with its head — which is what makes `originalBatch()` list the forwarded keys (`shape_fk`).
-/
namespace Conduit.Funnel

def lastRun : Option Nat → List Piece → Option Nat
  | prev, [] => prev
  | _, (ro, _) :: t => lastRun ro t

def seenAfter : List Nat → List Piece → List Nat
  | seen, [] => seen
  | seen, (some r, some _) :: t => seenAfter (r :: seen) t
  | seen, _ :: t => seenAfter seen t

def ShapeFrom (h : Heap) : Option Nat → List Nat → List Piece → Prop
  | _, _, [] => True
  | _, seen, (none, q) :: t => q ≠ none ∧ ShapeFrom h none seen t
  | prev, seen, (some r, none) :: t => prev = some r ∧ ShapeFrom h (some r) seen t
  | _, seen, (some r, some k) :: t => r ∉ seen ∧ (h[r]!).origPos = some k ∧ ShapeFrom h (some r) (r :: seen) t

theorem shape_append (h : Heap) : ∀ (l1 l2 : List Piece) (prev : Option Nat) (seen : List Nat),
    ShapeFrom h prev seen (l1 ++ l2) ↔
      ShapeFrom h prev seen l1 ∧ ShapeFrom h (lastRun prev l1) (seenAfter seen l1) l2 := by
  intro l1
  induction l1 with
  | nil => intro l2 prev seen; simp [ShapeFrom, lastRun, seenAfter]
  | cons x t ih =>
    intro l2 prev seen
    obtain ⟨ro, q⟩ := x
    cases ro with
    | none => simp only [List.cons_append, ShapeFrom, lastRun, seenAfter, ih, and_assoc]
    | some r =>
      cases q with
      | none => simp only [List.cons_append, ShapeFrom, lastRun, seenAfter, ih, and_assoc]
      | some k => simp only [List.cons_append, ShapeFrom, lastRun, seenAfter, ih, and_assoc]

theorem shape_cnt_zero (h : Heap) (r : Nat) : ∀ (l : List Piece) (prev : Option Nat) (seen : List Nat),
    ShapeFrom h prev seen l → r ∈ seen → prev ≠ some r → cnt r l = 0 := by
  intro l
  induction l with
  | nil => intro _ _ _ _ _; rfl
  | cons x t ih =>
    intro prev seen hs hr hp
    obtain ⟨ro, q⟩ := x
    cases ro with
    | none =>
      rw [cnt_cons_none]
      exact ih none seen hs.2 hr (by simp)
    | some r2 =>
      cases q with
      | none =>
        have h1 : prev = some r2 := hs.1
        have hne : r2 ≠ r := by intro he; apply hp; rw [h1, he]
        rw [cnt_cons_some, if_neg hne, Nat.add_zero]
        exact ih (some r2) seen hs.2 hr (by simpa using hne)
      | some k =>
        have hne : r2 ≠ r := by intro he; apply hs.1; rw [he]; exact hr
        rw [cnt_cons_some, if_neg hne, Nat.add_zero]
        exact ih (some r2) (r2 :: seen) hs.2.2 (List.mem_cons_of_mem _ hr) (by simpa using hne)

theorem shape_seen (h : Heap) : ∀ (l : List Piece) (prev : Option Nat) (seen seen' : List Nat),
    ShapeFrom h prev seen l → (∀ x ∈ seen', x ∈ seen ∨ cnt x l = 0) → ShapeFrom h prev seen' l := by
  intro l
  induction l with
  | nil => intro _ _ _ _ _; trivial
  | cons x t ih =>
    intro prev seen seen' hs hsub
    obtain ⟨ro, q⟩ := x
    cases ro with
    | none =>
      exact ⟨hs.1, ih none seen seen' hs.2 (fun x hx => by
        rcases hsub x hx with h | h
        · exact Or.inl h
        · rw [cnt_cons_none] at h; exact Or.inr h)⟩
    | some r =>
      cases q with
      | none =>
        exact ⟨hs.1, ih (some r) seen seen' hs.2 (fun x hx => by
          rcases hsub x hx with h | h
          · exact Or.inl h
          · rw [cnt_cons_some] at h; exact Or.inr (by omega))⟩
      | some k =>
        refine ⟨?_, hs.2.1, ih (some r) (r :: seen) (r :: seen') hs.2.2 ?_⟩
        · intro hm
          rcases hsub r hm with h | h
          · exact hs.1 h
          · rw [cnt_cons_some] at h; simp at h
        · intro x hx
          rcases List.mem_cons.mp hx with h | h
          · exact Or.inl (by rw [h]; exact List.mem_cons_self)
          · rcases hsub x h with h' | h'
            · exact Or.inl (List.mem_cons_of_mem _ h')
            · rw [cnt_cons_some] at h'; exact Or.inr (by omega)

section
variable (ρ : Nat → Nat) (P : Nat → Prop) (hinj : ∀ a c : Nat, P a → P c → ρ a = ρ c → a = c)
include hinj

/-- the shape sees the runs of `l` only through their original positions, and up to a renaming that is injective
on the runs of `l` and those begun before -/
theorem shape_ren (h h' : Heap) : ∀ (l : List Piece) (prev : Option Nat) (seen : List Nat), ShapeFrom h prev seen l →
    (∀ r : Nat, 0 < cnt r l → P r ∧ (h'[ρ r]!).origPos = (h[r]!).origPos) → (∀ r : Nat, prev = some r → P r) →
    (∀ r ∈ seen, P r) → ShapeFrom h' (prev.map ρ) (seen.map ρ) (l.map (ren ρ)) := by
  intro l
  induction l with
  | nil => intro _ _ _ _ _ _; trivial
  | cons x t ih =>
    intro prev seen hs hl hpv hsn
    obtain ⟨ro, q⟩ := x
    cases ro with
    | none =>
      exact ⟨hs.1, ih none seen hs.2 (fun r' h' => hl r' (by rw [cnt_cons_none]; exact h')) (fun _ h => nomatch h) hsn⟩
    | some r =>
      obtain ⟨hp, ho⟩ := hl r (by rw [cnt_cons_some]; simp)
      have hlt : ∀ r' : Nat, 0 < cnt r' t → P r' ∧ (h'[ρ r']!).origPos = (h[r']!).origPos :=
        fun r' h' => hl r' (by rw [cnt_cons_some]; omega)
      cases q with
      | none =>
        have h1 : prev = some r := hs.1
        refine ⟨by rw [h1]; rfl, ?_⟩
        exact ih (some r) seen hs.2 hlt (fun r' hr' => by cases hr'; exact hp) hsn
      | some k =>
        refine ⟨?_, by rw [ho]; exact hs.2.1, ?_⟩
        · intro hm
          rw [List.mem_map] at hm
          obtain ⟨a, ha, he⟩ := hm
          have := hinj a r (hsn a ha) hp he
          subst this
          exact hs.1 ha
        · have := ih (some r) (r :: seen) hs.2.2 hlt (fun r' hr' => by cases hr'; exact hp)
            (fun a ha => by
              rcases List.mem_cons.mp ha with h1 | h1
              · rw [h1]; exact hp
              · exact hsn a h1)
          simpa using this

end

theorem shape_heap (h h' : Heap) (l : List Piece) (prev : Option Nat) (seen : List Nat) (hs : ShapeFrom h prev seen l)
    (ho : ∀ r : Nat, 0 < cnt r l → (h'[r]!).origPos = (h[r]!).origPos) : ShapeFrom h' prev seen l := by
  have := shape_ren id (fun _ => True) (fun _ _ _ _ e => e) h h' l prev seen hs (fun r hr => ⟨trivial, ho r hr⟩)
    (fun _ _ => trivial) (fun _ _ => trivial)
  simpa [map_ren_id] using this

def startsTail : List Piece → Prop
  | (some _, none) :: _ => True
  | _ => False

theorem shape_prev (h : Heap) (l : List Piece) (prev prev' : Option Nat) (seen : List Nat)
    (hs : ShapeFrom h prev seen l) (hn : ¬ startsTail l) : ShapeFrom h prev' seen l := by
  cases l with
  | nil => trivial
  | cons x t =>
    obtain ⟨ro, q⟩ := x
    cases ro with
    | none => exact hs
    | some r =>
      cases q with
      | none => exact absurd trivial hn
      | some k => exact hs

/-- keys of the non-nil positions: what `originalBatch()` keeps -/
def headKeys : List Piece → List Nat
  | [] => []
  | (_, none) :: t => headKeys t
  | (_, some k) :: t => keyOf (some k) :: headKeys t

/-- With every run whole inside `l` (`rest = 0`), the forwarded keys are the keys of the non-nil
positions, preceded by the original position of the run whose tail pieces `l` starts with. -/
theorem shape_fk (h : Heap) (rest : Nat → Nat) : ∀ (l : List Piece) (prev : Option Nat) (seen : List Nat),
    ShapeFrom h prev seen l → (∀ r : Nat, prev = some r → r ∈ seen) → (∀ r : Nat, 0 < cnt r l → rest r = 0) →
    fk h rest l = (match l with
      | (some r, none) :: _ => [keyOf (h[r]!).origPos]
      | _ => []) ++ headKeys l := by
  intro l
  induction l with
  | nil => intro _ _ _ _ _; rfl
  | cons x t ih =>
    intro prev seen hs hps hrest
    obtain ⟨ro, q⟩ := x
    cases ro with
    | none =>
      have hq : q ≠ none := hs.1
      have iht := ih none seen hs.2 (fun r hr => by cases hr) (fun r hr => hrest r (by rw [cnt_cons_none]; exact hr))
      cases q with
      | none => exact absurd rfl hq
      | some k =>
        simp only [fk, headKeys, List.nil_append]
        rw [iht]
        -- `t` cannot start with a tail
        cases t with
        | nil => rfl
        | cons y t' =>
          obtain ⟨ro', q'⟩ := y
          cases ro' with
          | none => rfl
          | some r' =>
            cases q' with
            | none => have := hs.2.1; cases this
            | some k' => rfl
    | some r =>
      have hrest' : ∀ r' : Nat, 0 < cnt r' t → rest r' = 0 := fun r' hr => hrest r' (by rw [cnt_cons_some]; omega)
      have hr0 : rest r = 0 := hrest r (by rw [cnt_cons_some]; simp)
      have key : ∀ (seen' : List Nat), ShapeFrom h (some r) seen' t → r ∈ seen' →
          (if cnt r t = 0 ∧ rest r = 0 then [keyOf (h[r]!).origPos] else []) ++ fk h rest t =
            keyOf (h[r]!).origPos :: headKeys t := by
        intro seen' hst hmem
        have iht := ih (some r) seen' hst (fun r' hr' => by cases hr'; exact hmem) hrest'
        rw [iht]
        cases t with
        | nil => simp [cnt_nil, hr0, headKeys]
        | cons y t' =>
          obtain ⟨ro', q'⟩ := y
          cases ro' with
          | none =>
            have hc : cnt r ((none, q') :: t') = 0 := by
              rw [cnt_cons_none]
              exact shape_cnt_zero h r t' none seen' hst.2 hmem (by simp)
            simp [hc, hr0]
          | some r' =>
            cases q' with
            | none =>
              have he : some r = some r' := hst.1
              have he' : r' = r := (Option.some.inj he).symm
              subst he'
              have hc : ¬ (cnt r' ((some r', none) :: t') = 0 ∧ rest r' = 0) := by
                rw [cnt_cons_some]; simp
              simp [hc]
            | some k' =>
              have hne : r' ≠ r := by intro he; apply hst.1; rw [he]; exact hmem
              have hc : cnt r ((some r', some k') :: t') = 0 := by
                rw [cnt_cons_some, if_neg hne, Nat.add_zero]
                exact shape_cnt_zero h r t' (some r') (r' :: seen') hst.2.2 (List.mem_cons_of_mem _ hmem)
                  (by simpa using hne)
              simp [hc, hr0]
      cases q with
      | none =>
        have hp : prev = some r := hs.1
        simp only [fk, headKeys]
        rw [key seen hs.2 (hps r hp)]
        rfl
      | some k =>
        simp only [fk, headKeys, List.nil_append]
        rw [key (r :: seen) hs.2.2 List.mem_cons_self, hs.2.1]

theorem seenAfter_mem : ∀ (l : List Piece) (seen : List Nat) (x : Nat), x ∈ seenAfter seen l → x ∈ seen ∨ 0 < cnt x l := by
  intro l
  induction l with
  | nil => intro seen x hx; exact Or.inl hx
  | cons y t ih =>
    intro seen x hx
    obtain ⟨ro, q⟩ := y
    cases ro with
    | none =>
      rcases ih seen x hx with h | h
      · exact Or.inl h
      · exact Or.inr (by rw [cnt_cons_none]; exact h)
    | some r =>
      cases q with
      | none =>
        rcases ih seen x hx with h | h
        · exact Or.inl h
        · exact Or.inr (by rw [cnt_cons_some]; omega)
      | some k =>
        rcases ih (r :: seen) x hx with h | h
        · rcases List.mem_cons.mp h with h' | h'
          · exact Or.inr (by rw [cnt_cons_some, h']; simp)
          · exact Or.inl h'
        · exact Or.inr (by rw [cnt_cons_some]; omega)

theorem seenAfter_sub : ∀ (l : List Piece) (seen : List Nat) (x : Nat), x ∈ seen → x ∈ seenAfter seen l := by
  intro l
  induction l with
  | nil => intro seen x hx; exact hx
  | cons y t ih =>
    intro seen x hx
    obtain ⟨ro, q⟩ := y
    cases ro with
    | none => exact ih seen x hx
    | some r =>
      cases q with
      | none => exact ih seen x hx
      | some k => exact ih (r :: seen) x (List.mem_cons_of_mem _ hx)

theorem lastRun_mem (h : Heap) : ∀ (l : List Piece) (prev : Option Nat) (seen : List Nat),
    ShapeFrom h prev seen l → (∀ r : Nat, prev = some r → r ∈ seen) →
    ∀ r : Nat, lastRun prev l = some r → r ∈ seenAfter seen l := by
  intro l
  induction l with
  | nil => intro prev seen _ hp r hr; exact hp r hr
  | cons y t ih =>
    intro prev seen hs hp r hr
    obtain ⟨ro, q⟩ := y
    cases ro with
    | none => exact ih none seen hs.2 (fun r hr => by cases hr) r hr
    | some r2 =>
      cases q with
      | none =>
        have h1 : prev = some r2 := hs.1
        exact ih (some r2) seen hs.2 (fun r' hr' => by cases hr'; exact hp r2 h1) r hr
      | some k =>
        exact ih (some r2) (r2 :: seen) hs.2.2 (fun r' hr' => by cases hr'; exact List.mem_cons_self) r hr

theorem lastRun_cnt : ∀ (l : List Piece) (prev : Option Nat) (r : Nat), l ≠ [] → lastRun prev l = some r → 0 < cnt r l := by
  intro l
  induction l with
  | nil => intro _ _ h; exact absurd rfl h
  | cons y t ih =>
    intro prev r _ hr
    obtain ⟨ro, q⟩ := y
    by_cases ht : t = []
    · subst ht
      simp only [lastRun] at hr
      subst hr
      rw [cnt_cons_some]; simp
    · have := ih ro r ht hr
      cases ro with
      | none => rw [cnt_cons_none]; exact this
      | some r2 => rw [cnt_cons_some]; omega

theorem shape_tails (h : Heap) (rid : Nat) (seen : List Nat) : ∀ k : Nat,
    ShapeFrom h (some rid) seen (List.replicate k ((some rid, none) : Piece)) ∧
    lastRun (some rid) (List.replicate k ((some rid, none) : Piece)) = some rid ∧
    seenAfter seen (List.replicate k ((some rid, none) : Piece)) = seen := by
  intro k
  induction k with
  | zero => exact ⟨trivial, rfl, rfl⟩
  | succ k ih =>
    rw [List.replicate_succ]
    exact ⟨⟨rfl, ih.1⟩, ih.2.1, ih.2.2⟩

theorem shape_tail_prev (h : Heap) (l1 t : List Piece) (r : Nat) (prev : Option Nat) (seen : List Nat)
    (hs : ShapeFrom h prev seen (l1 ++ (some r, none) :: t)) (hne : l1 ≠ []) : 0 < cnt r l1 := by
  rw [shape_append] at hs
  exact lastRun_cnt l1 prev r hne hs.2.1

theorem shape_none_notail (h : Heap) (seen : List Nat) (l : List Piece) (hs : ShapeFrom h none seen l) :
    ¬ startsTail l := by
  cases l with
  | nil => exact fun h => h
  | cons x t =>
    obtain ⟨ro, q⟩ := x
    cases ro with
    | none => exact fun h => h
    | some r =>
      cases q with
      | none => have := hs.1; cases this
      | some k => exact fun h => h

theorem shape_split_existing (h h' : Heap) (prev : Option Nat) (seen : List Nat) (A B : List Piece) (rid k : Nat)
    (q : PosV) (ho : ∀ r : Nat, (h'[r]!).origPos = (h[r]!).origPos)
    (hs : ShapeFrom h prev seen (A ++ (some rid, q) :: B)) :
    ShapeFrom h' prev seen (A ++ (some rid, q) :: (List.replicate k (some rid, none) ++ B)) := by
  have hs' := shape_heap h h' _ prev seen hs (fun r _ => ho r)
  rw [shape_append] at hs' ⊢
  refine ⟨hs'.1, ?_⟩
  cases q with
  | none =>
    refine ⟨hs'.2.1, ?_⟩
    rw [shape_append]
    obtain ⟨t1, t2, t3⟩ := shape_tails h' rid (seenAfter seen A) k
    rw [t2, t3]
    exact ⟨t1, hs'.2.2⟩
  | some kk =>
    refine ⟨hs'.2.1, hs'.2.2.1, ?_⟩
    rw [shape_append]
    obtain ⟨t1, t2, t3⟩ := shape_tails h' rid (rid :: seenAfter seen A) k
    rw [t2, t3]
    exact ⟨t1, hs'.2.2.2⟩

theorem shape_split_new (h h' : Heap) (prev : Option Nat) (seen : List Nat) (A B : List Piece) (rid k kk : Nat)
    (hA : cnt rid A = 0) (hB : cnt rid B = 0) (hseen : rid ∉ seen) (hq : (h'[rid]!).origPos = some kk)
    (ho : ∀ r : Nat, r ≠ rid → (h'[r]!).origPos = (h[r]!).origPos)
    (hs : ShapeFrom h prev seen (A ++ (none, some kk) :: B)) :
    ShapeFrom h' prev seen (A ++ (some rid, some kk) :: (List.replicate k (some rid, none) ++ B)) := by
  rw [shape_append] at hs ⊢
  refine ⟨shape_heap h h' A prev seen hs.1 (fun r hr => ho r (by intro he; rw [he, hA] at hr; omega)), ?_⟩
  have hnot : rid ∉ seenAfter seen A := by
    intro hm
    rcases seenAfter_mem A seen rid hm with h1 | h1
    · exact hseen h1
    · omega
  refine ⟨hnot, hq, ?_⟩
  rw [shape_append]
  obtain ⟨t1, t2, t3⟩ := shape_tails h' rid (rid :: seenAfter seen A) k
  rw [t2, t3]
  refine ⟨t1, ?_⟩
  have hb := hs.2.2
  have hb1 := shape_prev h B none (some rid) _ hb (shape_none_notail h _ B hb)
  have hb2 := shape_seen h B (some rid) _ (rid :: seenAfter seen A) hb1 (fun x hx => by
    rcases List.mem_cons.mp hx with h1 | h1
    · exact Or.inr (by rw [h1]; exact hB)
    · exact Or.inl h1)
  exact shape_heap h h' B _ _ hb2 (fun r hr => ho r (by intro he; rw [he, hB] at hr; omega))

end Conduit.Funnel
