import ConduitModel.Proofs.Tally
import ConduitModel.Proofs.PassMonad
import ConduitModel.Proofs.BatchBase
import ConduitModel.Proofs.WorkerAcker

/-!
The handler chains of `Model/Funnel.lean` (`ackerCall`, `releaseLoop`, `voteLoop`) against the pure arbiter
functions: each of the three loops as one equation (`voteBody_forIn` / `ackerCall_multi_exec`,
`releaseLoop_exec`, `voteLoop_group`), the simulation lemmas read off them, and the frame fact `ackers_keep`.
-/
namespace Conduit.Funnel

/-- the parent call `releaseLocked` makes for a release event of tally `m`: batch, ack?, task id. -/
def batchOf (m : MA) : Released → Batch × Bool × Nat
  | .ackRun f t => (maAckBatch m f t, true, 0)
  | .nackOne i => (maNackBatch m i, false, m.nackTask[i]?.getD 0)

def setReleased (id k : Nat) (s : PS) : PS :=
  { s with mas := s.mas.set! id { (s.mas[id]!) with released := k } }

/-- `fuel` only mirrors the model's recursion budget. -/
def replay (parent : Acker) (id : Nat) (m : MA) : Nat → List Released → M Unit
  | _, [] => pure ()
  | 0, _ :: _ => throw (.panic "out of fuel")
  | fuel+1, ev :: evs => do
    ackerCall fuel parent (batchOf m ev).1 (batchOf m ev).2.1 (batchOf m ev).2.2
    modify (setReleased id ev.next)
    replay parent id m fuel evs

/-- the parent chain does not touch tally `id` (true of every chain in which `.multi id` does not
occur: the worker touches the window and the log, `.run` the heap, `.multi id'` tally `id'`). -/
def ParentFrame (parent : Acker) (id : Nat) : Prop :=
  ∀ (fuel : Nat) (b : Batch) (a : Bool) (t : Nat) (s s' : PS),
    exec (ackerCall fuel parent b a t) s = (.ok (), s') →
    s'.mas.size = s.mas.size ∧ s'.mas[id]! = s.mas[id]!

theorem batchOf_released (m : MA) (k : Nat) (ev : Released) :
    batchOf { m with released := k } ev = batchOf m ev := by
  cases ev <;> rfl

theorem replay_released (parent : Acker) (id : Nat) (m : MA) (k : Nat) : ∀ (fuel : Nat) (evs : List Released),
    replay parent id { m with released := k } fuel evs = replay parent id m fuel evs
  | _, [] => by cases ‹Nat› <;> rfl
  | 0, _ :: _ => rfl
  | fuel+1, ev :: evs => by simp only [replay, batchOf_released, replay_released parent id m k fuel]

theorem setReleased_get (id k : Nat) (s : PS) (h : id < s.mas.size) :
    (setReleased id k s).mas[id]! = { (s.mas[id]!) with released := k } ∧
    (setReleased id k s).mas.size = s.mas.size := by
  simp [setReleased, Array.set!, h]

theorem releaseLoop_exec (fuel id : Nat) (parent : Acker) (s : PS) :
    exec (releaseLoop (fuel+1) id parent) s =
      if (s.mas[id]!).released < (s.mas[id]!).positions.length ∧ (s.mas[id]!).term (s.mas[id]!).released = true then
        exec (do
          ackerCall fuel parent (batchOf (s.mas[id]!) (maNext (s.mas[id]!))).1 (batchOf (s.mas[id]!) (maNext (s.mas[id]!))).2.1
            (batchOf (s.mas[id]!) (maNext (s.mas[id]!))).2.2
          modify (setReleased id (maNext (s.mas[id]!)).next)
          releaseLoop fuel id parent) s
      else (.ok (), s) := by
  rw [releaseLoop, exec_bind, exec_get]
  dsimp only
  generalize s.mas[id]! = m
  by_cases h : m.released < m.positions.length
  · by_cases ht : m.term m.released = true
    · rw [if_pos (show _ ∧ _ from ⟨h, ht⟩)]
      simp only [MA.term] at ht
      simp only [h, ht, if_true, Bool.not_true, Bool.false_eq_true, if_false]
      unfold maNext
      cases ha : m.ack m.released <;> simp only [MA.ack] at ha <;>
        simp only [ha, Bool.false_eq_true, if_true, if_false] <;> rfl
    · rw [if_neg (fun hc : _ ∧ _ => ht hc.2)]
      have ht' : m.terminal[m.released]?.getD false = false := by simpa using ht
      simp only [h, ht', if_true, Bool.not_false]
      rfl
  · rw [if_neg (fun hc : _ ∧ _ => h hc.1)]
    simp only [h, if_false]
    rfl

theorem releaseLoop_sim (parent : Acker) (id : Nat) (fr : ParentFrame parent id) : ∀ (fuel : Nat) (s : PS),
    id < s.mas.size → (s.mas[id]!).positions.length - (s.mas[id]!).released < fuel →
    exec (releaseLoop fuel id parent) s =
      exec (replay parent id (s.mas[id]!) fuel (maReleaseLoop fuel (s.mas[id]!)).2) s := by
  intro fuel
  induction fuel with
  | zero => intro s _ h; omega
  | succ fuel ih =>
    intro s hid hfuel
    rw [releaseLoop_exec]
    generalize hm : s.mas[id]! = m at *
    by_cases hc : m.released < m.positions.length ∧ m.term m.released = true
    · have hn := (maNext_spec m hc.1 hc.2).1
      rw [if_pos hc, maReleaseLoop_step fuel m hc.1 hc.2]
      simp only [replay]
      rw [exec_bind, exec_bind]
      rcases hcall : exec (ackerCall fuel parent (batchOf m (maNext m)).1 (batchOf m (maNext m)).2.1
        (batchOf m (maNext m)).2.2) s with ⟨r, s1⟩
      cases r with
      | error e => rfl
      | ok u =>
        dsimp only
        obtain ⟨f1, f2⟩ := fr _ _ _ _ _ _ hcall
        rw [exec_bind, exec_bind, exec_modify]
        dsimp only
        have hid1 : id < s1.mas.size := by rw [f1]; exact hid
        obtain ⟨g1, g2⟩ := setReleased_get id (maNext m).next s1 hid1
        rw [f2, hm] at g1
        rw [ih _ (by rw [g2]; exact hid1) (by rw [g1]; dsimp only; omega), g1, replay_released]
    · rw [if_neg hc, maReleaseLoop_halt fuel m hc]
      rfl

/-- the body of `for i, pos := range ob.positions`. It has to stay the literal desugaring of the
`for` body in `ackerCall` (down to the unreachable `pure` after `throw`): `ackerCall_multi` is `rfl`. -/
def voteBody (id : Nat) (ob : Batch) (isAck : Bool) (task : Nat) (i : Nat) (m : MA) : M (ForInStep MA) :=
  match maIndexOf m (ob.pos[i]?).join with
  | none => do
    modify fun s => { s with mas := s.mas.set! id m }
    throw (.err plainErr)
    pure (ForInStep.yield m)
  | some ix =>
    if m.terminal[ix]?.getD false = true then pure (ForInStep.yield m)
    else do
      let r ← liftR (idx ob.recs i "ob.records[i]")
      if isAck = true then
        let v := m.ackVotes[ix]?.getD 0 + 1
        let m := { m with record := m.record.set ix r, ackVotes := m.ackVotes.set ix v }
        if (v == m.branches) = true then
          pure (ForInStep.yield { m with terminal := m.terminal.set ix true, acked := m.acked.set ix true })
        else pure (ForInStep.yield m)
      else do
        let stE ← liftR (idx ob.st i "ob.recordStatuses[i]")
        let m' : MA := { m with terminal := m.terminal.set ix true, acked := m.acked.set ix false, record := m.record.set ix r, nackErr := m.nackErr.set ix stE.err, nackTask := m.nackTask.set ix task }
        pure (ForInStep.yield m')

theorem ackerCall_multi (fuel id : Nat) (parent : Acker) (b : Batch) (isAck : Bool) (task : Nat) :
    ackerCall (fuel+1) (.multi id parent) b isAck task = (do
      let s ← get
      let m ← forIn (List.range b.original.pos.length) (s.mas[id]!) (voteBody id b.original isAck task)
      modify fun s => { s with mas := s.mas.set! id m }
      releaseLoop fuel id parent) := by
  rw [ackerCall]; rfl

/-- entry `i` of a branch's (collapsed) batch as a vote item: `indexOf` of its position, its record, its status error. -/
def itemAt (m : MA) (ob : Batch) (i : Nat) : Option VItem :=
  (maIndexOf m (ob.pos[i]?).join).map fun ix =>
    { ix := ix, r := ob.recs[i]?.getD default, err := (ob.st[i]?).bind (·.err) }

/-- all entries; `none` when some position is not part of the fan-out batch (the `(bug)` error). -/
def itemsOf (m : MA) (ob : Batch) : Option (List VItem) :=
  (List.range ob.pos.length).mapM (itemAt m ob)

theorem maIndexOf_positions (m m' : MA) (h : m'.positions = m.positions) (p : PosV) :
    maIndexOf m' p = maIndexOf m p := by
  simp [maIndexOf, h]

theorem itemAt_positions (m m' : MA) (h : m'.positions = m.positions) (ob : Batch) (i : Nat) :
    itemAt m' ob i = itemAt m ob i := by
  simp [itemAt, maIndexOf_positions m m' h]

theorem voteBody_step (id : Nat) (ob : Batch) (isAck : Bool) (task i : Nat) (m : MA) (it : VItem) (s : PS)
    (h1 : i < ob.recs.length) (h2 : i < ob.st.length) (h : itemAt m ob i = some it) :
    exec (voteBody id ob isAck task i m) s = (.ok (.yield (maVote1 m isAck task it)), s) := by
  unfold itemAt at h
  unfold voteBody
  cases hix : maIndexOf m (ob.pos[i]?).join with
  | none => rw [hix] at h; simp at h
  | some ix =>
    rw [hix] at h
    simp only [Option.map_some, Option.some.injEq] at h
    subst h
    dsimp only
    unfold maVote1
    dsimp only [MA.term, MA.votes]
    by_cases ht : m.terminal[ix]?.getD false = true
    · simp only [ht, if_true]; rfl
    · simp only [ht, if_false, Bool.false_eq_true]
      rw [exec_bind, idx_ok _ h1, exec_liftR_ok]
      dsimp only
      have hr : ob.recs[i]?.getD default = ob.recs[i] := by simp [h1]
      rw [hr]
      cases isAck with
      | true =>
        simp only [if_true]
        by_cases hv : (m.ackVotes[ix]?.getD 0 + 1 == m.branches) = true
        · simp only [hv, if_true]; rfl
        · simp only [hv, if_false, Bool.false_eq_true]; rfl
      | false =>
        simp only [Bool.false_eq_true, if_false]
        rw [exec_bind, idx_ok _ h2, exec_liftR_ok]
        dsimp only
        have he : (ob.st[i]?).bind (·.err) = ob.st[i].err := by simp [h2]
        rw [he]; rfl

def scanItems (m : MA) (ob : Batch) : List Nat → List VItem
  | [] => []
  | i :: l =>
    match itemAt m ob i with
    | none => []
    | some it => it :: scanItems m ob l

theorem scanItems_length_le (m : MA) (ob : Batch) : ∀ l : List Nat, (scanItems m ob l).length ≤ l.length
  | [] => Nat.le_refl _
  | i :: l => by
    unfold scanItems
    cases itemAt m ob i with
    | none => exact Nat.zero_le _
    | some it => exact Nat.succ_le_succ (scanItems_length_le m ob l)

theorem scanItems_positions (m m' : MA) (h : m'.positions = m.positions) (ob : Batch) (l : List Nat) :
    scanItems m' ob l = scanItems m ob l := by
  induction l with
  | nil => rfl
  | cons i l ih => unfold scanItems; rw [itemAt_positions m m' h, ih]

theorem scanItems_mapM {m : MA} {ob : Batch} : ∀ {l : List Nat} {items : List VItem},
    l.mapM (itemAt m ob) = some items → scanItems m ob l = items ∧ items.length = l.length
  | [], items, h => by simp at h; subst h; exact ⟨rfl, rfl⟩
  | i :: l, items, h => by
    simp only [List.mapM_cons, Option.bind_eq_bind, Option.bind_eq_some_iff, Option.pure_def, Option.some.injEq] at h
    obtain ⟨it, hit, its, hrest, rfl⟩ := h
    obtain ⟨e1, e2⟩ := scanItems_mapM hrest
    unfold scanItems
    rw [hit]
    exact ⟨by rw [e1], by simp [e2]⟩

theorem itemAt_some {m : MA} {ob : Batch} {i : Nat} {it : VItem} (h : itemAt m ob i = some it) :
    maIndexOf m (ob.pos[i]?).join = some it.ix ∧ it.r = ob.recs[i]?.getD default ∧ it.err = (ob.st[i]?).bind (·.err) := by
  unfold itemAt at h
  cases hix : maIndexOf m (ob.pos[i]?).join with
  | none => rw [hix] at h; cases h
  | some ix =>
    rw [hix] at h
    simp only [Option.map_some, Option.some.injEq] at h
    subst h
    exact ⟨rfl, rfl, rfl⟩

theorem set!_other {α} [Inhabited α] (a : Array α) (i j : Nat) (x : α) (h : i ≠ j) :
    (a.set! i x).size = a.size ∧ (a.set! i x)[j]! = a[j]! := by
  simp [Array.set!, Array.getElem!_eq_getD, Array.getD_eq_getD_getElem?, Array.getElem?_setIfInBounds_ne h]

theorem set!_get {α} [Inhabited α] (a : Array α) (i : Nat) (x : α) (h : i < a.size) : (a.set! i x)[i]! = x := by
  simp [Array.set!, h]

def setMa (id : Nat) (m : MA) (s : PS) : PS := { s with mas := s.mas.set! id m }

theorem setMa_size (id : Nat) (m : MA) (s : PS) : (setMa id m s).mas.size = s.mas.size :=
  (set!_other s.mas id (id + 1) m (Nat.ne_of_lt (Nat.lt_succ_self id))).1

theorem setMa_other (id : Nat) (m : MA) (s : PS) (i : Nat) (hi : i ≠ id) : (setMa id m s).mas[i]! = s.mas[i]! :=
  (set!_other s.mas id i m (Ne.symm hi)).2

theorem setMa_get (id : Nat) (m : MA) (s : PS) (h : id < s.mas.size) : (setMa id m s).mas[id]! = m :=
  set!_get _ _ _ h

theorem voteBody_none (id : Nat) (ob : Batch) (isAck : Bool) (task i : Nat) (m : MA) (s : PS) (h : itemAt m ob i = none) :
    exec (voteBody id ob isAck task i m) s = (.error (.err plainErr), setMa id m s) := by
  unfold itemAt at h
  have : maIndexOf m (ob.pos[i]?).join = none := by
    cases hh : maIndexOf m (ob.pos[i]?).join with
    | none => rfl
    | some ix => rw [hh] at h; cases h
  unfold voteBody
  rw [this]
  rfl

/-- the vote loop of `multiAckNacker.Ack` / `.Nack`: the entries are voted in order (`maVote`); a position
that is not part of the fan-out batch stops the loop, which then writes the votes so far back. -/
theorem voteBody_forIn (id : Nat) (ob : Batch) (isAck : Bool) (task : Nat) (s : PS) : ∀ (l : List Nat) (m : MA),
    (∀ i ∈ l, i < ob.recs.length ∧ i < ob.st.length) →
    exec (forIn l m (voteBody id ob isAck task)) s =
      if (scanItems m ob l).length = l.length then (.ok (maVote m isAck task (scanItems m ob l)), s)
      else (.error (.err plainErr), setMa id (maVote m isAck task (scanItems m ob l)) s)
  | [], _, _ => rfl
  | i :: l, m, hl => by
    rw [List.forIn_cons, exec_bind]
    unfold scanItems
    cases hit : itemAt m ob i with
    | none => rw [voteBody_none id ob isAck task i m s hit]; rfl
    | some it =>
      rw [voteBody_step id ob isAck task i m it s (hl i List.mem_cons_self).1 (hl i List.mem_cons_self).2 hit]
      dsimp only
      rw [voteBody_forIn id ob isAck task s l _ (fun j hj => hl j (List.mem_cons_of_mem _ hj)),
        scanItems_positions m _ (maVote1_frame m isAck task it).2.1]
      simp only [List.length_cons, Nat.add_right_cancel_iff, maVote_cons]

theorem ackerCall_multi_exec (fuel id : Nat) (parent : Acker) (b : Batch) (isAck : Bool) (task : Nat) (s : PS)
    (hlen : b.original.pos.length ≤ b.original.recs.length ∧ b.original.pos.length ≤ b.original.st.length) :
    exec (ackerCall (fuel+1) (.multi id parent) b isAck task) s =
      if (scanItems (s.mas[id]!) b.original (List.range b.original.pos.length)).length = b.original.pos.length then
        exec (releaseLoop fuel id parent)
          (setMa id (maVote (s.mas[id]!) isAck task (scanItems (s.mas[id]!) b.original (List.range b.original.pos.length))) s)
      else (.error (.err plainErr),
        setMa id (maVote (s.mas[id]!) isAck task (scanItems (s.mas[id]!) b.original (List.range b.original.pos.length))) s) := by
  rw [ackerCall_multi, exec_bind, exec_get]
  dsimp only
  rw [exec_bind, voteBody_forIn id b.original isAck task s _ _ (by intro i hi; rw [List.mem_range] at hi; omega),
    List.length_range]
  by_cases hc : (scanItems (s.mas[id]!) b.original (List.range b.original.pos.length)).length = b.original.pos.length
  · rw [if_pos hc, if_pos hc]; dsimp only; rw [exec_bind, exec_modify]; rfl
  · rw [if_neg hc, if_neg hc]

/-- One `Ack`/`Nack` call on the monadic model's `multiAckNacker`
(`ackerCall … (.multi id parent)`) is: replace tally `id` by `maVote …` of it, then perform the
parent calls `(maRelease …).2` in order, advancing `released` after each, stopping at the first
failing one. (`items` = the call's batch resolved by `indexOf`; the batch is well-formed, the
parent chain does not contain tally `id`, and the recursion budget suffices.) -/
theorem ackerCall_multi_sim (parent : Acker) (id : Nat) (fr : ParentFrame parent id) (fuel : Nat)
    (b : Batch) (isAck : Bool) (task : Nat) (s : PS) (hid : id < s.mas.size) (items : List VItem)
    (hitems : itemsOf (s.mas[id]!) b.original = some items)
    (hlen : b.original.pos.length ≤ b.original.recs.length ∧ b.original.pos.length ≤ b.original.st.length)
    (hfuel : (s.mas[id]!).positions.length - (s.mas[id]!).released < fuel) :
    exec (ackerCall (fuel+1) (.multi id parent) b isAck task) s =
      exec (replay parent id (maVote (s.mas[id]!) isAck task items) fuel
              (maRelease (maVote (s.mas[id]!) isAck task items)).2)
        { s with mas := s.mas.set! id (maVote (s.mas[id]!) isAck task items) } := by
  obtain ⟨e1, e2⟩ := scanItems_mapM hitems
  rw [ackerCall_multi_exec fuel id parent b isAck task s hlen, e1, if_pos (by rw [e2, List.length_range])]
  obtain ⟨f1, f2, _⟩ := maVote_frame isAck task items (s.mas[id]!)
  generalize hm' : maVote (s.mas[id]!) isAck task items = m' at *
  have hget : (setMa id m' s).mas[id]! = m' := setMa_get id m' s hid
  have hsz : id < (setMa id m' s).mas.size := by rw [setMa_size]; exact hid
  rw [releaseLoop_sim parent id fr fuel _ hsz (by rw [hget, f1, f2]; exact hfuel), hget,
    maReleaseLoop_eq_maRelease fuel m' (by rw [f1, f2]; exact hfuel)]
  rfl

theorem replay_ok (parent : Acker) (id : Nat) (fr : ParentFrame parent id) (m : MA) (f0 : Nat) :
    ∀ (evs : List Released) (fuel : Nat) (s : PS), id < s.mas.size →
    (∀ ev ∈ evs, ∀ f ≥ f0, ∀ s : PS, ∃ s', exec (ackerCall f parent (batchOf m ev).1 (batchOf m ev).2.1 (batchOf m ev).2.2) s = (.ok (), s')) →
    f0 + evs.length ≤ fuel →
    ∃ s', exec (replay parent id m fuel evs) s = (.ok (), s') ∧ s'.mas.size = s.mas.size ∧
      s'.mas[id]! = { (s.mas[id]!) with released := ((evs.getLast?).map Released.next).getD (s.mas[id]!).released } := by
  intro evs
  induction evs with
  | nil =>
    intro fuel s _ _ _
    refine ⟨s, ?_, rfl, rfl⟩
    cases fuel <;> rfl
  | cons ev evs ih =>
    intro fuel s hid hok hfuel
    cases fuel with
    | zero => simp at hfuel
    | succ fuel =>
      simp only [replay]
      obtain ⟨s1, hs1⟩ := hok ev List.mem_cons_self fuel (by simp only [List.length_cons] at hfuel; omega) s
      obtain ⟨g1, g2⟩ := fr _ _ _ _ _ _ hs1
      rw [exec_bind, hs1]
      dsimp only
      rw [exec_bind, exec_modify]
      dsimp only
      have hid1 : id < s1.mas.size := by rw [g1]; exact hid
      obtain ⟨q1, q2⟩ := setReleased_get id ev.next s1 hid1
      obtain ⟨s', e1, e2, e3⟩ := ih fuel (setReleased id ev.next s1) (by rw [q2]; exact hid1)
        (fun ev' h => hok ev' (List.mem_cons_of_mem _ h)) (by simp only [List.length_cons] at hfuel; omega)
      refine ⟨s', e1, by rw [e2, q2, g1], ?_⟩
      rw [e3, q1, g2, List.getLast?_cons]
      cases evs.getLast? <;> rfl

/-- If the parent calls that `releaseLocked` makes all succeed, the
model's `Ack`/`Nack` call succeeds and leaves exactly the pure `maStep` tally. -/
theorem ackerCall_multi_ok (parent : Acker) (id : Nat) (fr : ParentFrame parent id) (fuel f0 : Nat)
    (b : Batch) (isAck : Bool) (task : Nat) (s : PS) (hid : id < s.mas.size) (items : List VItem) (br : Nat)
    (hitems : itemsOf (s.mas[id]!) b.original = some items)
    (hlen : b.original.pos.length ≤ b.original.recs.length ∧ b.original.pos.length ≤ b.original.st.length)
    (hfuel : f0 + ((s.mas[id]!).positions.length - (s.mas[id]!).released) < fuel)
    (hok : ∀ ev ∈ (maStep (s.mas[id]!) ⟨br, isAck, task, items⟩).2, ∀ f ≥ f0, ∀ s' : PS, ∃ s'',
      exec (ackerCall f parent
        (batchOf (maVote (s.mas[id]!) isAck task items) ev).1
        (batchOf (maVote (s.mas[id]!) isAck task items) ev).2.1
        (batchOf (maVote (s.mas[id]!) isAck task items) ev).2.2) s' = (.ok (), s'')) :
    ∃ s', exec (ackerCall (fuel+1) (.multi id parent) b isAck task) s = (.ok (), s') ∧
      s'.mas.size = s.mas.size ∧
      s'.mas[id]! = (maStep (s.mas[id]!) ⟨br, isAck, task, items⟩).1 := by
  rw [ackerCall_multi_sim parent id fr fuel b isAck task s hid items hitems hlen (by omega)]
  obtain ⟨f1, f2, _⟩ := maVote_frame isAck task items (s.mas[id]!)
  simp only [maStep] at hok ⊢
  generalize hm' : maVote (s.mas[id]!) isAck task items = m' at *
  have hget : ({ s with mas := s.mas.set! id m' } : PS).mas[id]! = m' := by
    simp [Array.set!, hid]
  have hsz : ({ s with mas := s.mas.set! id m' } : PS).mas.size = s.mas.size := by
    simp [Array.set!]
  obtain ⟨l1, l2⟩ := maReleaseLoop_last (m'.positions.length - m'.released + 1) m'
  have l2' : (maRelease m').2.length ≤ (s.mas[id]!).positions.length - (s.mas[id]!).released := by
    rw [← f1, ← f2]; exact l2
  obtain ⟨s', e1, e2, e3⟩ := replay_ok parent id fr m' f0 (maRelease m').2 fuel _ (by rw [hsz]; exact hid) hok
    (by omega)
  refine ⟨s', e1, by rw [e2, hsz], ?_⟩
  rw [e3, hget]
  have hspec := (maReleaseLoop_spec (m'.positions.length - m'.released + 1) m').1
  simp only [maRelease] at hspec ⊢
  rw [hspec]
  congr 1
  exact l1.symm

/-- `runs[k]` as `vote` reads it. -/
def runAt (batch : Batch) (k : Nat) : R (Option Nat) :=
  match batch.runs with
  | none => pure none
  | some rs => idx rs k "runs[k]"

/-- the extent scan `for j < len && runs[j] == run`; the literal desugaring of the `for` body in
`voteLoop`, so that `voteLoop_unfold` is `rfl`. -/
def extentBody (batch : Batch) (run : Option Nat) (k : Nat) (j : Nat) : M (ForInStep Nat) :=
  if (j == k) = true then do
    let nxt ← liftR (runAt batch k)
    if (nxt == run) = true then pure (ForInStep.yield (k + 1)) else pure (ForInStep.yield j)
  else pure (ForInStep.yield j)

/-- what `vote` does with the group `[i, j)` of row `i` and its run entry, and the loop from `j`. It has to stay
the literal rest of the `do` block of `voteLoop`: `voteLoop_unfold` is `rfl`. -/
def voteRest (fuel : Nat) (parent : Acker) (batch : Batch) (isAck : Bool) (task i j : Nat) : Option Nat → M Unit
  | none => do
    let sb ← liftR (batch.sub i j)
    ackerCall fuel parent sb isAck task
    voteLoop fuel parent batch isAck task j
  | some rid => do
    let r := (← get).heap[rid]!
    if r.released then throw (.err plainErr)
    let mut r := { r with terminal := r.terminal + (j - i) }
    if !isAck ∧ !r.nacked then
      r := { r with nacked := true, nackErr := firstRunError ((batch.st.take j).drop i), nackTask := task }
    if r.terminal > r.total then
      modify fun s => { s with heap := s.heap.set! rid r }
      throw (.err plainErr)
    if r.terminal == r.total then
      r := { r with released := true }
      modify fun s => { s with heap := s.heap.set! rid r }
      if r.nacked then ackerCall fuel parent (runNackBatch r) false r.nackTask
      else ackerCall fuel parent (runAckBatch r) true 0
    else
      modify fun s => { s with heap := s.heap.set! rid r }
    voteLoop fuel parent batch isAck task j

theorem voteLoop_unfold (fuel : Nat) (parent : Acker) (batch : Batch) (isAck : Bool) (task i : Nat)
    (h : i < batch.recs.length) :
    voteLoop (fuel+1) parent batch isAck task i = (do
      let run ← liftR (runAt batch i)
      let j ← forIn (List.range' (i + 1) (batch.recs.length - (i + 1))) (i + 1) (extentBody batch run)
      voteRest fuel parent batch isAck task i j run) := by
  rw [voteLoop, if_pos h]
  rfl

theorem voteLoop_end (fuel : Nat) (parent : Acker) (batch : Batch) (isAck : Bool) (task i : Nat)
    (h : ¬ i < batch.recs.length) (s : PS) :
    exec (voteLoop (fuel+1) parent batch isAck task i) s = (.ok (), s) := by
  rw [voteLoop, if_neg h]; rfl

def setRun (rid : Nat) (r : SplitRun) (s : PS) : PS := { s with heap := s.heap.set! rid r }

/-- the ledger step of `runAckNacker.vote` for one group `[i, j)` of run `rid` is one `runVote` -/
theorem voteRest_run (fuel : Nat) (p : Acker) (batch : Batch) (isAck : Bool) (task i j rid : Nat) (s : PS) :
    exec (voteRest fuel p batch isAck task i j (some rid)) s =
      (let r := s.heap[rid]!
       let res := runVote r (j - i) isAck task (firstRunError ((batch.st.take j).drop i))
       match res.2 with
       | .err => (.error (.err plainErr), if r.released then s else setRun rid res.1 s)
       | .hold => exec (voteLoop fuel p batch isAck task j) (setRun rid res.1 s)
       | .ack => exec (do ackerCall fuel p (runAckBatch res.1) true 0
                          voteLoop fuel p batch isAck task j) (setRun rid res.1 s)
       | .nack => exec (do ackerCall fuel p (runNackBatch res.1) false res.1.nackTask
                           voteLoop fuel p batch isAck task j) (setRun rid res.1 s)) := by
  rw [voteRest, exec_bind, exec_get]
  dsimp -zeta only
  unfold runVote
  -- names go by position: the `let`s and join points of the elaborated `do` block, then those of `runVote`;
  -- `count` is the block after the ledger entry `x`, and both sides are a case analysis on `x`
  extract_lets r r₁ next count r₂ vote x res
  by_cases hrel : r.released = true
  · simp only [res, hrel, if_true]; rfl
  · have hvote : vote () = count () x := (apply_ite (count ()) _ r₂ r₁).symm
    simp only [res, hrel, Bool.false_eq_true, if_false, hvote]
    by_cases h1 : x.terminal > x.total
    · simp only [count, h1, if_true, exec_bind, exec_modify, exec_throw, setRun]
    · by_cases h2 : (x.terminal == x.total) = true
      · by_cases h3 : x.nacked = true
        · simp only [count, next, h1, h2, h3, if_true, if_false, exec_bind, exec_modify, setRun]
        · simp only [count, next, h1, h2, h3, Bool.false_eq_true, if_true, if_false, exec_bind, exec_modify, setRun]
      · simp only [count, next, h1, h2, Bool.false_eq_true, if_false, exec_bind, exec_modify, setRun]

theorem extent_stop (batch : Batch) (run : Option Nat) (s : PS) : ∀ (cnt start j : Nat), j < start →
    exec (forIn (List.range' start cnt) j (extentBody batch run)) s = (.ok j, s) := by
  intro cnt
  induction cnt with
  | zero => intro start j _; rfl
  | succ cnt ih =>
    intro start j hj
    rw [List.range'_succ, List.forIn_cons, exec_bind]
    have : exec (extentBody batch run start j) s = (.ok (.yield j), s) := by
      unfold extentBody
      have : (j == start) = false := by simp; omega
      simp only [this, Bool.false_eq_true, if_false]
      rfl
    rw [this]
    dsimp only
    exact ih (start + 1) j (by omega)

theorem extent_go (batch : Batch) (run : Option Nat) (s : PS) : ∀ (cnt start : Nat),
    (∀ k : Nat, start ≤ k → k < start + cnt → ∃ r, runAt batch k = .ok r) →
    ∃ j, exec (forIn (List.range' start cnt) start (extentBody batch run)) s = (.ok j, s) ∧ start ≤ j ∧
      j ≤ start + cnt ∧ (∀ k : Nat, start ≤ k → k < j → runAt batch k = .ok run) ∧
      (j < start + cnt → runAt batch j ≠ .ok run) := by
  intro cnt
  induction cnt with
  | zero => intro start _; exact ⟨start, rfl, Nat.le_refl _, Nat.le_refl _, fun k h1 h2 => by omega, fun h => by omega⟩
  | succ cnt ih =>
    intro start hok
    rw [List.range'_succ, List.forIn_cons, exec_bind]
    obtain ⟨r, hra⟩ := hok start (Nat.le_refl _) (by omega)
    have hbody : exec (extentBody batch run start start) s =
        (.ok (.yield (if (r == run) = true then start + 1 else start)), s) := by
      unfold extentBody
      simp only [beq_self_eq_true, if_true]
      rw [exec_bind, hra, exec_liftR_ok]
      dsimp only
      split <;> rfl
    rw [hbody]
    dsimp only
    by_cases heq : (r == run) = true
    · rw [if_pos heq]
      obtain ⟨j, h1, h2, h3, h4, h5⟩ := ih (start + 1) fun k a b => hok k (by omega) (by omega)
      refine ⟨j, h1, by omega, by omega, fun k hk1 hk2 => ?_, fun hj => h5 (by omega)⟩
      by_cases hks : k = start
      · rw [hks, hra, eq_of_beq heq]
      · exact h4 k (by omega) hk2
    · rw [if_neg heq, extent_stop batch run s cnt (start + 1) start (by omega)]
      refine ⟨start, rfl, Nat.le_refl _, by omega, fun k h1 h2 => by omega, fun _ h => ?_⟩
      rw [hra] at h
      exact heq (by rw [Except.ok.inj h]; exact beq_self_eq_true _)

theorem extent_all (batch : Batch) (run : Option Nat) (s : PS) (cnt start : Nat)
    (h : ∀ k : Nat, start ≤ k → k < start + cnt → runAt batch k = .ok run) :
    exec (forIn (List.range' start cnt) start (extentBody batch run)) s = (.ok (start + cnt), s) := by
  obtain ⟨j, h1, h2, h3, _, h5⟩ := extent_go batch run s cnt start fun k a b => ⟨run, h k a b⟩
  have : j = start + cnt := Classical.byContradiction fun hne => h5 (by omega) (h j h2 (by omega))
  rw [h1, this]

theorem runAt_eq_ok {b : Batch} {rs : List (Option Nat)} (hrs : b.runs = some rs) {k : Nat} {r : Option Nat} :
    runAt b k = .ok r ↔ rs[k]? = some r := by
  unfold runAt; rw [hrs]; exact idx_eq_ok_iff

/-- `[i, j)` is the group of row `i` in `runAckNacker.vote`: the longest stretch of rows from `i` on that share
the run entry `run` of row `i` -/
structure Stretch (rs : List (Option Nat)) (i j : Nat) (run : Option Nat) : Prop where
  lt : i < j
  le : j ≤ rs.length
  all : ∀ k : Nat, i ≤ k → k < j → rs[k]? = some run
  max : rs[j]? ≠ some run

/-- what `vote` does with the group `[i, j)`: rows without run are handed to the parent as they are; the pieces of
a run are booked in its ledger entry, and the run's original record is handed to the parent when that completes
the run -/
def groupStep (fuel : Nat) (p : Acker) (b : Batch) (a : Bool) (t i j : Nat) : Option Nat → M Unit
  | none => do
    let sb ← liftR (b.sub i j)
    ackerCall fuel p sb a t
  | some rid => do
    let r := (← get).heap[rid]!
    let res := runVote r (j - i) a t (firstRunError ((b.st.take j).drop i))
    match res.2 with
    | .err => do
      if r.released then pure () else modify (setRun rid res.1)
      throw (.err plainErr)
    | .hold => modify (setRun rid res.1)
    | .ack => do
      modify (setRun rid res.1)
      ackerCall fuel p (runAckBatch res.1) true 0
    | .nack => do
      modify (setRun rid res.1)
      ackerCall fuel p (runNackBatch res.1) false res.1.nackTask

theorem groupStep_run (fuel : Nat) (p : Acker) (b : Batch) (a : Bool) (t i j rid : Nat) (s : PS) :
    exec (groupStep fuel p b a t i j (some rid)) s =
      (let r := s.heap[rid]!
       let res := runVote r (j - i) a t (firstRunError ((b.st.take j).drop i))
       match res.2 with
       | .err => (.error (.err plainErr), if r.released then s else setRun rid res.1 s)
       | .hold => (.ok (), setRun rid res.1 s)
       | .ack => exec (ackerCall fuel p (runAckBatch res.1) true 0) (setRun rid res.1 s)
       | .nack => exec (ackerCall fuel p (runNackBatch res.1) false res.1.nackTask) (setRun rid res.1 s)) := by
  unfold groupStep
  rw [exec_bind, exec_get]
  dsimp only
  rcases runVote (s.heap[rid]!) (j - i) a t (firstRunError ((b.st.take j).drop i)) with ⟨x, o⟩
  cases o
  · rfl
  · rw [exec_bind, exec_modify]
  · rw [exec_bind, exec_modify]
  · dsimp only
    cases (s.heap[rid]!).released <;> rfl

theorem voteRest_exec (fuel : Nat) (p : Acker) (b : Batch) (a : Bool) (t i j : Nat) (run : Option Nat) (s : PS) :
    exec (voteRest fuel p b a t i j run) s = exec (do groupStep fuel p b a t i j run; voteLoop fuel p b a t j) s := by
  rw [exec_bind]
  cases run with
  | none =>
    rw [voteRest]
    dsimp only [groupStep]
    rw [exec_bind, exec_bind]
    cases b.sub i j with
    | error e => rfl
    | ok sb => rw [exec_liftR_ok]; dsimp only; rw [exec_bind]
  | some rid =>
    rw [voteRest_run, groupStep_run]
    dsimp only
    rcases runVote (s.heap[rid]!) (j - i) a t (firstRunError ((b.st.take j).drop i)) with ⟨x, o⟩
    cases o
    · rfl
    · dsimp only; rw [exec_bind]
    · dsimp only; rw [exec_bind]
    · rfl

/-- One iteration of `runAckNacker.vote` at row `i`: the group of row `i`, then the loop from its end. -/
theorem voteLoop_group (fuel : Nat) (p : Acker) (b : Batch) (a : Bool) (t i : Nat) (s : PS) {rs : List (Option Nat)}
    (hruns : b.runs = some rs) (hlen : rs.length = b.recs.length) (hi : i < b.recs.length) :
    ∃ (j : Nat) (run : Option Nat), Stretch rs i j run ∧
      exec (voteLoop (fuel+1) p b a t i) s = exec (do groupStep fuel p b a t i j run; voteLoop fuel p b a t j) s := by
  have hilt : i < rs.length := hlen ▸ hi
  have hra : runAt b i = .ok rs[i] := (runAt_eq_ok hruns).mpr (List.getElem?_eq_getElem hilt)
  obtain ⟨j, hj1, hj2, hj3, hj4, hj5⟩ := extent_go b rs[i] s (b.recs.length - (i + 1)) (i + 1) fun k _ hk =>
    ⟨rs[k]'(by omega), (runAt_eq_ok hruns).mpr (List.getElem?_eq_getElem (by omega))⟩
  refine ⟨j, rs[i], ⟨by omega, by omega, fun k h1 h2 => (runAt_eq_ok hruns).mp ?_, ?_⟩, ?_⟩
  · by_cases hki : k = i
    · rw [hki]; exact hra
    · exact hj4 k (by omega) h2
  · by_cases hjj : j < b.recs.length
    · exact fun h => hj5 (by omega) ((runAt_eq_ok hruns).mpr h)
    · rw [List.getElem?_eq_none_iff.mpr (by omega)]; exact fun h => nomatch h
  · rw [voteLoop_unfold fuel p b a t i hi, exec_bind, hra, exec_liftR_ok]
    dsimp only
    rw [exec_bind, hj1]
    exact voteRest_exec fuel p b a t i j rs[i] s

/-- `runAckNacker.vote` from index `i` on a batch whose records from
`i` on all belong to run `rid` is one `runVote` for the group of `len - i` members: error and
nothing forwarded / ledger updated and nothing forwarded / ledger updated and the original record
acked / nacked to the parent; then the scan continues at `len` (where it ends). -/
theorem voteLoop_run_sim (fuel : Nat) (parent : Acker) (batch : Batch) (isAck : Bool) (task i rid : Nat)
    (s : PS) (hi : i < batch.recs.length)
    (hruns : ∀ k : Nat, i ≤ k → k < batch.recs.length → runAt batch k = .ok (some rid)) :
    exec (voteLoop (fuel+1) parent batch isAck task i) s =
      (let r := s.heap[rid]!
       let res := runVote r (batch.recs.length - i) isAck task
                    (firstRunError ((batch.st.take batch.recs.length).drop i))
       match res.2 with
       | .err => (.error (.err plainErr), if r.released then s else setRun rid res.1 s)
       | .hold => exec (voteLoop fuel parent batch isAck task batch.recs.length) (setRun rid res.1 s)
       | .ack => exec (do ackerCall fuel parent (runAckBatch res.1) true 0
                          voteLoop fuel parent batch isAck task batch.recs.length) (setRun rid res.1 s)
       | .nack => exec (do ackerCall fuel parent (runNackBatch res.1) false res.1.nackTask
                           voteLoop fuel parent batch isAck task batch.recs.length) (setRun rid res.1 s)) := by
  rw [voteLoop_unfold fuel parent batch isAck task i hi]
  rw [exec_bind, hruns i (Nat.le_refl _) hi, exec_liftR_ok]
  dsimp -zeta only
  rw [exec_bind, extent_all batch (some rid) s _ (i + 1) (fun k h1 h2 => hruns k (by omega) (by omega))]
  have hj : i + 1 + (batch.recs.length - (i + 1)) = batch.recs.length := by omega
  rw [hj]
  exact voteRest_run fuel parent batch isAck task i batch.recs.length rid s

theorem voteLoop_norun_sim (fuel : Nat) (parent : Acker) (batch : Batch) (isAck : Bool) (task i : Nat)
    (s : PS) (hi : i < batch.recs.length)
    (hruns : ∀ k : Nat, i ≤ k → k < batch.recs.length → runAt batch k = .ok none) :
    exec (voteLoop (fuel+1) parent batch isAck task i) s =
      exec (do let sb ← liftR (batch.sub i batch.recs.length)
               ackerCall fuel parent sb isAck task
               voteLoop fuel parent batch isAck task batch.recs.length) s := by
  rw [voteLoop_unfold fuel parent batch isAck task i hi]
  rw [exec_bind, hruns i (Nat.le_refl _) hi, exec_liftR_ok]
  dsimp only
  rw [exec_bind, extent_all batch none s _ (i + 1) (fun k h1 h2 => hruns k (by omega) (by omega))]
  have hj : i + 1 + (batch.recs.length - (i + 1)) = batch.recs.length := by omega
  rw [hj]
  rfl

theorem ackerCall_zero (a : Acker) (b : Batch) (isAck : Bool) (task : Nat) :
    ackerCall 0 a b isAck task = throw (.panic "out of fuel") := by
  rw [ackerCall]

theorem voteLoop_zero (parent : Acker) (b : Batch) (isAck : Bool) (task i : Nat) :
    voteLoop 0 parent b isAck task i = throw (.panic "out of fuel") := by
  rw [voteLoop]

theorem releaseLoop_zero (id : Nat) (parent : Acker) : releaseLoop 0 id parent = throw (.panic "out of fuel") := by
  rw [releaseLoop]

theorem ackerCall_worker (fuel : Nat) (b : Batch) (isAck : Bool) (task : Nat) :
    ackerCall (fuel+1) .worker b isAck task = if isAck then workerAck b else workerNack b task := by
  rw [ackerCall]

theorem ackerCall_run (fuel : Nat) (parent : Acker) (b : Batch) (isAck : Bool) (task : Nat) :
    ackerCall (fuel+1) (.run parent) b isAck task = voteLoop fuel parent b isAck task 0 := by
  rw [ackerCall]

def Acker.mentions (id : Nat) : Acker → Prop
  | .worker => False
  | .run p => p.mentions id
  | .multi id' p => id' = id ∨ p.mentions id

theorem voteBody_keeps {I : PS → Prop} (id : Nat)
    (hset : ∀ (x : MA) (s : PS), I s → I { s with mas := s.mas.set! id x })
    (ob : Batch) (isAck : Bool) (task i : Nat) (m : MA) : Spec I (voteBody id ob isAck task i m) fun _ => True := by
  unfold voteBody
  split
  · exact .bind_top (.modify _ (hset m) trivial) fun _ => .throw_bind _ _
  · exact .ite (.pure _ trivial) (.bind_top (.liftR_top _) fun r =>
      .ite (.ite (.pure _ trivial) (.pure _ trivial)) (.bind_top (.liftR_top _) fun _ => .pure _ trivial))

theorem extentBody_keeps {I : PS → Prop} (batch : Batch) (run : Option Nat) (k j : Nat) :
    Spec I (extentBody batch run k j) fun _ => True :=
  .ite (.bind_top (.liftR_top _) fun _ => .ite (.pure _ trivial) (.pure _ trivial)) (.pure _ trivial)

/-- Every handler chain keeps a predicate `I` that the Worker keeps, that does not look at the tallies satisfying
`ok`, nor at the ledger entries of the runs of the batches it is claimed for (`B`: a class of batches that
contains the batches the handlers build themselves and the slices of its members). -/
theorem ackers_keep {I : PS → Prop} (ok : Nat → Prop) (B : Batch → Prop)
    (hsub : ∀ (b sb : Batch) (i j : Nat), B b → b.sub i j = .ok sb → B sb)
    (hma : ∀ (m : MA) (f t : Nat), B (maAckBatch m f t) ∧ B (maNackBatch m f))
    (hrun : ∀ r : SplitRun, B (runAckBatch r) ∧ B (runNackBatch r))
    (hheap : ∀ (b : Batch) (i rid : Nat), B b → runAt b i = .ok (some rid) →
      ∀ (r : SplitRun) (s : PS), I s → I { s with heap := s.heap.set! rid r })
    (hset : ∀ id, ok id → ∀ (x : MA) (s : PS), I s → I { s with mas := s.mas.set! id x })
    (hack : ∀ b, Spec I (workerAck b) fun _ => True) (hnack : ∀ b t, Spec I (workerNack b t) fun _ => True) :
    ∀ fuel : Nat,
    (∀ (acker : Acker) (b : Batch) (a : Bool) (t : Nat), B b → (∀ id, acker.mentions id → ok id) →
      Spec I (ackerCall fuel acker b a t) fun _ => True) ∧
    (∀ (id : Nat) (parent : Acker), ok id → (∀ id, parent.mentions id → ok id) →
      Spec I (releaseLoop fuel id parent) fun _ => True) ∧
    (∀ (parent : Acker) (batch : Batch) (a : Bool) (t i : Nat), B batch → (∀ id, parent.mentions id → ok id) →
      Spec I (voteLoop fuel parent batch a t i) fun _ => True) := by
  intro fuel
  induction fuel with
  | zero =>
    refine ⟨?_, ?_, ?_⟩
    · intro acker b a t _ _; rw [ackerCall_zero]; exact .throw _
    · intro id parent _ _; rw [releaseLoop_zero]; exact .throw _
    · intro parent batch a t i _ _; rw [voteLoop_zero]; exact .throw _
  | succ fuel ih =>
    obtain ⟨ihA, ihR, ihV⟩ := ih
    refine ⟨?_, ?_, ?_⟩
    · intro acker b a t hB hn
      cases acker with
      | worker =>
        rw [ackerCall_worker]
        exact .ite (hack b) (hnack b t)
      | run parent => rw [ackerCall_run]; exact ihV parent b a t 0 hB hn
      | multi id parent =>
        have hid : ok id := hn id (Or.inl rfl)
        rw [ackerCall_multi]
        exact .get_bind fun s0 _ =>
          .bind_top (.forIn _ (voteBody_keeps id (hset id hid) _ _ _) _ _) fun m =>
          .bind_top (.modify _ (hset id hid m) trivial) fun _ => ihR id parent hid fun x hx => hn x (Or.inr hx)
    · intro id parent hid hnp s hs
      rw [releaseLoop_exec]
      split
      · refine (Spec.bind_top (ihA parent _ _ _ ?_ hnp) fun _ =>
          .bind_top (.modify _ (fun u => hset id hid _ u) trivial) fun _ => ihR id parent hid hnp) s hs
        unfold maNext
        split
        · exact (hma _ _ _).1
        · exact (hma _ _ 0).2
      · exact ⟨hs, fun _ _ => trivial⟩
    · intro parent batch a t i hB hnp
      by_cases hi : i < batch.recs.length
      · rw [voteLoop_unfold fuel parent batch a t i hi]
        refine .bind (.liftR _ fun _ h => h) fun run hat =>
          .bind_top (.forIn _ (extentBody_keeps _ _) _ _) fun j s hs => ?_
        rw [voteRest_exec]
        refine (Spec.bind_top ?_ fun _ => ihV parent batch a t j hB hnp) s hs
        cases run with
        | none => exact .bind (.liftR _ fun _ h => h) fun sb hsb => ihA parent sb a t (hsub _ _ _ _ hB hsb) hnp
        | some rid =>
          have heap : ∀ r : SplitRun, Spec I (modify (setRun rid r)) fun _ => True :=
            fun r => .modify _ (hheap batch i rid hB hat r) trivial
          refine .get_bind fun s0 _ => ?_
          dsimp only
          split
          · exact .ite (.throw _) (.bind_top (heap _) fun _ => .throw _)
          · exact heap _
          · exact .bind_top (heap _) fun _ => ihA parent _ _ _ (hrun _).1 hnp
          · exact .bind_top (heap _) fun _ => ihA parent _ _ _ (hrun _).2 hnp
      · rw [voteLoop, if_neg hi]; exact .pure _ trivial

theorem parentFrame_of_not_mentions (parent : Acker) (id : Nat) (h : ¬ parent.mentions id) :
    ParentFrame parent id := by
  intro fuel b a t s s' hc
  have hI : ∀ u t : PS, t.mas = u.mas → (u.mas.size = s.mas.size ∧ u.mas[id]! = s.mas[id]!) →
      t.mas.size = s.mas.size ∧ t.mas[id]! = s.mas[id]! := fun _ _ e h => e ▸ h
  have hW := worker_keeps (fun u _ => hI u _ rfl) (fun u _ => hI u _ rfl) (fun u _ => hI u _ rfl)
  have := ((ackers_keep (· ≠ id) (fun _ => True) (fun _ _ _ _ _ _ => trivial) (fun _ _ _ => ⟨trivial, trivial⟩)
    (fun _ => ⟨trivial, trivial⟩) (fun _ _ _ _ _ _ u => hI u _ rfl)
    (fun id' hne x u h => ⟨(set!_other _ _ _ x hne).1.trans h.1, (set!_other _ _ _ x hne).2.trans h.2⟩)
    hW.1 hW.2 fuel).1 parent b a t trivial (fun id' hm e => h (e ▸ hm)) s ⟨rfl, rfl⟩).1
  rwa [hc] at this

theorem parentFrame_worker (id : Nat) : ParentFrame .worker id :=
  parentFrame_of_not_mentions .worker id fun h => h

theorem ackerCall_multi_sim' (parent : Acker) (id : Nat) (hn : ¬ parent.mentions id) (fuel : Nat)
    (b : Batch) (isAck : Bool) (task : Nat) (s : PS) (hid : id < s.mas.size) (items : List VItem)
    (hitems : itemsOf (s.mas[id]!) b.original = some items)
    (hlen : b.original.pos.length ≤ b.original.recs.length ∧ b.original.pos.length ≤ b.original.st.length)
    (hfuel : (s.mas[id]!).positions.length - (s.mas[id]!).released < fuel) :
    exec (ackerCall (fuel+1) (.multi id parent) b isAck task) s =
      exec (replay parent id (maVote (s.mas[id]!) isAck task items) fuel
              (maRelease (maVote (s.mas[id]!) isAck task items)).2)
        { s with mas := s.mas.set! id (maVote (s.mas[id]!) isAck task items) } :=
  ackerCall_multi_sim parent id (parentFrame_of_not_mentions parent id hn) fuel b isAck task s hid items
    hitems hlen hfuel

/-- the chains the engine builds for a first-level fan-out satisfy the hypothesis. -/
example : ¬ (Acker.run .worker).mentions 0 := by simp [Acker.mentions]
example : ¬ (Acker.run (.multi 0 (.run .worker))).mentions 1 := by simp [Acker.mentions]

end Conduit.Funnel
