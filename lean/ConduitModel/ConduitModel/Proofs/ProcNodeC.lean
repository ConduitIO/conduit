import ConduitModel.Proofs.ProcNodeB
import ConduitModel.Proofs.EventSys

/-! Invariants of the `ProcessorNode` event system, group C (teardown bookkeeping, `Instance.running`),
the bundle `Inv` and the induction over all event lists. See `Proofs/ProcNodeA.lean` for the conventions. -/
namespace Conduit.Model.ProcNode

namespace C

/-- the processors on which some teardown was called. -/
def tornGens (s : State) : List Nat := s.torn.map (·.1)

def running (s : State) : Prop := s.instRunning = true ↔ s.pc ≠ .exited
def torn_nodup (s : State) : Prop := (s.torn.map (·.1)).Nodup
def torn_opened (s : State) : Prop := ∀ t ∈ s.torn, t.1 ∈ s.opened
def torn_plain (s : State) : Prop := ∀ t ∈ s.torn, t.2 = true → s.pc = .exited
def cur_live (s : State) : Prop := s.pc ≠ .exited → ∀ t ∈ s.torn, t.1 ≠ s.cur
def tearOld_pending (s : State) : Prop := ∀ old r, s.pc = .tearOld old r → ∀ t ∈ s.torn, t.1 ≠ old
def tearNew_pending (s : State) : Prop := ∀ r, s.pc = .tearNew r → ∀ t ∈ s.torn, t.1 ≠ r
/-- the processor the loop is about to tear down inside `applyPendingSwap`. -/
def tearing : Pc → Option Nat
  | .tearOld old _ => some old
  | .tearNew r => some r
  | _ => none
def accounted (s : State) : Prop := ∀ g ∈ s.opened,
    g ∈ s.torn.map (·.1) ∨ (s.pc ≠ .exited ∧ g = s.cur) ∨ tearing s.pc = some g

end C

structure InvC (s : State) : Prop where
  running : C.running s
  torn_nodup : C.torn_nodup s
  torn_opened : C.torn_opened s
  torn_plain : C.torn_plain s
  cur_live : C.cur_live s
  tearOld_pending : C.tearOld_pending s
  tearNew_pending : C.tearNew_pending s
  accounted : C.accounted s

theorem initC : InvC init := by
  constructor <;> simp [init, C.running, C.torn_nodup, C.torn_opened, C.torn_plain, C.cur_live, C.tearOld_pending,
    C.tearNew_pending, C.accounted, C.tearing]

namespace C
variable {s s' : State} {e : Event}

theorem exited_step (hi : InvC s) (h : Step s e s') : running s' ∧ torn_plain s' := by
  have c1 := hi.running; have c2 := hi.torn_plain
  cases h with
  | stageBusy | stage | wakeSend | doneRecv | withdraw | cancel => exact ⟨c1, c2⟩
  | finalTeardown => exact ⟨⟨nofun, fun hn => absurd rfl hn⟩, fun _ _ _ => rfl⟩
  | teardownOld hpc | teardownNew hpc =>
    have hne : s.pc ≠ .exited := by rw [hpc]; nofun
    exact ⟨c1.trans ⟨fun _ => nofun, fun _ => hne⟩,
      List.forall_mem_cons.mpr ⟨nofun, fun t ht h2 => absurd (c2 t ht h2) hne⟩⟩
  | _ =>
    -- the loop has not exited, so no plain teardown has happened yet
    have hne : s.pc ≠ .exited := by rw [‹s.pc = _›]; nofun
    exact ⟨c1.trans ⟨fun _ => nofun, fun _ => hne⟩, fun t ht h2 => absurd (c2 t ht h2) hne⟩

theorem torn_step (ha : InvA s) (hi : InvC s) (h : Step s e s') : torn_nodup s' ∧ torn_opened s' := by
  have c1 := hi.torn_nodup; have c2 := hi.torn_opened
  have fresh {g : Nat} (hg : ∀ t ∈ s.torn, t.1 ≠ g) (ho : g ∈ s.opened) (b : Bool) :
      (((g, b) :: s.torn).map (·.1)).Nodup ∧ ∀ t ∈ (g, b) :: s.torn, t.1 ∈ s.opened :=
    ⟨List.nodup_cons.mpr ⟨fun hm => by obtain ⟨t, ht, he⟩ := List.mem_map.mp hm; exact hg t ht he, c1⟩,
      List.forall_mem_cons.mpr ⟨ho, c2⟩⟩
  cases h with
  | teardownOld hpc hg => exact fresh (hg ▸ hi.tearOld_pending _ _ hpc) (hg ▸ (ha.tearOld_ok _ _ hpc).2.2.2) _
  | teardownNew hpc hg => exact fresh (hg ▸ hi.tearNew_pending _ hpc) (hg ▸ (ha.tearNew_ok _ hpc).2) _
  | finalTeardown hpc hg =>
    exact fresh (hg ▸ hi.cur_live (by rw [hpc]; nofun)) (hg ▸ ha.cur_opened (by rw [hpc]; nofun)) _
  | runOpen | runOpenFail | openNew | openNewFail => exact ⟨c1, fun t ht => List.mem_cons_of_mem _ (c2 t ht)⟩
  | _ => exact ⟨c1, c2⟩

theorem cur_live_step (ha : InvA s) (hi : InvC s) (h : Step s e s') : cur_live s' := by
  have c1 := hi.cur_live
  cases h with
  | stageBusy | stage | wakeSend | doneRecv | withdraw | cancel => exact c1
  | finalTeardown => exact fun hn => absurd rfl hn
  | @openNew g hpc => exact fun _ t ht (he : t.1 = g) => (ha.opening_ok _ hpc).2 (he ▸ hi.torn_opened t ht)
  | teardownOld hpc hg =>
    obtain ⟨hc, -, hne, -⟩ := ha.tearOld_ok _ _ hpc
    exact fun _ => List.forall_mem_cons.mpr ⟨hg ▸ hc ▸ hne, c1 (by rw [hpc]; nofun)⟩
  | @teardownNew g r hpc hg =>
    exact fun _ => List.forall_mem_cons.mpr
      ⟨fun (he : g = s.cur) => (ha.tearNew_ok _ hpc).1 (hg ▸ he ▸ ha.cur_hist), c1 (by rw [hpc]; nofun)⟩
  | _ => exact fun _ => c1 (by rw [‹s.pc = _›]; nofun)

theorem pending_step (ha : InvA s) (hi : InvC s) (h : Step s e s') : tearOld_pending s' ∧ tearNew_pending s' := by
  cases h with
  | stageBusy | stage | wakeSend | doneRecv | withdraw | cancel => exact ⟨hi.tearOld_pending, hi.tearNew_pending⟩
  | openNew hpc => exact ⟨fun old r hr => by cases hr; exact hi.cur_live (by rw [hpc]; nofun), nofun⟩
  | openNewFail hpc =>
    exact ⟨nofun, fun r hr => by cases hr; exact fun t ht he => (ha.opening_ok _ hpc).2 (he ▸ hi.torn_opened t ht)⟩
  | _ => exact ⟨nofun, nofun⟩

theorem accounted_step (hi : InvC s) (h : Step s e s') : accounted s' := by
  have c1 := hi.accounted
  have plain {pc' : Pc} (hs : tearing s.pc = none) (h1 : pc' ≠ .exited) :
      ∀ g ∈ s.opened, g ∈ s.torn.map (·.1) ∨ (pc' ≠ .exited ∧ g = s.cur) ∨ tearing pc' = some g :=
    fun g hg => (c1 g hg).imp_right fun h => .inl ⟨h1, (h.resolve_right (by rw [hs]; nofun)).2⟩
  have torn {pc' : Pc} {g : Nat} {b : Bool} (hs : tearing s.pc = some g) (h1 : pc' ≠ .exited) :
      ∀ x ∈ s.opened, x ∈ ((g, b) :: s.torn).map (·.1) ∨ (pc' ≠ .exited ∧ x = s.cur) ∨ tearing pc' = some x :=
    fun x hx => (c1 x hx).elim (fun h => .inl (List.mem_cons_of_mem _ h)) fun h =>
      h.elim (fun h => .inr (.inl ⟨h1, h.2⟩)) fun h => .inl (by rw [hs] at h; cases h; exact List.mem_cons_self)
  cases h with
  | stageBusy | stage | wakeSend | doneRecv | withdraw | cancel => exact c1
  | runOpen hpc | runOpenFail hpc =>
    exact List.forall_mem_cons.mpr ⟨.inr (.inl ⟨nofun, rfl⟩), plain (by rw [hpc]; rfl) nofun⟩
  | openNew hpc =>
    -- the new processor is current; the old one, if opened, is the one about to be torn down
    exact List.forall_mem_cons.mpr ⟨.inr (.inl ⟨nofun, rfl⟩), fun x hx => (c1 x hx).imp_right fun h =>
      .inr (congrArg some (h.resolve_right (by rw [hpc]; nofun)).2.symm)⟩
  | openNewFail hpc => exact List.forall_mem_cons.mpr ⟨.inr (.inr rfl), plain (by rw [hpc]; rfl) nofun⟩
  | teardownOld hpc hg | teardownNew hpc hg => exact torn (by rw [hpc, hg]; rfl) nofun
  | finalTeardown hpc hg =>
    intro x hx
    rcases c1 x hx with h | ⟨-, h⟩ | h
    · exact .inl (List.mem_cons_of_mem _ h)
    · subst hg h; exact .inl List.mem_cons_self
    · rw [hpc] at h; cases h
  | _ => exact plain (by rw [‹s.pc = _›]; rfl) nofun

end C

theorem stepC {s s' : State} {e : Event} (ha : InvA s) (hi : InvC s) (h : Step s e s') : InvC s' :=
  have ⟨r1, r2⟩ := C.exited_step hi h
  have ⟨t1, t2⟩ := C.torn_step ha hi h
  have ⟨p1, p2⟩ := C.pending_step ha hi h
  ⟨r1, t1, t2, r2, C.cur_live_step ha hi h, p1, p2, C.accounted_step hi h⟩

structure Inv (s : State) : Prop where
  a : InvA s
  b : InvB s
  c : InvC s

theorem init_inv : Inv init := ⟨initA, initB, initC⟩

theorem step_preserves_inv {s s' : State} {e : Event} (hi : Inv s) (h : step s e = some s') : Inv s' :=
  have h := Step.of_step h
  ⟨stepA hi.a h, stepB hi.a hi.b h, stepC hi.a hi.c h⟩

theorem run_eq (es : List Event) (s : State) : run s es = es.foldlM step s :=
  EventSys.run_eq (fun _ => rfl) (fun s e _ => by cases h : step s e <;> simp [run, h]) es s

theorem run_preserves_inv (es : List Event) {s s' : State} (hi : Inv s) (h : run s es = some s') : Inv s' :=
  EventSys.run_induct (fun _ _ _ hi => step_preserves_inv hi) es hi (run_eq .. ▸ h)

theorem reachable_inv {s : State} (h : Reachable s) : Inv s := by
  obtain ⟨es, hes⟩ := h
  exact run_preserves_inv es init_inv hes

namespace Inv
variable {s : State}

theorem log_idx_nodup (hi : Inv s) : (s.log.map (·.idx)).Nodup := by
  rw [List.Nodup, List.pairwise_map]
  exact hi.b.log_sorted.imp fun hxy => by omega

theorem nextIn_eq (hi : Inv s) : s.nextIn = s.outc.length + (if s.pc.inflight.isSome then 1 else 0) := by
  cases hfl : s.pc.inflight with
  | none => simp [hi.b.count_ok.2 hfl]
  | some i => have := hi.b.count_ok.1 i hfl; simp; omega

theorem returned_ne_zero (hi : Inv s) {r : Nat} {res : Res} (hr : s.cst r = .returned res) : r ≠ 0 :=
  fun h0 => by rw [h0, hi.a.zero_idle] at hr; cases hr

theorem unclaimed (hi : Inv s) {r : Nat} (h0 : r ≠ 0) (hc : r ∉ s.claimed) : r ∉ s.hist ∧ r ∉ s.opened :=
  ⟨fun h => (hi.a.hist_claimed r h).elim h0 hc, fun h => (hi.a.opened_claimed r h).elim h0 hc⟩

theorem exited_torn (hi : Inv s) (he : s.pc = .exited) : ∀ g ∈ s.opened, g ∈ s.torn.map (·.1) := fun g hg => by
  rcases hi.c.accounted g hg with h1 | h1 | h1
  · exact h1
  · exact absurd he h1.1
  · rw [he] at h1; cases h1

end Inv

end Conduit.Model.ProcNode
