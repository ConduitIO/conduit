import ConduitModel.Proofs.LifecycleRun

/-!
C10 "a pipeline that a user stopped, or that stopped because the server is shutting down, is never
restarted by recovery" — for engine v2 WITH the two stop fixes (`v2RecheckStop`, `v2KeepIntent`),
for every event list in which no Stop/StopAll call overlaps a Start that has not published yet.
-/
namespace Conduit.Lifecycle

/-- the only hypothesis: no Stop/StopAll while a Start is between status check and publication. -/
def hypStop : Hyps := { Hyps.all with stopDuringStart := false }

structure InvStop (s : State) : Prop where
  isV2 : s.eng = .v2
  fix1 : s.fx.v2RecheckStop = true
  fix2 : s.fx.v2KeepIntent = true
  /-- no recovery restart has happened while a stop request was in force. -/
  noBad : s.badRestarts = 0
  /-- while a stop request is in force, whatever run the map resolves is marked (or the server is
  shutting down) … -/
  guard : s.stopIntent = true → s.shutdown = true ∨
      ∀ m, s.entry = some m → ((s.runs m).forced = true ∨ (s.runs m).intentional = true)
  /-- … and no Start is on its way to publish an unmarked run. -/
  quiet : s.stopIntent = true → ∀ i, (s.runs i).phase = .building ∨ (s.runs i).phase = .built → s.next ≤ i

theorem startInFlight_false {s : State} (h : startInFlight s = false) (i : Nat) (hi : i < s.next) :
    (s.runs i).phase ≠ .building ∧ (s.runs i).phase ≠ .built := by
  unfold startInFlight at h
  rw [List.any_eq_false] at h
  have := h i (List.mem_range.mpr hi)
  simpa using this

section general
variable {s s' : State}

theorem InvStop.congr (hs : InvStop s)
    (h : (s'.runs, s'.eng, s'.fx, s'.badRestarts, s'.stopIntent, s'.shutdown, s'.entry, s'.next) =
         (s.runs, s.eng, s.fx, s.badRestarts, s.stopIntent, s.shutdown, s.entry, s.next)) : InvStop s' := by
  cases s; cases s'
  simp only [Prod.mk.injEq] at h
  obtain ⟨rfl, rfl, rfl, rfl, rfl, rfl, rfl, rfl⟩ := h
  exact ⟨hs.1, hs.2, hs.3, hs.4, hs.5, hs.6⟩

theorem InvStop.setRun (hs : InvStop s) {n : Nat} {r : Run}
    (hf : (s.runs n).forced = true → r.forced = true := by exact id)
    (hint : (s.runs n).intentional = true → r.intentional = true := by exact id)
    (hp : r.phase = .building ∨ r.phase = .built →
      (s.runs n).phase = .building ∨ (s.runs n).phase = .built := by exact id) :
    InvStop (s.setRun n r) :=
  { hs with
    guard := fun hsi => (hs.guard hsi).imp_right fun hg m hm => by
      rw [setRun_runs]; split
      · rename_i e; exact (hg m hm).imp (fun h => hf (e ▸ h)) (fun h => hint (e ▸ h))
      · exact hg m hm
    quiet := fun hsi i => by
      rw [setRun_runs]; split
      · rename_i e; exact fun h => e ▸ hs.quiet hsi n (hp h)
      · exact hs.quiet hsi i }

theorem InvStop.ofNoIntent (hs : InvStop s) (hsi : s'.stopIntent = false) (he : s'.eng = s.eng)
    (hfx : s'.fx = s.fx) (hb : s'.badRestarts = s.badRestarts) : InvStop s' :=
  ⟨he ▸ hs.isV2, hfx ▸ hs.fix1, hfx ▸ hs.fix2, hb ▸ hs.noBad, fun h => (by rw [hsi] at h; cases h),
    fun h => (by rw [hsi] at h; cases h)⟩

theorem InvStop.noIntent (hs : InvStop s) {n : Nat} (hn : n < s.next)
    (hp : (s.runs n).phase = .building ∨ (s.runs n).phase = .built) : s.stopIntent = false := by
  cases h : s.stopIntent
  · rfl
  · exact absurd (hs.quiet h n hp) (Nat.not_le_of_lt hn)

theorem InvStop.dropEntry (hs : InvStop s) {e : Option Nat} (he : ∀ m, e = some m → s.entry = some m) :
    InvStop { s with entry := e } :=
  { hs with guard := fun hsi => (hs.guard hsi).imp_right fun hg m hm => hg m (he m hm) }

theorem invStop_notifyStarter (hs : InvStop s) (n : Nat) (ok : Bool) : InvStop (notifyStarter s n ok) := by
  unfold notifyStarter
  split
  · exact hs
  · exact hs.setRun

/-- A stop request accepted for the run `m` that the map resolves: the hypothesis (no Start before
publication, `hq`) is what gives `quiet`. -/
theorem InvStop.mark (hs : InvStop s) {m : Nat} {r : Run} (he : s.entry = some m)
    (hq : startInFlight s = false) (hmark : r.forced = true ∨ r.intentional = true)
    (b : Bool) (hp : r.phase = (s.runs m).phase := by rfl) :
    InvStop { s.setRun m r with stopIntent := b } :=
  { hs with
    guard := fun _ => .inr fun m' hm' => by
      cases he.symm.trans hm'
      show (if m = m then r else _).forced = true ∨ (if m = m then r else _).intentional = true
      rw [if_pos rfl]; exact hmark
    quiet := fun _ i hph => Nat.le_of_not_lt fun hlt => by
      have := startInFlight_false hq i hlt
      revert hph
      show ((if i = m then r else s.runs i).phase = _ ∨ (if i = m then r else s.runs i).phase = _) → False
      split
      · rename_i e; rw [hp, ← e]; exact fun h => h.elim this.1 this.2
      · exact fun h => h.elim this.1 this.2 }

/-- the graceful arm in v2 with the keepIntent fix: `intentional` ends up set either way. -/
theorem InvStop.graceful (hi : Inv s) (hs : InvStop s) {m : Nat} (he : s.entry = some m)
    (hq : startInFlight s = false) (sys b : Bool) :
    InvStop { gracefulState s m sys with stopIntent := b } := by
  simp only [gracefulState, hs.isV2]
  by_cases hreq : (s.runs m).stopReq = true
  · rw [if_pos hreq]
    exact hs.mark he hq (.inr ((if_pos hs.fix2).trans (hi.stopMarked hs.isV2 hs.fix2 m hreq))) b
  · rw [if_neg hreq]
    exact hs.mark he hq (.inr rfl) b

theorem step_invStop {e : Event} (hi : Inv s) (hs : InvStop s) (hal : allowed hypStop s e = true)
    (h : step s e = some s') : InvStop s' := by
  cases Step.of_step h with
  | startRunning => exact hs
  | startUser => exact hs.ofNoIntent rfl rfl rfl rfl
  | buildOk1 n ch hp | buildOk2 n ch hp => exact (hs.setRun (hp := fun _ => .inl hp)).congr rfl
  | buildFail n => exact (invStop_notifyStarter (hs.setRun (hp := by simp)) n false).congr rfl
  | publish n hp => exact hs.ofNoIntent (hs.noIntent (hi.lt_of_phase hp) (.inr hp)) rfl rfl rfl
  | runningOk1 | runningOk2 =>
    apply invStop_notifyStarter
    exact (hs.setRun (hp := by simp)).congr rfl
  | runningFail n e hp he =>
    apply invStop_notifyStarter
    exact ((hs.setRun (hp := by simp)).dropEntry he).congr rfl
  | stop f =>
    unfold stopState
    split
    · exact hs
    · rename_i m he
      have hq : startInFlight s = false := by simpa [allowed, hypStop, Hyps.all, he] using hal
      split
      · exact hs
      · cases f
        · exact InvStop.graceful hi hs he hq false _
        · exact hs.mark he hq (.inl rfl) _
  | stopAllIdle f sd hsd => exact { hs with guard := fun hsi => (hs.guard hsi).imp_left hsd }
  | stopAllForce m sd hsd he =>
    have hs0 : InvStop { s with shutdown := sd } := { hs with guard := fun hsi => (hs.guard hsi).imp_left hsd }
    have hq : startInFlight s = false := by simpa [allowed, hypStop, Hyps.all, he] using hal
    exact hs0.mark he hq (.inl rfl) true
  | stopAllGraceful m sd b hsd he =>
    have hs0 : InvStop { s with shutdown := sd } := { hs with guard := fun hsi => (hs.guard hsi).imp_left hsd }
    have hq : startInFlight s = false := by simpa [allowed, hypStop, Hyps.all, he] using hal
    exact InvStop.graceful (s := { s with shutdown := sd }) (hi.congr rfl) hs0 he hq true b
  | restart n w t _ _ he c2 c3 c4 =>
    -- the wake-up looked at every marker `guard` offers and found none: no stop request is in force
    have hno : s.stopIntent = false := by
      cases hsi : s.stopIntent
      · rfl
      · rcases hs.guard hsi with hsd | hg
        · exact absurd ⟨hs.isV2, hsd⟩ c3
        · rcases hg n he with hf | hint
          · exact absurd ⟨hs.isV2, hs.fix1, hf⟩ c2
          · exact absurd ⟨hs.isV2, hs.fix1, hint⟩ c4
    exact hs.ofNoIntent hno rfl rfl (by simp [hno])
  | deleteEntry n e en _ hen => exact (hs.setRun.dropEntry hen).congr rfl
  | startReturn | tick | attemptDecay | waitBegin | waitReturn => exact hs.congr rfl
  | _ => exact hs.setRun.congr rfl

end general

theorem invStop_init (cfg : Cfg) (fx : Fixes) (h1 : fx.v2RecheckStop = true) (h2 : fx.v2KeepIntent = true) :
    InvStop (init .v2 cfg fx) := by
  constructor <;> simp_all [init]

theorem runFromH_invStop (evs : List Event) {s s' : State} (hi : Inv s) (hs : InvStop s)
    (h : runFromH hypStop s evs = some s') : InvStop s' :=
  (EventSys.run_induct (P := fun s => Inv s ∧ InvStop s)
    (fun _ _ _ h hst => by
      obtain ⟨hal, hst⟩ := Option.ite_none_right_eq_some.mp hst
      exact ⟨step_inv h.1 hst, step_invStop h.1 h.2 hal hst⟩) evs ⟨hi, hs⟩ (runFromH_eq .. ▸ h)).2

end Conduit.Lifecycle
