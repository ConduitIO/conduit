import ConduitModel.Proofs.MonSRows
import ConduitModel.Proofs.PassSVote
import ConduitModel.Proofs.BatchProc

/-!
# The rows of a batch; `SplitRecord` on the rows

`splitRecord_rows` says once what `SplitRecord` does: the row at active index `i` is replaced by its pieces, in the
row's own run (its `total` raised) or in a run allocated for it. The ledger accounting (Proofs/PassSTask.lean)
reads it through the pieces `(run, pos)` of the rows (`view_eq_rows`, `SplitRows.view`,
`splitRecord_effect`, `SplitEff.frame`), the monitor proof through the rows themselves (`split_SI`,
Proofs/MonSProcEffect.lean).
-/
namespace Conduit.Funnel

theorem rows_drop (c : Batch) {x : Nat} (hx : x < c.recs.length) :
    c.rows.drop x = c.rowAt x :: c.rows.drop (x+1) := by
  have hx' : x < c.rows.length := by rw [rows_length]; exact hx
  rw [List.drop_eq_getElem_cons hx']
  congr 1
  have := getElem?_rows c x
  rw [List.getElem?_eq_getElem hx'] at this
  simp only [hx, if_true, Option.some.injEq] at this
  exact this

def HStep (h1 h2 : Heap) : Prop :=
  h1.size ≤ h2.size ∧
    ∀ rid : Nat, rid < h1.size → ∃ t : Nat, (h1[rid]!).total ≤ t ∧ h2[rid]! = { (h1[rid]!) with total := t }

theorem HStep.refl (h : Heap) : HStep h h := ⟨Nat.le_refl _, fun _ _ => ⟨_, Nat.le_refl _, rfl⟩⟩

theorem HStep.trans {h1 h2 h3 : Heap} (a : HStep h1 h2) (b : HStep h2 h3) : HStep h1 h3 := by
  refine ⟨Nat.le_trans a.1 b.1, fun rid hr => ?_⟩
  obtain ⟨t1, l1, e1⟩ := a.2 rid hr
  obtain ⟨t2, l2, e2⟩ := b.2 rid (Nat.lt_of_lt_of_le hr a.1)
  rw [e1] at e2 l2
  exact ⟨t2, Nat.le_trans l1 l2, e2⟩

theorem getElem?_pieceRows (row : Row) (rid : Nat) (ms : List Rec) (sts : List Status) (j : Nat) :
    (pieceRows row rid ms sts)[j]? = if j < ms.length then
      some { r := ms[j]?.getD default, st := sts[j]?.getD default, pos := if j = 0 then row.pos else none, run := some rid }
      else none := by
  unfold pieceRows
  rw [List.getElem?_map]
  by_cases hj : j < ms.length
  · simp [hj]
  · simp [hj]

theorem length_pieceRows (row : Row) (rid : Nat) (ms : List Rec) (sts : List Status) :
    (pieceRows row rid ms sts).length = ms.length := by simp [pieceRows]

def rowsOf (recs : List Rec) (st : List Status) (pos : List PosV) (runs : List (Option Nat)) : List Row :=
  List.zipWith (fun x y => { r := x.1, st := x.2, pos := y.1, run := y.2 }) (recs.zip st) (pos.zip runs)

theorem rowsOf_append {r1 r2 : List Rec} {s1 s2 : List Status} {p1 p2 : List PosV} {u1 u2 : List (Option Nat)}
    (hs : s1.length = r1.length) (hp : p1.length = r1.length) (hu : u1.length = r1.length) :
    rowsOf (r1 ++ r2) (s1 ++ s2) (p1 ++ p2) (u1 ++ u2) = rowsOf r1 s1 p1 u1 ++ rowsOf r2 s2 p2 u2 := by
  unfold rowsOf
  rw [List.zip_append hs.symm, List.zip_append (hp.trans hu.symm), List.zipWith_append]
  rw [List.length_zip, List.length_zip, hs, hp, hu]

theorem rowsOf_drop (k : Nat) (r : List Rec) (s : List Status) (p : List PosV) (u : List (Option Nat)) :
    (rowsOf r s p u).drop k = rowsOf (r.drop k) (s.drop k) (p.drop k) (u.drop k) := by
  simp only [rowsOf, List.zip_eq_zipWith, List.drop_zipWith]

theorem rowsOf_take (k : Nat) (r : List Rec) (s : List Status) (p : List PosV) (u : List (Option Nat)) :
    (rowsOf r s p u).take k = rowsOf (r.take k) (s.take k) (p.take k) (u.take k) := by
  simp only [rowsOf, List.zip_eq_zipWith, List.take_zipWith]

theorem getElem?_rowsOf {r : List Rec} {s : List Status} {p : List PosV} {u : List (Option Nat)} {k : Nat}
    (hr : k < r.length) (hs : k < s.length) (hp : k < p.length) (hu : k < u.length) :
    (rowsOf r s p u)[k]? = some { r := r[k], st := s[k], pos := p[k], run := u[k] } := by
  unfold rowsOf
  have h1 : (r.zip s)[k]? = some (r[k], s[k]) :=
    List.getElem?_zip_eq_some.mpr ⟨List.getElem?_eq_getElem hr, List.getElem?_eq_getElem hs⟩
  have h2 : (p.zip u)[k]? = some (p[k], u[k]) :=
    List.getElem?_zip_eq_some.mpr ⟨List.getElem?_eq_getElem hp, List.getElem?_eq_getElem hu⟩
  rw [List.getElem?_zipWith, h1, h2]

theorem length_rowsOf {r : List Rec} {s : List Status} {p : List PosV} {u : List (Option Nat)}
    (hs : s.length = r.length) (hp : p.length = r.length) (hu : u.length = r.length) : (rowsOf r s p u).length = r.length := by
  unfold rowsOf
  rw [List.length_zipWith, List.length_zip, List.length_zip, hs, hp, hu, Nat.min_self, Nat.min_self]

theorem rows_eq_rowsOf {b : Batch} {rs : List (Option Nat)} (hruns : b.runs = some rs) (hs : b.st.length = b.recs.length)
    (hp : b.pos.length = b.recs.length) (hu : rs.length = b.recs.length) : b.rows = rowsOf b.recs b.st b.pos rs := by
  apply List.ext_getElem?
  intro k
  rw [getElem?_rows]
  by_cases hk : k < b.recs.length
  · rw [if_pos hk, getElem?_rowsOf hk (hs.symm ▸ hk) (hp.symm ▸ hk) (hu.symm ▸ hk)]
    simp only [Batch.rowAt, Batch.runAt, hruns, List.getElem?_eq_getElem hk, List.getElem?_eq_getElem (hs.symm ▸ hk),
      List.getElem?_eq_getElem (hp.symm ▸ hk), List.getElem?_eq_getElem (hu.symm ▸ hk), Option.getD_some, Option.join_some]
  · rw [if_neg hk, List.getElem?_eq_none_iff.mpr (by rw [length_rowsOf hs hp hu]; exact Nat.le_of_not_lt hk)]

theorem rowsOf_pieces (row : Row) (rid : Nat) {ms : List Rec} {sts : List Status} (hl : sts.length = ms.length)
    (hm : 1 ≤ ms.length) :
    rowsOf ms sts (row.pos :: List.replicate (ms.length - 1) none) (List.replicate ms.length (some rid)) =
      pieceRows row rid ms sts := by
  apply List.ext_getElem?
  intro j
  rw [getElem?_pieceRows]
  have hpl : (row.pos :: List.replicate (ms.length - 1) (none : PosV)).length = ms.length := by
    rw [List.length_cons, List.length_replicate, Nat.sub_add_cancel hm]
  by_cases hj : j < ms.length
  · rw [if_pos hj, getElem?_rowsOf hj (hl.symm ▸ hj) (hpl.symm ▸ hj) (by rw [List.length_replicate]; exact hj)]
    congr 2
    · rw [List.getElem?_eq_getElem hj]; rfl
    · rw [List.getElem?_eq_getElem (hl ▸ hj)]; rfl
    · cases j with
      | zero => rfl
      | succ j => rw [List.getElem_cons_succ, List.getElem_replicate]; rfl
    · rw [List.getElem_replicate]
  · rw [if_neg hj, List.getElem?_eq_none_iff.mpr]
    rw [length_rowsOf hl hpl (List.length_replicate ..)]; exact Nat.le_of_not_lt hj

theorem take_succ_cons {α} {l : List α} {q : Nat} (hq : q < l.length) (xs ys : List α) :
    l.take (q + 1) ++ xs ++ ys = l.take q ++ ((l[q] :: xs) ++ ys) := by
  rw [← List.take_append_getElem hq, List.append_assoc, List.append_assoc, List.singleton_append, List.cons_append]

theorem rowsOf_split {recs : List Rec} {st : List Status} {pos : List PosV} {rs rs' : List (Option Nat)} {q rid : Nat}
    (hq : q < recs.length) (hs : st.length = recs.length) (hp : pos.length = recs.length)
    (hu : rs'.length = recs.length) (ht : rs'.take q = rs.take q) (hd : rs'.drop (q + 1) = rs.drop (q + 1))
    (hrid : rs'[q]? = some (some rid)) {m : List Rec} (hm : 1 ≤ m.length) (row : Row)
    (hrow : row.pos = (pos[q]?).getD none) :
    rowsOf (recs.take q ++ m ++ recs.drop (q + 1))
      (st.take (q + 1) ++ List.replicate (m.length - 1) ({} : Status) ++ st.drop (q + 1))
      (pos.take (q + 1) ++ List.replicate (m.length - 1) none ++ pos.drop (q + 1))
      (rs'.take (q + 1) ++ List.replicate (m.length - 1) (some rid) ++ rs'.drop (q + 1)) =
    (rowsOf recs st pos rs).take q ++ pieceRows row rid m (st[q]?.getD default :: List.replicate (m.length - 1) ({} : Status)) ++
      (rowsOf recs st pos rs).drop (q + 1) := by
  have hqs : q < st.length := hs.symm ▸ hq
  have hqp : q < pos.length := hp.symm ▸ hq
  have hqu : q < rs'.length := hu.symm ▸ hq
  have hn : m.length - 1 + 1 = m.length := Nat.sub_add_cancel hm
  have hr : rs'[q] = some rid := by rw [List.getElem?_eq_getElem hqu] at hrid; exact Option.some.inj hrid
  have hpieces : (rs'[q] :: List.replicate (m.length - 1) (some rid)) = List.replicate m.length (some rid) := by
    rw [hr, ← List.replicate_succ, hn]
  rw [take_succ_cons hqs, take_succ_cons hqp, take_succ_cons hqu, List.append_assoc,
    rowsOf_append (by rw [List.length_take_of_le (Nat.le_of_lt hqs), List.length_take_of_le (Nat.le_of_lt hq)])
      (by rw [List.length_take_of_le (Nat.le_of_lt hqp), List.length_take_of_le (Nat.le_of_lt hq)])
      (by rw [List.length_take_of_le (Nat.le_of_lt hqu), List.length_take_of_le (Nat.le_of_lt hq)]),
    rowsOf_append (by rw [List.length_cons, List.length_replicate, hn]) (by rw [List.length_cons, List.length_replicate, hn])
      (by rw [List.length_cons, List.length_replicate, hn]),
    hpieces, ht, hd, ← rowsOf_take, ← rowsOf_drop, List.append_assoc]
  have e1 : st[q]?.getD default = st[q] := by rw [List.getElem?_eq_getElem hqs]; rfl
  have e2 : row.pos = pos[q] := by rw [hrow, List.getElem?_eq_getElem hqp]; rfl
  rw [e1, ← e2, rowsOf_pieces row rid (by rw [List.length_cons, List.length_replicate, hn]) hm]

/-- the rows after `SplitRecord` at physical index `q` of `c`; the tail of `SplitRecord` ran on `d`, which is
`c` with the run of the pieces at `q` -/
theorem splitTail_rows (hh : Heap) {c d : Batch} {q rid : Nat} (m : List Rec) {rs rs' : List (Option Nat)}
    (hruns : c.runs = some rs) (hruns' : d.runs = some rs') (hr : d.recs = c.recs) (hst : d.st = c.st) (hpos : d.pos = c.pos)
    (h1 : q < c.recs.length) (h2 : c.st.length = c.recs.length) (h3 : c.pos.length = c.recs.length)
    (h4 : rs.length = c.recs.length) (h4' : rs'.length = c.recs.length) (ht : rs'.take q = rs.take q)
    (hd : rs'.drop (q + 1) = rs.drop (q + 1)) (hrid : rs'[q]? = some (some rid)) (hm : 1 ≤ m.length) :
    (splitTail hh d q rid m).2.rows =
      c.rows.take q ++ pieceRows (c.rowAt q) rid m ((c.rowAt q).st :: List.replicate (m.length - 1) {}) ++
        c.rows.drop (q + 1) := by
  have hl : (c.recs.take q ++ m ++ c.recs.drop (q + 1)).length = c.recs.length + (m.length - 1) := length_replace h1 hm
  have e : (splitTail hh d q rid m).2.rows = rowsOf (c.recs.take q ++ m ++ c.recs.drop (q + 1))
      (c.st.take (q + 1) ++ List.replicate (m.length - 1) ({} : Status) ++ c.st.drop (q + 1))
      (c.pos.take (q + 1) ++ List.replicate (m.length - 1) none ++ c.pos.drop (q + 1))
      (rs'.take (q + 1) ++ List.replicate (m.length - 1) (some rid) ++ rs'.drop (q + 1)) := by
    rw [← hr, ← hst, ← hpos]
    refine rows_eq_rowsOf (b := (splitTail hh d q rid m).2)
      (rs := rs'.take (q + 1) ++ List.replicate (m.length - 1) (some rid) ++ rs'.drop (q + 1))
      (by simp only [splitTail, hruns', Option.getD_some]) ?_ ?_ ?_
    · show (d.st.take (q + 1) ++ _ ++ d.st.drop (q + 1)).length = (d.recs.take q ++ m ++ d.recs.drop (q + 1)).length
      rw [hr, hst, hl, length_ins, List.length_replicate, h2]
    · show (d.pos.take (q + 1) ++ _ ++ d.pos.drop (q + 1)).length = (d.recs.take q ++ m ++ d.recs.drop (q + 1)).length
      rw [hr, hpos, hl, length_ins, List.length_replicate, h3]
    · show _ = (d.recs.take q ++ m ++ d.recs.drop (q + 1)).length
      rw [hr, hl, length_ins, List.length_replicate, h4']
  rw [e, rows_eq_rowsOf hruns h2 h3 h4]
  exact rowsOf_split h1 h2 h3 h4' ht hd hrid hm (c.rowAt q) rfl

theorem splitTail_heap (h : Heap) (b : Batch) (p : Nat) (recs : List Rec) {rid : Nat} (hrid : rid < h.size)
    (hrec : 1 ≤ recs.length) :
    (splitTail h b p rid recs).1.size = h.size ∧
    (splitTail h b p rid recs).1[rid]! = { (h[rid]!) with total := (h[rid]!).total + (recs.length - 1) } ∧
    ∀ r : Nat, r ≠ rid → (splitTail h b p rid recs).1[r]! = h[r]! := by
  refine ⟨heap_set!_size _ _ _, ?_, fun r hne => heap_set!_other _ _ _ _ (Ne.symm hne)⟩
  show (h.set! rid _)[rid]! = _
  rw [heap_set!_get _ _ _ hrid, Nat.add_sub_assoc hrec]

def Row.piece (r : Row) : Piece := (r.run, r.pos)

theorem view_eq_rows {h : Heap} {b : Batch} {rs : List (Option Nat)} (hwf : b.WF h) (hruns : b.runs = some rs) :
    b.view = b.rows.map Row.piece := by
  have hro := hwf.1.runs_ok
  rw [hruns] at hro
  apply List.ext_getElem?
  intro k
  rw [List.getElem?_map, getElem?_rows]
  unfold Batch.view
  rw [hruns]
  by_cases hk : k < b.recs.length
  · have h1 : k < rs.length := by rw [hro.1]; exact hk
    have h2 : k < b.pos.length := by rw [hwf.1.pos_len]; exact hk
    rw [if_pos hk]
    simp only [Option.getD_some, Option.map_some, Row.piece, Batch.rowAt, Batch.runAt, hruns,
      List.getElem?_eq_getElem h1, List.getElem?_eq_getElem h2, Option.join_some]
    exact List.getElem?_zip_eq_some.mpr ⟨List.getElem?_eq_getElem h1, List.getElem?_eq_getElem h2⟩
  · rw [if_neg hk]
    simp only [Option.getD_some, Option.map_none]
    rw [List.getElem?_eq_none_iff, List.length_zip, hro.1]
    omega

theorem pieceRows_piece (row : Row) (rid : Nat) {ms : List Rec} (sts : List Status) (hm : 1 ≤ ms.length) :
    (pieceRows row rid ms sts).map Row.piece = (some rid, row.pos) :: List.replicate (ms.length - 1) (some rid, none) := by
  apply List.ext_getElem?
  intro j
  rw [List.getElem?_map, getElem?_pieceRows]
  by_cases hj : j < ms.length
  · rw [if_pos hj]
    cases j with
    | zero => rfl
    | succ j =>
      rw [List.getElem?_cons_succ, List.getElem?_replicate, if_pos (show j < ms.length - 1 by omega)]
      rfl
  · rw [if_neg hj, Option.map_none, eq_comm, List.getElem?_eq_none_iff, List.length_cons, List.length_replicate]
    omega

/-- What `SplitRecord` of active index `i` into the records `m` does: `q` = the physical index, `rid` = the run of
the pieces. -/
structure SplitRows (h : Heap) (b : Batch) (i : Nat) (m : List Rec) (h' : Heap) (b' : Batch) (q rid : Nat) : Prop where
  act : (actList b.st)[i]? = some q
  post : SplitPost h b i q m h' b'
  runs : ∃ rs', b'.runs = some rs'
  rows : b'.rows = b.rows.take q ++ pieceRows (b.rowAt q) rid m ((b.rowAt q).st :: List.replicate (m.length - 1) {}) ++
    b.rows.drop (q + 1)
  other : ∀ r : Nat, r ≠ rid → h'[r]! = h[r]!
  /-- the row's own run, or a new one that remembers position and record (the record the split map has for
  the position, if any; the split map gets the row's record otherwise) -/
  run : ((b.rowAt q).run = some rid ∧ rid < h.size ∧ h'.size = h.size ∧
      h'[rid]! = { (h[rid]!) with total := (h[rid]!).total + (m.length - 1) } ∧ b'.split = b.split) ∨
    ((b.rowAt q).run = none ∧ (b.rowAt q).pos ≠ none ∧ rid = h.size ∧ h'.size = h.size + 1 ∧
      h'[rid]! = { newRun b q with total := m.length } ∧
      b'.split = if (lookup b.split (keyOf (b.rowAt q).pos)).isNone then
        b.split ++ [(keyOf (b.rowAt q).pos, (b.rowAt q).r)] else b.split)

theorem splitRecord_rows {h h' : Heap} {b b' : Batch} {i : Nat} {m : List Rec} {rs : List (Option Nat)}
    (hwf : b.WF h) (hruns : b.runs = some rs) (hm : 1 ≤ m.length) (hr : b.splitRecord h i m = .ok (h', b')) :
    ∃ q rid : Nat, SplitRows h b i m h' b' q rid := by
  obtain ⟨hk, hs, hpost⟩ := splitRecord_of_ok hwf hm hr
  have hq : (actList b.st)[i]? = some ((actList b.st)[i]'hk) := List.getElem?_eq_getElem hk
  have h2 : (actList b.st)[i] < b.st.length := actList_lt hk
  generalize (actList b.st)[i]'hk = q at hs hq h2 hpost
  have h1 : q < b.recs.length := by rw [← hwf.1.st_len]; exact h2
  have h3 : q < b.pos.length := by rw [hwf.1.pos_len]; exact h1
  have hro := hwf.1.runs_ok
  rw [hruns] at hro
  have hp : q < rs.length := by rw [hro.1]; exact h1
  have hcrun : (b.rowAt q).run = (rs[q]?).join := by simp only [Batch.rowAt, Batch.runAt, hruns]
  rcases splitRecord_cases hwf hq m hs with ⟨rs0, rid, hruns0, hrs, hridlt, e⟩ | ⟨hnone, hpos, e⟩
  · cases hruns.symm.trans hruns0
    obtain ⟨rfl, rfl⟩ : h' = (splitTail h b q rid m).1 ∧ b' = (splitTail h b q rid m).2 := by
      cases e.symm.trans hr; exact ⟨rfl, rfl⟩
    obtain ⟨t1, t2, t3⟩ := splitTail_heap h b q m hridlt hm
    exact ⟨q, rid, hq, hpost, ⟨_, rfl⟩,
      splitTail_rows h m hruns hruns rfl rfl rfl h1 hwf.1.st_len hwf.1.pos_len hro.1 hro.1 rfl rfl hrs hm, t3,
      Or.inl ⟨by rw [hcrun, hrs]; rfl, hridlt, t1, t2, rfl⟩⟩
  · have hrs : rs[q]? = some none := (hnone rs hruns).2
    obtain ⟨rfl, rfl⟩ : h' = (splitTail (h.push (newRun b q)) (withNewRun b q h.size) q h.size m).1 ∧
        b' = (splitTail (h.push (newRun b q)) (withNewRun b q h.size) q h.size m).2 := by
      cases e.symm.trans hr; exact ⟨rfl, rfl⟩
    have hwr : (withNewRun b q h.size).runs = some (rs.set q (some h.size)) := by
      unfold withNewRun; simp [hruns]
    obtain ⟨t1, t2, t3⟩ := splitTail_heap (h.push (newRun b q)) (withNewRun b q h.size) q m (rid := h.size) (by simp) hm
    rw [push_get_size] at t2
    refine ⟨q, h.size, hq, hpost, ⟨_, rfl⟩,
      splitTail_rows (h.push (newRun b q)) m hruns hwr rfl rfl rfl h1 hwf.1.st_len hwf.1.pos_len hro.1
        (by rw [List.length_set]; exact hro.1) (List.take_set_of_le (Nat.le_refl q))
        (List.drop_set_of_lt (Nat.lt_succ_self q)) (by rw [List.getElem?_set_self hp]) hm, ?_,
      Or.inr ⟨by rw [hcrun, hrs]; rfl, ?_, rfl, by rw [t1]; simp, ?_, rfl⟩⟩
    · -- beyond both sizes `[r]!` is the default entry
      intro r hne
      rw [t3 r hne]
      by_cases hlt : r < h.size
      · exact push_get_lt h _ hlt
      · rw [getElem!_neg _ r (by simp; omega), getElem!_neg h r (by omega)]
    · intro hn
      apply hpos
      have : b.pos[q]? = some b.pos[q] := List.getElem?_eq_getElem h3
      rw [this]
      simp only [Batch.rowAt, this, Option.getD_some] at hn
      rw [hn]
    · rw [t2]
      show ({ newRun b q with total := 1 + (m.length - 1) } : SplitRun) = _
      rw [Nat.add_sub_cancel' hm]

namespace SplitRows
variable {h h' : Heap} {b b' : Batch} {i : Nat} {m : List Rec} {q rid : Nat}

theorem hstep (S : SplitRows h b i m h' b' q rid) : HStep h h' := by
  refine ⟨S.post.size, fun r hr => ?_⟩
  by_cases hre : r = rid
  · subst hre
    rcases S.run with ⟨_, _, _, e, _⟩ | ⟨_, _, e, _⟩
    · exact ⟨_, Nat.le_add_right _ _, e⟩
    · omega
  · exact ⟨_, Nat.le_refl _, S.other r hre⟩

theorem split_sub (S : SplitRows h b i m h' b' q rid) : ∀ e ∈ b.split, e ∈ b'.split := by
  intro e he
  rcases S.run with ⟨_, _, _, _, e1⟩ | ⟨_, _, _, _, _, e1⟩ <;> rw [e1]
  · exact he
  · split
    · exact List.mem_append_left _ he
    · exact he

theorem split_new (S : SplitRows h b i m h' b' q rid) : ∀ e ∈ b'.split, e ∈ b.split ∨
    ((b.rowAt q).run = none ∧ e = (keyOf (b.rowAt q).pos, (b.rowAt q).r)) := by
  intro e he
  rcases S.run with ⟨_, _, _, _, e1⟩ | ⟨hn, _, _, _, _, e1⟩ <;> rw [e1] at he
  · exact Or.inl he
  · split at he
    · rcases List.mem_append.mp he with he | he
      · exact Or.inl he
      · exact Or.inr ⟨hn, List.mem_singleton.mp he⟩
    · exact Or.inl he

theorem view (S : SplitRows h b i m h' b' q rid) {rs : List (Option Nat)} (hwf : b.WF h) (hruns : b.runs = some rs)
    (hm : 1 ≤ m.length) :
    b.view = (b.rows.take q).map Row.piece ++ ((b.rowAt q).run, (b.rowAt q).pos) :: (b.rows.drop (q + 1)).map Row.piece ∧
    b'.view = (b.rows.take q).map Row.piece ++ (some rid, (b.rowAt q).pos) ::
      (List.replicate (m.length - 1) ((some rid, none) : Piece) ++ (b.rows.drop (q + 1)).map Row.piece) := by
  obtain ⟨rs', hruns'⟩ := S.runs
  have hq : q < b.recs.length := by
    rw [← hwf.1.st_len]; exact (mem_actList.mp (List.mem_of_getElem? S.act)).1
  constructor
  · rw [view_eq_rows hwf hruns]
    conv => lhs; rw [← List.take_append_drop q b.rows, rows_drop b hq]
    rw [List.map_append, List.map_cons]
    rfl
  · rw [view_eq_rows S.post.wf hruns', S.rows, List.map_append, List.map_append, pieceRows_piece _ _ _ hm, List.append_assoc]
    rfl

end SplitRows

theorem cnt_replicate_same (rid k : Nat) : cnt rid (List.replicate k ((some rid, none) : Piece)) = k := by
  rw [cnt_group rid _ (fun x hx => by rw [(List.mem_replicate.mp hx).2])]; simp
theorem cnt_replicate_other (r rid k : Nat) (hne : r ≠ rid) :
    cnt r (List.replicate k ((some rid, none) : Piece)) = 0 :=
  cnt_group_other rid r hne _ (fun x hx => by rw [(List.mem_replicate.mp hx).2])

/-- `SplitRows` read on the pieces: the piece `(ro, q)` between `A` and `B` became `n` pieces of run `rid` -/
structure SplitAt (h : Heap) (b : Batch) (n : Nat) (h' : Heap) (b' : Batch) (A B : List Piece) (ro : Option Nat)
    (q : PosV) (rid : Nat) : Prop where
  view : b.view = A ++ (ro, q) :: B
  view' : b'.view = A ++ (some rid, q) :: (List.replicate (n - 1) (some rid, none) ++ B)
  other : ∀ r : Nat, r ≠ rid → h'[r]! = h[r]!
  run : (ro = some rid ∧ rid < h.size ∧ h'.size = h.size ∧
        h'[rid]! = { (h[rid]!) with total := (h[rid]!).total + (n - 1) }) ∨
     (ro = none ∧ q ≠ none ∧ rid = h.size ∧ h'.size = h.size + 1 ∧
        ((h'[rid]!).released = false ∧ (h'[rid]!).terminal = 0 ∧ (h'[rid]!).total = (n - 1) + 1 ∧
          (h'[rid]!).nacked = false) ∧ (h'[rid]!).origPos = q)
  split : b'.split = b.split ∨ (ro = none ∧ ∃ r, b'.split = b.split ++ [(keyOf q, r)])

structure SplitEff (h : Heap) (b : Batch) (n : Nat) (h' : Heap) (b' : Batch) : Prop where
  wf : b'.WF h'
  runs : ∃ rs', b'.runs = some rs'
  ne : NE b.st → NE b'.st
  eff : ∃ (A B : List Piece) (ro : Option Nat) (q : PosV) (rid : Nat), SplitAt h b n h' b' A B ro q rid

theorem SplitEff.frame {h h' : Heap} {b b' : Batch} {n : Nat} (E : SplitEff h b n h' b') :
    h.size ≤ h'.size ∧
    (∀ r : Nat, r < h.size → cnt r b.view = 0 → h'[r]! = h[r]! ∧ cnt r b'.view = 0) ∧
    (∀ r : Nat, r < h.size → (h'[r]!).origPos = (h[r]!).origPos ∧ (h'[r]!).terminal = (h[r]!).terminal) ∧
    ∀ r : Nat, cnt r b.view ≤ cnt r b'.view := by
  obtain ⟨A, B, ro, q, rid, P⟩ := E.eff
  have hro : ro = some rid ∨ (ro = none ∧ h.size ≤ rid) := by
    rcases P.run with ⟨h1, _⟩ | ⟨h1, _, h2, _⟩
    · exact Or.inl h1
    · exact Or.inr ⟨h1, by omega⟩
  have hcnt : ∀ r : Nat, r ≠ rid → cnt r b'.view = cnt r b.view := by
    intro r hne
    have hne' : ¬ rid = r := fun h => hne h.symm
    rw [P.view, P.view']
    rcases hro with h1 | ⟨h1, _⟩ <;> rw [h1] <;>
      simp only [cnt_append, cnt_cons_some, cnt_cons_none, cnt_replicate_other r rid _ hne, hne', if_false] <;> omega
  have hstray : ∀ r : Nat, r < h.size → cnt r b.view = 0 → r ≠ rid := by
    intro r hlt hc he
    rcases hro with h1 | ⟨_, h1⟩
    · rw [P.view, h1, he, cnt_append, cnt_cons_some, if_pos rfl] at hc; omega
    · omega
  refine ⟨?_, fun r hlt hc => ⟨P.other r (hstray r hlt hc), by rw [hcnt r (hstray r hlt hc)]; exact hc⟩, fun r hlt => ?_,
    fun r => ?_⟩
  · rcases P.run with ⟨_, _, h1, _⟩ | ⟨_, _, _, h1, _⟩ <;> omega
  · by_cases hne : r = rid
    · rcases P.run with ⟨_, _, _, h4⟩ | ⟨_, _, h3, _⟩
      · rw [hne, h4]; exact ⟨rfl, rfl⟩
      · omega
    · rw [P.other r hne]; exact ⟨rfl, rfl⟩
  · rw [P.view, P.view']
    rcases hro with h1 | ⟨h1, _⟩ <;> rw [h1] <;> simp only [cnt_append, cnt_cons_some, cnt_cons_none] <;> omega

theorem splitRecord_effect {h h' : Heap} {b b' : Batch} {i : Nat} {recs : List Rec} {rs : List (Option Nat)}
    (hwf : b.WF h) (hruns : b.runs = some rs) (hrec : 1 ≤ recs.length)
    (hr : b.splitRecord h i recs = .ok (h', b')) : SplitEff h b recs.length h' b' := by
  obtain ⟨q, rid, S⟩ := splitRecord_rows hwf hruns hrec hr
  obtain ⟨hv, hv'⟩ := S.view hwf hruns hrec
  refine ⟨S.post.wf, S.runs, fun hne => ?_, _, _, _, _, rid, hv, hv', S.other, ?_, ?_⟩
  · rw [S.post.st_eq]
    intro x hx
    rcases mem_ins.mp hx with hx | hx
    · exact hne x hx
    · rw [(List.mem_replicate.mp hx).2]; intro hf; cases hf
  · rcases S.run with ⟨e1, e2, e3, e4, _⟩ | ⟨e1, e2, e3, e4, e5, _⟩
    · exact Or.inl ⟨e1, e2, e3, e4⟩
    · refine Or.inr ⟨e1, e2, e3, e4, ?_, by rw [e5]; rfl⟩
      rw [e5]
      exact ⟨rfl, rfl, (Nat.sub_add_cancel hrec).symm, rfl⟩
  · rcases S.run with ⟨_, _, _, _, e⟩ | ⟨e1, _, _, _, _, e⟩
    · exact Or.inl e
    · rw [e]
      split
      · exact Or.inr ⟨e1, _, rfl⟩
      · exact Or.inl rfl

end Conduit.Funnel
