import ConduitModel.Proofs.BatchCall

/-!
`ProcessorTask.Do` (pure core `procDoP`). After its checks it is the replay of a list of mutator
calls (`BCall`) that is a function of the padded reply alone (`markCalls`, `groupCalls`,
`procDoP_eq_calls`): one call per group of results of one kind, one per result in a group of
`MultiRecord`s, last group first (`Windows`, `procCalls_windows`). Every fact about the marking is a
fact about one call, read off what the call does (`call_eff`, Proofs/BatchCall.lean: `call_WF`, and `call_fr`,
`call_taintC`, `call_rel`, `SI.call` where they are used) and folded over the list. Here: for a well-formed batch
and ANY reply list every call is on active indices in range (`PInv`, `PInv.call`, `call_ok`), so the result is `.ok`
with a well-formed batch or a returned error — never a panic (`calls_total`, `procDoP_total`).
-/
namespace Conduit.Funnel

def needSplit (out : List PR) (k : Nat) : Prop := ∃ m : List Rec, out[k]? = some (.multi m) ∧ 1 < m.length

theorem length_filterMap_le' {α β} (f : α → Option β) (l : List α) : (l.filterMap f).length ≤ l.length :=
  List.length_filterMap_le f l

def multiCall (i : Nat) (m : List Rec) : BCall :=
  match m.length with
  | 0 => .filter1 i
  | 1 => .setRecords i m
  | _ => .split i m

def multiCalls (from_ : Nat) (records : List PR) : List BCall :=
  (List.range records.length).reverse.filterMap fun i =>
    match records[i]? with
    | some (PR.multi m) => some (multiCall (from_ + i) m)
    | _ => none

/-- the calls of `markBatchRecords` for the group `records` at active index `from_` -/
def markCalls (from_ : Nat) (records : List PR) : List BCall :=
  match records with
  | [] => []
  | .single _ :: _ => [.setRecords from_ (records.filterMap fun | .single r => some r | _ => none)]
  | .filter :: _ => [.filterRange from_ (from_ + records.length)]
  | .error _ :: _ => [.nack from_ (records.filterMap fun | .error e => some (some (e.getD plainErr)) | _ => none)]
  | .multi _ :: _ => multiCalls from_ records
  | .nil :: _ => [.retry from_ (from_ + records.length)]

theorem foldlM_one {α β} (f : β → α → R β) (b : β) (a : α) : [a].foldlM f b = f b a := by
  rw [List.foldlM_cons]; exact bind_pure _

theorem procMarkP_eq_calls (hb : Heap × Batch) (from_ : Nat) (records : List PR) :
    procMarkP hb from_ records = (markCalls from_ records).foldlM BCall.run hb := by
  unfold procMarkP markCalls
  rcases records with _ | ⟨_ | _ | _ | _ | _, tl⟩ <;> dsimp only
  · rfl
  · rw [foldlM_one]; rfl
  · rw [foldlM_one]; rfl
  · rw [foldlM_one]; rfl
  · rw [multiCalls, ← foldlM_filterMap]
    congr 1; funext hb i
    unfold procMultiStep
    generalize (PR.multi _ :: tl)[i]? = o
    rcases o with _ | (_ | _ | _ | m | _) <;> try rfl
    unfold multiCall
    dsimp only
    generalize m.length = n
    rcases n with _ | _ | _ <;> rfl
  · rw [foldlM_one]; rfl

def boundary (out : List PR) (i : Nat) : Bool :=
  i == 0 || !(sameType (out[i-1]?.getD .nil) (out[i]?.getD .nil))

/-- the calls of the end→start group loop for the results below `n`, the open group ending at `to` -/
def groupCalls (out : List PR) : Nat → Nat → List BCall
  | 0, _ => []
  | n+1, to =>
    if boundary out n then markCalls n ((out.take to).drop n) ++ groupCalls out n n else groupCalls out n to

theorem groupLoop_eq_calls (out : List PR) : ∀ (n : Nat) (s : Heap × Batch) (to : Nat),
    (do let r ← (List.range n).reverse.foldlM (procGroupStep out) (s, to); pure r.1) =
      (groupCalls out n to).foldlM BCall.run s := by
  intro n
  induction n with
  | zero => intro s to; rfl
  | succ n ih =>
    intro s to
    rw [List.range_succ, List.reverse_append, List.reverse_cons, List.reverse_nil, List.nil_append,
      List.singleton_append, List.foldlM_cons, groupCalls, bind_assoc]
    unfold procGroupStep
    by_cases hb : boundary out n = true
    · rw [if_pos hb, List.foldlM_append, ← procMarkP_eq_calls]
      have hb' : (n == 0 || !(sameType (out[n-1]?.getD .nil) (out[n]?.getD .nil))) = true := hb
      simp only [hb', if_true, bind_assoc, pure_bind]
      congr 1; funext hb1
      exact ih hb1 n
    · rw [if_neg hb]
      have hb' : ¬ (n == 0 || !(sameType (out[n-1]?.getD .nil) (out[n]?.getD .nil))) = true := hb
      simp only [hb']
      exact ih s to

/-- the shape of the call list of a padded reply: `pad = pre ++ w`, the first call handles the group
`w` (a run of results of one kind, or one `MultiRecord` result) at active index `pre.length`, the
remaining calls handle `pre` -/
inductive Windows : List PR → List BCall → Prop
  | nil : Windows [] []
  | single {pre cs} (rs : List Rec) : rs ≠ [] → Windows pre cs →
      Windows (pre ++ rs.map .single) (.setRecords pre.length rs :: cs)
  | filter {pre cs} (n : Nat) : 0 < n → Windows pre cs →
      Windows (pre ++ List.replicate n .filter) (.filterRange pre.length (pre.length + n) :: cs)
  | error {pre cs} (es : List (Option Err)) : es ≠ [] → Windows pre cs →
      Windows (pre ++ es.map .error) (.nack pre.length (es.map fun e => some (e.getD plainErr)) :: cs)
  | retry {pre cs} (n : Nat) : 0 < n → Windows pre cs →
      Windows (pre ++ List.replicate n .nil) (.retry pre.length (pre.length + n) :: cs)
  | multi {pre cs} (m : List Rec) : Windows pre cs → Windows (pre ++ [.multi m]) (multiCall pre.length m :: cs)

theorem filterMap_congr_mem {α β} {f g : α → Option β} {l : List α} (h : ∀ x ∈ l, f x = g x) :
    l.filterMap f = l.filterMap g := by
  induction l with
  | nil => rfl
  | cons a l ih =>
    rw [List.filterMap_cons, List.filterMap_cons, h a List.mem_cons_self, ih fun x hx => h x (List.mem_cons_of_mem _ hx)]

theorem multiCalls_snoc (i : Nat) (w : List PR) (m : List Rec) :
    multiCalls i (w ++ [.multi m]) = multiCall (i + w.length) m :: multiCalls i w := by
  unfold multiCalls
  rw [List.length_append, List.length_singleton, List.range_succ, List.reverse_append, List.reverse_cons,
    List.reverse_nil, List.nil_append, List.singleton_append, List.filterMap_cons, List.getElem?_concat_length]
  dsimp only
  congr 1
  refine filterMap_congr_mem fun j hj => ?_
  rw [List.getElem?_append_left (List.mem_range.mp (List.mem_reverse.mp hj))]

theorem Windows.multis {pre : List PR} {cs : List BCall} (hc : Windows pre cs) : ∀ (k : Nat) (ms : List (List Rec)),
    ms.length = k → Windows (pre ++ ms.map .multi) (multiCalls pre.length (ms.map .multi) ++ cs) := by
  intro k
  induction k with
  | zero =>
    intro ms hk
    rw [List.length_eq_zero_iff.mp hk]
    simpa [multiCalls] using hc
  | succ k ih =>
    intro ms hk
    have hne : ms ≠ [] := fun h => by rw [h] at hk; cases hk
    rw [← List.dropLast_concat_getLast hne, List.map_append, List.map_singleton, multiCalls_snoc,
      ← List.append_assoc, List.cons_append]
    have := Windows.multi (ms.getLast hne) (ih ms.dropLast (by rw [List.length_dropLast, hk]; rfl))
    rwa [List.length_append] at this

theorem exists_map_of_forall {α β} {f : α → β} : ∀ {w : List β}, (∀ x ∈ w, ∃ a, x = f a) → ∃ l : List α, w = l.map f
  | [], _ => ⟨[], rfl⟩
  | x :: w, h => by
    obtain ⟨a, rfl⟩ := h x List.mem_cons_self
    obtain ⟨l, rfl⟩ := exists_map_of_forall fun y hy => h y (List.mem_cons_of_mem _ hy)
    exact ⟨a :: l, rfl⟩

theorem markCalls_single (i : Nat) {rs : List Rec} (h : rs ≠ []) :
    markCalls i (rs.map .single) = [.setRecords i rs] := by
  rcases rs with _ | ⟨r, rs⟩
  · exact absurd rfl h
  · show [BCall.setRecords i (List.filterMap _ ((r :: rs).map PR.single))] = _
    rw [List.filterMap_map]
    exact congrArg (fun l => [BCall.setRecords i l]) List.filterMap_some

theorem markCalls_error (i : Nat) {es : List (Option Err)} (h : es ≠ []) :
    markCalls i (es.map .error) = [.nack i (es.map fun e => some (e.getD plainErr))] := by
  rcases es with _ | ⟨e, es⟩
  · exact absurd rfl h
  · show [BCall.nack i (List.filterMap _ ((e :: es).map PR.error))] = _
    rw [List.filterMap_map]
    exact congrArg (fun l => [BCall.nack i l]) (congrFun (List.filterMap_eq_map (f := fun e : Option Err => some (e.getD plainErr))) _)

theorem markCalls_multi (i : Nat) {ms : List (List Rec)} (h : ms ≠ []) :
    markCalls i (ms.map .multi) = multiCalls i (ms.map .multi) := by
  rcases ms with _ | ⟨m, ms⟩
  · exact absurd rfl h
  · rfl

theorem Windows.group {pre : List PR} {cs : List BCall} (hc : Windows pre cs) {w : List PR} (hw : w ≠ [])
    (hk : ∀ o ∈ w, ∀ o' ∈ w, o.kind = o'.kind) : Windows (pre ++ w) (markCalls pre.length w ++ cs) := by
  rcases w with _ | ⟨o, tl⟩
  · exact absurd rfl hw
  have hall : ∀ x ∈ o :: tl, x.kind = o.kind := fun x hx => hk x hx o List.mem_cons_self
  cases o with
  | single r =>
    obtain ⟨rs, e⟩ := exists_map_of_forall (f := PR.single) fun x hx => by
      cases x <;> first | exact ⟨_, rfl⟩ | cases hall _ hx
    have hrs : rs ≠ [] := fun h => by rw [h] at e; cases e
    rw [e, markCalls_single _ hrs]
    exact Windows.single rs hrs hc
  | filter =>
    have e : PR.filter :: tl = List.replicate (tl.length + 1) .filter :=
      List.eq_replicate_iff.mpr ⟨rfl, fun x hx => by cases x <;> first | rfl | cases hall _ hx⟩
    show Windows _ ([BCall.filterRange pre.length (pre.length + (tl.length + 1))] ++ cs)
    rw [e]
    exact Windows.filter _ (Nat.succ_pos _) hc
  | error e0 =>
    obtain ⟨es, e⟩ := exists_map_of_forall (f := PR.error) fun x hx => by
      cases x <;> first | exact ⟨_, rfl⟩ | cases hall _ hx
    have hes : es ≠ [] := fun h => by rw [h] at e; cases e
    rw [e, markCalls_error _ hes]
    exact Windows.error es hes hc
  | multi m0 =>
    obtain ⟨ms, e⟩ := exists_map_of_forall (f := PR.multi) fun x hx => by
      cases x <;> first | exact ⟨_, rfl⟩ | cases hall _ hx
    have hms : ms ≠ [] := fun h => by rw [h] at e; cases e
    rw [e, markCalls_multi _ hms]
    exact hc.multis _ ms rfl
  | nil =>
    have e : PR.nil :: tl = List.replicate (tl.length + 1) .nil :=
      List.eq_replicate_iff.mpr ⟨rfl, fun x hx => by cases x <;> first | rfl | cases hall _ hx⟩
    show Windows _ ([BCall.retry pre.length (pre.length + (tl.length + 1))] ++ cs)
    rw [e]
    exact Windows.retry _ (Nat.succ_pos _) hc

theorem groupCalls_windows (pad : List PR) : ∀ (n to : Nat), n ≤ to → to ≤ pad.length → (n = 0 → to = 0) →
    (∀ j : Nat, n ≤ j → j < to → (pad[j]?.getD .nil).kind = (pad[n-1]?.getD .nil).kind) →
    Windows (pad.take to) (groupCalls pad n to) := by
  intro n
  induction n with
  | zero => intro to _ _ h0 _; rw [h0 rfl]; exact Windows.nil
  | succ n ih =>
    intro to hn hto _ hk
    have hk' : ∀ j : Nat, n + 1 ≤ j → j < to → (pad[j]?.getD .nil).kind = (pad[n]?.getD .nil).kind := hk
    rw [groupCalls]
    by_cases hb : boundary pad n = true
    · rw [if_pos hb]
      have hc := ih n (Nat.le_refl _) (by omega) (fun h => h) (fun j h1 h2 => absurd h1 (Nat.not_le_of_lt h2))
      have hlen : (pad.take n).length = n := List.length_take_of_le (by omega)
      have hw : ∀ k : Nat, k < to - n → ((pad.take to).drop n)[k]? = pad[n + k]? := fun k hk => by
        rw [List.getElem?_drop, List.getElem?_take, if_pos (by omega)]
      have := hc.group (w := (pad.take to).drop n)
        (fun h => by have := congrArg List.length h; rw [List.length_drop, List.length_take_of_le hto] at this; simp at this; omega)
        (fun o ho o' ho' => by
          have key : ∀ x ∈ (pad.take to).drop n, x.kind = (pad[n]?.getD .nil).kind := by
            intro x hx
            obtain ⟨k, hk⟩ := List.mem_iff_getElem?.mp hx
            have hkl : k < to - n := by
              have := (List.getElem?_eq_some_iff.mp hk).1
              rwa [List.length_drop, List.length_take_of_le hto] at this
            rw [hw k hkl] at hk
            rcases Nat.eq_zero_or_pos k with rfl | hpos
            · rw [Nat.add_zero] at hk; rw [hk]; rfl
            · have := hk' (n + k) (by omega) (by omega)
              rwa [hk] at this
          rw [key o ho, key o' ho'])
      rw [hlen] at this
      have e : pad.take n ++ (pad.take to).drop n = pad.take to := by
        have := List.take_append_drop n (pad.take to)
        rwa [List.take_take, Nat.min_eq_left (by omega)] at this
      rwa [e] at this
    · rw [if_neg hb]
      have hb' : ¬ ((n == 0) || !((pad[n-1]?.getD .nil).kind == (pad[n]?.getD .nil).kind)) = true := hb
      simp only [Bool.or_eq_true, beq_iff_eq, Bool.not_eq_true', beq_eq_false_iff_ne, ne_eq, not_or, Decidable.not_not] at hb'
      refine ih to (by omega) hto (fun h => absurd h hb'.1) fun j h1 h2 => ?_
      rcases Nat.eq_or_lt_of_le h1 with rfl | hlt
      · exact hb'.2.symm
      · exact (hk' j hlt h2).trans hb'.2.symm

theorem procCalls_windows (pad : List PR) : Windows pad (groupCalls pad pad.length pad.length) := by
  have := groupCalls_windows pad pad.length pad.length (Nat.le_refl _) (Nat.le_refl _) (fun h => h)
    (fun j h1 h2 => absurd h1 (Nat.not_le_of_lt h2))
  rwa [List.take_length] at this

theorem Windows.mem {pad : List PR} {cs : List BCall} (hw : Windows pad cs) {c : BCall} (hc : c ∈ cs) :
    (∀ i errs, c = .nack i errs → ∀ e ∈ errs, e.isSome = true) ∧
    (∀ i m, c = .split i m → PR.multi m ∈ pad ∧ 2 ≤ m.length) := by
  induction hw with
  | nil => cases hc
  | single _ _ _ ih | filter _ _ _ ih | retry _ _ _ ih =>
    rcases List.mem_cons.mp hc with rfl | hc
    · exact ⟨nofun, nofun⟩
    · exact ⟨(ih hc).1, fun i m e => ⟨List.mem_append_left _ ((ih hc).2 i m e).1, ((ih hc).2 i m e).2⟩⟩
  | error es _ _ ih =>
    rcases List.mem_cons.mp hc with rfl | hc
    · refine ⟨fun i errs e x hx => ?_, nofun⟩
      cases e
      obtain ⟨_, _, rfl⟩ := List.mem_map.mp hx
      rfl
    · exact ⟨(ih hc).1, fun i m e => ⟨List.mem_append_left _ ((ih hc).2 i m e).1, ((ih hc).2 i m e).2⟩⟩
  | multi m _ ih =>
    rcases List.mem_cons.mp hc with rfl | hc
    · unfold multiCall
      rcases hm : m.length with _ | _ | n
      · exact ⟨nofun, nofun⟩
      · exact ⟨nofun, nofun⟩
      · refine ⟨nofun, fun i m' e => ?_⟩
        cases e
        exact ⟨List.mem_append_right _ List.mem_cons_self, by rw [hm]; exact Nat.le_add_left 2 n⟩
    · exact ⟨(ih hc).1, fun i m e => ⟨List.mem_append_left _ ((ih hc).2 i m e).1, ((ih hc).2 i m e).2⟩⟩

/-- invariant of the replay, for the results `pad` still to be handled -/
structure PInv (pad : List PR) (h : Heap) (b : Batch) : Prop where
  wf : b.WF h
  le : pad.length ≤ b.nAct
  spl : ∀ k : Nat, needSplit pad k → ∃ p : Nat, (actList b.st)[k]? = some p ∧ b.splittableAt p = true

theorem needSplit_lt {pad : List PR} {k : Nat} (h : needSplit pad k) : k < pad.length :=
  let ⟨_, hm, _⟩ := h; (List.getElem?_eq_some_iff.mp hm).1

theorem PInv.step {pre w : List PR} {h h' : Heap} {b b' : Batch} (hinv : PInv (pre ++ w) h b)
    (hb : Below pre.length b b') (hwf : b'.WF h') : PInv pre h' b' :=
  ⟨hwf, hb.nAct (Nat.le_trans (by rw [List.length_append]; exact Nat.le_add_right _ _) hinv.le), fun k hn => by
    have hk := needSplit_lt hn
    obtain ⟨m, hm, hl⟩ := hn
    obtain ⟨p, hp, hs⟩ := hinv.spl k ⟨m, by rw [List.getElem?_append_left hk]; exact hm, hl⟩
    exact ⟨p, (hb.act k hk).trans hp, hb.splittable k p hk hp hs⟩⟩

theorem PInv.call {pre w : List PR} {h : Heap} {b : Batch} {c : BCall} {cs : List BCall} (hinv : PInv (pre ++ w) h b)
    (hlo : c.lo = pre.length) (hhi : c.hi = pre.length + w.length) (hw : 0 < w.length)
    (hs : ∀ i m, c = .split i m → 1 ≤ m.length ∧ needSplit (pre ++ w) i)
    (ih : ∀ {h : Heap} {b : Batch}, PInv pre h b →
      ∃ (h' : Heap) (b' : Batch), cs.foldlM BCall.run (h, b) = .ok (h', b') ∧ b'.WF h' ∧ h.size ≤ h'.size) :
    ∃ (h' : Heap) (b' : Batch), (c :: cs).foldlM BCall.run (h, b) = .ok (h', b') ∧ b'.WF h' ∧ h.size ≤ h'.size := by
  obtain ⟨⟨h1, b1⟩, e1⟩ := call_ok hinv.wf (by omega) (by rw [hhi, ← List.length_append]; exact hinv.le)
    fun i m e => ⟨(hs i m e).1, hinv.spl i (hs i m e).2⟩
  obtain ⟨w1, s1, bl⟩ := call_WF hinv.wf (fun i m e => (hs i m e).1) e1
  obtain ⟨h', b', e2, w2, s2⟩ := ih (hinv.step (hlo ▸ bl) w1)
  exact ⟨h', b', by rw [List.foldlM_cons, e1]; exact e2, w2, Nat.le_trans s1 s2⟩

theorem calls_total {pad : List PR} {cs : List BCall} (hw : Windows pad cs) : ∀ {h : Heap} {b : Batch}, PInv pad h b →
    ∃ (h' : Heap) (b' : Batch), cs.foldlM BCall.run (h, b) = .ok (h', b') ∧ b'.WF h' ∧ h.size ≤ h'.size := by
  induction hw with
  | nil => intro h b hinv; exact ⟨h, b, rfl, hinv.wf, Nat.le_refl _⟩
  | single rs hrs _ ih =>
    exact fun hinv => hinv.call rfl (by rw [List.length_map]; rfl) (by rw [List.length_map]; exact List.length_pos_iff.mpr hrs) nofun ih
  | filter n hn _ ih => exact fun hinv => hinv.call rfl (by rw [List.length_replicate]; rfl) (by rwa [List.length_replicate]) nofun ih
  | error es hes _ ih =>
    exact fun hinv => hinv.call rfl (by rw [List.length_map]; exact congrArg _ (List.length_map _))
      (by rw [List.length_map]; exact List.length_pos_iff.mpr hes) nofun ih
  | retry n hn _ ih => exact fun hinv => hinv.call rfl (by rw [List.length_replicate]; rfl) (by rwa [List.length_replicate]) nofun ih
  | @multi pre cs m _ ih =>
    intro h b hinv
    unfold multiCall
    rcases hm : m.length with _ | _ | n
    · exact hinv.call (c := .filter1 pre.length) rfl rfl Nat.one_pos nofun ih
    · exact hinv.call (c := .setRecords pre.length m) rfl (congrArg _ hm) Nat.one_pos nofun ih
    · refine hinv.call (c := .split pre.length m) rfl rfl Nat.one_pos (fun i m' e => ?_) ih
      cases e
      exact ⟨by omega, m, List.getElem?_concat_length, by omega⟩

theorem splittable_of_not {ps : PosV} {run : Option Nat} (hc : ¬ ((ps == none) = true ∧ (run == none) = true)) :
    ((some ps != some none) || run.isSome) = true := by
  cases ps <;> cases run <;> simp_all

theorem procCheckStep_cases {h : Heap} {b : Batch} (hwf : b.WF h) (out : List PR) {i : Nat} (hi : i < b.nAct) :
    (procCheckStep b out i = .ok () ∧
      (needSplit out i → ∃ p : Nat, (actList b.st)[i]? = some p ∧ b.splittableAt p = true)) ∨
    (∃ e, procCheckStep b out i = .error (.err e)) := by
  have hi' : i < (actList b.st).length := hi
  obtain ⟨p, hpe⟩ : ∃ p, (actList b.st)[i]'hi' = p := ⟨_, rfl⟩
  have hp? : (actList b.st)[i]? = some p := by rw [List.getElem?_eq_getElem hi', hpe]
  have hphys : b.phys i = .ok p := (phys_ok hwf.2 hi).trans (congrArg _ hpe)
  have hp : p < b.pos.length := by
    rw [hwf.1.pos_len, ← hwf.1.st_len, ← hpe]; exact actList_lt hi'
  have other : ∀ {r : Option PR}, out[i]? = r → (∀ m, r ≠ some (.multi m)) →
      (pure () : R Unit) = .ok () ∧ (needSplit out i → ∃ p : Nat, (actList b.st)[i]? = some p ∧ b.splittableAt p = true) :=
    fun hr hne => ⟨rfl, fun ⟨m, hm, _⟩ => absurd (hr.symm.trans hm) (hne m)⟩
  unfold procCheckStep
  cases hr : out[i]? with
  | none => exact Or.inl (other hr (by intro m h; cases h))
  | some r =>
    cases r with
    | multi m =>
      simp only
      by_cases hm : m.length > 1
      · simp only [hm, if_true, hphys, bind, Except.bind, idx_ok _ hp]
        cases hruns : b.runs <;> simp only
        all_goals
          split
          · exact Or.inr ⟨_, rfl⟩
          · rename_i hc
            refine Or.inl ⟨rfl, fun _ => ⟨p, hp?, ?_⟩⟩
            unfold Batch.splittableAt Batch.runAt
            rw [hruns, List.getElem?_eq_getElem hp]
            exact splittable_of_not hc
      · simp only [hm, if_false]
        exact Or.inl ⟨rfl, fun ⟨m', hm', hl⟩ => by rw [hr] at hm'; cases hm'; exact absurd hl hm⟩
    | single _ | filter | error _ | nil => exact Or.inl (other hr (by intro m h; cases h))

theorem procCheck_cases {h : Heap} {b : Batch} (hwf : b.WF h) (out : List PR) (ks : List Nat)
    (hks : ∀ k ∈ ks, k < b.nAct) :
    (ks.forM (procCheckStep b out) = .ok () ∧
      ∀ k ∈ ks, needSplit out k → ∃ p : Nat, (actList b.st)[k]? = some p ∧ b.splittableAt p = true) ∨
    (∃ e, ks.forM (procCheckStep b out) = .error (.err e)) := by
  induction ks with
  | nil => exact Or.inl ⟨rfl, fun _ hk => by simp at hk⟩
  | cons k ks ih =>
    have hk := hks k (by simp)
    simp only [List.forM_eq_forM] at ih ⊢
    rw [List.forM_cons]
    rcases procCheckStep_cases hwf out hk with ⟨h1, h2⟩ | ⟨e, h1⟩
    · rcases ih (fun k' hk' => hks k' (by simp [hk'])) with ⟨h3, h4⟩ | ⟨e, h3⟩
      · left
        simp only [h1, bind, Except.bind, h3]
        refine ⟨trivial, ?_⟩
        intro k' hk' hn
        rcases List.mem_cons.mp hk' with rfl | hk'
        · exact h2 hn
        · exact h4 k' hk' hn
      · right
        simp only [h1, bind, Except.bind, h3]
        exact ⟨e, rfl⟩
    · right
      simp only [h1, bind, Except.bind]
      exact ⟨e, rfl⟩

/-- the padded reply: `nil` entries for the records the processor skipped -/
def padOut (n : Nat) (out : List PR) : List PR :=
  if n > out.length then out ++ List.replicate (n - out.length) PR.nil else out

theorem needSplit_padOut {n : Nat} {out : List PR} {k : Nat} (hn : needSplit (padOut n out) k) :
    needSplit out k ∧ k < out.length := by
  obtain ⟨m, hm, hl⟩ := hn
  unfold padOut at hm
  by_cases h : n > out.length
  · simp only [h, if_true] at hm
    by_cases hk : k < out.length
    · rw [List.getElem?_append_left hk] at hm
      exact ⟨⟨m, hm, hl⟩, hk⟩
    · rw [List.getElem?_append_right (by omega)] at hm
      have := List.getElem?_eq_some_iff.mp hm
      obtain ⟨_, h2⟩ := this
      simp at h2
  · simp only [h, if_false] at hm
    exact ⟨⟨m, hm, hl⟩, (List.getElem?_eq_some_iff.mp hm).1⟩

theorem length_padOut {n : Nat} {out : List PR} (h : out.length ≤ n) : (padOut n out).length = n := by
  unfold padOut
  by_cases h1 : n > out.length
  · simp [h1]; omega
  · simp [h1]; omega

theorem procDoP_eq (h : Heap) (b : Batch) (out : List PR) (h0 : out.length ≠ 0) (h1 : ¬ out.length > b.active.length) :
    procDoP h b out = (do
      (List.range out.length).forM (procCheckStep b out)
      let s ← (List.range (padOut b.active.length out).length).reverse.foldlM
        (procGroupStep (padOut b.active.length out)) ((h, b), (padOut b.active.length out).length)
      pure s.1) := by
  unfold procDoP padOut
  simp only [h0, h1, if_false]

theorem procDoP_eq_calls (h : Heap) (b : Batch) (out : List PR) (h0 : out.length ≠ 0) (h1 : ¬ out.length > b.active.length) :
    procDoP h b out = (do
      (List.range out.length).forM (procCheckStep b out)
      (groupCalls (padOut b.active.length out) (padOut b.active.length out).length
        (padOut b.active.length out).length).foldlM BCall.run (h, b)) := by
  rw [procDoP_eq h b out h0 h1, ← groupLoop_eq_calls]

theorem procDoP_total {h : Heap} {b : Batch} (hwf : b.WF h) (out : List PR) :
    (∃ (h' : Heap) (b' : Batch), procDoP h b out = .ok (h', b') ∧ b'.WF h' ∧ h.size ≤ h'.size) ∨
    (∃ e : Err, procDoP h b out = .error (.err e)) := by
  have hact : b.active.length = b.nAct := active_length hwf.1.st_len hwf.2
  by_cases h0 : out.length = 0
  · right; exact ⟨plainErr, by unfold procDoP; simp only [h0, if_true]; rfl⟩
  by_cases h1 : out.length > b.active.length
  · right; exact ⟨plainErr, by unfold procDoP; simp only [h0, h1, if_true, if_false]; rfl⟩
  rw [procDoP_eq_calls h b out h0 h1]
  rcases procCheck_cases hwf out (List.range out.length) (by intro k hk; have := List.mem_range.mp hk; omega) with
    ⟨hc, hspl⟩ | ⟨e, hc⟩
  · left
    obtain ⟨h', b', e1, r⟩ := calls_total (procCalls_windows (padOut b.active.length out))
      ⟨hwf, by rw [length_padOut (by omega), hact]; exact Nat.le_refl _, fun k hn => by
        obtain ⟨h2, h3⟩ := needSplit_padOut hn
        exact hspl k (List.mem_range.mpr h3) h2⟩
    exact ⟨h', b', by simp only [hc, bind, Except.bind, e1], r⟩
  · right
    exact ⟨e, by simp only [hc, bind, Except.bind]⟩

theorem procDoP_empty (h : Heap) (b : Batch) : procDoP h b [] = .error (.err plainErr) := rfl

theorem procDoP_too_many (h : Heap) (b : Batch) (out : List PR) (hl : out.length > b.active.length) :
    procDoP h b out = .error (.err plainErr) := by
  unfold procDoP
  by_cases h0 : out.length = 0
  · simp only [h0, if_true]; rfl
  · simp only [h0, hl, if_true, if_false]; rfl

theorem procDoP_calls {h h' : Heap} {b b' : Batch} {out : List PR} (hr : procDoP h b out = .ok (h', b')) :
    ∃ cs : List BCall, Windows (padOut b.active.length out) cs ∧ cs.foldlM BCall.run (h, b) = .ok (h', b') := by
  by_cases h0 : out.length = 0
  · rw [List.length_eq_zero_iff.mp h0, procDoP_empty] at hr; cases hr
  by_cases h1 : out.length > b.active.length
  · rw [procDoP_too_many h b out h1] at hr; cases hr
  rw [procDoP_eq_calls h b out h0 h1] at hr
  obtain ⟨_, _, h2⟩ := bind_eq_ok hr
  exact ⟨_, procCalls_windows _, h2⟩

end Conduit.Funnel
