import ConduitModel.Proofs.MonFRelease

/-!
# The contract `multiMC0` of `multiAckNacker(id, a)` for the running branch of a fan-out

Built over a parent chain `a` whose contract `C` is benign (a failed `Ack` leaves its invariant
intact): the root chain `runAckNacker(Worker)`.
-/
namespace Conduit.Funnel
open Conduit.Funnel.Mon

theorem TI.back {G : Ctx} {F : FanCtx} {v : MV} {p len : Nat} {m : MA} (h : TI G F v (p + len) m) (hp : F.m0 ≤ p)
    (hn : ∀ q : Nat, q < len → m.term (p - F.m0 + q) = true ∧ m.ack (p - F.m0 + q) = false) : TI G F v p m :=
  h.map rfl rfl rfl h.mok rfl rfl h.rel fun ix _ _ _ s =>
    if hc : p ≤ F.m0 + ix ∧ F.m0 + ix < p + len then by
      have := hn (F.m0 + ix - p) (by omega)
      rw [show p - F.m0 + (F.m0 + ix - p) = ix by omega] at this
      exact s.back this.1 this.2
    else by
      by_cases hlt : F.m0 + ix < p
      · exact s.forward (fun _ => hlt)
      · exact s.forward (fun hh => absurd hh (by omega))

/-- dead for the chain of the running branch: nacked through the parent chain (records before the
fan-out batch), or terminal and not acked in the tally -/
def MDead {G : Ctx} {a : Acker} (C : MC G a) (F : FanCtx) (s : PS) (j : Nat) : Prop :=
  (j < F.m0 → C.Dead s j) ∧
  (F.m0 ≤ j → j < F.m0 + F.L → (s.mas[F.id]!).term (j - F.m0) = true ∧ (s.mas[F.id]!).ack (j - F.m0) = false)

theorem MDead.frame {G : Ctx} {a : Acker} {C : MC G a} {F : FanCtx} {s s' : PS} {j : Nat} (h : MDead C F s j)
    (hm : s'.mas[F.id]! = s.mas[F.id]!) (hd : ∀ j, C.Dead s j → C.Dead s' j) : MDead C F s' j :=
  ⟨fun hj => hd j (h.1 hj), fun h1 h2 => by rw [hm]; exact h.2 h1 h2⟩

structure MCall {G : Ctx} {a : Acker} (C : MC G a) (F : FanCtx) (p len : Nat) (isAck : Bool) (s s' : PS)
    (r : Except Stop Unit) : Prop where
  ok : r = .ok () → MAInv C F (p + len) s'
  some : ∃ q, MAInv C F q s'
  stutter : isAck = false → len ≤ 1 → r ≠ .ok () → MAInv C F p s'
  view : ExtT [] [] (fun _ => False) (G.view s) (G.view s')
  masSize : s'.mas.size = s.mas.size
  mas : ∀ i : Nat, F.id + 1 ≤ i → s'.mas[i]! = s.mas[i]!
  dead : ∀ j : Nat, MDead C F s j → MDead C F s' j
  nacked : isAck = false → r = .ok () → ∀ q : Nat, q < len → MDead C F s' (p + q)

theorem MCall.same {G : Ctx} {a : Acker} {C : MC G a} {F : FanCtx} {p len : Nat} {isAck : Bool} {s : PS} {e : Stop}
    (h : MAInv C F p s) : MCall C F p len isAck s s (.error e) :=
  ⟨(fun hr => nomatch hr), ⟨p, h⟩, fun _ _ _ => h, ExtT.refl _ _ _ _, rfl, fun _ _ => rfl, fun _ hj => hj,
    fun _ hr => nomatch hr⟩

/-- tally `F.id` replaced by one with the same `released` in which what was terminal is unchanged (a vote): `TI` of
the new tally is all that is asked anew -/
theorem MAInv.voted {G : Ctx} {a : Acker} {C : MC G a} {F : FanCtx} {p q : Nat} {s : PS} {m' : MA} (h : MAInv C F p s)
    (hrel : m'.released = (s.mas[F.id]!).released)
    (hfro : ∀ ix : Nat, (s.mas[F.id]!).term ix = true → m'.term ix = true ∧ m'.ack ix = (s.mas[F.id]!).ack ix)
    (hti : TI G F (G.view s) q m') (hq : F.m0 ≤ q ∧ q ≤ F.m0 + F.L) : MAInv C F q (setMa F.id m' s) := by
  have hm1 := setMa_get F.id m' s h.hid
  have hsame := setMa_same C.top F.id m' s h.top
  refine h.move (h.base.same rfl rfl) (by rw [setMa_size]; exact h.hid) ?_ ?_ ?_ hq
  · rw [hm1, view_same G s (setMa F.id m' s) rfl]; exact hti
  · rw [hm1, hrel]; exact C.frameW h.parW hsame
  · rw [hm1, hrel]
    rcases h.par with hp | ⟨hp1, hp2, hp3⟩
    · exact Or.inl (C.frame hp hsame)
    · obtain ⟨k1, k2⟩ := hfro _ hp2
      exact Or.inr ⟨hp1, k1, by rw [k2]; exact hp3⟩

theorem multiCall0 {G : Ctx} {a : Acker} (C : MC G a) (hben : Benign C) (hs : Src G) (F : FanCtx)
    (fuel : Nat) (sb : Batch) (isAck : Bool) (task p : Nat) (s s' : PS) (r : Except Stop Unit)
    (hI : MAInv C F p s) (hb : BOK sb) (hsp : sb.split = []) (hal : Align G p sb)
    (hj : isAck = true → ∀ (q : Nat) (src : Rec), q < sb.pos.length → G.all[p + q]? = some src →
      ActiveT (G.view s) (F.Tp ++ F.Tcur) (F.Dp ++ F.Dcur) (root src) ∨
      FilteredT (G.view s) (F.Tp ++ F.Tcur) (F.Dp ++ F.Dcur) (root src))
    (hn : isAck = false → NackOK sb)
    (hx : exec (ackerCall fuel (.multi F.id a) sb isAck task) s = (r, s')) :
    MCall C F p sb.pos.length isAck s s' r := by
  have hob : sb.original = sb := original_of_split_nil hsp
  cases fuel with
  | zero => rw [ackerCall_zero] at hx; cases hx; exact MCall.same hI
  | succ f =>
    rw [ackerCall_multi_exec _ _ _ _ _ _ _ (by rw [hob, hb.pos_len, hb.st_len]; exact ⟨Nat.le_refl _, Nat.le_refl _⟩),
      hob] at hx
    have hpv := TI.scan hs hI.tpos.2.1 hI.srcs sb isAck task hb p hI.front.1 hal
      (fun ha q src hq hsrc => VF.of_just (hj ha q src hq hsrc)) hn (s.mas[F.id]!) sb.pos.length 0 (s.mas[F.id]!)
      (by omega) ⟨hI.ti, rfl, hI.front.2, fun _ h => ⟨h, rfl⟩, fun _ q hq => absurd hq (Nat.not_lt_zero _)⟩
    rw [← List.range_eq_range', Nat.zero_add] at hpv
    have hjl := scanItems_length_le (s.mas[F.id]!) sb (List.range sb.pos.length)
    rw [List.length_range] at hjl
    generalize scanItems (s.mas[F.id]!) sb (List.range sb.pos.length) = its at hx hpv hjl
    obtain ⟨hti, hrel, hle, hfro, hnk⟩ := hpv
    generalize maVote (s.mas[F.id]!) isAck task its = m' at hx hti hrel hfro hnk
    have hm1 := setMa_get F.id m' s hI.hid
    have hsz1 := setMa_size F.id m' s
    have hoth := setMa_other F.id m' s
    have hsame := setMa_same C.top F.id m' s hI.top
    have hview1 : G.view (setMa F.id m' s) = G.view s := view_same G s _ rfl
    have hI1 := fun q => hI.voted (q := q) hrel hfro
    generalize setMa F.id m' s = s1 at hx hm1 hsz1 hoth hsame hview1 hI1
    have hdead1 : ∀ j : Nat, MDead C F s j → MDead C F s1 j := by
      intro i hjd
      refine ⟨fun hlt => C.dead_frame (hjd.1 hlt) hsame, fun h1 h2 => ?_⟩
      obtain ⟨k1, k2⟩ := hjd.2 h1 h2
      obtain ⟨k3, k4⟩ := hfro _ k1
      rw [hm1]
      exact ⟨k3, by rw [k4]; exact k2⟩
    by_cases hfull : its.length = sb.pos.length
    · rw [if_pos hfull] at hx
      rw [hfull] at hti hle hnk
      have hIa := hI1 (p + sb.pos.length) hti ⟨by have := hI.front.1; omega, hle⟩
      obtain ⟨g1, g2, g3, g4, g5, g6⟩ := releaseF C hben F f (p + sb.pos.length) s1 s' r hIa hx
      have hterm : ∀ ix : Nat, (s1.mas[F.id]!).term ix = (s'.mas[F.id]!).term ix ∧
          (s1.mas[F.id]!).ack ix = (s'.mas[F.id]!).ack ix := by
        intro ix; rw [g5]; exact ⟨rfl, rfl⟩
      refine ⟨fun _ => g1, ⟨_, g1⟩, ?_, ?_, by rw [g3, hsz1], ?_, ?_, ?_⟩
      · intro ha hl _
        have hback : TI G F (G.view s) p m' := hti.back hI.front.1 (hnk ha)
        have hIp := hI1 p hback hI.front
        obtain ⟨k1, _⟩ := releaseF C hben F f p s1 s' r hIp hx
        exact k1
      · rw [hview1] at g2; exact g2
      · intro i hi
        rw [g4 i hi, hoth i (by omega)]
      · intro j hjd
        obtain ⟨d1, d2⟩ := hdead1 j hjd
        exact ⟨fun hlt => g6 j (d1 hlt), fun h1 h2 => by rw [← (hterm _).1, ← (hterm _).2]; exact d2 h1 h2⟩
      · intro ha _ q hq
        refine ⟨fun hlt => by have := hI.front.1; omega, fun h1 h2 => ?_⟩
        have := hnk ha q hq
        rw [← (hterm _).1, ← (hterm _).2, hm1, show p + q - F.m0 = p - F.m0 + q by have := hI.front.1; omega]
        exact this
    · rw [if_neg hfull] at hx
      cases hx
      refine ⟨(fun hr => nomatch hr), ⟨p + its.length, hI1 _ hti ⟨by have := hI.front.1; omega, hle⟩⟩, ?_, ?_, hsz1,
        fun i hi => hoth i (by omega), hdead1, fun _ hr => nomatch hr⟩
      · intro _ hl _
        have hj0 : its.length = 0 := by omega
        rw [hj0] at hti
        exact hI1 p hti hI.front
      · rw [hview1]; exact ExtT.refl _ _ _ _

theorem MAInv.quiet {G : Ctx} {a : Acker} {C : MC G a} {F : FanCtx} {p : Nat} {s s' : PS} {t : Nat} {isDest : Bool}
    {R : Nat → Prop} (h : MAInv C F p s) (hq : QStep G t isDest R s s') (ht : t ∈ F.Tcur)
    (hR : ∀ x, R x → ∀ (j : Nat) (src : Rec), j < p → G.all[j]? = some src → root src = x → MDead C F s j)
    (hdead : ∀ (s : PS) (j : Nat), C.Dead s j) (hB : Base G s') : MAInv C F p s' := by
  have hm : s'.mas[F.id]! = s.mas[F.id]! := by rw [hq.mas]
  have hnotT : ∀ x ∈ [t], x ∉ F.TTp := fun x hx => by
    simp only [List.mem_singleton] at hx; rw [hx]; exact h.disjT t ht
  have hnotD : ∀ x ∈ (if isDest then [t] else []), x ∉ F.DDp := by
    intro x hx hm'
    have hxt : x = t := by
      cases isDest
      · simp at hx
      · simpa using hx
    rw [hxt] at hm'
    -- a destination of the earlier branches is a task of the earlier branches
    exact h.disjT t ht (h.ddp t hm')
  have hRpar : ∀ x, R x → ∀ (j : Nat) (src : Rec), j < F.m0 + (s.mas[F.id]!).released → G.all[j]? = some src →
      root src = x → C.Dead s j := fun _ _ j _ _ _ _ => hdead s j
  refine h.move hB (by rw [hq.mas]; exact h.hid) ?_ (by rw [hm]; exact C.quietW h.parW hq (h.below t ht) hRpar hB) ?_
    h.front
  · -- a fact about a record handed over is about one that is decided nacked; the others are by the running branch
    rw [hm]
    exact h.ti.map rfl rfl rfl h.ti.mok rfl rfl h.ti.rel fun ix src hl hsrc σ =>
      σ.ext hq.ext (fun hp hr => (Nat.add_sub_cancel_left (n := F.m0) (m := ix)) ▸ (hR _ hr _ src hp hsrc rfl).2 (Nat.le_add_right _ _)
        (Nat.add_lt_add_left hl _)) (fun _ => ⟨hnotT, hnotD⟩)
  · rw [hm]
    rcases h.par with hp | hp
    · exact Or.inl (C.quiet hp hq (h.below t ht) hRpar hB)
    · exact Or.inr hp

/-- The contract of the bare tally `multiAckNacker(F.id, a)` that the running branch of a fan-out
sees, over a parent chain whose failed acks keep its invariant (`Benign C`) and for which `Dead`
holds of everything (`hdead`): an acknowledgement must be justified for the tasks / destinations above the fan-out and of the
running branch. -/
def multiMC0 {G : Ctx} {a : Acker} (C : MC G a) (hben : Benign C) (hdead : ∀ (s : PS) (j : Nat), C.Dead s j) (hs : Src G)
    (F : FanCtx) : MC G (.multi F.id a) where
  top := F.id + 1
  Inv := MAInv C F
  InvW := MAInv C F
  Err := fun s => ∃ p, MAInv C F p s
  T := F.Tp ++ F.Tcur
  D := F.Dp ++ F.Dcur
  Below := F.Tcur
  Dead := MDead C F
  inv_w := fun h => h
  w_err := fun h => ⟨_, h⟩
  err_safe := fun h => by obtain ⟨_, h⟩ := h; exact h.base.safe
  base := fun h => h.base
  baseW := fun h => h.base
  top_le := fun h => h.hid
  quiet := fun h hq ht hR hB => h.quiet hq ht hR hdead hB
  quietW := fun h hq ht hR hB => h.quiet hq ht hR hdead hB
  frame := fun h hf => h.frame hf
  frameW := fun h hf => h.frame hf
  dead_quiet := fun h hq => h.frame (by rw [hq.mas]) (fun j _ => hdead _ j)
  dead_frame := fun h hf => h.frame (hf.mas _ (Nat.lt_succ_self _)) (fun j _ => hdead _ j)
  ack := fun fuel sb p s s' r hI hb hsp hal hj h => by
    have mc := multiCall0 C hben hs F fuel sb true 0 p s s' r hI hb hsp hal (fun _ => hj) (fun hh => nomatch hh) h
    exact ⟨mc.ok, mc.dead, fun hf => hf.elim, fun _ => mc.some, mc.view, mc.masSize, mc.mas⟩
  nack := fun fuel sb task p s s' r hI hb hsp hn hal _ h => by
    have mc := multiCall0 C hben hs F fuel sb false task p s s' r hI hb hsp hal (fun hh => nomatch hh) (fun _ => hn) h
    exact ⟨⟨mc.ok, mc.dead, mc.stutter rfl, fun _ => mc.some, mc.view, mc.masSize, mc.mas⟩, mc.nacked rfl⟩

end Conduit.Funnel
