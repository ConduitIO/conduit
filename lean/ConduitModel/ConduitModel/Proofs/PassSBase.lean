import ConduitModel.Proofs.PassFan

/-!
# Pass-level reasoning with split runs: pieces, forwarded keys, ledger accounting

A batch is viewed as its list of *pieces* `(run, position)`. `fk h rest l` is the list of keys a
`runAckNacker` forwards to its parent when every piece of `l` is voted, in order: a record without
run forwards its own position at once; a run forwards its original position when its LAST piece is
voted, provided no piece of it remains outside `l` (`rest r = 0`). `Acc` is the ledger accounting
(`terminal + pieces still to vote = total`), `VRes` the outcome of voting / processing `l`.
-/
namespace Conduit.Funnel

/-- a physical record of a batch as the ledger sees it: its run (if any) and its position -/
abbrev Piece := Option Nat × PosV

def Batch.view (b : Batch) : List Piece := (b.runs.getD []).zip b.pos

def cnt (r : Nat) (l : List Piece) : Nat := l.countP (fun x => x.1 == some r)

/-- the keys forwarded to the parent when the pieces `l` are voted in order; `rest r` = number of
pieces of run `r` that are not in `l` and not voted yet. `h[r]!` is read in the heap as it is BEFORE
the votes; the votes keep `origPos` (`LFr.orig`), which `fk_congr` turns into equality of `fk`. -/
def fk (h : Heap) (rest : Nat → Nat) : List Piece → List Nat
  | [] => []
  | (none, p) :: t => keyOf p :: fk h rest t
  | (some r, _) :: t =>
    (if cnt r t = 0 ∧ rest r = 0 then [keyOf (h[r]!).origPos] else []) ++ fk h rest t

theorem cnt_nil (r : Nat) : cnt r [] = 0 := rfl
theorem cnt_append (r : Nat) (l1 l2 : List Piece) : cnt r (l1 ++ l2) = cnt r l1 + cnt r l2 := by
  simp [cnt, List.countP_append]
theorem cnt_cons_none (r : Nat) (p : PosV) (t : List Piece) : cnt r ((none, p) :: t) = cnt r t := by
  simp [cnt]
theorem cnt_cons_some (r r' : Nat) (p : PosV) (t : List Piece) :
    cnt r ((some r', p) :: t) = cnt r t + (if r' = r then 1 else 0) := by
  simp [cnt, List.countP_cons]

theorem fk_append (h : Heap) (rest : Nat → Nat) (l1 l2 : List Piece) :
    fk h rest (l1 ++ l2) = fk h (fun x => rest x + cnt x l2) l1 ++ fk h rest l2 := by
  induction l1 with
  | nil => rfl
  | cons x t ih =>
    obtain ⟨ro, p⟩ := x
    cases ro with
    | none => simp only [List.cons_append, fk, ih, List.cons_append]
    | some r =>
      simp only [List.cons_append, fk, ih, cnt_append, List.append_assoc]
      congr 1
      by_cases hc : cnt r t = 0 <;> by_cases h2 : cnt r l2 = 0 <;> by_cases h3 : rest r = 0 <;> simp [hc, h2, h3]

def ren (ρ : Nat → Nat) (x : Piece) : Piece := (x.1.map ρ, x.2)

theorem map_ren_id (l : List Piece) : l.map (ren id) = l := by
  conv => rhs; rw [← List.map_id l]
  exact List.map_congr_left fun x _ => by cases x with | mk ro q => cases ro <;> rfl

section
variable (ρ : Nat → Nat) (P : Nat → Prop) (hinj : ∀ a c : Nat, P a → P c → ρ a = ρ c → a = c)
include hinj

theorem cnt_ren : ∀ (l : List Piece), (∀ r : Nat, 0 < cnt r l → P r) → ∀ r : Nat, P r →
    cnt (ρ r) (l.map (ren ρ)) = cnt r l := by
  intro l
  induction l with
  | nil => intro _ _ _; rfl
  | cons x t ih =>
    intro hl r hr
    obtain ⟨ro, q⟩ := x
    cases ro with
    | none =>
      simp only [List.map_cons, ren, Option.map_none, cnt_cons_none]
      exact ih (fun r' h' => hl r' (by rw [cnt_cons_none]; exact h')) r hr
    | some r2 =>
      simp only [List.map_cons, ren, Option.map_some, cnt_cons_some]
      rw [ih (fun r' h' => hl r' (by rw [cnt_cons_some]; omega)) r hr]
      have hp2 : P r2 := hl r2 (by rw [cnt_cons_some]; simp)
      by_cases he : r2 = r
      · subst he; simp
      · have : ¬ ρ r2 = ρ r := fun h => he (hinj r2 r hp2 hr h)
        simp [he, this]

omit hinj in
theorem cnt_ren_pos : ∀ (l : List Piece) (r' : Nat), 0 < cnt r' (l.map (ren ρ)) → ∃ r, r' = ρ r ∧ 0 < cnt r l := by
  intro l
  induction l with
  | nil => intro r' h; simp [cnt] at h
  | cons x t ih =>
    intro r' h
    obtain ⟨ro, q⟩ := x
    cases ro with
    | none =>
      simp only [List.map_cons, ren, Option.map_none, cnt_cons_none] at h
      obtain ⟨r, h1, h2⟩ := ih r' h
      exact ⟨r, h1, by rw [cnt_cons_none]; exact h2⟩
    | some r2 =>
      simp only [List.map_cons, ren, Option.map_some, cnt_cons_some] at h
      by_cases he : ρ r2 = r'
      · exact ⟨r2, he.symm, by rw [cnt_cons_some]; simp⟩
      · simp only [he, if_false, Nat.add_zero] at h
        obtain ⟨r, h1, h2⟩ := ih r' h
        exact ⟨r, h1, by rw [cnt_cons_some]; omega⟩

/-- the forwarded keys see the runs only through their original positions, through which `rest` vanish, and up
to an injective renaming: `clone()` (`clone_SInv`), a heap that kept the original positions (`fk_congr`), another
`rest` with the same zeros (`fk_rest_congr`) -/
theorem fk_ren (h h' : Heap) (rest rest' : Nat → Nat)
    (ho : ∀ r : Nat, P r → (h'[ρ r]!).origPos = (h[r]!).origPos) (hr : ∀ r : Nat, P r → (rest' (ρ r) = 0 ↔ rest r = 0)) :
    ∀ (l : List Piece), (∀ r : Nat, 0 < cnt r l → P r) → fk h' rest' (l.map (ren ρ)) = fk h rest l := by
  intro l
  induction l with
  | nil => intro _; rfl
  | cons x t ih =>
    intro hl
    obtain ⟨ro, q⟩ := x
    cases ro with
    | none =>
      simp only [List.map_cons, ren, Option.map_none, fk]
      rw [ih (fun r' h' => hl r' (by rw [cnt_cons_none]; exact h'))]
    | some r =>
      have hp : P r := hl r (by rw [cnt_cons_some]; simp)
      have hlt : ∀ r' : Nat, 0 < cnt r' t → P r' := fun r' h' => hl r' (by rw [cnt_cons_some]; omega)
      simp only [List.map_cons, ren, Option.map_some, fk]
      rw [ih hlt, cnt_ren ρ P hinj t hlt r hp, ho r hp]
      by_cases h1 : rest r = 0
      · have h2 := (hr r hp).mpr h1; simp [h1, h2]
      · have h2 : ¬ rest' (ρ r) = 0 := fun h => h1 ((hr r hp).mp h); simp [h1, h2]

end

theorem fk_congr (h h' : Heap) (rest : Nat → Nat) (l : List Piece)
    (ho : ∀ r : Nat, 0 < cnt r l → (h'[r]!).origPos = (h[r]!).origPos) : fk h' rest l = fk h rest l := by
  have := fk_ren id (fun r => 0 < cnt r l) (fun _ _ _ _ e => e) h h' rest rest ho (fun _ _ => Iff.rfl) l (fun _ hr => hr)
  rwa [map_ren_id] at this

theorem fk_rest_congr (h : Heap) (rest1 rest2 : Nat → Nat) (l : List Piece)
    (hc : ∀ r : Nat, 0 < cnt r l → (rest1 r = 0 ↔ rest2 r = 0)) : fk h rest1 l = fk h rest2 l := by
  have := fk_ren id (fun r => 0 < cnt r l) (fun _ _ _ _ e => e) h h rest2 rest1 (fun _ _ => rfl) hc l (fun _ hr => hr)
  rwa [map_ren_id] at this

theorem fk_group (h : Heap) (rest : Nat → Nat) (r : Nat) : ∀ (g : List Piece), g ≠ [] → (∀ x ∈ g, x.1 = some r) →
    ∀ t : List Piece, fk h rest (g ++ t) =
      (if cnt r t = 0 ∧ rest r = 0 then [keyOf (h[r]!).origPos] else []) ++ fk h rest t := by
  intro g
  induction g with
  | nil => intro hne; exact absurd rfl hne
  | cons x g ih =>
    intro _ hall t
    obtain ⟨ro, p⟩ := x
    have hx : ro = some r := hall (ro, p) List.mem_cons_self
    subst hx
    by_cases hg : g = []
    · subst hg; rfl
    · have hall' : ∀ x ∈ g, x.1 = some r := fun x hx => hall x (List.mem_cons_of_mem _ hx)
      simp only [List.cons_append, fk]
      rw [ih hg hall' t]
      have hpos : 0 < cnt r (g ++ t) := by
        rw [cnt_append]
        cases g with
        | nil => exact absurd rfl hg
        | cons y g' =>
          have : y.1 = some r := hall' y List.mem_cons_self
          obtain ⟨yo, yp⟩ := y
          simp only at this
          subst this
          rw [cnt_cons_some]; simp; omega
      have : ¬ (cnt r (g ++ t) = 0 ∧ rest r = 0) := by omega
      simp [this]

theorem fk_norun (h : Heap) (rest : Nat → Nat) : ∀ (g : List Piece), (∀ x ∈ g, x.1 = none) →
    ∀ t : List Piece, fk h rest (g ++ t) = g.map (fun x => keyOf x.2) ++ fk h rest t := by
  intro g
  induction g with
  | nil => intro _ t; rfl
  | cons x g ih =>
    intro hall t
    obtain ⟨ro, p⟩ := x
    have hx : ro = none := hall (ro, p) List.mem_cons_self
    subst hx
    simp only [List.cons_append, fk, List.map_cons]
    rw [ih (fun x hx => hall x (List.mem_cons_of_mem _ hx)) t]

theorem cnt_norun (r : Nat) (g : List Piece) (hall : ∀ x ∈ g, x.1 = none) : cnt r g = 0 := by
  unfold cnt
  rw [List.countP_eq_zero]
  intro x hx
  rw [hall x hx]; simp

theorem cnt_group (r : Nat) (g : List Piece) (hall : ∀ x ∈ g, x.1 = some r) : cnt r g = g.length := by
  unfold cnt
  rw [List.countP_eq_length]
  intro x hx
  rw [hall x hx]; simp

theorem cnt_group_other (r r' : Nat) (hne : r' ≠ r) (g : List Piece) (hall : ∀ x ∈ g, x.1 = some r) : cnt r' g = 0 := by
  unfold cnt
  rw [List.countP_eq_zero]
  intro x hx
  rw [hall x hx]; simp; exact fun h => hne h.symm

/-- what is kept true of a run that still has pieces to vote -/
structure RunOK (x : SplitRun) (pending : Nat) : Prop where
  rel : x.released = false
  acc : x.terminal + pending = x.total
  nerr : x.nacked = true → x.nackErr.isSome = true

/-- every run with a piece in `l` is allocated, not yet forwarded, and
`terminal + (pieces in l) + (pieces elsewhere) = total`. -/
def Acc (h : Heap) (rest : Nat → Nat) (l : List Piece) : Prop :=
  ∀ r : Nat, 0 < cnt r l → r < h.size ∧ RunOK (h[r]!) (cnt r l + rest r)

/-- after all pieces of `l` were voted: a run with pieces elsewhere is still open and accounts
for exactly those. -/
def LPost (h : Heap) (rest : Nat → Nat) (l : List Piece) : Prop :=
  ∀ r : Nat, 0 < cnt r l → 0 < rest r → RunOK (h[r]!) (rest r) ∧ 0 < (h[r]!).terminal

/-- the ledger between two states of a computation that owns the pieces `l` -/
structure LFr (l : List Piece) (h h' : Heap) : Prop where
  size : h.size ≤ h'.size
  keep : ∀ rid : Nat, rid < h.size → cnt rid l = 0 → h'[rid]! = h[rid]!
  orig : ∀ rid : Nat, rid < h.size → (h'[rid]!).origPos = (h[rid]!).origPos

theorem LFr.refl (l : List Piece) (h : Heap) : LFr l h h := ⟨Nat.le_refl _, fun _ _ _ => rfl, fun _ _ => rfl⟩

theorem LFr.append {l1 l2 : List Piece} {h h1 h2 : Heap} (a : LFr l1 h h1) (b : LFr l2 h1 h2) : LFr (l1 ++ l2) h h2 := by
  refine ⟨Nat.le_trans a.size b.size, fun rid hlt hc => ?_, fun rid hlt => ?_⟩
  · rw [cnt_append] at hc
    rw [b.keep rid (Nat.lt_of_lt_of_le hlt a.size) (by omega), a.keep rid hlt (by omega)]
  · rw [b.orig rid (Nat.lt_of_lt_of_le hlt a.size), a.orig rid hlt]

structure VRes {p : Acker} (C : Contract p) (rest : Nat → Nat) (l : List Piece) (s s' : PS)
    (r : Except Stop Unit) : Prop where
  res : Res C (fk s.heap rest l) s s' r
  fr : LFr l s.heap s'.heap
  post : r = .ok () → LPost s'.heap rest l

theorem Acc.left {h : Heap} {rest : Nat → Nat} {l1 l2 : List Piece} (ha : Acc h rest (l1 ++ l2)) :
    Acc h (fun x => rest x + cnt x l2) l1 := by
  intro r hr
  obtain ⟨h1, h2⟩ := ha r (by rw [cnt_append]; omega)
  refine ⟨h1, h2.rel, ?_, h2.nerr⟩
  have := h2.acc
  rw [cnt_append] at this
  show _ + (cnt r l1 + (rest r + cnt r l2)) = _
  omega

theorem Acc.right {rest : Nat → Nat} {l1 l2 : List Piece} {h h1 : Heap} (ha : Acc h rest (l1 ++ l2)) (hfr : LFr l1 h h1)
    (hpost : LPost h1 (fun x => rest x + cnt x l2) l1) : Acc h1 rest l2 := by
  intro r hr
  obtain ⟨g1, g2⟩ := ha r (by rw [cnt_append]; omega)
  refine ⟨Nat.lt_of_lt_of_le g1 hfr.size, ?_⟩
  by_cases hc : 0 < cnt r l1
  · have := (hpost r hc (by show 0 < rest r + cnt r l2; omega)).1
    exact ⟨this.rel, by have := this.acc; dsimp only at this; omega, this.nerr⟩
  · have hc0 : cnt r l1 = 0 := by omega
    rw [hfr.keep r g1 hc0]
    refine ⟨g2.rel, ?_, g2.nerr⟩
    have := g2.acc
    rw [cnt_append] at this
    omega

theorem VRes.seq {p : Acker} {C : Contract p} {rest : Nat → Nat} {l1 l2 : List Piece} {s s1 s2 : PS}
    {r : Except Stop Unit} (h1 : VRes C (fun x => rest x + cnt x l2) l1 s s1 (.ok ()))
    (h2 : VRes C rest l2 s1 s2 r) (hl : ∀ rid : Nat, 0 < cnt rid (l1 ++ l2) → rid < s.heap.size) :
    VRes C rest (l1 ++ l2) s s2 r := by
  have hfk : fk s1.heap rest l2 = fk s.heap rest l2 :=
    fk_congr _ _ _ _ (fun r hr => h1.fr.orig r (hl r (by rw [cnt_append]; omega)))
  refine ⟨by rw [fk_append, ← hfk]; exact h1.res.seq h2.res, h1.fr.append h2.fr, fun hr rid hc hrest => ?_⟩
  have hlt := hl rid hc
  rw [cnt_append] at hc
  by_cases hc2 : 0 < cnt rid l2
  · exact h2.post hr rid hc2 hrest
  · -- the run ended in `l1`, which left it open, and `l2` did not touch it
    have hc20 : cnt rid l2 = 0 := by omega
    have := h1.post rfl rid (by omega) (by show 0 < rest rid + cnt rid l2; omega)
    dsimp only at this
    rw [hc20, Nat.add_zero] at this
    rw [h2.fr.keep rid (Nat.lt_of_lt_of_le hlt h1.fr.size) hc20]
    exact this

theorem VRes.fail_left {p : Acker} {C : Contract p} {rest : Nat → Nat} {l1 l2 : List Piece} {s s1 : PS}
    {e e' : Stop} (h1 : VRes C (fun x => rest x + cnt x l2) l1 s s1 (.error e)) :
    VRes C rest (l1 ++ l2) s s1 (.error e') :=
  ⟨by rw [fk_append]; exact h1.res.fail_mono _, h1.fr.append (LFr.refl l2 s1.heap), nofun⟩

theorem vres_bind {p : Acker} {C : Contract p} {X : M Unit} {K : Unit → M Unit} {rest : Nat → Nat}
    {l1 l2 : List Piece} {s s' : PS} {r : Except Stop Unit}
    (hX : ∀ r1 s1, exec X s = (r1, s1) → VRes C (fun x => rest x + cnt x l2) l1 s s1 r1)
    (hK : ∀ s1 r2 s2, VRes C (fun x => rest x + cnt x l2) l1 s s1 (.ok ()) → exec (K ()) s1 = (r2, s2) →
      VRes C rest l2 s1 s2 r2)
    (hl : ∀ rid : Nat, 0 < cnt rid (l1 ++ l2) → rid < s.heap.size)
    (h : exec (X >>= K) s = (r, s')) : VRes C rest (l1 ++ l2) s s' r := by
  rw [exec_bind] at h
  rcases hx : exec X s with ⟨r1, s1⟩
  rw [hx] at h
  have h1 := hX r1 s1 hx
  cases r1 with
  | error e => dsimp only at h; cases h; exact h1.fail_left
  | ok u => dsimp only at h; exact h1.seq (hK s1 r s' h1 h) hl

theorem Batch.view_of_runs {b : Batch} {rs : List (Option Nat)} (h : b.runs = some rs) : b.view = rs.zip b.pos := by
  unfold Batch.view; rw [h]; rfl

end Conduit.Funnel
