import ConduitModel.Spec.Egress

/-! `refuse` case by case (4-byte, 16-byte, malformed) and on the address the `Control` hook re-parses,
so that `dialControl` is the per-candidate gate (`dialControl_eq_gate`); the connect attempts of the dial
loop and the events of one request; the bounds of `resolvePolicy`. -/
namespace Conduit.Egress

theorem firstMatch_isSome (bits : Nat) (tbl : List (Nat × Nat × String)) (a : Nat) :
    (firstMatch bits tbl a).isSome = tbl.any fun r => cidrContains bits (r.1, r.2.1) a := by
  induction tbl with
  | nil => rfl
  | cons r tbl ih =>
    obtain ⟨n, l, s⟩ := r
    simp only [firstMatch, List.any_cons]
    by_cases h : cidrContains bits (n, l) a = true
    · simp [h]
    · simp [h, ih]

theorem classifyV4_isSome (t : Tables) (a : Nat) :
    (classifyV4 t a).isSome =
      ((t.v4.any fun r => cidrContains 32 (r.1, r.2.1) a) || decide (a / 2 ^ 24 ≥ t.v4McastFirstByte)) := by
  unfold classifyV4
  rw [← firstMatch_isSome]
  cases firstMatch 32 t.v4 a with
  | some r => rfl
  | none =>
    by_cases h : a / 2 ^ 24 ≥ t.v4McastFirstByte <;> simp [h]

/-- the genuinely-IPv6 part of `Refuse` as one boolean. -/
def refusedV6Part (t : Tables) (x : Nat) : Bool :=
  cidrContains 128 t.nat64 x || cidrContains 128 t.translated x || x / 2 ^ 112 == 0x2002 ||
  x / 2 ^ 96 == 0x20010000 || isV4Compatible x ||
  (t.v6.any fun r => cidrContains 128 (r.1, r.2.1) x) || x / 2 ^ 120 == t.v6McastFirstByte

theorem refusedV6Part_of_test (t : Tables) (x : Nat)
    (h : cidrContains 128 t.nat64 x = true ∨ cidrContains 128 t.translated x = true ∨
      x / 2 ^ 112 = 0x2002 ∨ x / 2 ^ 96 = 0x20010000 ∨ isV4Compatible x = true) :
    refusedV6Part t x = true := by
  rcases h with h | h | h | h | h <;> simp [refusedV6Part, h]

theorem refusedV6Part_of_table (t : Tables) (x : Nat)
    (h : (t.v6.any fun r => cidrContains 128 (r.1, r.2.1) x) = true ∨ x / 2 ^ 120 = t.v6McastFirstByte) :
    refusedV6Part t x = true := by
  rcases h with h | h <;> simp [refusedV6Part, h]

theorem refused_b4 (t : Tables) (a : Nat) : refused t (.b4 a) = (classifyV4 t a).isSome := by
  simp only [refused, refuse, to16, to4]
  cases classifyV4 t a <;> rfl

theorem refused_b16 (t : Tables) (x : Nat) :
    refused t (.b16 x) =
      if x / P32 = 0xffff then (classifyV4 t (x % P32)).isSome else refusedV6Part t x := by
  simp only [refused, refuse, to16, to4]
  by_cases h : x / P32 = 0xffff
  · simp only [h, if_true]
    cases classifyV4 t (x % P32) <;> rfl
  · simp only [h, if_false, refusedV6Part]
    by_cases h1 : cidrContains 128 t.nat64 x = true
    · simp [h1]
    by_cases h2 : cidrContains 128 t.translated x = true
    · simp [h1, h2]
    by_cases h3 : x / 2 ^ 112 = 0x2002
    · simp [h1, h2, h3]
    by_cases h4 : x / 2 ^ 96 = 0x20010000
    · simp [h1, h2, h3, h4]
    by_cases h5 : isV4Compatible x = true
    · simp [h1, h2, h3, h4, h5]
    have h3' : (x / 2 ^ 112 == 0x2002) = false := by simpa using h3
    have h4' : (x / 2 ^ 96 == 0x20010000) = false := by simpa using h4
    simp only [h1, h2, h3, h4, h5, h3', h4', if_false, Bool.false_eq_true, Bool.false_or]
    rw [← firstMatch_isSome]
    cases firstMatch 128 t.v6 x with
    | some r => simp
    | none =>
      by_cases h6 : x / 2 ^ 120 = t.v6McastFirstByte
      · simp [h6]
      · have h6' : (x / 2 ^ 120 == t.v6McastFirstByte) = false := by simpa using h6
        simp [h6, h6']

theorem refused_bad (t : Tables) : refused t .bad = true := rfl

theorem refused_reparse (t : Tables) (ip : IP) (hv : ip.Valid) : refused t (reparse ip) = refused t ip := by
  cases ip with
  | b4 a =>
    have ha : a < 4294967296 := hv
    simp only [reparse, to16, refused_b16, refused_b4, P32]
    have h1 : (0xffff * 4294967296 + a) / 4294967296 = 0xffff := by omega
    have h2 : (0xffff * 4294967296 + a) % 4294967296 = a := by omega
    simp [h1, h2]
  | b16 x => rfl
  | bad => rfl

theorem to16_reparse (ip : IP) : to16 (reparse ip) = to16 ip := by
  cases ip <;> simp [reparse, to16]

theorem ipEqual_reparse (a ip : IP) : ipEqual a (reparse ip) = ipEqual a ip := by
  simp only [ipEqual, to16_reparse]

theorem matchesCarveOut_reparse (p : Policy) (ip : IP) (port : String) :
    matchesCarveOut p (reparse ip) port = matchesCarveOut p ip port := by
  simp only [matchesCarveOut, ipEqual_reparse]

theorem reparse_ne_bad {ip : IP} (h : ip ≠ .bad) : reparse ip ≠ .bad := by
  cases ip <;> simp_all [reparse, to16]

theorem matchesCarveOut_bad (p : Policy) (port : String) : matchesCarveOut p .bad port = false := by
  simp only [matchesCarveOut, ipEqual, to16]
  induction p.allow with
  | nil => rfl
  | cons e es ih =>
    simp only [List.any_cons, ih, Bool.or_false]
    cases e.ip with
    | none => rfl
    | some eip => cases to16 eip <;> simp

/-- the Control hook never contradicts the per-candidate gate of `dialContext`. -/
theorem dialControl_eq_gate (t : Tables) (p : Policy) (ip : IP) (port : String) (hv : ip.Valid) :
    dialControl t p ip port = (!(refused t ip) || matchesCarveOut p ip port) := by
  unfold dialControl
  cases hip : ip with
  | bad => simp [reparse, to16, refused_bad, matchesCarveOut_bad]
  | b4 a =>
    have := refused_reparse t (.b4 a) (hip ▸ hv)
    have h2 := matchesCarveOut_reparse p (.b4 a) port
    simp only [reparse, to16] at this h2 ⊢
    simp [this, h2]
  | b16 x => simp [reparse, to16]

theorem connectAttempts_append (l₁ l₂ : List Attempt) :
    connectAttempts (l₁ ++ l₂) = connectAttempts l₁ ++ connectAttempts l₂ := by
  induction l₁ with
  | nil => rfl
  | cons x xs ih => cases x <;> simp [connectAttempts, ih]

/-- inside the base dialer: connect(2) happens only after the Control hook let the address pass. -/
theorem connectAttempts_baseDial (t : Tables) (p : Policy) (port : String) (ok : IP → Bool) :
    ∀ (addrs : List IP), (∀ a ∈ addrs, a.Valid) → ∀ a ∈ connectAttempts (baseDial t p port ok addrs),
      a ∈ addrs ∧ (refused t a = false ∨ matchesCarveOut p a port = true)
  | [], _, a, h => by simp [baseDial, connectAttempts] at h
  | x :: xs, hv, a, h => by
    have ih := connectAttempts_baseDial t p port ok xs (fun y hy => hv y (by simp [hy]))
    have lift : ∀ a ∈ connectAttempts (baseDial t p port ok xs),
        a ∈ x :: xs ∧ (refused t a = false ∨ matchesCarveOut p a port = true) :=
      fun a h => ⟨List.mem_cons_of_mem _ (ih a h).1, (ih a h).2⟩
    unfold baseDial at h
    by_cases hc : (!dialControl t p x port) = true
    · simp only [hc, if_true, connectAttempts] at h
      exact lift a h
    · have hpass : dialControl t p x port = true := by simpa using hc
      have hgate : refused t x = false ∨ matchesCarveOut p x port = true := by
        rw [dialControl_eq_gate t p x port (hv x (by simp))] at hpass
        cases h1 : refused t x <;> simp_all
      simp only [hc, if_false, Bool.false_eq_true] at h
      by_cases hk : ok x = true
      · simp only [hk, if_true, connectAttempts, List.mem_singleton] at h
        subst h; exact ⟨by simp, hgate⟩
      · simp only [hk, if_false, Bool.false_eq_true, connectAttempts, List.mem_cons] at h
        rcases h with rfl | h
        · exact ⟨by simp, hgate⟩
        · exact lift a h

theorem doRequest_events (t : Tables) (p : Policy) (scheme host port : String) (reqIP : Option IP)
    (expand : IP → List IP) (ok : IP → Bool) (answers : Option (List IP)) (redirects : Bool) :
    (doRequest t p scheme host port reqIP expand ok answers redirects).2 = [] ∨
    ((p.enabled = true ∧ matchHostPort p scheme host port reqIP = true) ∧
      ∃ cs, (doRequest t p scheme host port reqIP expand ok answers redirects).2 = dialContext t p port expand ok cs) := by
  unfold doRequest
  by_cases he : p.enabled = true
  · by_cases hm : matchHostPort p scheme host port reqIP = true
    · simp only [he, hm, Bool.not_true, Bool.false_eq_true, if_false]
      cases hc : candidatesOf reqIP answers with
      | none => exact Or.inl rfl
      | some cs =>
        cases cs with
        | nil => exact Or.inl rfl
        | cons c cs =>
          refine Or.inr ⟨⟨trivial, trivial⟩, c :: cs, ?_⟩
          simp only [doDial]
          split
          · rfl
          · split
            · rfl
            · split <;> rfl
    · simp [he, hm]
  · simp [he]

/-- The timeout / size of the effective policy: the request (the default when there is none), cut
down to the ceiling when the ceiling sets one. -/
def clamp (dflt req ceil : Int) : Int :=
  if ceil > 0 ∧ (if req ≤ 0 then dflt else req) > ceil then ceil else if req ≤ 0 then dflt else req

theorem clamp_bounds {dflt req ceil : Int} (hd : 0 < dflt) :
    (0 < ceil → clamp dflt req ceil ≤ ceil) ∧ 0 < clamp dflt req ceil := by
  unfold clamp; split <;> split <;> omega

theorem resolvePolicy_disabled (d : Defaults) (per c : Policy) (h : ¬ (per.enabled = true ∧ c.enabled = true)) :
    (resolvePolicy d per c).1 = denyAll := by
  unfold resolvePolicy
  cases hp : per.enabled <;> cases hc : c.enabled <;> simp_all

/-- `ResolvePolicy` when both sides opted in is the request cut down to the ceiling, field by field, and
exactly that. What the property asks ("never exceeds the ceiling") is the → half of each line. -/
theorem resolvePolicy_enabled (d : Defaults) (per c : Policy) (hp : per.enabled = true) (hc : c.enabled = true) :
    (resolvePolicy d per c).1.enabled = true ∧
    (∀ e, e ∈ (resolvePolicy d per c).1.allow ↔ e ∈ per.allow ∧ ceilingAllowsEntry c e) ∧
    (∀ e, e ∈ (resolvePolicy d per c).2 ↔ e ∈ per.allow ∧ ¬ ceilingAllowsEntry c e) ∧
    (∀ s, s ∈ (resolvePolicy d per c).1.secrets ↔ s ∈ per.secrets ∧ ceilingGrantsSecret c s) ∧
    (resolvePolicy d per c).1.timeout = clamp d.timeout per.timeout c.timeout ∧
    (resolvePolicy d per c).1.maxBytes = clamp d.maxBytes per.maxBytes c.maxBytes := by
  -- the four branches of the definition: the ceiling lists hosts or not, secrets or not
  unfold resolvePolicy
  by_cases hca : c.allow = [] <;> by_cases hcs : c.secrets = [] <;>
    simp [hp, hc, hca, hcs, ceilingAllowsEntry, ceilingGrantsSecret, intersectRefs, clamp, List.isEmpty_iff]

end Conduit.Egress
