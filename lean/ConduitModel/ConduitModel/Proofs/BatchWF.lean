import ConduitModel.Proofs.BatchBase
import ConduitModel.Proofs.BatchFlags
import ConduitModel.Proofs.BatchActive
import ConduitModel.Proofs.BatchNack
import ConduitModel.Proofs.BatchSetRecords
import ConduitModel.Proofs.BatchSplit
import ConduitModel.Proofs.BatchSub
import ConduitModel.Proofs.BatchInv
import ConduitModel.Proofs.BatchCall
import ConduitModel.Proofs.BatchProc
import ConduitModel.Proofs.BatchDest
import ConduitModel.Proofs.BatchRetry
import ConduitModel.Proofs.BatchAgree

/-!
Proofs for the batch bookkeeping of the funnel engine (C08 alignment / mark-hits-right-record,
C09 totality), one file per mutator family.
-/
