import ConduitModel.Model.Time
import ConduitModel.Proofs.Json

/-! Helper lemmas: RFC 3339 formatting of a timestamp is inverted by the parser. -/
namespace Conduit.Codec

theorem num2_digitChar (a b : Nat) : num2 (digitChar a) (digitChar b) = some (a % 10 * 10 + b % 10) := by
  simp [num2, isDigit_digitChar, digitVal_digitChar]

theorem fracDigits_digits : ∀ (w n : Nat), ∀ c ∈ fracDigits w n, isDigit c = true
  | 0, _, c, h => by simp [fracDigits] at h
  | w + 1, n, c, h => by
    unfold fracDigits at h
    by_cases h0 : n = 0
    · simp [h0] at h
    · simp only [h0, if_false, List.mem_cons] at h
      rcases h with h | h
      · subst h; exact isDigit_digitChar _
      · exact fracDigits_digits w _ c h

theorem fracDigits_length : ∀ (w n : Nat), (fracDigits w n).length ≤ w
  | 0, _ => by simp [fracDigits]
  | w + 1, n => by
    unfold fracDigits
    by_cases h0 : n = 0
    · simp [h0]
    · have := fracDigits_length w (n % 10 ^ w)
      simp [h0]; omega

theorem fracVal_fracDigits : ∀ (w n : Nat), n < 10 ^ w → fracVal w (fracDigits w n) = n
  | 0, n, h => by simp at h; simp [fracVal, h]
  | w + 1, n, h => by
    unfold fracDigits
    by_cases h0 : n = 0
    · simp [h0, fracVal]
    · have hlt : n / 10 ^ w < 10 := by
        apply Nat.div_lt_of_lt_mul
        rw [Nat.pow_succ] at h; exact h
      have hm : n % 10 ^ w < 10 ^ w := Nat.mod_lt _ (Nat.pow_pos (by decide))
      simp only [h0, if_false, fracVal, digitVal_digitChar, fracVal_fracDigits w _ hm]
      rw [Nat.mod_eq_of_lt hlt]
      exact Nat.div_add_mod' n (10 ^ w)

/-- `pad2` is read back. -/
theorem num2_pad2 {n : Nat} (h : n < 100) : num2 (digitChar (n / 10)) (digitChar n) = some n := by
  rw [num2_digitChar, Nat.mod_eq_of_lt (Nat.div_lt_of_lt_mul h), Nat.div_add_mod']

/-- `pad4` is read back as century and year of the century. -/
theorem num2_pad4 {n : Nat} (h : n < 10000) :
    num2 (digitChar (n / 1000)) (digitChar (n / 100)) = some (n / 100) ∧
    num2 (digitChar (n / 10)) (digitChar n) = some (n % 100) := by
  rw [num2_digitChar, num2_digitChar]
  constructor <;> (congr 1; omega)

theorem parseZone_formatZone (off : Int) (h1 : -1440 < off) (h2 : off < 1440) :
    parseZone (formatZone off) = some off := by
  unfold formatZone
  by_cases h0 : off = 0
  · subst h0; rfl
  · have hh : off.natAbs / 60 < 24 := by omega
    have hm : off.natAbs % 60 < 60 := Nat.mod_lt _ (by decide)
    have eh := num2_pad2 (Nat.lt_trans hh (by decide : 24 < 100))
    have em := num2_pad2 (Nat.lt_trans hm (by decide : 60 < 100))
    by_cases hn : off < 0 <;>
      simp only [h0, hn, if_false, if_true, pad2, List.cons_append, List.nil_append, parseZone, eh, em,
        hh, hm, and_self, Nat.div_add_mod', Char.reduceEq] <;>
      (congr 1; omega)

theorem formatZone_head (off : Int) : ∃ c r, formatZone off = c :: r ∧ (c = 'Z' ∨ c = '-' ∨ c = '+') := by
  unfold formatZone
  by_cases h0 : off = 0
  · exact ⟨'Z', [], by simp [h0], Or.inl rfl⟩
  · by_cases hn : off < 0
    · exact ⟨'-', pad2 (off.natAbs / 60) ++ ':' :: pad2 (off.natAbs % 60), by simp [h0, hn], Or.inr (Or.inl rfl)⟩
    · exact ⟨'+', pad2 (off.natAbs / 60) ++ ':' :: pad2 (off.natAbs % 60), by simp [h0, hn], Or.inr (Or.inr rfl)⟩

theorem parseFracZone_format (nano : Nat) (off : Int) (hn : nano < 1000000000) (h1 : -1440 < off) (h2 : off < 1440) :
    parseFracZone ((if nano = 0 then [] else '.' :: fracDigits 9 nano) ++ formatZone off) = some (nano, off) := by
  have hz := parseZone_formatZone off h1 h2
  obtain ⟨c, r, e, hc⟩ := formatZone_head off
  by_cases h0 : nano = 0
  · subst h0
    simp only [if_true, List.nil_append]
    rw [e] at hz ⊢
    rcases hc with hc | hc | hc <;> subst hc <;> simp [parseFracZone, hz]
  · have hd : Delim (formatZone off) := by
      rw [e]; rcases hc with hc | hc | hc <;> subst hc <;> (simp [Delim]; decide)
    have hs := spanDigits_append (fracDigits 9 nano) (formatZone off) (fracDigits_digits 9 nano) hd
    have hl := fracDigits_length 9 nano
    have hne : fracDigits 9 nano ≠ [] := by
      unfold fracDigits; simp [h0]
    have hv := fracVal_fracDigits 9 nano (by simpa using hn)
    simp only [h0, if_false, List.cons_append, parseFracZone, hs, hz, hv]
    simp [hne]; omega

theorem daysIn_le (y m : Nat) : daysIn y m ≤ 31 := by
  unfold daysIn; split <;> (try split) <;> decide

theorem parseTime_formatTime (t : Time) (h : t.valid = true) : parseTime (formatTime t) = some t := by
  obtain ⟨year, month, day, hour, min, sec, nano, off⟩ := t
  simp only [Time.valid, Bool.and_eq_true, decide_eq_true_eq] at h
  obtain ⟨⟨⟨⟨⟨⟨⟨⟨⟨⟨hy, hm1⟩, hm2⟩, hd1⟩, hd2⟩, hh⟩, hmi⟩, hs⟩, hns⟩, ho1⟩, ho2⟩ := h
  have lt {n k : Nat} (h : n ≤ k) (hk : k < 100) : n < 100 := Nat.lt_of_le_of_lt h hk
  obtain ⟨ey1, ey2⟩ := num2_pad4 (Nat.lt_succ_of_le hy)
  simp only [formatTime, pad4, pad2, List.cons_append, List.nil_append, parseTime, ey1, ey2,
    num2_pad2 (lt hm2 (by decide)), num2_pad2 (lt (Nat.le_trans hd2 (daysIn_le year month)) (by decide)),
    num2_pad2 (lt (Nat.le_of_lt hh) (by decide)), num2_pad2 (lt (Nat.le_of_lt hmi) (by decide)),
    num2_pad2 (lt (Nat.le_of_lt hs) (by decide)),
    parseFracZone_format nano off hns ho1 ho2, Nat.div_add_mod', hm1, hm2, hd1, hd2, hh, hmi, hs,
    and_self, if_true, ne_eq, not_true_eq_false, if_false]

end Conduit.Codec
