import ConduitModel.Proofs.BatchWF

/-!
# The worker as the root acker: `Worker.Ack` / `Worker.Nack` / `DLQ.Nack` / `DLQ.Ack` / `sendToDLQ`

`Worker.Nack` with `DLQ.Nack` and `sendToDLQ` is restated as pure functions `sendToDLQP`, `dlqNackP`, `workerNackP :
PS → … → Except Stop α × PS` (`x.run.run s = xP s …`; `destDo` enters through `destDo_eq_model`) and then
analysed ONCE, by the state it leaves behind — the window moved (`stNack`), then the DLQ write (`stWrite`), then
the ack of the leading `n` positions (`stAck n`) — with the result classified as `Panics` (with a `PanicCause`) /
`IsFatal` / `Refused` / `.ok`: `workerNack_cases`, stated of `exec (workerNack …)`. `Worker.Ack` is one equation,
`workerAck_exec`. Everything else reads these two: the properties C07 / C01 at the root of the ack chain
(`Props/WorkerProps.lean`, any batch), the footprint `worker_keeps` (what a predicate must survive to be kept by
the root handler; every frame fact about it is an instance), and `workerNack_wf` (`Proofs/PassWorker.lean`: the
batches the engine hands over), from which the pass level (`WRes`) and the monitor level (`workerNack_monW`) are
read.
-/
namespace Conduit.Funnel
open Conduit.Dlq Agree

theorem run_modify (f : PS → PS) (s : PS) : (modify f : M PUnit).run.run s = (.ok ⟨⟩, f s) := rfl

theorem run_tryCatch {α} (x : M α) (h : Stop → M α) (s : PS) :
    (tryCatch x h).run.run s = (match x.run.run s with
      | (.ok a, s') => (.ok a, s')
      | (.error e, s') => (h e).run.run s') :=
  exec_tryCatch x h s

/-- what `sendToDLQ` hands to the DLQ destination: record, its nack error, the failing task -/
def dlqInfo (b : Batch) (taskID : Nat) : List (Rec × Option Err × Nat) :=
  (b.recs.zip b.st).map fun (r, st) => (r, st.err, taskID)

def leadAcks (st : List Status) : Nat := (st.takeWhile (·.flag = .ack)).length

/-- the `(successCount, err)` result of `sendToDLQ` computed from the DLQ batch after `Do` -/
def sendResult (db : Batch) (len : Nat) : Nat × Option Err :=
  if leadAcks db.st < len then (leadAcks db.st, some (wrap (((db.st[leadAcks db.st]?).bind (·.err)).getD plainErr)))
  else (leadAcks db.st, none)

def nilErrMsg : String := "nil pointer dereference: status.Error.Error()"

def nextReply (scripts : List (Nat × List Reply)) (task : Nat) : Option Reply :=
  match scripts.find? (·.1 == task) with
  | some (_, r :: _) => some r
  | _ => none

def popScripts (scripts : List (Nat × List Reply)) (task : Nat) : List (Nat × List Reply) :=
  match scripts.find? (·.1 == task) with
  | some (_, _ :: rest) => scripts.map fun (t, l) => if t == task then (t, rest) else (t, l)
  | _ => scripts

theorem popReplyP_eq (s : PS) (t : Nat) :
    popReplyP s t = (nextReply s.scripts t, { s with scripts := popScripts s.scripts t }) := by
  unfold popReplyP nextReply popScripts
  generalize s.scripts.find? (·.1 == t) = o
  rcases o with _ | ⟨_, _ | ⟨r, rest⟩⟩ <;> rfl

/-- lookup at `t'` after the values under key `t` of an association list were replaced by `f` of the entry -/
theorem find?_mapAt {β} (f : Nat × β → β) (t t' : Nat) (l : List (Nat × β)) :
    (l.map fun x => if x.1 == t then (x.1, f x) else (x.1, x.2)).find? (·.1 == t') =
      (l.find? (·.1 == t')).map fun x => if t' = t then (x.1, f x) else x := by
  rw [List.find?_map]
  have : ((·.1 == t') ∘ fun x : Nat × β => if x.1 == t then (x.1, f x) else (x.1, x.2)) = (·.1 == t') := by
    funext x; dsimp only [Function.comp_apply]; split <;> rfl
  rw [this]
  cases hf : l.find? (·.1 == t') with
  | none => rfl
  | some x =>
    obtain ⟨a, b⟩ := x
    have hx : a = t' := by simpa using List.find?_some hf
    subst hx
    simp only [Option.map_some, beq_iff_eq]

theorem popScripts_other (sc : List (Nat × List Reply)) (task t : Nat) (h : t ≠ task) :
    (popScripts sc task).find? (·.1 == t) = sc.find? (·.1 == t) := by
  unfold popScripts
  split
  · exact (find?_mapAt _ task t sc).trans (by simp only [if_neg h, Option.map_id'])
  · rfl

def replyOf (s : PS) : Option Err × List AckResp := destReply (nextReply s.scripts s.dlqTask)

def sendRes (out : R Batch) (len : Nat) : Except Stop (Nat × Option Err) :=
  match out with
  | .error (.err e) => .ok (0, some (wrap e))
  | .error (.panic m) => .error (.panic m)
  | .ok db => .ok (sendResult db len)

def sendToDLQP (s : PS) (b : Batch) (taskID : Nat) : Except Stop (Nat × Option Err) × PS :=
  if (b.st.take b.recs.length).any (·.err.isNone) then (.error (.panic nilErrMsg), s)
  else (sendRes (destDoP (Batch.new b.recs) (replyOf s).1 (replyOf s).2) b.recs.length,
        { s with log := s.log.push (.dlqw s.dlqTask (dlqInfo b taskID)),
                 scripts := popScripts s.scripts s.dlqTask })

theorem map_eta_rec (l : List Rec) : l.map (fun r => ({ tag := r.tag, pos := r.pos } : Rec)) = l := by
  induction l with
  | nil => rfl
  | cons a t ih => simp only [List.map_cons, ih]

theorem sendToDLQ_eq (b : Batch) (taskID : Nat) (s : PS) :
    (sendToDLQ b taskID).run.run s = sendToDLQP s b taskID := by
  unfold sendToDLQ sendToDLQP
  rw [run_bind, run_get]
  simp only [map_eta_rec]
  by_cases hnil : (b.st.take b.recs.length).any (·.err.isNone) = true
  · simp only [hnil, if_true, run_bind, run_throw]; rfl
  · simp only [hnil, if_false, Bool.false_eq_true, run_bind, run_pure, run_tryCatch, destDo_eq_model,
      popReplyP_eq, replyOf, dlqInfo]
    rcases destDoP (Batch.new b.recs) (destReply (nextReply s.scripts s.dlqTask)).1
      (destReply (nextReply s.scripts s.dlqTask)).2 with e | db
    · cases e <;> rfl
    · simp only [sendRes, sendResult, leadAcks]
      by_cases h : (List.takeWhile (fun x : Status => decide (x.flag = Flag.ack)) db.st).length < b.recs.length
      · simp only [h, if_true, run_pure]
      · simp only [h, if_false, run_pure]

/-- the `(nacked, err)` result of `DLQ.Nack` once the accepted nacks are dead-lettered -/
def tailRes (thr : Nat) (batch : Batch) (nacked : Nat) : Except Stop (Nat × Option Err) :=
  if nacked < batch.recs.length then
    match idx batch.st nacked "recordStatuses[nacked]" with
    | .error e => .error e
    | .ok stE =>
      if thr > 0 then .ok (nacked, some (fatalE (wrap (stE.err.getD plainErr))))
      else .ok (nacked, stE.err)
  else .ok (nacked, none)

def afterSend (thr : Nat) (batch : Batch) (k : Nat) (sr : Except Stop (Nat × Option Err)) :
    Except Stop (Nat × Option Err) :=
  match sr with
  | .error e => .error e
  | .ok (succ, some e) => .ok (succ, some (fatalE e))
  | .ok (_, none) => tailRes thr batch k

def stN (s : PS) (ob : Batch) : PS := { s with win := (s.win.nackN ob.recs.length).1 }

def dlqNackP (s : PS) (batch : Batch) (taskID : Nat) : Except Stop (Nat × Option Err) × PS :=
  if batch.recs.length = 0 then (.ok (0, none), s) else
  let nacked := (s.win.nackN batch.recs.length).2
  if nacked > 0 then
    match (if nacked < batch.recs.length then batch.sub 0 nacked else .ok batch) with
    | .error e => (.error e, stN s batch)
    | .ok b => (afterSend s.thr batch nacked (sendToDLQP (stN s batch) b taskID).1, (sendToDLQP (stN s batch) b taskID).2)
  else (tailRes s.thr batch nacked, stN s batch)

theorem tailRes_run (thr : Nat) (batch : Batch) (nacked : Nat) (s2 : PS) (hlt : nacked < batch.recs.length) :
    (do let stE ← liftR (idx batch.st nacked "recordStatuses[nacked]")
        if thr > 0 then pure (nacked, some (fatalE (wrap (stE.err.getD plainErr)))) else pure (nacked, stE.err)
      : M (Nat × Option Err)).run.run s2 = (tailRes thr batch nacked, s2) := by
  unfold tailRes
  simp only [hlt, if_true, run_bind, run_liftR]
  cases idx batch.st nacked "recordStatuses[nacked]" with
  | error e => rfl
  | ok stE =>
    by_cases ht : thr > 0
    · simp only [ht, if_true, run_pure]
    · simp only [ht, if_false, run_pure]

theorem dlqNack_eq (batch : Batch) (taskID : Nat) (s : PS) :
    (dlqNack batch taskID).run.run s = dlqNackP s batch taskID := by
  unfold dlqNack dlqNackP stN
  by_cases h0 : batch.recs.length = 0
  · simp only [h0, if_true]; rfl
  · simp only [h0, if_false]
    rw [run_bind, run_get]
    simp only
    rcases hw : s.win.nackN batch.recs.length with ⟨w, nacked⟩
    simp only [run_bind, run_set]
    by_cases hn : nacked > 0
    · simp only [hn, if_true]
      by_cases hlt : nacked < batch.recs.length
      · simp only [hlt, if_true, run_bind, run_liftR]
        cases batch.sub 0 nacked with
        | error e => rfl
        | ok b =>
          simp only [sendToDLQ_eq]
          rcases sendToDLQP _ b taskID with ⟨r, s2⟩
          rcases r with e | ⟨succ, _ | e⟩
          · rfl
          · exact tailRes_run s.thr batch nacked s2 hlt
          · rfl
      · simp only [hlt, if_false, run_bind, run_pure, sendToDLQ_eq]
        rcases sendToDLQP _ batch taskID with ⟨r, s2⟩
        rcases r with e | ⟨succ, _ | e⟩
        · rfl
        · simp only [afterSend, tailRes, hlt, if_false, run_pure]
        · rfl
    · simp only [hn, if_false]
      by_cases hlt : nacked < batch.recs.length
      · simp only [hlt, if_true]
        exact tailRes_run s.thr batch nacked _ hlt
      · simp only [tailRes, hlt, if_false, run_pure]

def emptyPos : String := "pipeline.empty_source_position"

/-- the end of `Worker.Nack`: the DLQ's error, if any, is returned -/
def nackFin (err : Option Err) (s2 : PS) : Except Stop Unit × PS :=
  match err with
  | some e => (.error (.err (wrap e)), s2)
  | none => (.ok (), s2)

/-- `Worker.Nack` after `DLQ.Nack` returned `(n, err)` in state `s1` -/
def workerNackRest (batch : Batch) (n : Nat) (err : Option Err) (s1 : PS) : Except Stop Unit × PS :=
  if n > 0 then
    if n > batch.original.pos.length then (.error (.panic "slice bounds out of range: positions[:n]"), s1)
    else if !validateAckPositions (batch.original.pos.take n) then
      (match err with
        | some e => (.error (.err (fatalE (joinErr (coded emptyPos) (wrap e)))), s1)
        | none => (.error (.err (fatalE (coded emptyPos))), s1))
    else
      let s2 : PS := { s1 with log := s1.log.push (.sack (batch.original.pos.take n)) }
      if n > batch.recs.length then (.error (.panic "slice bounds out of range: records[:n]"), s2)
      else nackFin err s2
  else nackFin err s1

def workerNackP (s : PS) (batch : Batch) (taskID : Nat) : Except Stop Unit × PS :=
  match dlqNackP s batch.original taskID with
  | (.error e, s1) => (.error e, s1)
  | (.ok (n, err), s1) => workerNackRest batch n err s1

theorem nackFin_run (err : Option Err) (s2 : PS) :
    (match err with | some e => throw (.err (wrap e)) | none => pure () : M Unit).run.run s2 = nackFin err s2 := by
  cases err <;> rfl

theorem workerNack_eq (batch : Batch) (taskID : Nat) (s : PS) :
    (workerNack batch taskID).run.run s = workerNackP s batch taskID := by
  unfold workerNack workerNackP
  simp only [run_bind, dlqNack_eq]
  rcases dlqNackP s batch.original taskID with ⟨r, s1⟩
  rcases r with e | ⟨n, err⟩
  · rfl
  · simp only [workerNackRest]
    by_cases hn : n > 0
    · simp only [hn, if_true]
      by_cases h1 : n > batch.original.pos.length
      · simp only [h1, if_true, run_bind, run_throw]
      · simp only [h1, if_false]
        by_cases h2 : validateAckPositions (batch.original.pos.take n) = true
        · simp only [h2, Bool.not_true, Bool.false_eq_true, if_false, run_bind, run_emit]
          by_cases h3 : n > batch.recs.length
          · simp only [h3, if_true, run_bind, run_throw]
          · simp only [h3, if_false]
            cases err <;> rfl
        · simp only [h2, Bool.not_false, if_true, emptyPos]
          cases err <;> simp only [run_bind, run_throw]
    · simp only [hn, if_false]
      cases err <;> rfl

theorem dlqAck_run (batch : Batch) (s : PS) :
    (dlqAck batch).run.run s =
      if batch.recs.length = 0 then (.ok (), s) else (.ok (), { s with win := s.win.ackN batch.recs.length }) := by
  unfold dlqAck
  by_cases h : batch.recs.length = 0
  · simp only [h, if_true]; rfl
  · simp only [h, if_false]; rfl

theorem storeLoop_le (x : Bool) : ∀ (k : Nat) (w : Win) (i : Nat), (Win.storeLoop x w k i).2 ≤ i + k := by
  intro k
  induction k with
  | zero => intro w i; simp [Win.storeLoop]
  | succ k ih =>
    intro w i
    rw [Win.storeLoop]
    split
    · simp only; omega
    · have := ih (w.put x) (i+1); omega

theorem nackN_le (w : Win) (c : Nat) : (w.nackN c).2 ≤ c := by
  unfold Win.nackN Win.storeN
  split
  · exact Nat.le_refl _
  · split
    · exact Nat.zero_le _
    · have := storeLoop_le true c w 0; omega

theorem nackN_zero (w : Win) : (w.nackN 0).1 = w := by
  unfold Win.nackN Win.storeN
  split
  · rfl
  · split <;> rfl

theorem ackN_zero (w : Win) : w.ackN 0 = w := by
  unfold Win.ackN Win.storeN
  split
  · rfl
  · split
    · rfl
    · split <;> rfl

/-- `Worker.Ack`: with a nil position among the original ones it fails and does nothing; otherwise it logs one
source ack of all of them and books `len(batch.records)` acks in the DLQ window. -/
theorem workerAck_exec (batch : Batch) (s : PS) :
    exec (workerAck batch) s =
      if validateAckPositions batch.original.pos = true then
        (.ok (), { s with log := s.log.push (.sack batch.original.pos), win := s.win.ackN batch.recs.length })
      else (.error (.err (coded emptyPos)), s) := by
  show (workerAck batch).run.run s = _
  unfold workerAck
  by_cases h : validateAckPositions batch.original.pos = true
  · simp only [h, Bool.not_true, Bool.false_eq_true, if_false, if_true, run_bind, run_emit, dlqAck_run]
    split
    · rename_i h0; rw [h0, ackN_zero]
    · rfl
  · simp only [h, Bool.not_false, if_true, run_bind, run_throw, emptyPos]
    rfl

theorem sub_zero_cases (b : Batch) (k : Nat) :
    (∃ m, b.sub 0 k = .error (.panic m)) ∨
    (∃ b', b.sub 0 k = .ok b' ∧ b'.recs = b.recs.take k ∧ b'.st = b.st.take k ∧ b'.pos = b.pos.take k ∧
      k ≤ b.recs.length ∧ k ≤ b.st.length ∧ k ≤ b.pos.length) := by
  unfold Batch.sub
  by_cases hc : (0 > k ∨ k > b.recs.length ∨ k > b.st.length ∨ k > b.pos.length)
  · left; simp only [hc, if_true]; exact ⟨_, rfl⟩
  · simp only [hc, if_false]
    rcases hr : b.runs with _ | rs
    · right
      exact ⟨_, rfl, rfl, rfl, rfl, by omega⟩
    · by_cases hl : k > rs.length
      · left; simp only [hl, if_true]; exact ⟨_, rfl⟩
      · right
        simp only [hl, if_false]
        exact ⟨_, rfl, rfl, rfl, rfl, by omega⟩

def noNilErr (b : Batch) : Prop := (b.st.take b.recs.length).any (·.err.isNone) = false

def infoOf (ob : Batch) (k task : Nat) : List (Rec × Option Err × Nat) :=
  ((ob.recs.zip ob.st).take k).map fun (r, st) => (r, st.err, task)

def stWg (s : PS) (ob : Batch) (task : Nat) : PS :=
  { stN s ob with log := s.log.push (.dlqw s.dlqTask (infoOf ob (s.win.nackN ob.recs.length).2 task)),
                  scripts := popScripts s.scripts s.dlqTask }

theorem take_zip' {α β} (l1 : List α) (l2 : List β) (n : Nat) : (l1.zip l2).take n = (l1.take n).zip (l2.take n) := by
  simp only [List.zip_eq_zipWith, List.take_zipWith]
theorem drop_zip' {α β} (l1 : List α) (l2 : List β) (n : Nat) : (l1.zip l2).drop n = (l1.drop n).zip (l2.drop n) := by
  simp only [List.zip_eq_zipWith, List.drop_zipWith]

theorem dlqNackP_spec (s : PS) (ob : Batch) (task : Nat) {k : Nat} (hk : (s.win.nackN ob.recs.length).2 = k) :
    (ob.recs.length = 0 ∧ dlqNackP s ob task = (.ok (0, none), s)) ∨
    (0 < ob.recs.length ∧ k = 0 ∧ dlqNackP s ob task = (tailRes s.thr ob 0, stN s ob)) ∨
    (0 < k ∧ ((k < ob.recs.length ∧ ∃ m', ob.sub 0 k = .error (.panic m')) ∨
        (ob.st.take k).any (·.err.isNone) = true) ∧
      ∃ m, dlqNackP s ob task = (.error (.panic m), stN s ob)) ∨
    (0 < k ∧ k ≤ ob.recs.length ∧
      dlqNackP s ob task =
        (afterSend s.thr ob k (sendRes (destDoP (Batch.new (ob.recs.take k)) (replyOf s).1 (replyOf s).2) k),
          stWg s ob task)) := by
  subst hk
  have hle := nackN_le s.win ob.recs.length
  unfold dlqNackP
  by_cases h0 : ob.recs.length = 0
  · left; exact ⟨h0, by simp only [h0, if_true]⟩
  right
  simp only [h0, if_false]
  have hw : stWg s ob task = { stN s ob with
      log := s.log.push (.dlqw s.dlqTask (infoOf ob (s.win.nackN ob.recs.length).2 task)),
      scripts := popScripts s.scripts s.dlqTask } := rfl
  generalize (s.win.nackN ob.recs.length).2 = k at hle hw ⊢
  by_cases hk0 : k > 0
  · right
    simp only [hk0, if_true]
    have key : ∀ b : Batch, b.recs = ob.recs.take k → dlqInfo b task = infoOf ob k task →
        b.st.take k = ob.st.take k →
        ((ob.st.take k).any (·.err.isNone) = true ∧
          ∃ m, (afterSend s.thr ob k (sendToDLQP (stN s ob) b task).1, (sendToDLQP (stN s ob) b task).2) =
            (.error (.panic m), stN s ob)) ∨
        (afterSend s.thr ob k (sendToDLQP (stN s ob) b task).1, (sendToDLQP (stN s ob) b task).2) =
          (afterSend s.thr ob k (sendRes (destDoP (Batch.new (ob.recs.take k)) (replyOf s).1 (replyOf s).2) k),
            stWg s ob task) := by
      intro b hr hinfo hst
      have hlen : b.recs.length = k := by rw [hr, List.length_take]; exact Nat.min_eq_left hle
      unfold sendToDLQP
      by_cases hnil : (b.st.take b.recs.length).any (·.err.isNone) = true
      · rw [if_pos hnil]
        rw [hlen, hst] at hnil
        exact .inl ⟨hnil, _, rfl⟩
      · rw [if_neg hnil, hlen, hinfo, hr, hw]
        exact .inr rfl
    by_cases hlt : k < ob.recs.length
    · simp only [hlt, if_true]
      rcases sub_zero_cases ob k with ⟨m, hm⟩ | ⟨b, hb, hr, hs, _⟩
      · left; refine ⟨trivial, Or.inl ⟨trivial, m, hm⟩, m, ?_⟩; rw [hm]
      · rw [hb]
        rcases key b hr (by unfold dlqInfo infoOf; rw [hr, hs, take_zip'])
            (by rw [hs, List.take_take, Nat.min_self]) with ⟨hnil, m, hm⟩ | hm
        · left; exact ⟨trivial, Or.inr hnil, m, hm⟩
        · right; exact ⟨trivial, hle, hm⟩
    · simp only [hlt, if_false]
      have hkl : k = ob.recs.length := Nat.le_antisymm hle (Nat.le_of_not_lt hlt)
      rcases key ob (by rw [hkl, List.take_length]) (by
          unfold dlqInfo infoOf
          rw [List.take_of_length_le (by rw [List.length_zip, hkl]; exact Nat.min_le_left _ _)]) rfl with ⟨hnil, m, hm⟩ | hm
      · left; exact ⟨trivial, Or.inr hnil, m, hm⟩
      · right; exact ⟨trivial, hle, hm⟩
  · left
    obtain rfl : k = 0 := Nat.eq_zero_of_not_pos hk0
    exact ⟨Nat.pos_of_ne_zero h0, rfl, by simp only [hk0, if_false]⟩

def IsPanic (r : Except Stop Unit) : Prop := ∃ m, r = .error (.panic m)
def IsFatal (r : Except Stop Unit) : Prop := ∃ e, r = .error (.err e) ∧ e.fatal = true
def rawRes (err : Option Err) : Except Stop Unit :=
  match err with | some e => .error (.err e) | none => .ok ()

theorem nackFin_eq (err : Option Err) (s : PS) : nackFin err s = (rawRes err, s) := by
  cases err <;> rfl

theorem rawRes_fatal (e : Err) : IsFatal (rawRes (some (fatalE e))) := ⟨_, rfl, rfl⟩

theorem workerNackRest_spec (batch : Batch) (n : Nat) (err : Option Err) (s1 : PS) :
    (n = 0 ∧ workerNackRest batch n err s1 = (rawRes err, s1)) ∨
    (0 < n ∧ ∃ r, workerNackRest batch n err s1 = (r, s1) ∧
      ((IsPanic r ∧ n > batch.original.pos.length) ∨
       (IsFatal r ∧ n ≤ batch.original.pos.length ∧ validateAckPositions (batch.original.pos.take n) = false))) ∨
    (0 < n ∧ n ≤ batch.original.pos.length ∧ validateAckPositions (batch.original.pos.take n) = true ∧
      ∃ r, workerNackRest batch n err s1 = (r, { s1 with log := s1.log.push (.sack (batch.original.pos.take n)) }) ∧
        ((IsPanic r ∧ n > batch.recs.length) ∨ r = rawRes err)) := by
  unfold workerNackRest
  by_cases hn : n > 0
  · right
    simp only [hn, if_true]
    by_cases h1 : n > batch.original.pos.length
    · left; simp only [h1, if_true]; exact ⟨trivial, _, rfl, Or.inl ⟨⟨_, rfl⟩, trivial⟩⟩
    · simp only [h1, if_false]
      by_cases h2 : validateAckPositions (batch.original.pos.take n) = true
      · right
        simp only [h2, Bool.not_true, Bool.false_eq_true, if_false]
        refine ⟨trivial, by omega, trivial, ?_⟩
        by_cases h3 : n > batch.recs.length
        · simp only [h3, if_true]; exact ⟨_, rfl, Or.inl ⟨⟨_, rfl⟩, trivial⟩⟩
        · simp only [h3, if_false, nackFin_eq]; exact ⟨_, rfl, Or.inr rfl⟩
      · left
        have h2' : validateAckPositions (batch.original.pos.take n) = false := by
          cases hv : validateAckPositions (batch.original.pos.take n) with
          | true => exact absurd hv h2
          | false => rfl
        simp only [h2', Bool.not_false, if_true]
        refine ⟨trivial, ?_⟩
        cases err with
        | some e => exact ⟨_, rfl, Or.inr ⟨⟨_, rfl, rfl⟩, Nat.le_of_not_lt h1, trivial⟩⟩
        | none => exact ⟨_, rfl, Or.inr ⟨⟨_, rfl, rfl⟩, Nat.le_of_not_lt h1, trivial⟩⟩
  · left
    have : n = 0 := by omega
    subst this
    simp only [hn, if_false, nackFin_eq]
    exact ⟨trivial, trivial⟩

theorem workerNackP_of_error {s : PS} {batch : Batch} {task : Nat} {e : Stop} {s1 : PS}
    (h : dlqNackP s batch.original task = (.error e, s1)) : workerNackP s batch task = (.error e, s1) := by
  unfold workerNackP; rw [h]

theorem workerNackP_of_ok {s : PS} {batch : Batch} {task : Nat} {n : Nat} {err : Option Err} {s1 : PS}
    (h : dlqNackP s batch.original task = (.ok (n, err), s1)) :
    workerNackP s batch task = workerNackRest batch n err s1 := by
  unfold workerNackP; rw [h]

theorem idx_cases {α} (l : List α) (i : Nat) (w : String) :
    (l[i]? = none ∧ ∃ m, idx l i w = .error (.panic m)) ∨ ∃ x, l[i]? = some x ∧ idx l i w = .ok x := by
  unfold idx
  cases l[i]? with
  | none => left; exact ⟨rfl, _, rfl⟩
  | some x => right; exact ⟨x, rfl, rfl⟩

theorem tailRes_lt (thr : Nat) (ob : Batch) (k : Nat) (hlt : k < ob.recs.length) :
    (ob.st[k]? = none ∧ ∃ m, tailRes thr ob k = .error (.panic m)) ∨
    (∃ e, tailRes thr ob k = .ok (k, some (fatalE e))) ∨
    (thr = 0 ∧ ∃ st, ob.st[k]? = some st ∧ tailRes thr ob k = .ok (k, st.err)) := by
  unfold tailRes
  simp only [hlt, if_true]
  rcases idx_cases ob.st k "recordStatuses[nacked]" with ⟨hnone, m, hm⟩ | ⟨st, hst, hm⟩
  · left; rw [hm]; exact ⟨hnone, m, rfl⟩
  · right; rw [hm]
    by_cases ht : thr > 0
    · exact .inl ⟨_, by simp only [ht, if_true]; rfl⟩
    · exact .inr ⟨Nat.eq_zero_of_not_pos ht, st, hst, by simp only [ht, if_false]⟩

theorem tailRes_ge (thr : Nat) (ob : Batch) (k : Nat) (hge : ¬ k < ob.recs.length) :
    tailRes thr ob k = .ok (k, none) := by
  unfold tailRes; simp only [hge, if_false]

/-- the number of nacks of `batch` the DLQ window accepts in state `s` -/
def accepted (s : PS) (batch : Batch) : Nat := (s.win.nackN batch.original.recs.length).2

/-- what `Worker.Nack` hands to the DLQ destination -/
def dlqWritten (s : PS) (batch : Batch) (task : Nat) : List (Rec × Option Err × Nat) :=
  infoOf batch.original (accepted s batch) task

/-- the DLQ batch after `DestinationTask.Do` consumed the DLQ destination's next reply -/
def dlqBatchAfter (s : PS) (batch : Batch) : R Batch :=
  destDoP (Batch.new (batch.original.recs.take (accepted s batch))) (replyOf s).1 (replyOf s).2

/-- number of leading records of the DLQ write that the DLQ destination positively confirmed
(`0` when the write / the ack loop failed) -/
def dlqConfirmed (s : PS) (batch : Batch) : Nat :=
  match dlqBatchAfter s batch with
  | .ok db => leadAcks db.st
  | .error _ => 0

def stNack (s : PS) (batch : Batch) : PS := stN s batch.original
def stWrite (s : PS) (batch : Batch) (task : Nat) : PS := stWg s batch.original task
def stAck (s : PS) (batch : Batch) (task n : Nat) : PS :=
  { stWrite s batch task with
    log := (stWrite s batch task).log.push (.sack (batch.original.pos.take n)) }

/-- the window refused record `accepted s batch` with threshold 0: its own error is returned as is -/
def Refused (s : PS) (batch : Batch) (r : Except Stop Unit) : Prop :=
  s.thr = 0 ∧ ∃ st, batch.original.st[accepted s batch]? = some st ∧ r = rawRes st.err

theorem stN_len_zero (s : PS) (ob : Batch) (h : ob.recs.length = 0) : stN s ob = s := by
  unfold stN; rw [h, nackN_zero]

theorem workerNackRest_zero (batch : Batch) (err : Option Err) (s1 : PS) :
    workerNackRest batch 0 err s1 = (rawRes err, s1) := by
  unfold workerNackRest
  simp only [Nat.lt_irrefl, gt_iff_lt, if_false, nackFin_eq]

theorem destDoP_new_no_panic (recs : List Rec) (werr : Option Err) (resps : List AckResp) (m : String) :
    destDoP (Batch.new recs) werr resps ≠ .error (.panic m) :=
  destDoP_ne_panic (new_WF #[] recs) werr resps m

/-- why `Worker.Nack` can panic at all: a slice-bounds panic of `sub(0, accepted)`, a nil
`status.Error` among the records sent to the DLQ, a missing status of the refused record, or
fewer positions / records than nacks to acknowledge — none possible for a well-formed batch whose
nacked records carry an error (`PanicCause_of_wf`). -/
def PanicCause (s : PS) (batch : Batch) : Prop :=
  (accepted s batch < batch.original.recs.length ∧
      ∃ m, batch.original.sub 0 (accepted s batch) = .error (.panic m)) ∨
  (batch.original.st.take (accepted s batch)).any (·.err.isNone) = true ∨
  (accepted s batch < batch.original.recs.length ∧ batch.original.st[accepted s batch]? = none) ∨
  accepted s batch > batch.original.pos.length ∨
  accepted s batch > batch.recs.length

def Panics (s : PS) (batch : Batch) (r : Except Stop Unit) : Prop := IsPanic r ∧ PanicCause s batch

/-- How `Worker.Nack` ends, by what it leaves behind — nothing but the window (`stNack`), the DLQ write
(`stWrite`), the write and the ack of the leading `n` positions (`stAck`) — with the cause of every
failure: a fatal error after the write alone means that the DLQ destination confirmed nothing or a
position to acknowledge is empty; after the ack, that not all records were acknowledged. `out` is the
result and the final state. -/
inductive NackCases (s : PS) (batch : Batch) (task : Nat) (out : Except Stop Unit × PS) : Prop
  | window (r : Except Stop Unit) (h : out = (r, stNack s batch))
      (hc : (batch.original.recs.length = 0 ∧ r = .ok ()) ∨
        (0 < batch.original.recs.length ∧ accepted s batch = 0 ∧ (Panics s batch r ∨ IsFatal r ∨ Refused s batch r)) ∨
        (0 < accepted s batch ∧ Panics s batch r))
  | write (r : Except Stop Unit) (h : out = (r, stWrite s batch task)) (hk : 0 < accepted s batch)
      (hc : (IsFatal r ∧ (dlqConfirmed s batch = 0 ∨ ∃ n : Nat, 1 ≤ n ∧ n ≤ batch.original.pos.length ∧
          validateAckPositions (batch.original.pos.take n) = false)) ∨
        (Panics s batch r ∧ 0 < dlqConfirmed s batch))
  | ack (n : Nat) (r : Except Stop Unit) (h : out = (r, stAck s batch task n)) (h1 : 1 ≤ n)
      (h2 : n ≤ accepted s batch) (h3 : n ≤ dlqConfirmed s batch) (h4 : n ≤ batch.original.pos.length)
      (h5 : validateAckPositions (batch.original.pos.take n) = true)
      (hc : Panics s batch r ∨ (IsFatal r ∧ n < batch.original.recs.length) ∨
        (n = accepted s batch ∧ accepted s batch < batch.original.recs.length ∧ Refused s batch r) ∨
        (n = accepted s batch ∧ accepted s batch = batch.original.recs.length ∧ r = .ok ()))

theorem workerNackP_after_write {s : PS} {batch : Batch} {task n : Nat} {err : Option Err} (hn : 0 < n)
    (hnk : n ≤ accepted s batch) (hnc : n ≤ dlqConfirmed s batch)
    (hd : dlqNackP s batch.original task = (.ok (n, err), stWrite s batch task))
    (herr : (IsFatal (rawRes err) ∧ n < batch.original.recs.length) ∨
      (n = accepted s batch ∧ accepted s batch < batch.original.recs.length ∧ Refused s batch (rawRes err)) ∨
      (n = accepted s batch ∧ accepted s batch = batch.original.recs.length ∧ rawRes err = .ok ())) :
    NackCases s batch task (workerNackP s batch task) := by
  rw [workerNackP_of_ok hd]
  rcases workerNackRest_spec batch n err (stWrite s batch task) with ⟨h0, _⟩ | ⟨_, r, hr, hp⟩ | ⟨_, h1, h2, r, hr, hp⟩
  · omega
  · refine .write r hr (by omega) ?_
    rcases hp with ⟨hp, hgt⟩ | ⟨hp, hle, hv⟩
    · exact Or.inr ⟨⟨hp, Or.inr (Or.inr (Or.inr (Or.inl (by omega))))⟩, by omega⟩
    · exact Or.inl ⟨hp, Or.inr ⟨n, hn, hle, hv⟩⟩
  · refine .ack n r hr hn hnk hnc h1 h2 ?_
    rcases hp with ⟨hp, hgt⟩ | rfl
    · exact Or.inl ⟨hp, Or.inr (Or.inr (Or.inr (Or.inr (by omega))))⟩
    · exact Or.inr herr

theorem workerNack_cases (s : PS) (batch : Batch) (task : Nat) :
    NackCases s batch task (exec (workerNack batch task) s) := by
  rw [show exec (workerNack batch task) s = workerNackP s batch task from workerNack_eq batch task s]
  rcases dlqNackP_spec s batch.original task (k := accepted s batch) rfl with ⟨h0, he⟩ | ⟨hl, hk, he⟩ | ⟨hk, hcause, m, he⟩ | ⟨hk, hle, he⟩
  · rw [workerNackP_of_ok he, workerNackRest_zero]
    exact .window (rawRes none) (by rw [stNack, stN_len_zero s _ h0]) (Or.inl ⟨h0, rfl⟩)
  · rcases tailRes_lt s.thr batch.original 0 hl with ⟨hnone, m, hm⟩ | ⟨e, hm⟩ | ⟨ht, st, hst, hm⟩
    · rw [hm] at he; rw [workerNackP_of_error he]
      exact .window _ rfl (Or.inr (Or.inl ⟨hl, hk, Or.inl ⟨⟨m, rfl⟩,
        Or.inr (Or.inr (Or.inl (by rw [hk]; exact ⟨hl, hnone⟩)))⟩⟩))
    · rw [hm] at he; rw [workerNackP_of_ok he, workerNackRest_zero]
      exact .window _ rfl (Or.inr (Or.inl ⟨hl, hk, Or.inr (Or.inl (rawRes_fatal _))⟩))
    · rw [hm] at he; rw [workerNackP_of_ok he, workerNackRest_zero]
      exact .window _ rfl (Or.inr (Or.inl ⟨hl, hk, Or.inr (Or.inr ⟨ht, st, by rw [hk]; exact hst, rfl⟩)⟩))
  · rw [workerNackP_of_error he]
    refine .window _ rfl (Or.inr (Or.inr ⟨hk, ⟨m, rfl⟩, ?_⟩))
    rcases hcause with hc | hc
    · exact Or.inl hc
    · exact Or.inr (Or.inl hc)
  · change dlqNackP s batch.original task = (afterSend s.thr batch.original (accepted s batch)
      (sendRes (dlqBatchAfter s batch) (accepted s batch)), stWrite s batch task) at he
    rcases hout : dlqBatchAfter s batch with e | db
    · rw [hout] at he
      cases e with
      | panic m => exact absurd hout (destDoP_new_no_panic _ _ _ m)
      | err e =>
        rw [workerNackP_of_ok (n := 0) (err := some (fatalE (wrap e))) he, workerNackRest_zero]
        exact .write _ rfl hk (Or.inl ⟨rawRes_fatal _, Or.inl (by unfold dlqConfirmed; rw [hout])⟩)
    · have hconf : dlqConfirmed s batch = leadAcks db.st := by unfold dlqConfirmed; rw [hout]
      rw [hout] at he
      simp only [sendRes, sendResult] at he
      by_cases ha : leadAcks db.st < accepted s batch
      · simp only [ha, if_true, afterSend] at he
        by_cases ha0 : leadAcks db.st = 0
        · rw [ha0] at he
          rw [workerNackP_of_ok he, workerNackRest_zero]
          exact .write _ rfl hk (Or.inl ⟨rawRes_fatal _, Or.inl (hconf.trans ha0)⟩)
        · exact workerNackP_after_write (by omega) (by omega) (by omega) he (Or.inl ⟨rawRes_fatal _, by omega⟩)
      · simp only [ha, if_false, afterSend] at he
        by_cases hlt : accepted s batch < batch.original.recs.length
        · rcases tailRes_lt s.thr batch.original (accepted s batch) hlt with ⟨hnone, m, hm⟩ | ⟨e, hm⟩ | ⟨ht, st, hst, hm⟩
          · rw [hm] at he; rw [workerNackP_of_error he]
            exact .write _ rfl hk (Or.inr ⟨⟨⟨m, rfl⟩, Or.inr (Or.inr (Or.inl ⟨hlt, hnone⟩))⟩, by omega⟩)
          · rw [hm] at he
            exact workerNackP_after_write hk (Nat.le_refl _) (by omega) he (Or.inl ⟨rawRes_fatal _, hlt⟩)
          · rw [hm] at he
            exact workerNackP_after_write hk (Nat.le_refl _) (by omega) he
              (Or.inr (Or.inl ⟨rfl, hlt, ht, st, hst, rfl⟩))
        · rw [tailRes_ge _ _ _ hlt] at he
          exact workerNackP_after_write hk (Nat.le_refl _) (by omega) he (Or.inr (Or.inr ⟨rfl, by omega, rfl⟩))

/-- `originalBatch()` of a batch holding split records: row `i` of the result is a row of the
batch with a non-nil position; its record is the ORIGINAL stored in `splitRecords` under that
position when there is one (else the row's own record), its status is the row's status. -/
theorem original_row (batch : Batch) (hs : batch.split.length ≠ 0) (i : Nat) (r : Rec)
    (h : batch.original.recs[i]? = some r) :
    ∃ (p : PosV) (r0 : Rec) (st : Status), (p, r0, st) ∈ batch.pos.zip (batch.recs.zip batch.st) ∧ p ≠ none ∧
      batch.original.pos[i]? = some p ∧ batch.original.st[i]? = some st ∧
      r = (lookup batch.split (keyOf p)).getD r0 := by
  unfold Batch.original at h ⊢
  simp only [hs, if_false] at h ⊢
  simp only [List.getElem?_map] at h ⊢
  cases hrow : ((batch.pos.zip (batch.recs.zip batch.st)).filter fun x => x.1 != none)[i]? with
  | none => rw [hrow] at h; cases h
  | some row =>
    obtain ⟨p, r0, st⟩ := row
    rw [hrow] at h
    have hm := List.mem_of_getElem? hrow
    rw [List.mem_filter] at hm
    refine ⟨p, r0, st, hm.1, ?_, rfl, rfl, ?_⟩
    · have := hm.2; simpa using this
    · simpa using h.symm

theorem infoOf_getElem (ob : Batch) (k task i : Nat) (e : Rec × Option Err × Nat)
    (h : (infoOf ob k task)[i]? = some e) :
    i < k ∧ e.2.2 = task ∧ ob.recs[i]? = some e.1 ∧ ∃ st, ob.st[i]? = some st ∧ st.err = e.2.1 := by
  unfold infoOf at h
  rw [List.getElem?_map, List.getElem?_take] at h
  by_cases hi : i < k
  · simp only [hi, if_true, List.getElem?_zip_eq_some, Option.map_eq_some_iff] at h
    obtain ⟨⟨r, st⟩, ⟨h1, h2⟩, rfl⟩ := h
    exact ⟨hi, rfl, h1, st, h2, rfl⟩
  · simp only [hi, if_false] at h; cases h

theorem log_ne_push2 {α} (a : Array α) (x y : α) : a ≠ (a.push x).push y := by
  intro h; have := congrArg Array.size h; simp at this; omega
theorem push_ne_push2 {α} (a : Array α) (x x' y : α) : a.push x ≠ (a.push x').push y := by
  intro h; have := congrArg Array.size h; simp at this
theorem log_ne_push {α} (a : Array α) (x : α) : a ≠ a.push x := by
  intro h; have := congrArg Array.size h; simp at this
theorem push2_inj {α} {a : Array α} {x x' y y' : α} (h : (a.push x).push y = (a.push x').push y') : x = x' ∧ y = y' := by
  rw [Array.push_eq_push, Array.push_eq_push] at h
  exact ⟨h.2.1, h.1⟩

theorem not_mem_take_of_nodup {α} {l : List α} (hnd : l.Nodup) {k n : Nat} {p : α} (hk : l[k]? = some p) (hn : n ≤ k) :
    p ∉ l.take n := by
  intro hm
  obtain ⟨i, hi⟩ := List.mem_iff_getElem?.1 hm
  rw [List.getElem?_take] at hi
  by_cases hin : i < n
  · simp only [hin, if_true] at hi
    have hlt : i < l.length := (List.getElem?_eq_some_iff.mp hi).1
    have := (List.getElem?_inj hlt hnd).mp (hi.trans hk.symm)
    omega
  · simp only [hin, if_false] at hi; cases hi

theorem leadAcks_spec (st : List Status) (i : Nat) (hi : i < leadAcks st) :
    ∃ x, st[i]? = some x ∧ x.flag = .ack := by
  unfold leadAcks at hi
  induction st generalizing i with
  | nil => simp at hi
  | cons a st ih =>
    rw [List.takeWhile_cons] at hi
    by_cases ha : a.flag = .ack
    · simp only [ha, decide_true, if_true, List.length_cons] at hi
      cases i with
      | zero => exact ⟨a, rfl, ha⟩
      | succ i => simpa using ih i (by omega)
    · simp [ha] at hi

theorem accepted_le (s : PS) (batch : Batch) : accepted s batch ≤ batch.original.recs.length :=
  nackN_le _ _

theorem original_recs_le (b : Batch) : b.original.recs.length ≤ b.recs.length := by
  unfold Batch.original
  by_cases hs : b.split.length = 0
  · simp only [hs, if_true]; exact Nat.le_refl _
  · simp only [hs, if_false, List.length_map]
    refine Nat.le_trans (List.length_filter_le _ _) ?_
    rw [List.length_zip, List.length_zip]
    omega

theorem workerNack_panic_cause (s : PS) (batch : Batch) (task : Nat) (m : String)
    (h : (exec (workerNack batch task) s).1 = .error (.panic m)) : PanicCause s batch := by
  have nf : ∀ r : Except Stop Unit, r = .error (.panic m) → IsFatal r → False := by
    rintro r hr ⟨e, he, _⟩; rw [he] at hr; cases hr
  have nr : ∀ r : Except Stop Unit, r = .error (.panic m) → Refused s batch r → False := by
    rintro r hr ⟨_, st, _, he⟩
    rw [he] at hr
    cases hst : st.err <;> rw [hst] at hr <;> cases hr
  rcases workerNack_cases s batch task with ⟨r, hw, hr⟩ | ⟨r, hw, _, hr⟩ | ⟨n, r, hw, _, _, _, _, _, hr⟩ <;>
    rw [hw] at h <;> simp only at h
  · rcases hr with ⟨_, hr⟩ | ⟨_, _, hr | hr | hr⟩ | ⟨_, hr⟩
    · rw [hr] at h; cases h
    · exact hr.2
    · exact (nf r h hr).elim
    · exact (nr r h hr).elim
    · exact hr.2
  · rcases hr with ⟨hr, _⟩ | ⟨hr, _⟩
    · exact (nf r h hr).elim
    · exact hr.2
  · rcases hr with hr | ⟨hr, _⟩ | ⟨_, _, hr⟩ | ⟨_, _, hr⟩
    · exact hr.2
    · exact (nf r h hr).elim
    · exact (nr r h hr).elim
    · rw [hr] at h; cases h

theorem PanicCause_of_wf {hp : Heap} {s : PS} {batch : Batch} (hwf : batch.WF hp)
    (herr : ∀ st ∈ batch.original.st.take (accepted s batch), st.err ≠ none) : ¬ PanicCause s batch := by
  have hob := original_WF hwf
  have hle := accepted_le s batch
  have h1 := hob.1.st_len
  have h2 := hob.1.pos_len
  have h3 := original_recs_le batch
  rintro (⟨_, m, hm⟩ | hnil | ⟨hlt, hnone⟩ | hgt | hgt)
  · obtain ⟨b', hb, _⟩ := sub_ok hob (Nat.zero_le _) hle
    rw [hb] at hm; cases hm
  · rw [List.any_eq_true] at hnil
    obtain ⟨st, hst, hn⟩ := hnil
    have := herr st hst
    cases he : st.err with
    | none => exact this he
    | some e => rw [he] at hn; cases hn
  · rw [List.getElem?_eq_none_iff] at hnone; omega
  · omega
  · omega

/-- The footprint of the root handler: `Worker.Ack` and `Worker.Nack` move the DLQ window; `Worker.Nack` may
then log one DLQ write, which consumes the DLQ destination's next reply; either may then log one source
ack. A state predicate that these three writes keep is kept by both, whether they return or fail. -/
theorem worker_keeps {I : PS → Prop} (win : ∀ (s : PS) (w : Win), I s → I { s with win := w })
    (dlqw : ∀ (s : PS) (info : List (Rec × Option Err × Nat)), I s →
      I { s with log := s.log.push (.dlqw s.dlqTask info), scripts := popScripts s.scripts s.dlqTask })
    (sack : ∀ (s : PS) (ps : List PosV), I s → I { s with log := s.log.push (.sack ps) }) :
    (∀ b, Spec I (workerAck b) fun _ => True) ∧ ∀ b t, Spec I (workerNack b t) fun _ => True := by
  refine ⟨fun b s hs => ⟨?_, fun _ _ => trivial⟩, fun b t s hs => ⟨?_, fun _ _ => trivial⟩⟩
  · rw [workerAck_exec]
    split
    · exact win _ _ (sack s _ hs)
    · exact hs
  · have hw : I (stWrite s b t) := dlqw _ _ (win s _ hs)
    rcases workerNack_cases s b t with ⟨r, h, _⟩ | ⟨r, h, _⟩ | ⟨n, r, h, _⟩ <;> rw [h]
    · exact win s _ hs
    · exact hw
    · exact sack _ _ hw

end Conduit.Funnel
