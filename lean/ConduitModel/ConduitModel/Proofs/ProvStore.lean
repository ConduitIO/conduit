import ConduitModel.Proofs.ProvEff

/-!
C15 convergence, store side: with no store failure the import keeps the write target an exact copy of
memory (`Synced`, the invariant of C14's calls); the commit that then leaves store = memory is in
`applyPlan_ok` (`Props/C15.lean`).
-/
namespace Conduit.Ctl

def TxAgree (prog : M Unit) : Prop :=
  ∀ s, NoFail s → s.tx = some (KV.ofMem s.mem) →
    NoFail (prog s).2 ∧ (prog s).2.tx = some (KV.ofMem (prog s).2.mem) ∧ (prog s).2.kv = s.kv

theorem txAgree_id : TxAgree (fun s => (.ok (), s)) := fun _ hn ht => ⟨hn, ht, rfl⟩

theorem importPipeline_synced (v : Variant) (c : PipeCfg) (prov : Nat) (s s' : St) (hn : NoFail s)
    (h : Synced s) (hok : importPipeline v c prov s = (.ok (), s')) : Synced s' := by
  let R (s s' : St) : Prop := NoFail s → Synced s → NoFail s' ∧ Synced s'
  have refl : ∀ s, R s s := fun _ hn h => ⟨hn, h⟩
  have trans : ∀ {a b c}, R a b → R b c → R a c := fun h1 h2 hn h => (h1 hn h).elim h2
  have := along_importPipeline refl trans v c prov s fun _ _ a _ =>
    Act.along refl trans v a fun f hf s hn h => by
      cases hp : f.pre s.mem with
      | some e => rw [Svc.run_pre_err hp]; exact ⟨hn, h⟩
      | none => rw [run_nofail_ok f s hn hp]; exact ⟨hn.stepOk f, h.stepOk hf.footprint⟩
  rw [hok] at this
  exact (this hn h).2

end Conduit.Ctl
