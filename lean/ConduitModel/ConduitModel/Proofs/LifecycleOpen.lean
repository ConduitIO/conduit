import ConduitModel.Model.LifecycleOpen

/-!
The open phase of one Start (`Model/LifecycleOpen.lean`): `openUpTo` and `closeDownTo` pointwise, and when no guard is held.
-/
namespace Conduit.LifecycleOpen

theorem openUpTo_apply (f : Nat → Bool) : ∀ (k j : Nat), openUpTo f k j = (decide (j < k) || f j)
  | 0, j => by simp [openUpTo]
  | k + 1, j => by
    simp only [openUpTo, setSrc]
    by_cases h : j = k
    · subst h; simp
    · rw [if_neg h, openUpTo_apply f k j]
      have : (j < k + 1) ↔ (j < k) := by omega
      simp [this]

theorem closeDownTo_apply (lo : Nat) : ∀ (hi : Nat) (f : Nat → Bool) (j : Nat),
    closeDownTo f lo hi j = (f j && !(decide (lo ≤ j) && decide (j < hi)))
  | 0, f, j => by simp [closeDownTo]
  | hi + 1, f, j => by
    simp only [closeDownTo]
    by_cases hlo : lo ≤ hi
    · rw [if_pos hlo, closeDownTo_apply lo hi (setSrc f hi false) j]
      simp only [setSrc]
      by_cases h : j = hi
      · subst h; simp [hlo]
      · rw [if_neg h]
        have : (j < hi + 1) ↔ (j < hi) := by omega
        simp [this]
    · rw [if_neg hlo]
      have h1 : ¬ (lo ≤ j ∧ j < hi + 1) := by omega
      have h2 : (decide (lo ≤ j) && decide (j < hi + 1)) = false := by
        cases h3 : (decide (lo ≤ j) && decide (j < hi + 1))
        · rfl
        · simp only [Bool.and_eq_true, decide_eq_true_eq] at h3; exact absurd h3 h1
      simp [h2]

theorem anyHeld_false_iff (g : Guards) (n : Nat) :
    g.anyHeld n = false ↔ g.sink = false ∧ ∀ j, j < n → g.src j = false := by
  simp only [Guards.anyHeld, Bool.or_eq_false_iff, List.any_eq_false, List.mem_range]
  constructor
  · intro ⟨h1, h2⟩; exact ⟨h1, fun j hj => by simpa using h2 j hj⟩
  · intro ⟨h1, h2⟩; exact ⟨h1, fun j hj => by simp [h2 j hj]⟩

end Conduit.LifecycleOpen
