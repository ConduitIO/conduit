import ConduitModel.Model.AtomicFile

/-!
Soundness of the abstract interpretation of `atomicfile.WriteFile`'s operation list: if the
decidable check `aSafe` passes, no crash state has a torn or foreign target.
-/
namespace Conduit.AtomicFile

/-- concretisation: what an abstract state says about a concrete one (writing `new` over `old`). -/
def Gamma (old : Option Content) (new : Content) (a : AS) (s : FSt) : Prop :=
  (match a.tgt with
    | .old => s.target = old
    | .new => s.target = some new
    | .bad => True) ∧
  (match a.tmp with
    | .absent => s.tmp = none
    | .empty => s.tmp = some []
    | .torn => ∃ k, s.tmp = some (new.take k)
    | .full => s.tmp = some new
    | .junk => True)

/-- the target holds the complete old or the complete new content. -/
def TargetIntact (old : Option Content) (new : Content) (s : FSt) : Prop :=
  s.target = old ∨ s.target = some new

theorem gamma_intact {old : Option Content} {new : Content} {a : AS} {s : FSt}
    (h : Gamma old new a s) (hb : (a.tgt != .bad) = true) : TargetIntact old new s := by
  obtain ⟨ht, -⟩ := h
  cases hta : a.tgt with
  | old => rw [hta] at ht; exact Or.inl ht
  | new => rw [hta] at ht; exact Or.inr ht
  | bad => rw [hta] at hb; simp at hb

theorem gamma_apply {old : Option Content} {new : Content} {a : AS} {s : FSt}
    (h : Gamma old new a s) (op : Op) : Gamma old new (aApply a op) (apply new s op) := by
  obtain ⟨ht, hm⟩ := h
  obtain ⟨tgt, tmp⟩ := a
  cases op with
  | sync | close | chmod => exact ⟨ht, hm⟩
  | createTemp | remove => exact ⟨ht, rfl⟩
  | write => exact ⟨ht, by cases tmp <;> simp_all [aApply, apply]⟩
  | rename =>
    -- a temp file that is not known to be complete makes the target `bad`: nothing to show for it
    have hnone : (apply new s .rename).tmp = none := by
      cases h : s.tmp <;> simp [apply, h]
    cases tmp with
    | absent | full => simp_all [Gamma, aApply, apply]
    | _ => exact ⟨trivial, hnone⟩

theorem during_nonwrite {new : Content} {s s' : FSt} {op : Op} (hne : op ≠ .write)
    (hd : during new s op s') : s' = s ∨ s' = apply new s op := by
  cases op <;> first | exact absurd rfl hne | exact hd

theorem aDuring_nonwrite (a : AS) {op : Op} (hne : op ≠ .write) : aDuring a op = [a, aApply a op] := by
  cases op <;> first | exact absurd rfl hne | rfl

theorem gamma_during {old : Option Content} {new : Content} {a : AS} {s s' : FSt}
    (h : Gamma old new a s) (op : Op) (hd : during new s op s') :
    ∃ a' ∈ aDuring a op, Gamma old new a' s' := by
  by_cases hw : op = .write
  · subst hw
    obtain ⟨htg, k, hk⟩ := hd
    refine ⟨{ a with tmp := tornOf a.tmp }, by simp [aDuring], ?_⟩
    obtain ⟨ht, hm⟩ := h
    obtain ⟨tgt, tmp⟩ := a
    refine ⟨by simpa [htg] using ht, ?_⟩
    cases tmp <;> simp_all [tornOf]
    exact ⟨k, rfl⟩
  · rw [aDuring_nonwrite a hw]
    rcases during_nonwrite hw hd with rfl | rfl
    · exact ⟨a, by simp, h⟩
    · exact ⟨aApply a op, by simp, gamma_apply h op⟩

/-- if the abstract check passes, every crash state has an intact target. -/
theorem aSafe_sound {old : Option Content} {new : Content} : ∀ (ops : List Op) (a : AS) (s s' : FSt),
    aSafe a ops = true → Gamma old new a s → CrashState new s ops s' → TargetIntact old new s' := by
  intro ops
  induction ops with
  | nil =>
    intro a s s' hs hg hc
    simp only [CrashState] at hc
    subst hc
    exact gamma_intact hg (by simpa [aSafe] using hs)
  | cons op rest ih =>
    intro a s s' hs hg hc
    simp only [aSafe, Bool.and_eq_true, List.all_eq_true] at hs
    obtain ⟨⟨-, hd⟩, hr⟩ := hs
    rcases hc with hc | hc
    · obtain ⟨a', ha', hg'⟩ := gamma_during hg op hc
      exact gamma_intact hg' (hd a' ha')
    · exact ih _ _ _ hr (gamma_apply hg op) hc

theorem gamma_runOps {old : Option Content} {new : Content} : ∀ (ops : List Op) (a : AS) (s : FSt),
    Gamma old new a s → Gamma old new (ops.foldl aApply a) (runOps new s ops) := by
  intro ops
  induction ops with
  | nil => intro a s h; exact h
  | cons op rest ih => intro a s h; exact ih _ _ (gamma_apply h op)

/-- if the target is abstractly `old` before each operation, then it holds the old content after
any strict prefix of the operations (i.e. whenever an operation fails). -/
theorem aOldBefore_sound {old : Option Content} {new : Content} : ∀ (ops : List Op) (a : AS) (s : FSt) (k : Nat),
    aOldBefore a ops = true → Gamma old new a s → k < ops.length →
    (runOps new s (ops.take k)).target = old := by
  intro ops
  induction ops with
  | nil => intro a s k _ _ hk; simp at hk
  | cons op rest ih =>
    intro a s k hb hg hk
    simp only [aOldBefore, Bool.and_eq_true, beq_iff_eq] at hb
    cases k with
    | zero =>
      simp only [List.take_zero, runOps, List.foldl_nil]
      have := hg.1; rw [hb.1] at this; exact this
    | succ k =>
      simp only [List.take_succ_cons, runOps, List.foldl_cons]
      exact ih _ _ k hb.2 (gamma_apply hg op) (by simpa using hk)

theorem gamma_init (old : Option Content) (new : Content) :
    Gamma old new aInit { target := old, tmp := none } := by
  simp [Gamma, aInit]

end Conduit.AtomicFile
