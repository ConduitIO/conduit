import ConduitModel.Proofs.BatchBase

/-!
`Nack(i, errs...)` (`setFlagWithErr`): agreement of the loop with its recursive restatement
(`nack_eq_model`), totality and effect under `Batch.WF` (`nack_ok_ext`, `NackPost`: exact when no record is split,
`NackPost.plain`; a changed status became some nack within the split extent otherwise); as a rewrite of rows:
`NackPost.inPlace` (Proofs/BatchCall.lean).
-/
namespace Conduit.Funnel

theorem forIn_nackExtent (e : Option Err) (l : List Nat) (st : List Status) :
    forIn l st (fun j (s : List Status) => (do
      let sj ← idx s j "recordStatuses"
      if (sj.flag != Flag.filter) = true then pure (ForInStep.yield (s.set j { flag := Flag.nack, err := e }))
      else pure (ForInStep.yield s) : R (ForInStep (List Status)))) = l.foldlM (nackExtent e) st := by
  rw [← forIn_yield_foldlM]
  congr 1
  funext j s
  simp only [nackExtent, bind_assoc, ite_bind, pure_bind]

theorem forIn_nackGo (b : Batch) (act : Option (List Nat)) (i : Nat)
    (F : Option Err → List Status × Nat → R (ForInStep (List Status × Nat)))
    (hF : ∀ e st k, F e (st, k) = (do let st' ← nackStep b act st (i + k) e; pure (ForInStep.yield (st', k + 1))))
    (errs : List (Option Err)) (st : List Status) (k : Nat) :
    forIn errs (st, k) F = (do let st' ← nackGo b act errs (i + k) st; pure (st', k + errs.length)) := by
  induction errs generalizing st k with
  | nil => simp [nackGo]
  | cons e es ih =>
    simp only [List.forIn_cons, hF, bind_assoc, pure_bind, nackGo, List.length_cons]
    congr 1
    funext st'
    rw [ih, Nat.add_assoc k, Nat.add_comm 1]; rfl

theorem nack_eq_model (b : Batch) (i : Nat) (errs : List (Option Err)) : b.nack i errs = b.nackP i errs := by
  unfold Batch.nack Batch.nackP
  simp only []
  rw [forIn_nackGo b b.activeIdx i]
  · simp only [bind_assoc, pure_bind, Nat.add_zero]
  · intro e st k
    simp only [forIn_nackExtent]
    unfold nackStep
    cases b.activeIdx <;> simp only [pure_bind, bind_assoc, ite_bind]

def inExtent (b : Batch) (p x : Nat) : Prop :=
  findSplitFrom b.pos p ≤ x ∧ x < findSplitTo b.pos (p+1) b.pos.length

theorem findSplitFrom_le (pos : List PosV) (p : Nat) : findSplitFrom pos p ≤ p := by
  induction p with
  | zero => simp [findSplitFrom]
  | succ p ih => unfold findSplitFrom; split <;> omega

theorem findSplitTo_bounds (pos : List PosV) (t fuel : Nat) :
    t ≤ findSplitTo pos t fuel ∧ findSplitTo pos t fuel ≤ max t pos.length := by
  induction fuel generalizing t with
  | zero => simp [findSplitTo]; omega
  | succ f ih =>
    unfold findSplitTo
    have := ih (t+1)
    split <;> omega

/-- the indices `Nack` walks for physical index `p`: `for j := from; j <= to-1; j++` -/
def extentRange (b : Batch) (p : Nat) : List Nat :=
  List.range' (findSplitFrom b.pos p) (findSplitTo b.pos (p+1) b.pos.length - 1 + 1 - findSplitFrom b.pos p)

theorem mem_extentRange (b : Batch) (p j : Nat) : j ∈ extentRange b p ↔ inExtent b p j := by
  have := findSplitFrom_le b.pos p
  have := (findSplitTo_bounds b.pos (p+1) b.pos.length).1
  unfold extentRange
  rw [List.mem_range'_1]; unfold inExtent; omega

theorem inExtent_lt {b : Batch} {p x : Nat} (hp : p < b.pos.length) (h : inExtent b p x) : x < b.pos.length := by
  have := (findSplitTo_bounds b.pos (p+1) b.pos.length).2
  rw [Nat.max_eq_right hp] at this
  exact Nat.lt_of_lt_of_le h.2 this

theorem notFilt_of_getElem?_eq {st st' : List Status} {x : Nat} (h : st'[x]? = st[x]?) : notFilt st' x = notFilt st x := by
  unfold notFilt; rw [h]

theorem notFilt_of_nack {st : List Status} {x : Nat} {s : Status} (h : st[x]? = some s) (hs : s.flag = .nack) :
    notFilt st x = true := by
  unfold notFilt; rw [h]; simp [hs]

theorem nackExtent_ok (e : Option Err) {st : List Status} {j : Nat} (hj : j < st.length) :
    nackExtent e st j = .ok (if notFilt st j = true then st.set j { flag := .nack, err := e } else st) := by
  unfold nackExtent
  rw [idx_ok _ hj, notFilt_lt hj]
  simp only [bind, Except.bind]
  by_cases h : (st[j].flag != Flag.filter) = true <;> simp only [h, if_true] <;> rfl

theorem foldlM_nackExtent (e : Option Err) (l : List Nat) (st : List Status) (hl : ∀ j ∈ l, j < st.length) :
    ∃ st', l.foldlM (nackExtent e) st = .ok st' ∧ st'.length = st.length ∧
      ∀ x : Nat, st'[x]? = if x ∈ l ∧ notFilt st x = true then some { flag := .nack, err := e } else st[x]? := by
  induction l generalizing st with
  | nil => exact ⟨st, rfl, rfl, by simp⟩
  | cons j l ih =>
    have hj := hl j (by simp)
    simp only [List.foldlM_cons, nackExtent_ok e hj, bind, Except.bind]
    by_cases hn : notFilt st j = true
    · simp only [hn, if_true]
      obtain ⟨st', h1, h2, h3⟩ := ih (st.set j { flag := .nack, err := e }) (by
        intro j' hj'; simpa using hl j' (by simp [hj']))
      refine ⟨st', h1, by simpa using h2, ?_⟩
      intro x
      rw [h3 x]
      by_cases hx : j = x
      · subst hx
        have : notFilt (st.set j { flag := .nack, err := e }) j = true :=
          notFilt_of_nack (s := { flag := .nack, err := e }) (by simp [hj]) rfl
        simp [this, hn, hj]
      · have h4 : (st.set j { flag := .nack, err := e })[x]? = st[x]? := by simp [hx]
        have hx' : ¬ x = j := fun h => hx h.symm
        rw [notFilt_of_getElem?_eq h4, h4]
        simp [hx']
    · simp only [hn]
      obtain ⟨st', h1, h2, h3⟩ := ih st (by intro j' hj'; exact hl j' (by simp [hj']))
      refine ⟨st', h1, h2, ?_⟩
      intro x
      rw [h3 x]
      by_cases hx : x = j
      · subst hx; simp [hn]
      · simp [hx]

def nackBody (b : Batch) (st : List Status) (p : Nat) (e : Option Err) : R (List Status) := do
  let _ ← idx st p "recordStatuses"
  let st := st.set p { flag := .nack, err := e }
  if b.split.length > 0 then
    let ps ← idx b.pos p "positions"
    if ps == none ∨ (lookup b.split (keyOf ps)).isSome then
      (extentRange b p).foldlM (nackExtent e) st
    else pure st
  else pure st

theorem nackStep_eq (b : Batch) (st : List Status) (q : Nat) (e : Option Err) :
    nackStep b b.activeIdx st q e = (do let p ← b.phys q; nackBody b st p e) := by
  unfold nackStep Batch.phys nackBody
  cases b.activeIdx <;> rfl

/-- `nackBody` sets `p` and then walks a part of `p`'s extent: all of it, or none of it (none when nothing is split) -/
theorem nackBody_eq (b : Batch) {st : List Status} {p : Nat} (e : Option Err) (hps : p < st.length)
    (hpp : p < b.pos.length) :
    ∃ l : List Nat, (∀ j ∈ l, inExtent b p j) ∧ (b.split = [] → l = []) ∧
      nackBody b st p e = l.foldlM (nackExtent e) (st.set p { flag := .nack, err := e }) := by
  unfold nackBody
  simp only [bind, Except.bind, idx_ok _ hps]
  by_cases h1 : b.split.length > 0
  · simp only [h1, if_true, idx_ok _ hpp]
    by_cases h2 : (b.pos[p] == none) = true ∨ (lookup b.split (keyOf b.pos[p])).isSome = true
    · simp only [h2, if_true]
      exact ⟨extentRange b p, fun j => (mem_extentRange b p j).mp,
        fun h0 => absurd h1 (by rw [h0]; exact Nat.lt_irrefl 0), rfl⟩
    · simp only [h2, if_false]
      exact ⟨[], fun _ hj => absurd hj List.not_mem_nil, fun _ => rfl, rfl⟩
  · simp only [h1, if_false]
    exact ⟨[], fun _ hj => absurd hj List.not_mem_nil, fun _ => rfl, rfl⟩

theorem nackStep_ok {h : Heap} {b : Batch} (hwf : b.WF h) {st : List Status} (hl : st.length = b.st.length)
    (hn : ∀ x : Nat, notFilt st x = notFilt b.st x) {q : Nat} (hq : q < b.nAct) (e : Option Err) :
    ∃ st', nackStep b b.activeIdx st q e = .ok st' ∧ st'.length = st.length ∧
      st'[(actList b.st)[q]'hq]? = some { flag := .nack, err := e } ∧
      (∀ x : Nat, st'[x]? = st[x]? ∨ (notFilt st x = true ∧ x < st.length ∧
          st'[x]? = some { flag := .nack, err := e } ∧ inExtent b ((actList b.st)[q]'hq) x)) ∧
      (b.split = [] → st' = st.set ((actList b.st)[q]'hq) { flag := .nack, err := e }) ∧
      ∀ x : Nat, notFilt st' x = notFilt b.st x := by
  rw [nackStep_eq, phys_ok hwf.2 hq]
  have hnp : notFilt st ((actList b.st)[q]'hq) = true := by rw [hn]; exact actList_notFilt hq
  have hps : (actList b.st)[q]'hq < st.length := hl.symm ▸ actList_lt hq
  generalize (actList b.st)[q]'hq = p at hnp hps
  have hpl : b.pos.length = st.length := by rw [hl, hwf.1.pos_len, hwf.1.st_len]
  have hpp : p < b.pos.length := hpl ▸ hps
  obtain ⟨l, hle, hl0, e1⟩ := nackBody_eq b e hps hpp
  obtain ⟨st', h3, h4, h5⟩ := foldlM_nackExtent e l (st.set p { flag := .nack, err := e })
    (fun j hj => by rw [List.length_set, ← hpl]; exact inExtent_lt hpp (hle j hj))
  have hpn : st'[p]? = some { flag := .nack, err := e } := by
    rw [h5]; split
    · rfl
    · exact List.getElem?_set_self hps
  simp only [bind, Except.bind]
  -- `hch` is the part that says what changed: such an index was not filtered and became a nack, so `notFilt` is kept
  refine ⟨st', e1.trans h3, h4.trans (List.length_set ..), hpn,
    (and_iff_left_of_imp fun hch => ⟨fun h0 => ?_, fun x => ?_⟩).mpr fun x => ?_⟩
  · by_cases hx : p = x
    · subst hx
      exact .inr ⟨hnp, hps, hpn, findSplitFrom_le _ _, (findSplitTo_bounds b.pos (p+1) b.pos.length).1⟩
    · have h6 : (st.set p { flag := .nack, err := e })[x]? = st[x]? := List.getElem?_set_ne hx
      rw [h5, notFilt_of_getElem?_eq h6, h6]
      by_cases hc : x ∈ l ∧ notFilt st x = true
      · rw [if_pos hc]
        exact .inr ⟨hc.2, hpl ▸ inExtent_lt hpp (hle x hc.1), rfl, hle x hc.1⟩
      · rw [if_neg hc]
        exact .inl rfl
  · rw [hl0 h0] at h3
    exact (Except.ok.inj h3).symm
  · rw [← hn x]
    rcases hch x with h1 | ⟨h1, _, h2, _⟩
    · exact notFilt_of_getElem?_eq h1
    · rw [h1]; exact notFilt_of_nack h2 rfl

theorem actList_inj {st : List Status} {a c x : Nat} (h1 : (actList st)[a]? = some x) (h2 : (actList st)[c]? = some x) :
    a = c := by
  have := (actList_getElem?_iff.mp h1).2.2
  have := (actList_getElem?_iff.mp h2).2.2
  omega

/-- what nacking the active records `q, q+1, …` with the errors `es` makes of the statuses `st`:
an index changes only inside the split extent of one of the targets, to that target's nack; every
target ends nacked; without split records exactly the targets change. -/
structure NackPost (b : Batch) (q : Nat) (es : List (Option Err)) (st st' : List Status) : Prop where
  changed : ∀ x : Nat, st'[x]? = st[x]? ∨ (notFilt st x = true ∧ x < st.length ∧ ∃ k : Nat, k < es.length ∧
    st'[x]? = some { flag := .nack, err := (es[k]?).join } ∧
    ∃ p : Nat, (actList b.st)[q+k]? = some p ∧ inExtent b p x)
  hit : ∀ k : Nat, k < es.length → ∃ p k' : Nat, (actList b.st)[q+k]? = some p ∧ k' < es.length ∧
    st'[p]? = some { flag := .nack, err := (es[k']?).join }
  plain : b.split = [] → ∀ x : Nat,
    (∀ k : Nat, k < es.length → (actList b.st)[q+k]? = some x → st'[x]? = some { flag := .nack, err := (es[k]?).join }) ∧
    ((¬ ∃ k : Nat, k < es.length ∧ (actList b.st)[q+k]? = some x) → st'[x]? = st[x]?)

theorem nackGo_ok {h : Heap} {b : Batch} (hwf : b.WF h) (es : List (Option Err)) :
    ∀ (q : Nat) (st : List Status), st.length = b.st.length → (∀ x : Nat, notFilt st x = notFilt b.st x) →
      es = [] ∨ q + es.length ≤ b.nAct →
    ∃ st', nackGo b b.activeIdx es q st = .ok st' ∧ st'.length = st.length ∧
      NackPost b q es st st' := by
  induction es with
  | nil =>
    intro q st _ _ _
    exact ⟨st, rfl, rfl, fun _ => .inl rfl, fun k hk => absurd hk (Nat.not_lt_zero k),
      fun _ _ => ⟨fun k hk => absurd hk (Nat.not_lt_zero k), fun _ => rfl⟩⟩
  | cons e es ih =>
    intro q st hl hn hq
    have hq := hq.resolve_left (List.cons_ne_nil _ _)
    have hq0 : q < b.nAct := Nat.lt_of_lt_of_le (Nat.lt_add_of_pos_right (Nat.succ_pos _)) hq
    have eq1 : ∀ k : Nat, q + 1 + k = q + (k + 1) := fun k => by rw [Nat.add_assoc, Nat.add_comm 1 k]
    obtain ⟨st1, s1, s2, s3, s4, s5, hn1⟩ := nackStep_ok hwf hl hn hq0 e
    obtain ⟨st', g1, g2, g3, g4, g5⟩ := ih (q+1) st1 (s2.trans hl) hn1
      (.inr (by rw [eq1]; exact hq))
    have hA : (actList b.st)[q]? = some ((actList b.st)[q]'hq0) := List.getElem?_eq_getElem hq0
    refine ⟨st', ?_, g2.trans s2, ?_, ?_, ?_⟩
    · simp only [nackGo, s1, bind, Except.bind]; exact g1
    · intro x
      rcases g3 x with h1 | ⟨h1, h2, k, hk, h3, p, h4, h5⟩
      · rcases s4 x with h6 | ⟨h6, h7, h8, h9⟩
        · exact .inl (h1.trans h6)
        · exact .inr ⟨h6, h7, 0, Nat.succ_pos _, h1.trans h8, _, hA, h9⟩
      · exact .inr ⟨((hn x).trans (hn1 x).symm).trans h1, s2 ▸ h2, k+1, Nat.succ_lt_succ hk, h3, p, eq1 k ▸ h4, h5⟩
    · intro k hk
      cases k with
      | zero =>
        rcases g3 ((actList b.st)[q]'hq0) with h1 | ⟨_, _, k, hk', h3, _⟩
        · exact ⟨_, 0, hA, Nat.succ_pos _, h1.trans s3⟩
        · exact ⟨_, k + 1, hA, Nat.succ_lt_succ hk', h3⟩
      | succ k =>
        obtain ⟨p, k', h1, hk', h2⟩ := g4 k (Nat.lt_of_succ_lt_succ hk)
        exact ⟨p, k' + 1, eq1 k ▸ h1, Nat.succ_lt_succ hk', h2⟩
    · intro h0 x
      have s5 := s5 h0
      obtain ⟨g5a, g5b⟩ := g5 h0 x
      constructor
      · intro k hk hx
        cases k with
        | zero =>
          have hnl : ¬ ∃ k : Nat, k < es.length ∧ (actList b.st)[q+1+k]? = some x := by
            rintro ⟨k, _, hk'⟩
            exact absurd (Nat.add_left_cancel (actList_inj hx (eq1 k ▸ hk'))) (Nat.succ_ne_zero k).symm
          have hxp : x = (actList b.st)[q]'hq0 := (Option.some.inj (hA.symm.trans hx)).symm
          rw [g5b hnl, hxp, s3]; rfl
        | succ k => exact g5a k (Nat.lt_of_succ_lt_succ hk) ((eq1 k).symm ▸ hx)
      · intro hne
        have hnl : ¬ ∃ k : Nat, k < es.length ∧ (actList b.st)[q+1+k]? = some x := by
          rintro ⟨k, hk, hk'⟩
          exact hne ⟨k+1, Nat.succ_lt_succ hk, eq1 k ▸ hk'⟩
        have hxp : (actList b.st)[q]'hq0 ≠ x := fun hxp => hne ⟨0, Nat.succ_pos _, hxp ▸ hA⟩
        rw [g5b hnl, s5, List.getElem?_set_ne hxp]

theorem nack_ok_ext {h : Heap} {b : Batch} (hwf : b.WF h) {i : Nat} {errs : List (Option Err)}
    (hi : errs = [] ∨ i + errs.length ≤ b.nAct) :
    ∃ st' : List Status, b.nack i errs = .ok { b with st := st', tainted := true } ∧
      st'.length = b.st.length ∧ NackPost b i errs b.st st' := by
  obtain ⟨st', g1, g2, g3⟩ := nackGo_ok hwf errs i b.st rfl (fun _ => rfl) hi
  refine ⟨st', ?_, g2, g3⟩
  rw [nack_eq_model]
  unfold Batch.nackP
  simp only [g1, bind, Except.bind, pure, Except.pure]

theorem NackPost.filtered {b : Batch} {q : Nat} {es : List (Option Err)} {st st' : List Status} (P : NackPost b q es st st')
    {x : Nat} {s : Status} (hx : st[x]? = some s) (hs : s.flag = .filter) : st'[x]? = some s := by
  rcases P.changed x with h1 | ⟨h1, h2, _⟩
  · exact h1.trans hx
  · obtain ⟨_, rfl⟩ := List.getElem?_eq_some_iff.mp hx
    exact absurd hs ((notFilt_iff h2).mp h1)

end Conduit.Funnel
