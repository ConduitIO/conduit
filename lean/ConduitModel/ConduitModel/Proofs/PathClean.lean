import ConduitModel.Spec.Registry

/-!
Lemmas about the `filepath.Clean` model: shape of its output, behaviour on already-clean input.
-/
namespace Conduit.Registry

theorem splitSlash_cons_ne {c : Nat} {cs : Path} (hc : c ≠ slash) :
    splitSlash (c :: cs) = consHead c (splitSlash cs) := by
  rw [splitSlash, if_neg hc]

theorem splitSlash_cons_slash (cs : Path) : splitSlash (slash :: cs) = [] :: splitSlash cs := by
  rw [splitSlash, if_pos rfl]

theorem splitSlash_ne_nil (p : Path) : splitSlash p ≠ [] := by
  cases p with
  | nil => simp [splitSlash]
  | cons c cs =>
    by_cases hc : c = slash
    · subst hc; rw [splitSlash_cons_slash]; simp
    · rw [splitSlash_cons_ne hc]; cases splitSlash cs <;> simp [consHead]

theorem splitSlash_no_slash (p : Path) : ∀ s ∈ splitSlash p, slash ∉ s := by
  induction p with
  | nil => simp [splitSlash]
  | cons c cs ih =>
    by_cases hc : c = slash
    · subst hc; rw [splitSlash_cons_slash]
      intro s hs
      simp only [List.mem_cons] at hs
      rcases hs with h | h
      · simp [h]
      · exact ih s h
    · rw [splitSlash_cons_ne hc]
      cases heq : splitSlash cs with
      | nil => intro s hs; simp only [consHead, List.mem_singleton] at hs; subst hs; simp [Ne.symm hc]
      | cons s ss =>
        intro t ht
        simp only [consHead, List.mem_cons] at ht
        rcases ht with h | h
        · subst h
          have := ih s (by rw [heq]; simp)
          simp [Ne.symm hc, this]
        · exact ih t (by rw [heq]; simp [h])

theorem splitSlash_append (a b : Path) : splitSlash (a ++ slash :: b) = splitSlash a ++ splitSlash b := by
  induction a with
  | nil => simp [splitSlash]
  | cons c cs ih =>
    by_cases hc : c = slash
    · simp [splitSlash, hc, ih]
    · rw [List.cons_append, splitSlash_cons_ne hc, splitSlash_cons_ne hc, ih]
      cases hs : splitSlash cs with
      | nil => exact absurd hs (splitSlash_ne_nil cs)
      | cons s ss => simp [consHead]

theorem splitSlash_noslash (s : Seg) (h : slash ∉ s) : splitSlash s = [s] := by
  induction s with
  | nil => simp [splitSlash]
  | cons c cs ih =>
    have hc : c ≠ slash := fun e => h (by simp [e])
    have hcs : slash ∉ cs := fun e => h (by simp [e])
    rw [splitSlash_cons_ne hc, ih hcs]; rfl

theorem splitSlash_joinSlash (segs : List Seg) (h : ∀ s ∈ segs, slash ∉ s) (hne : segs ≠ []) :
    splitSlash (joinSlash segs) = segs := by
  induction segs with
  | nil => exact absurd rfl hne
  | cons s ss ih =>
    cases ss with
    | nil => simp [joinSlash, splitSlash_noslash s (h s (by simp))]
    | cons t ts =>
      rw [joinSlash, splitSlash_append, splitSlash_noslash s (h s (by simp)),
        ih (fun x hx => h x (by simp [hx])) (List.cons_ne_nil _ _)]
      simp

theorem joinSlash_splitSlash (p : Path) : joinSlash (splitSlash p) = p := by
  induction p with
  | nil => simp [splitSlash, joinSlash]
  | cons c cs ih =>
    by_cases hc : c = slash
    · subst hc; rw [splitSlash_cons_slash]
      cases hs : splitSlash cs with
      | nil => exact absurd hs (splitSlash_ne_nil cs)
      | cons s ss => rw [joinSlash, ← hs, ih]; simp
    · rw [splitSlash_cons_ne hc]
      cases hs : splitSlash cs with
      | nil => exact absurd hs (splitSlash_ne_nil cs)
      | cons s ss =>
        rw [hs] at ih
        cases ss with
        | nil => simp only [joinSlash] at ih; simp [consHead, joinSlash, ih]
        | cons t ts => simp only [joinSlash] at ih; simp [consHead, joinSlash, ih]

theorem joinSlash_concat (Q : List Seg) (s : Seg) :
    joinSlash (Q ++ [s]) = if Q = [] then s else joinSlash Q ++ slash :: s := by
  induction Q with
  | nil => simp [joinSlash]
  | cons q qs ih =>
    cases qs with
    | nil => simp [joinSlash]
    | cons t ts =>
      simp only [List.cons_append] at ih ⊢
      rw [joinSlash, ih]
      simp [joinSlash]

/-- shape of the `Clean` stack (top first): normal elements on top of a run of `..`, which is
empty for rooted paths. -/
def StackForm (rooted : Bool) (stk : List Seg) : Prop :=
  ∃ k ns, stk = ns ++ List.replicate k dotdotSeg ∧ (∀ s ∈ ns, Normal s) ∧ (rooted = true → k = 0)

theorem normal_ne_dotdot {s : Seg} (h : Normal s) : s ≠ dotdotSeg := h.2.2.1
theorem normal_noslash {s : Seg} (h : Normal s) : slash ∉ s := h.2.2.2

theorem not_normal_nil : ¬ Normal [] := fun h => h.1 rfl
theorem not_normal_dot : ¬ Normal dotSeg := fun h => h.2.1 rfl

theorem cleanStep_form {r : Bool} {stk : List Seg} {e : Seg} (hs : StackForm r stk) (he : slash ∉ e) :
    StackForm r (cleanStep r stk e) := by
  obtain ⟨k, ns, rfl, hn, hr⟩ := hs
  unfold cleanStep
  by_cases h1 : e = [] ∨ e = dotSeg
  · rw [if_pos h1]; exact ⟨k, ns, rfl, hn, hr⟩
  · rw [if_neg h1]
    by_cases h2 : e = dotdotSeg
    · rw [if_pos h2]
      cases ns with
      | nil =>
        cases k with
        | zero =>
          simp only [List.replicate, List.append_nil]
          cases r with
          | true => exact ⟨0, [], by simp, by simp, by simp⟩
          | false => exact ⟨1, [], by simp [List.replicate], by simp, by simp⟩
        | succ k =>
          simp only [List.replicate_succ, List.nil_append, if_true]
          refine ⟨k + 2, [], by simp [List.replicate_succ], by simp, ?_⟩
          intro h; have := hr h; omega
      | cons n ns =>
        have hne : n ≠ dotdotSeg := normal_ne_dotdot (hn n (by simp))
        simp only [List.cons_append, if_neg hne]
        exact ⟨k, ns, rfl, fun s h => hn s (by simp [h]), hr⟩
    · rw [if_neg h2]
      refine ⟨k, e :: ns, by simp, ?_, hr⟩
      intro s hs
      simp only [List.mem_cons] at hs
      rcases hs with h | h
      · subst h; exact ⟨fun h => h1 (Or.inl h), fun h => h1 (Or.inr h), h2, he⟩
      · exact hn s h

theorem foldl_cleanStep_form {r : Bool} (segs : List Seg) (hseg : ∀ s ∈ segs, slash ∉ s) :
    ∀ stk, StackForm r stk → StackForm r (segs.foldl (cleanStep r) stk) := by
  induction segs with
  | nil => intro stk h; exact h
  | cons e es ih =>
    intro stk h
    exact ih (fun s hs => hseg s (by simp [hs])) _ (cleanStep_form h (hseg e (by simp)))

/-- `Clean`'s result is `k` leading `..` elements followed by normal elements, `k = 0` when rooted. -/
theorem cleanSegs_form (p : Path) :
    ∃ k ns, cleanSegs p = List.replicate k dotdotSeg ++ ns ∧ (∀ s ∈ ns, Normal s) ∧ (isAbs p = true → k = 0) := by
  obtain ⟨k, ns, h, hn, hr⟩ := foldl_cleanStep_form (r := isAbs p) (splitSlash p) (splitSlash_no_slash p) []
    ⟨0, [], by simp, by simp, by simp⟩
  refine ⟨k, ns.reverse, ?_, fun s hs => hn s (by simpa using hs), hr⟩
  unfold cleanSegs
  rw [h]; simp

/-- an element `Clean` either keeps or silently drops. -/
def Benign (s : Seg) : Prop := Normal s ∨ s = [] ∨ s = dotSeg

theorem cleanStep_benign {r : Bool} {stk : List Seg} {e : Seg} (h : Benign e) :
    cleanStep r stk e = if Normal e then e :: stk else stk := by
  unfold cleanStep
  rcases h with h | h | h
  · have h1 : ¬ (e = [] ∨ e = dotSeg) := fun x => x.elim h.1 h.2.1
    rw [if_neg h1, if_neg (normal_ne_dotdot h), if_pos h]
  · subst h; simp [Normal]
  · subst h; simp [Normal]

theorem foldl_cleanStep_benign {r : Bool} (segs : List Seg) (h : ∀ s ∈ segs, Benign s) :
    ∀ stk, segs.foldl (cleanStep r) stk = (segs.filter (fun s => decide (Normal s))).reverse ++ stk := by
  induction segs with
  | nil => intro stk; rfl
  | cons e es ih =>
    intro stk
    rw [List.foldl_cons, cleanStep_benign (h e (by simp)), ih (fun s hs => h s (by simp [hs]))]
    by_cases hn : Normal e
    · simp [hn]
    · simp [hn]

theorem cleanSegs_benign (p : Path) (h : ∀ s ∈ splitSlash p, Benign s) :
    cleanSegs p = (splitSlash p).filter (fun s => decide (Normal s)) := by
  unfold cleanSegs
  rw [foldl_cleanStep_benign _ h]; simp

theorem clean_abs {p : Path} (h : isAbs p = true) : clean p = slash :: joinSlash (cleanSegs p) := by
  simp [clean, h]

theorem clean_rel {p : Path} (h : isAbs p = false) :
    clean p = if cleanSegs p = [] then dotSeg else joinSlash (cleanSegs p) := by
  simp [clean, h]

end Conduit.Registry
