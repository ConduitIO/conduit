import ConduitModel.Proofs.MonGPipe
import ConduitModel.Proofs.MonGFanDefs
import ConduitModel.Proofs.MonGOrig

/-!
# Fan-out (not nested) on batches with split runs, under the root handler chain

`fanG_worker` is the `FanG` that Proofs/MonGPipe.lean takes as a parameter. The tally side (`MBet`,
`Sched`, `multiMC0`) is that of Proofs/MonFFan.lean; every child receives a clone with renamed runs
(`FlightV.clone`, `FlightV.frame` in Proofs/MonGFanDefs.lean), runs through `pipeG_linear` under the
tally's contract, and the tally votes on `originalBatch()` (Proofs/MonGOrig.lean).
-/
namespace Conduit.Funnel
open Conduit.Funnel.Mon

variable {κ : Nat → Nat}

theorem branches_ok_none : ∀ (fuel : Nat) (nexts : List TaskNode) (order : List Nat) (b : Batch) (a : Acker)
    (errs : Option Err) (pan : Option String) (s s' : PS),
    exec (branches fuel nexts order b a errs pan) s = (.ok (), s') → errs = none ∧ pan = none := by
  intro fuel
  induction fuel with
  | zero => intro nexts order b a errs pan s s' h; rw [branches_zero] at h; cases h
  | succ fuel ih =>
    intro nexts order b a errs pan s s' h
    cases order with
    | nil => exact (branches_done h).2 rfl
    | cons k rest =>
      rcases branches_step h with ⟨_, hx⟩ | ⟨n, rb, s2, errs', pan', _, _, hx, hnone, _⟩
      · exact ih _ _ _ _ _ _ _ _ hx
      · obtain ⟨e1, e2⟩ := ih _ _ _ _ _ _ _ _ hx
        exact (hnone e1 e2).2

/-- the per-branch C04 ledger frame: a branch only touches the runs of its batch, and these are the
copies the clone has just made, so what was in the heap before the clone is untouched -/
theorem branch_heap_frame {fuel : Nat} {n : TaskNode} {sb : Batch} {id : Nat} {s s2 : PS} {rb : Except Stop Unit}
    (hid : id < s.mas.size) (hmok : MOK (s.mas[id]!)) (hsi : SInv s.heap (fun _ => 0) sb)
    (hwh : ∀ r : Nat, 0 < cnt r sb.view → (s.heap[r]!).terminal = 0)
    (hd : exec (doTaskAttempt fuel n (sb.clone s.heap).2 (.run (.multi id (.run .worker))) none false)
      { s with heap := (sb.clone s.heap).1 } = (rb, s2)) : HFr s s2 :=
  (SPipe.branch (spipe_full fuel) (mContract (runContract wContract) id (Nat.zero_le _)) hsi
    (fun r hr => ⟨hwh r hr, rfl⟩) ⟨trivial, hid, hmok⟩ hd).1

structure BranchesOut (κ : Nat → Nat) {G : Ctx} (hs : Src G) (nexts : List TaskNode) (sb : Batch) (sm : List Nat) (m0 L : Nat)
    (s s' : PS) (r : Except Stop Unit) (F' : FanCtx) : Prop where
  hm0 : F'.m0 = m0
  hL : F'.L = L
  bet : MBet (workerMC G hs) F' s'
  ext : ExtT (tasksL nexts) (destsL nexts) (RootsOf G sm 0) (G.view s) (G.view s')
  wseen : WSeen G s'
  hfr : HFr s s'
  seen : ∀ x ∈ Seen G s, x ∈ Seen G s'
  wt : r = .ok () → WT κ G sb 0 s s'

/-- The branches of one fan-out under the root chain, run one after the other: whatever happens the
tally invariant holds between the branches, the only new facts are by tasks of the branches about
the batch, written tags are seen, and the heap entries that existed are untouched. -/
theorem branchesG {G : Ctx} (hs : Src G) (Tp Dp pre : List Nat) (nexts : List TaskNode) (nx : Nat)
    (sb : Batch) (sm : List Nat) (hst : FanStatic (workerMC G hs) Tp Dp nexts) (hcl : sb.tainted = false) (haf : FlagsAF sb)
    (hpre : ∀ x ∈ Dp, x ∈ pre) :
    ∀ (fuel : Nat) (order : List Nat) (errs : Option Err) (pan : Option String) (F : FanCtx) (s s' : PS)
      (r : Except Stop Unit),
      F.m0 = nxJ sm nx 0 → F.Tp = Tp → F.Dp = Dp →
      MBet (workerMC G hs) F s → WSeen G s → Sched nexts order F →
      (∀ k ∈ order, ∀ n, nexts[k]? = some n → ReadyGK κ G s (Tp ++ tasksS n) (Dp ++ destsS n) pre n nx sb sm) →
      (∀ r : Nat, 0 < cnt r sb.view → (s.heap[r]!).terminal = 0) →
      exec (branches fuel nexts order sb (.multi F.id (.run .worker)) errs pan) s = (r, s') → RP G s' → Disc κ G s' →
      ∃ F' : FanCtx, BranchesOut κ hs nexts sb sm F.m0 F.L s s' r F' := by
  let C := workerMC G hs
  have hben : Benign C := workerMC_benign G hs
  have hdead : ∀ (s : PS) (j : Nat), C.Dead s j := fun _ _ => trivial
  intro fuel
  induction fuel with
  | zero =>
    intro order errs pan F s s' r _ _ _ hB hw _ _ _ h _ _
    rw [branches_zero] at h; cases h
    exact ⟨F, rfl, rfl, hB, ExtT.refl _ _ _ _, hw, HFr.refl _, fun _ hx => hx, fun hr => nomatch hr⟩
  | succ fuel ih =>
    intro order errs pan F s s' r hm0 hTp hDp hB hw hsch hready hwh h hrp hft
    cases order with
    | nil =>
      cases (branches_done h).1
      exact ⟨F, rfl, rfl, hB, ExtT.refl _ _ _ _, hw, HFr.refl _, fun _ hx => hx, fun _ => WT.refl _ _ _ _⟩
    | cons k rest =>
      obtain ⟨n, hk⟩ : ∃ n, nexts[k]? = some n := ⟨_, List.getElem?_eq_getElem (hsch.lt k List.mem_cons_self)⟩
      have hnm : n ∈ nexts := List.mem_of_getElem? hk
      have hTn : ∀ x ∈ tasksS n, x ∈ tasksL nexts := fun x hx => mem_tasksL.mpr ⟨n, hnm, hx⟩
      have hDn : ∀ x ∈ destsS n, x ∈ destsL nexts := fun x hx => mem_destsL.mpr ⟨n, hnm, hx⟩
      obtain ⟨rb, s2, errs', pan', hd, hx, _, hok⟩ := branches_cons hk h
      have hrdy := hready k List.mem_cons_self n hk
      obtain ⟨cst, crecs, _, ctaint⟩ := clone_fields s.heap sb
      have hfr12 : HFr s s2 := branch_heap_frame hB.hid hB.ti.mok hrdy.tinv.sinv hwh hd
      let F' := F.push (tasksS n) (destsS n)
      let C0 := multiMC0 C hben hdead hs F'
      have hT0 : C0.T = Tp ++ tasksS n := by
        show F'.Tp ++ F'.Tcur = _
        rw [FanCtx.push_Tcur, FanCtx.push_Tp, hTp]
      have hD0 : C0.D = Dp ++ destsS n := by
        show F'.Dp ++ F'.Dcur = _
        rw [FanCtx.push_Dcur, FanCtx.push_Dp, hDp]
      have hI1 : MAInv C F' F.m0 { s with heap := (sb.clone s.heap).1 } :=
        (hB.frame (SameBut.heap _ s (sb.clone s.heap).1)).branch hst hTp hDp hsch hk
      have hfl : FlightGK κ C0 { s with heap := (sb.clone s.heap).1 } pre pre True (destsS n) (fun _ => 0) (fun _ => False) nx
          (sb.clone s.heap).2 sm 0 :=
        ⟨by rw [hT0, hD0]; exact hrdy.clone hwh, by rw [← hm0]; exact hI1⟩
      generalize (sb.clone s.heap).2 = bb at hd hfl cst crecs ctaint
      have hpath : PathG C0 pre n := by
        refine ⟨?_, (destsS_sublist_tasksS n).nodup (tasksS_nodup_of_tasksL hst.nodup hnm), fun x hx => hst.inT x (hTn x hx),
          fun x hx => hst.inD x (hDn x hx), ?_⟩
        · intro x hx
          rw [hD0] at hx
          exact (List.mem_append.mp hx).imp (hpre x) id
        · intro x hx
          show x ∈ F'.Tcur
          rw [FanCtx.push_Tcur]; exact hx
      have hres := pipeG_linear hs fuel (.multi F'.id (.run .worker)) C0 n pre nx bb sm (fun _ => 0) (fun _ => False) none false
        _ s2 rb (hst.lin n hnm) trivial hpath (fun hh => Bool.noConfusion hh) hfl (by rw [ctaint]; exact hcl)
        (fun q st hq => haf q st (by rw [← cst]; exact hq)) hd (hrp.prefix (log_mono_branches hx))
        (hft.prefix (log_mono_branches hx))
      obtain ⟨p2, hI2⟩ : ∃ p, MAInv C F' p s2 := by
        cases rb with
        | ok u => exact ⟨_, hres.inv rfl⟩
        | error e => exact hres.err (fun hh => nomatch hh)
      -- the state the clone was made in has the log of `s`, so its view, its tags and `Seen` are those of `s`
      have hext : ExtT (tasksS n) (destsS n) (RootsOf G sm 0) (G.view s) (G.view s2) := hres.ext
      have hseen12 : ∀ x ∈ Seen G s, x ∈ Seen G s2 := fun x hx => Seen.mono (log_mono_dta hd) x hx
      -- the children still to run are ready as before: the facts added are by tasks of `n`
      have hready' : ∀ k' ∈ rest, ∀ n', nexts[k']? = some n' →
          ReadyGK κ G s2 (Tp ++ tasksS n') (Dp ++ destsS n') pre n' nx sb sm := by
        intro k' hk' n' hn'
        have hdisj := tasksL_disj nexts hst.nodup k k' n n' hk hn'
          (fun he => (List.nodup_cons.mp hsch.nodup).1 (he ▸ hk'))
        refine (hready k' (List.mem_cons_of_mem _ hk') n' hn').frame hext ?_ ?_ hseen12 hfr12 hres.wseen
        · intro x hx hm
          rcases List.mem_append.mp hm with h1 | h1
          · exact hst.notTp x (hTn x hx) h1
          · exact hdisj x hx h1
        · intro x hx
          have hxT := (destsS_sublist_tasksS n).subset hx
          refine ⟨fun hm => ?_, fun hm => hdisj x hxT ((destsS_sublist_tasksS n').subset hm)⟩
          rcases List.mem_append.mp hm with h1 | h1
          · exact hst.notTp x (hTn x hxT) (hst.dT x h1)
          · exact hdisj x hxT ((destsS_sublist_tasksS n').subset h1)
      obtain ⟨F'', g⟩ := ih rest errs' pan' F' s2 s' r hm0 hTp hDp hI2.finish hres.wseen
        (hsch.next hst.nodup hk) hready'
        (fun r hr => by rw [hfr12.2 r (hrdy.tinv.sinv.acc r hr).1]; exact hwh r hr) hx hrp hft
      refine ⟨F'', g.hm0, g.hL, g.bet, (hext.mono hTn hDn (fun _ hx => hx)).trans g.ext, g.wseen, hfr12.trans g.hfr,
        fun x hx' => g.seen x (hseen12 x hx'), fun hr => ?_⟩
      -- a normal return: no branch failed, and this branch's new entries carry tags of rows of the
      -- clone, which are the tags of the rows of the batch
      subst hr
      obtain ⟨e1, e2⟩ := branches_ok_none _ _ _ _ _ _ _ _ _ hx
      refine WT.trans (fun e he => ?_) (g.wt rfl) hseen12
      rcases (hres.ledger (hok e1 e2)).wtag e he with g | ⟨k', row, _, hrow, ht⟩ | g
      · exact Or.inl g
      · have hk'l : k' < bb.recs.length := by
          have := (List.getElem?_eq_some_iff.mp hrow).1; rwa [rows_length] at this
        rw [rows_get bb hk'l] at hrow
        refine Or.inr (Or.inl ⟨k', _, Nat.zero_le _, rows_get sb (by rw [← crecs]; exact hk'l), ?_⟩)
        rw [← ht, ← Option.some.inj hrow, crecs]
      · exact Or.inr (Or.inr g)

/-- the contract is the bare root handler's (a Σ-pair equality) -/
def IsWorkerG (G : Ctx) (hs : Src G) : ∀ X, MC G X → Prop :=
  fun X C0 => (⟨X, C0⟩ : (X : Acker) × MC G X) = ⟨.worker, workerMC0 G hs⟩

theorem mem_filter_not {l m : List Nat} {x : Nat} : x ∈ l.filter (fun x => decide (x ∉ m)) ↔ x ∈ l ∧ x ∉ m := by
  simp only [List.mem_filter, decide_eq_true_eq]

theorem mem_filter_not_or {l m : List Nat} {x : Nat} (h : x ∈ l) : x ∈ l.filter (fun x => decide (x ∉ m)) ∨ x ∈ m :=
  if hm : x ∈ m then Or.inr hm else Or.inl (mem_filter_not.mpr ⟨h, hm⟩)

/-- the branches of a fan-out under the root chain, from the state in which the tally was created -/
theorem fan_coreG {G : Ctx} (hs : Src G) (fuel : Nat) (node : TaskNode) (pre : List Nat) (nx : Nat)
    (sb : Batch) (sm : List Nat) (rest : Nat → Nat) (doom : Nat → Prop) (s s' : PS) (r : Except Stop Unit)
    (hg : GoodG G node) (hpath : PathG (workerMC0 G hs) pre node) (h2 : 2 ≤ node.next.length)
    (hF : FlightGK κ (workerMC0 G hs) s pre (pre ++ own node) (node.kind ≠ .dest) (destsL node.next) rest doom nx sb sm 0)
    (hcl : sb.tainted = false) (haf : FlagsAF sb) (hrw : runsWhole s.heap sb = true)
    (order : List Nat) (orest : List (List Nat))
    (hord : order.Nodup ∧ (∀ k ∈ order, k < node.next.length) ∧ (∀ k : Nat, k < node.next.length → k ∈ order) ∧
      order.length = node.next.length)
    (ma : MA) (hma : maNew node.next.length sb.original.pos = .ok ma) (ho : OrigSrcs G sb sm (nxJ sm nx 0))
    (h : exec (branches fuel node.next order sb (.multi s.mas.size (.run .worker)) none none)
      { s with mas := s.mas.push ma, orders := orest } = (r, s')) (hrp : RP G s') (hft : Disc κ G s') :
    ∃ F' : FanCtx, BranchesOut κ hs node.next sb sm (nxJ sm nx 0) sb.original.pos.length
      { s with mas := s.mas.push ma, orders := orest } s' r F' := by
  let C0 := workerMC0 G hs
  let Tp : List Nat := (tasksS G.tree).filter (fun x => decide (x ∉ tasksL node.next))
  let Dp : List Nat := (dests G.tree).filter (fun x => decide (x ∉ destsL node.next))
  let m0 := nxJ sm nx 0
  have hnodup := hg.2.1
  rw [tasksS_eq] at hnodup
  have hI : WInv G m0 s := hF.inv
  have hsi : SInv s.heap rest sb := hF.tinv.sinv
  have hwhole := runsWhole_acc hsi hrw
  obtain ⟨rs, hvb⟩ := hsi.vb
  have hm := hF.srcmap
  have hrowfl : ∀ (k : Nat) (row : Row), sb.rows[k]? = some row → row.st.flag = .ack ∨ row.st.flag = .filter :=
    fun k row hr => flagsAF_row hvb haf hr
  have hTsub : ∀ x ∈ Tp, x ∈ tasksS G.tree := fun x hx => (mem_filter_not.mp hx).1
  have hDsub : ∀ x ∈ Dp, x ∈ dests G.tree := fun x hx => (mem_filter_not.mp hx).1
  have hDpre : ∀ x ∈ Dp, x ∈ pre ++ own node := by
    intro x hx
    obtain ⟨h1, h2''⟩ := mem_filter_not.mp hx
    rcases hpath.coverD x h1 with g | g
    · exact List.mem_append_left _ g
    · rw [destsS_eq] at g
      rcases List.mem_append.mp g with g | g
      · exact List.mem_append_right _ g
      · exact absurd g h2''
  have hDT : ∀ x ∈ Dp, x ∈ Tp := by
    intro x hx
    obtain ⟨h1, h2''⟩ := mem_filter_not.mp hx
    exact mem_filter_not.mpr ⟨(destsS_sublist_tasksS G.tree).subset h1, fun hxt => h2'' (hg.dest_next h1 hxt)⟩
  -- every row's root is clean for the whole tree
  have hcleanrow : ∀ (k : Nat) (row : Row) (q : Nat) (src : Rec), sb.rows[k]? = some row → sm[k]? = some q →
      G.all[q]? = some src → CleanT (G.view s) (tasksS G.tree) (dests G.tree) (root src) := by
    intro k row q src hr hq hsrc
    cases hrun : row.run with
    | none => exact hF.facts.clean k row q src (Nat.zero_le _) hr hq hsrc hrun (flagsAF_not_nack hvb haf hr)
    | some rid =>
      have hc : 0 < cnt rid (sb.view.drop 0) := (cnt_drop_pos hvb).mpr ⟨k, row, Nat.zero_le _, hr, hrun⟩
      have hlin := hF.hlin rid (Or.inl hc)
      have hroot := SM.run_root hs hm hlin hr hrun hq hsrc
      apply Classical.byContradiction
      intro hncl
      rw [← hroot] at hncl
      rcases hF.ci rid hc hncl with g | g | ⟨k', row', _, hr', _, hfl'⟩
      · have := hF.nackt rid (Or.inl hc) g
        have := (hwhole rid (by simpa using hc)).1
        omega
      · have := hF.hdoom rid g
        have := (hwhole rid (by simpa using hc)).2
        omega
      · exact flagsAF_not_nack hvb haf hr' hfl'
  have hcoverrow : ∀ (k : Nat) (row : Row) (q : Nat) (src : Rec), sb.rows[k]? = some row → sm[k]? = some q →
      G.all[q]? = some src → Cover (G.view s) Dp (root src) := by
    intro k row q src hr hq hsrc d hd
    rcases hrowfl k row hr with h1 | h1
    · exact Or.inl (hF.facts.ack k row q src (Nat.zero_le _) hr hq hsrc h1 d (hDpre d hd))
    · exact Or.inr (hF.facts.fil k row q src (Nat.zero_le _) hr hq hsrc h1)
  have hB0 := MBet.init (workerMC G hs) (Tp := Tp) (Dp := Dp) orest hI (by omega) hma ho.key
    (fun ix src hl hsrc => by
      obtain ⟨k, hk⟩ := ho.onto ix hl
      have hkr : k < sb.rows.length := by rw [← hm.len]; exact (List.getElem?_eq_some_iff.mp hk).1
      have hrow := List.getElem?_eq_getElem hkr
      exact ⟨(hcleanrow k _ _ src hrow hk hsrc).mono hTsub hDsub, hcoverrow k _ _ src hrow hk hsrc⟩) hDT
  have hstat : FanStatic (workerMC G hs) Tp Dp node.next := by
    refine ⟨hg.1.fan h2, (List.nodup_cons.mp hnodup).2, ?_, ?_, ?_, ?_, ?_, ?_, hDT⟩
    · intro x hx hm'
      exact (mem_filter_not.mp hm').2 hx
    · intro x hx; exact hpath.inT x (tasksL_sub node x hx)
    · intro x hx; exact hpath.inT x (tasksL_sub node x hx)
    · intro x hx; exact hpath.inD x (destsL_sub node x hx)
    · intro x hx; exact mem_filter_not_or hx
    · intro x hx; exact mem_filter_not_or hx
  have hready : ∀ k ∈ order, ∀ n, node.next[k]? = some n →
      ReadyGK κ G s (Tp ++ tasksS n) (Dp ++ destsS n) (pre ++ own node) n nx sb sm := by
    intro k _ n hn
    have hnm : n ∈ node.next := List.mem_of_getElem? hn
    have hV := hF.toFlightV.narrow (T' := Tp ++ tasksS n) (D' := Dp ++ destsS n) hwhole
      (fun x hx => (List.mem_append.mp hx).elim (hTsub x)
        fun g => hstat.inT x (mem_tasksL.mpr ⟨n, hnm, g⟩))
      (fun x hx => (List.mem_append.mp hx).elim (hDsub x)
        fun g => hstat.inD x (mem_destsL.mpr ⟨n, hnm, g⟩))
      (fun x hx => mem_destsL.mpr ⟨n, hnm, hx⟩)
    exact { hV with facts := hV.facts.arrive hvb haf }
  -- the state with the tally pushed has the log and the heap of `s`
  exact branchesG hs Tp Dp (pre ++ own node) node.next nx sb sm hstat hcl haf hDpre
    fuel order none none _ { s with mas := s.mas.push ma, orders := orest } s' r rfl rfl rfl hB0 hF.wseen
    (Sched.init rfl rfl hord)
    (fun k hk n hn => (hready k hk n hn).frame (Ts := []) (Ds := []) (ExtT.refl _ _ (fun _ => False) _) nofun nofun
      (fun _ hx => hx) (HFr.refl s) hF.wseen) (fun r hr => (hwhole r hr).1) h hrp hft

theorem fanG_worker {G : Ctx} (hs : Src G) (fuel : Nat) : FanG κ G (GoodG G) (IsWorkerG G hs) (fuel+1) := by
  intro X C0 node pre nx sb sm rest doom s s' r hg hpc hpath h2 hF hcl haf h hrp hft
  cases hpc
  have hWI : WInv G (nxJ sm nx 0) s := hF.inv
  have hsi : SInv s.heap rest sb := hF.tinv.sinv
  obtain ⟨rs, hvb⟩ := hsi.vb
  have hm := hF.srcmap
  rcases doNextTask_step h with ⟨he, _⟩ | ⟨n, he, _⟩ | ⟨_, ⟨e, rfl, rfl⟩ | ⟨hrw, ma, o, restO, hma, h⟩⟩
  · rw [he] at h2; simp at h2
  · rw [he] at h2; simp at h2
  · exact hF.fail
  · -- C04 for this very execution: heap frame, and when it returns without error the forwarded keys were acknowledged
    have hc04 := sfan_spec fuel (fun f _ => spipe_full f) .worker wContract node sb s s' r rest ma _ restO h2 trivial hsi hrw
      (order_valid _ _) hma h
    have hwhole := runsWhole_acc hsi hrw
    have ho := orig_srcs hs nx (hsi.whole0 (fun r hr => (hwhole r hr).2)) (fun r hr => (hwhole r hr).1) hm hma
    obtain ⟨F', o⟩ := fan_coreG hs fuel node pre nx sb sm rest doom s s' r hg hpath h2 hF hcl
      haf hrw _ _ (order_perm _ _) ma hma ho h hrp hft
    have hkeysfk : keys sb.original.pos = fk s.heap rest sb.view := fan_keys hsi hwhole hma
    have hnx : nx = nxJ sm nx 0 + sb.original.pos.length := by
      by_cases hne : sm = []
      · rw [ho.empty hne, nxJ_ge (by rw [hne]; exact Nat.zero_le _)]; rfl
      · have hrne : sb.rows ≠ [] := fun he => hne (List.length_eq_zero_iff.mp (by rw [hm.len, he]; rfl))
        have hql := List.getLast?_eq_some_getLast hne
        have hrl := List.getLast?_eq_some_getLast hrne
        have h3 := ho.last _ hql
        rcases hF.nextok _ _ hrl hql with ⟨_, rid, g2, g3⟩ | ⟨g1, _⟩
        · have hc : 0 < cnt rid sb.view := by
            rw [List.getLast?_eq_getElem?] at hrl
            exact (cnt_pos hvb).mpr ⟨_, _, hrl, g2⟩
          have := (hwhole rid hc).2
          omega
        · omega
    have hnorest : ∀ rid : Nat, 0 < cnt rid (sb.view.drop 0) → ¬ 0 < rest rid := by
      intro rid hc
      have := (hwhole rid (by simpa using hc)).2
      omega
    refine ⟨o.ext, o.wseen, fun _ => o.bet.base.safe, fun hr => ?_,
      fun hr => .of_frame (o.wt hr) o.hfr.1 o.hfr.2 hnorest,
      fun _ rid hc hr => absurd hr (hnorest rid hc), fun _ rid hc hr => absurd hr (hnorest rid hc), fun _ => o.seen⟩
    · have hd := hc04.res.2 hr
      have hd1 : ackedKeys s'.log = ackedKeys s.log ++ fk s.heap rest sb.view := hd.1
      have hn : nAcked s' = nxJ sm nx 0 + sb.original.pos.length := by
        unfold nAcked
        rw [hd1, List.length_append, ← hkeysfk]
        have := hWI.front
        unfold nAcked at this
        rw [this]
        simp [keys]
      have := o.bet.done (by rw [o.hm0, o.hL]; exact hn)
      rw [o.hm0, o.hL, ← hnx] at this
      exact this

end Conduit.Funnel
