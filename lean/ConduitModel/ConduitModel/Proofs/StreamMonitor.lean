import ConduitModel.Spec.StreamMonitor

/-
Reading the monitors: what `mon log = true` says about any split `log = post ++ e :: pre`
(the log is newest first, so `pre` is what happened before `e`).
-/

namespace Conduit.Stream

/-- every monitor is a conjunction `mon (e :: l) = (mon l && …)`, so it holds of every suffix of a log
it holds of -/
theorem suffix_of_cons {f : List Ev → Bool} (hf : ∀ x xs, f (x :: xs) = true → f xs = true)
    (post l : List Ev) (h : f (post ++ l) = true) : f l = true := by
  induction post with
  | nil => exact h
  | cons x xs ih => exact ih (hf x _ h)

theorem monC01_suffix (M : Nat) (post l : List Ev) (h : monC01 M (post ++ l) = true) : monC01 M l = true :=
  suffix_of_cons (fun _ _ h => (Bool.and_eq_true_iff.mp h).1) post l h

theorem monC04_suffix (post l : List Ev) (h : monC04 (post ++ l) = true) : monC04 l = true :=
  suffix_of_cons (fun _ _ h => (Bool.and_eq_true_iff.mp h).1) post l h

theorem monC05_suffix (post l : List Ev) (h : monC05 (post ++ l) = true) : monC05 l = true :=
  suffix_of_cons (fun _ _ h => (Bool.and_eq_true_iff.mp h).1) post l h

theorem monC07_suffix (post l : List Ev) (h : monC07 (post ++ l) = true) : monC07 l = true :=
  suffix_of_cons (fun _ _ h => (Bool.and_eq_true_iff.mp h).1) post l h

theorem monC01_at_sack {M : Nat} {log post pre : List Ev} {s i : Nat} {r : SRes} (hm : monC01 M log = true)
    (hl : log = post ++ Ev.sack s i r :: pre) : justified M pre s i = true := by
  have := monC01_suffix M post _ (hl ▸ hm)
  simp only [monC01, Bool.and_eq_true] at this
  exact this.2

theorem monC07_at_sack {log post pre : List Ev} {s i : Nat} {r : SRes} (hm : monC07 log = true)
    (hl : log = post ++ Ev.sack s i r :: pre) :
    (dlqwIn pre s i = true → dlqaOkIn pre s i = true) ∧ dlqFailOf pre s = false := by
  have := monC07_suffix post _ (hl ▸ hm)
  simp only [monC07, Bool.and_eq_true] at this
  exact ⟨fun hw => by simpa [hw] using this.2.1, by simpa using this.2.2⟩

theorem monC07_at_dlqw {log post pre : List Ev} {s i : Nat} {ok : Bool} (hm : monC07 log = true)
    (hl : log = post ++ Ev.dlqw s i ok :: pre) : sackIn pre s i = false ∧ dlqFailOf pre s = false := by
  have := monC07_suffix post _ (hl ▸ hm)
  simp only [monC07, Bool.and_eq_true] at this
  exact ⟨by simpa using this.2.1.2, by simpa using this.2.2⟩

/-- the positions acked to source `s`, oldest first. -/
def sackSeq (s : Nat) : List Ev → List Nat
  | [] => []
  | .sack s' i _ :: rest => if s' = s then sackSeq s rest ++ [i] else sackSeq s rest
  | _ :: rest => sackSeq s rest

/-- the DLQ records of source `s`, oldest first. -/
def dlqSeq (s : Nat) : List Ev → List Nat
  | [] => []
  | .dlqw s' i _ :: rest => if s' = s then dlqSeq s rest ++ [i] else dlqSeq s rest
  | _ :: rest => dlqSeq s rest

/-- what destination `d` was given of source `s`, oldest first. -/
def writeSeq (d s : Nat) : List Ev → List Nat
  | [] => []
  | .write d' s' i _ :: rest => if d' = d ∧ s' = s then writeSeq d s rest ++ [i] else writeSeq d s rest
  | _ :: rest => writeSeq d s rest

theorem sackCount_cons (e : Ev) (log : List Ev) (s : Nat) :
    sackCount (e :: log) s = sackCount log s +
      if (match e with | .sack s' _ _ => s' == s | _ => false) = true then 1 else 0 :=
  List.countP_cons ..

theorem readCount_cons (e : Ev) (log : List Ev) (s : Nat) :
    readCount (e :: log) s = readCount log s +
      if (match e with | .read s' => s' == s | _ => false) = true then 1 else 0 :=
  List.countP_cons ..

theorem sackSeq_length (s : Nat) (log : List Ev) : (sackSeq s log).length = sackCount log s := by
  induction log with
  | nil => rfl
  | cons e rest ih =>
    cases e with
    | sack s' i r =>
      rw [sackCount_cons]
      by_cases hs : s' = s <;> simp [sackSeq, hs, ih]
    | _ => exact ih

/-- C04, read off the monitor: the acked sequence of every source is `0, 1, …, k-1` with
`k ≤` the number of records read. -/
theorem sackSeq_of_monC04 (s : Nat) (log : List Ev) (h : monC04 log = true) :
    sackSeq s log = List.range (sackCount log s) ∧ sackCount log s ≤ readCount log s := by
  induction log with
  | nil => exact ⟨rfl, Nat.le_refl _⟩
  | cons e rest ih =>
    obtain ⟨hm, he⟩ := Bool.and_eq_true_iff.mp h
    obtain ⟨ih1, ih2⟩ := ih hm
    cases e with
    | sack s' i r =>
      have he : i = sackCount rest s' ∧ i < readCount rest s' := by simpa using he
      have hr : readCount (Ev.sack s' i r :: rest) s = readCount rest s := rfl
      rw [sackCount_cons, hr]
      by_cases hs : s' = s
      · subst hs
        exact ⟨by simp [sackSeq, ih1, List.range_succ, he.1], by simp; omega⟩
      · exact ⟨by simp [sackSeq, hs, ih1], by simpa [hs] using ih2⟩
    | read s' => exact ⟨ih1, by rw [readCount_cons]; exact Nat.le_add_right_of_le ih2⟩
    | _ => exact ⟨ih1, ih2⟩

theorem mem_dlqSeq (s i : Nat) (log : List Ev) : i ∈ dlqSeq s log ↔ dlqwIn log s i = true := by
  induction log with
  | nil => simp [dlqSeq, dlqwIn]
  | cons e rest ih =>
    cases e with
    | dlqw s' j ok =>
      show i ∈ (if s' = s then dlqSeq s rest ++ [j] else dlqSeq s rest) ↔ ((s' == s && j == i) || dlqwIn rest s i) = true
      by_cases hs : s' = s
      · simp only [hs, if_true, List.mem_append, List.mem_singleton, ih, beq_self_eq_true, Bool.true_and,
          Bool.or_eq_true, beq_iff_eq]
        exact ⟨fun h => h.symm.imp_left Eq.symm, fun h => h.symm.imp_right Eq.symm⟩
      · simp [hs, ih]
    | _ => exact ih

/-- C07, read off the monitor: the DLQ records of a source are strictly increasing in the emit
index — in source order, and no record twice. -/
theorem dlqSeq_of_monC07 (s : Nat) (log : List Ev) (h : monC07 log = true) :
    List.Pairwise (· < ·) (dlqSeq s log) := by
  induction log with
  | nil => exact List.Pairwise.nil
  | cons e rest ih =>
    obtain ⟨hm, he⟩ := Bool.and_eq_true_iff.mp h
    have ih' := ih hm
    cases e with
    | dlqw s' i ok =>
      show List.Pairwise (· < ·) (if s' = s then dlqSeq s rest ++ [i] else dlqSeq s rest)
      by_cases hs : s' = s
      · subst hs
        rw [if_pos rfl, List.pairwise_append]
        refine ⟨ih', List.pairwise_singleton _ _, ?_⟩
        intro j hj k hk
        obtain rfl : k = i := by simpa using hk
        -- `j` was handed to the DLQ earlier: the monitor's `dlqBefore` speaks of that event
        have hb : dlqBefore rest s' k = true := by simp only [Bool.and_eq_true] at he; exact he.1.1.2
        obtain ⟨e', he', hm'⟩ := List.any_eq_true.mp ((mem_dlqSeq s' j rest).mp hj)
        have := List.all_eq_true.mp hb e' he'
        cases e' with
        | dlqw s2 j2 ok2 =>
          obtain ⟨rfl, rfl⟩ : s2 = s' ∧ j2 = j := by simpa using hm'
          simpa using this
        | _ => cases hm'
      · rw [if_neg hs]; exact ih'
    | _ => exact ih'

theorem mem_writeSeq (d s i : Nat) (log : List Ev) :
    i ∈ writeSeq d s log ↔ ∃ ok, Ev.write d s i ok ∈ log := by
  induction log with
  | nil => simp [writeSeq]
  | cons e rest ih =>
    simp only [List.mem_cons, exists_or, ← ih]
    cases e with
    | write d' s' j ok =>
      show i ∈ (if d' = d ∧ s' = s then writeSeq d s rest ++ [j] else writeSeq d s rest) ↔ _
      by_cases hk : d' = d ∧ s' = s
      · simp [hk, or_comm, eq_comm]
      · simp [hk]
        intro h1 h2; exact absurd ⟨h1.symm, h2.symm⟩ hk
    | _ => exact (or_iff_right (fun ⟨_, h⟩ => by cases h)).symm

/-- C05, read off the monitor: what a destination is given of one source is strictly increasing
in the emit index — read order, nothing twice. -/
theorem writesBefore_iff (log : List Ev) (d s i : Nat) :
    writesBefore log d s i = true ↔ ∀ j ∈ writeSeq d s log, j < i := by
  unfold writesBefore
  rw [List.all_eq_true]
  refine ⟨fun h j hj => ?_, fun h e' he' => ?_⟩
  · obtain ⟨ok, hw⟩ := (mem_writeSeq d s j log).mp hj
    simpa using h _ hw
  · cases e' with
    | write d' s' j ok =>
      by_cases hk : d' = d ∧ s' = s
      · obtain ⟨rfl, rfl⟩ := hk
        simpa using h j ((mem_writeSeq d' s' j log).mpr ⟨ok, he'⟩)
      · simp only [Bool.or_eq_true, Bool.not_eq_true', Bool.and_eq_false_iff, beq_eq_false_iff_ne, ne_eq]
        exact Or.inl (Decidable.not_and_iff_not_or_not.mp hk)
    | _ => rfl

theorem writeSeq_of_monC05 (d s : Nat) (log : List Ev) (h : monC05 log = true) :
    List.Pairwise (· < ·) (writeSeq d s log) := by
  induction log with
  | nil => exact List.Pairwise.nil
  | cons e rest ih =>
    obtain ⟨hm, he⟩ := Bool.and_eq_true_iff.mp h
    have ih' := ih hm
    cases e with
    | write d' s' i ok =>
      show List.Pairwise (· < ·) (if d' = d ∧ s' = s then writeSeq d s rest ++ [i] else writeSeq d s rest)
      by_cases hk : d' = d ∧ s' = s
      · obtain ⟨rfl, rfl⟩ := hk
        rw [if_pos ⟨rfl, rfl⟩, List.pairwise_append]
        refine ⟨ih', List.pairwise_singleton _ _, ?_⟩
        intro j hj k hk
        obtain rfl : k = i := by simpa using hk
        have hb : writesBefore rest d' s' k = true := by simp only [Bool.and_eq_true] at he; exact he.1.1
        exact (writesBefore_iff rest d' s' k).mp hb j hj
      · rw [if_neg hk]; exact ih'
    | _ => exact ih'

end Conduit.Stream
