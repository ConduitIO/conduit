import ConduitModel.Proofs.StreamPipe

/-
The product system: what the Flow component knows (write logs, read counters, filter history) is
what the Ack component's log of observable events shows — so the Flow theorems speak about the
observable trace (C05 monitor).
-/

namespace Conduit.Stream

theorem flow_step_neutral {τ : Topo} {f f' : Flow} {e : Ev} (h : Flow.step τ f e = some f')
    (h1 : ∀ s, e ≠ .read s) (h2 : ∀ d s i ok, e ≠ .write d s i ok) (h3 : ∀ br s i, e ≠ .proc br s i .filter) :
    f'.wlog = f.wlog ∧ f'.reads = f.reads ∧ f'.flt = f.flt := by
  cases e with
  | read s => exact absurd rfl (h1 s)
  | write d s i ok => exact absurd rfl (h2 d s i ok)
  | proc br s i k =>
    cases k with
    | filter => exact absurd rfl (h3 br s i)
    | _ =>
      cases br with
      | none => obtain ⟨_, rfl⟩ := flow_procO h; exact ⟨rfl, rfl, rfl⟩
      | some d => obtain ⟨_, rfl⟩ := flow_procB h; exact ⟨rfl, rfl, rfl⟩
  | enq s i => rcases flow_mvSrc h with ⟨_, _, _, rfl⟩ | ⟨_, _, _, _, _, _, rfl⟩ <;> exact ⟨rfl, rfl, rfl⟩
  | mv g k s i =>
    cases g with
    | src s0 =>
      rcases flow_mvSrc (flow_mv_src h) with ⟨_, _, _, rfl⟩ | ⟨_, _, _, _, _, _, rfl⟩ <;> exact ⟨rfl, rfl, rfl⟩
    | pl => obtain ⟨_, _, _, rfl⟩ := flow_mv_pl h; exact ⟨rfl, rfl, rfl⟩
    | dst d => obtain ⟨_, _, _, rfl⟩ := flow_mv_dst h; exact ⟨rfl, rfl, rfl⟩
  | fan s i => obtain ⟨_, _, _, _, rfl⟩ := flow_fan h; exact ⟨rfl, rfl, rfl⟩
  | fdeliver d => obtain ⟨_, _, _, _, _, rfl⟩ := flow_fdeliver h; exact ⟨rfl, rfl, rfl⟩
  | fpass d s i => obtain ⟨_, _, _, rfl⟩ := flow_fpass h; exact ⟨rfl, rfl, rfl⟩
  | _ => cases h; exact ⟨rfl, rfl, rfl⟩

structure Link (p : Pipe) : Prop where
  inv : Inv p.flow
  w : ∀ d s, writeSeq d s p.ack.log = idxOf s (p.flow.wlog d)
  r : ∀ s, readCount p.ack.log s = p.flow.reads s
  f : ∀ d s i, filtIn p.ack.log d s i = true ↔ ((none, s, i) ∈ p.flow.flt ∨ (some d, s, i) ∈ p.flow.flt)
  mon : monC05 p.ack.log = true

theorem link_init (τ : Topo) (size thr : Nat) : Link (Pipe.init τ size thr) := by
  refine ⟨inv_init τ, ?_, ?_, ?_, rfl⟩ <;> simp [Pipe.init, Flow.init, Ack.init, writeSeq, idxOf, readCount, filtIn]

theorem link_log_neutral (log : List Ev) (e : Ev) (h1 : ∀ s, e ≠ .read s) (h2 : ∀ d s i ok, e ≠ .write d s i ok)
    (h3 : ∀ br s i, e ≠ .proc br s i .filter) {log' : List Ev} (hlog : log' = if e.observable then e :: log else log) :
    (∀ d s, writeSeq d s log' = writeSeq d s log) ∧ (∀ s, readCount log' s = readCount log s) ∧
    (∀ d s i, filtIn log' d s i = filtIn log d s i) ∧ monC05 log' = monC05 log := by
  subst hlog
  split
  case isFalse => exact ⟨fun _ _ => rfl, fun _ => rfl, fun _ _ _ => rfl, rfl⟩
  cases e with
  | read s => exact absurd rfl (h1 s)
  | write d s i ok => exact absurd rfl (h2 d s i ok)
  | proc br s i k =>
    cases k with
    | filter => exact absurd rfl (h3 br s i)
    | _ => cases br <;> exact ⟨fun _ _ => rfl, fun _ => rfl, fun _ _ _ => rfl, Bool.and_true _⟩
  | _ => exact ⟨fun _ _ => rfl, fun _ => rfl, fun _ _ _ => rfl, Bool.and_true _⟩

theorem link_step {τ : Topo} {p p' : Pipe} {e : Ev} (hs : Pipe.step τ p e = some p') (hl : Link p) : Link p' := by
  obtain ⟨hf, ha⟩ := pipe_step_proj hs
  have hlog := step_log ha
  have hi' := inv_step hl.inv hf
  have hm := hl.mon
  by_cases hn : (∀ s, e ≠ .read s) ∧ (∀ d s i ok, e ≠ .write d s i ok) ∧ (∀ br s i, e ≠ .proc br s i .filter)
  · obtain ⟨n1, n2, n3⟩ := hn
    obtain ⟨h1, h2, h3⟩ := flow_step_neutral hf n1 n2 n3
    obtain ⟨w, r, f, m⟩ := link_log_neutral p.ack.log e n1 n2 n3 hlog
    refine ⟨hi', fun d s => ?_, fun s => ?_, fun d s i => ?_, m.trans hm⟩
    · rw [w, h1]; exact hl.w d s
    · rw [r, h2]; exact hl.r s
    · rw [f, h3]; exact hl.f d s i
  cases e with
  | read s =>
    obtain ⟨_, _, h1⟩ := flow_read hf
    refine ⟨hi', fun d s' => ?_, fun s' => ?_, fun d s' i => ?_, hlog ▸ (Bool.and_true _).trans hm⟩ <;>
      rw [hlog, h1]
    · exact hl.w d s'
    · show readCount (Ev.read s :: p.ack.log) s' = upd p.flow.reads s (p.flow.reads s + 1) s'
      rw [readCount_cons, hl.r]
      by_cases hss : s' = s
      · subst hss; simp
      · simp [hss, Ne.symm hss]
    · exact hl.f d s' i
  | write d s i ok =>
    obtain ⟨m, _, _, ⟨hms, hmi, _⟩, hf'⟩ := flow_write hf
    have h1 : p'.flow.wlog = upd p.flow.wlog d (p.flow.wlog d ++ [m]) := by rw [hf']
    have h2 : p'.flow.reads = p.flow.reads := by rw [hf']
    have h3 : p'.flow.flt = p.flow.flt := by rw [hf']
    simp only [Ev.observable, if_true] at hlog
    have hsorted := hi'.writes_sorted d s
    have hw' : p'.flow.wlog d = p.flow.wlog d ++ [m] := by rw [h1]; simp
    have hmem : m ∈ p'.flow.wlog d := by rw [hw']; simp
    have hidx : idxOf s (p'.flow.wlog d) = idxOf s (p.flow.wlog d) ++ [i] := by
      rw [hw', idxOf_append]; simp [idxOf, hms, hmi]
    refine ⟨hi', ?_, ?_, ?_, ?_⟩
    · intro d' s'
      rw [hlog, h1]
      show (if d = d' ∧ s = s' then writeSeq d' s' p.ack.log ++ [i] else writeSeq d' s' p.ack.log) = _
      rw [hl.w]
      by_cases hd : d' = d
      · subst hd
        by_cases hs' : s = s'
        · subst hs'; simp [idxOf, hms, hmi]
        · simp [idxOf, hms, hs']
      · simp [hd, Ne.symm hd]
    · intro s'; rw [hlog, h2]; exact hl.r s'
    · intro d' s' i'; rw [hlog, h3]; exact hl.f d' s' i'
    · rw [hlog]
      simp only [monC05, hm, Bool.true_and, Bool.and_eq_true, decide_eq_true_eq, Bool.not_eq_true']
      refine ⟨⟨?_, ?_⟩, ?_⟩
      · rw [hidx, List.pairwise_append] at hsorted
        exact (writesBefore_iff ..).mpr fun j hj => hsorted.2.2 j (hl.w d s ▸ hj) i (by simp)
      · have := hi'.writes_read d m hmem
        rw [hms, hmi, h2] at this
        rw [hl.r]; exact this
      · have := hi'.filtered_absent d m hmem
        rw [hms, hmi, h3] at this
        cases hfi : filtIn p.ack.log d s i with
        | false => rfl
        | true =>
          rcases (hl.f d s i).mp hfi with hc | hc
          · exact absurd hc this.1
          · exact absurd hc this.2
  | proc br s i k =>
    cases k with
    | filter =>
      have hobs : p'.flow.flt = (br, s, i) :: p.flow.flt ∧ p'.flow.wlog = p.flow.wlog ∧
          p'.flow.reads = p.flow.reads := by
        cases br with
        | none => obtain ⟨_, hf'⟩ := flow_procO hf; rw [hf']; exact ⟨rfl, rfl, rfl⟩
        | some d => obtain ⟨_, hf'⟩ := flow_procB hf; rw [hf']; exact ⟨rfl, rfl, rfl⟩
      obtain ⟨h1, h2, h3⟩ := hobs
      refine ⟨hi', fun d s' => ?_, fun s' => ?_, fun d s' i' => ?_, ?_⟩ <;> rw [hlog]
      · rw [h2]; cases br <;> exact hl.w d s'
      · rw [h3]; cases br <;> exact hl.r s'
      · rw [h1]
        have hold := hl.f d s' i'
        cases br with
        | none =>
          show ((s == s' && i == i') || filtIn p.ack.log d s' i') = true ↔ _
          simp only [Bool.or_eq_true, Bool.and_eq_true, beq_iff_eq, hold, List.mem_cons, Prod.mk.injEq,
            true_and, reduceCtorEq, false_and, false_or]
          rw [eq_comm (a := s), eq_comm (a := i)]
          exact or_assoc.symm
        | some d0 =>
          show ((d0 == d && s == s' && i == i') || filtIn p.ack.log d s' i') = true ↔ _
          simp only [Bool.or_eq_true, Bool.and_eq_true, beq_iff_eq, hold, List.mem_cons, Prod.mk.injEq,
            Option.some.injEq, reduceCtorEq, false_and, false_or]
          rw [and_assoc, eq_comm (a := d0), eq_comm (a := s), eq_comm (a := i)]
          exact or_left_comm
      · cases br <;> exact (Bool.and_true _).trans hm
    | _ => exact absurd ⟨nofun, nofun, nofun⟩ hn
  | _ => exact absurd ⟨nofun, nofun, nofun⟩ hn

theorem link_run {τ : Topo} (evs : List Ev) {p0 p : Pipe} (hl : Link p0) (h : Pipe.run τ p0 evs = some p) :
    Link p :=
  EventSys.run_induct (fun _ _ _ hl hs => link_step hs hl) evs hl (Pipe.run_eq .. ▸ h)

end Conduit.Stream
