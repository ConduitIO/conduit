import ConduitModel.Model.Install
import ConduitModel.Proofs.Gates

namespace Conduit.Install
open Conduit.Gates Conduit.Generated.Policy

theorem envOf_succBy (order : List GateCall) (s : Scenario) : SuccBy order (envOf order s) (gateSucc s) :=
  fun i g h => by simp [envOf, h]

theorem gate_reached {order : List GateCall} {s : Scenario}
    (hb : (runOrder order s).verifierCalled = true ∨ (runOrder order s).unsignedLogged = true) :
    ∃ k g, order[k]? = some g ∧ g.name = "runVerificationGate" ∧ reached (envOf order s) order k := by
  simp only [runOrder, Bool.and_eq_true] at hb
  have hb := hb.elim And.left And.left
  cases hi : indexOfName order "runVerificationGate" with
  | none => rw [hi] at hb; simp at hb
  | some k =>
    rw [hi] at hb
    simp only [Bool.or_eq_true, List.contains_iff_mem, beq_iff_eq] at hb
    have := List.find?_some hi
    cases hg : order[k]? with
    | none => rw [hg] at this; simp at this
    | some g => rw [hg] at this; exact ⟨k, g, hg, by simpa using this, hb⟩

theorem gate_ok_cases {s : Scenario} {b : Bool} (h : runVerificationGate s = .ok b) :
    (s.allowUnsigned = false ∧ s.sigFetch = .ok ∧ s.provFetch = .ok ∧ s.verifier = .signed ∧ b = true) ∨
    (s.allowUnsigned = true ∧ Decide s.ctx = (true, none) ∧ s.unsignedLogOK = true ∧ b = false) := by
  unfold runVerificationGate at h
  cases hau : s.allowUnsigned with
  | true =>
    right
    simp only [hau, if_true, unsignedInstallGate] at h
    cases hd : Decide s.ctx with
    | mk al code =>
      rw [hd] at h
      cases code with
      | some c => simp at h
      | none =>
        simp only at h
        cases al with
        | false => simp at h
        | true =>
          cases hl : s.unsignedLogOK with
          | false => simp [hl] at h
          | true =>
            simp only [hl] at h
            simp only [Bool.not_true, Bool.false_eq_true, if_false, Except.ok.injEq] at h
            exact ⟨rfl, rfl, rfl, h.symm⟩
  | false =>
    left
    simp only [hau, Bool.false_eq_true, if_false, fetchArtifactRef] at h
    cases hs : s.sigFetch <;> simp only [hs] at h <;> try (simp at h; done)
    cases hp : s.provFetch <;> simp only [hp] at h <;> try (simp at h; done)
    cases hv : s.verifier <;> simp only [hv] at h <;> try (simp at h; done)
    simp only [Except.ok.injEq] at h
    exact ⟨rfl, rfl, rfl, rfl, h.symm⟩

theorem toBool_ok {α ε : Type} {e : Except ε α} (h : e.toBool = true) : ∃ b, e = .ok b := by
  cases e with
  | ok b => exact ⟨b, rfl⟩
  | error _ => simp [Except.toBool] at h

/-- decision table of the regenerated `policy.Decide`; like the two tables below it is checked on all 2⁶
contexts by the kernel's evaluator. -/
theorem decide_allowed_iff (c : Context) :
    Decide c = (true, none) ↔
      (c.OperatorPolicy = true ∧ c.IsMCP = false ∧
        (((c.TTY = false ∨ c.CIEnv = true) ∧ c.EnvVarSet = true) ∨
         (c.TTY = true ∧ c.CIEnv = false ∧ c.TypedConfirmation = true))) := by
  obtain ⟨a, b, m, p, e, t⟩ := c
  revert a b m p e t
  decide +kernel

/-- so the defensive `!dec.Allowed()` test of `unsignedInstallGate` is unreachable. -/
theorem decide_consistent (c : Context) : (Decide c).1 = true ↔ (Decide c).2 = none := by
  obtain ⟨a, b, m, p, e, t⟩ := c
  revert a b m p e t
  decide +kernel

theorem decideStale_allowed_iff (c : StaleBundleContext) :
    (DecideStaleBundle c).1 = true ↔
      (c.OperatorAllowStaleBundle = true ∧ c.IsMCP = false ∧
        (((c.TTY = false ∨ c.CIEnv = true) ∧ c.EnvVarSet = true) ∨
         (c.TTY = true ∧ c.CIEnv = false ∧ c.TypedConfirmation = true))) := by
  obtain ⟨a, b, m, e, t, p⟩ := c
  revert a b m e t p
  decide +kernel

end Conduit.Install
