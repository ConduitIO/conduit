import ConduitModel.Proofs.SrcAck

/-!
Invariant of M3 about `Source.Teardown` (C06): the flags as functions of its program counter (`InvTd`, every
event list).
-/
namespace Conduit.SrcAck

/-- a clause about a later phase of Teardown says nothing at program counter `t` -/
theorem Td.notYet {t : Td} {k : Nat} {P : Prop} (h : decide (t.rank ≤ k) = false) : t.rank ≤ k → P :=
  fun h' => absurd h' (of_decide_eq_false h)

/-- Flags as functions of Teardown's program counter, by `Td.rank`: `≤ 5` from `.closedQ` on (queue
closed), `≤ 3` from `.stopped` on (stream stopped), `≤ 2` from `.joined` on (delivery goroutine joined). -/
structure InvTd (s : St) : Prop where
  tdn : s.teardowns = if s.td.isDone then 1 else 0
  pup : s.pluginUp = !s.td.isDone
  dgd : s.dgDone = true → s.deferred = [] ∧ s.closed = true
  clo : s.closed = decide (s.td.rank ≤ 5)
  sst : s.streamStopped = decide (s.td.rank ≤ 3)
  jnd : s.td.rank ≤ 2 → s.dgDone = true

theorem invTd_init : InvTd init := by
  constructor <;> simp [init, Td.isDone, Td.rank]

/-- `onPersistFlushed` touches the delivery queue only, and not even that once the queue is closed -/
theorem invTd_onFlushedOk {s : St} (hi : InvTd s) (q : Nat) : InvTd (onFlushedOk s q) := by
  rw [onFlushedOk_eq]
  refine ⟨hi.tdn, hi.pup, fun hd => ?_, hi.clo, hi.sst, hi.jnd⟩
  have ⟨hdef, hcl⟩ := hi.dgd hd
  exact ⟨by simp only [hcl, if_true]; exact hdef, hcl⟩

theorem invTd_step {c : Cfg} {s s' : St} {e : Ev} (hi : InvTd s) (h : step c s e = some s') : InvTd s' := by
  have ⟨a1, a2, a3, a4, a5, a6⟩ := hi
  cases step_sound h with
  | callbackAck i g seq => exact invTd_onFlushedOk (s := setGen s i { g with cbSt := .done }) ⟨a1, a2, a3, a4, a5, a6⟩ seq
  -- the delivery goroutine is still running when it takes an ack off the queue
  | deliverOk _ _ _ _ hnd | deliverTornDown _ _ _ _ hnd | deliverExhausted _ _ _ _ hnd | backoffAbort _ _ _ _ hnd
  | discard _ _ _ _ hnd =>
    exact ⟨a1, a2, fun hd => absurd hd hnd, a4, a5, a6⟩
  | dgExit _ _ hcl hdef => exact ⟨a1, a2, fun _ => ⟨hdef, hcl⟩, a4, a5, fun _ => rfl⟩
  | restart => constructor <;> simp [init, Td.isDone, Td.rank]
  -- the statements of Teardown: with the program counter known, every flag is a closed term
  | tdBegin _ htd | tdFlushEmpty _ htd | tdFlush _ _ htd | tdSnap _ htd | tdWaited _ _ htd | tdDrained _ _ htd =>
    rw [htd] at a1 a2 a4 a5 a6
    exact ⟨a1, a2, a3, a4, a5, Td.notYet rfl⟩
  | closeQueue _ htd =>
    rw [htd] at a1 a2 a4 a5 a6
    exact ⟨a1, a2, fun hd => ⟨(a3 hd).1, rfl⟩, rfl, a5, Td.notYet rfl⟩
  | stopStream _ htd =>
    rw [htd] at a1 a2 a4 a5 a6
    exact ⟨a1, a2, a3, a4, rfl, Td.notYet rfl⟩
  | join _ htd hdg =>
    rw [htd] at a1 a2 a4 a5 a6
    exact ⟨a1, a2, a3, a4, a5, fun _ => hdg⟩
  | pluginTeardown ok _ htd | pluginTeardownFlush ok _ _ htd =>
    rw [htd] at a1 a2 a4 a5 a6
    exact ⟨by rw [a1]; rfl, rfl, a3, a4, a5, fun _ => a6 (by decide)⟩
  | _ => exact ⟨a1, a2, a3, a4, a5, a6⟩

theorem invTd_reach {c : Cfg} {s : St} (h : Reach c s) : InvTd s := by
  obtain ⟨evs, h⟩ := h
  rw [run_eq] at h
  exact stepG_induct (fun _ _ _ hi _ => invTd_step hi) evs _ _ invTd_init h

end Conduit.SrcAck
