import ConduitModel.Model.DlqWindow
import ConduitModel.Spec.DlqWindow

/-!
# The DLQ nack window refines its specification (C07)

The ring buffer of both engines (`Model/DlqWindow.lean`) against the outcome history of
`Spec/DlqWindow.lean`. The idea is `Rel`: read from the slot after the cursor, the ring is the last
`size` outcomes of the history (`Win.logical = lastN size hist`), and the ring has stopped
changing exactly when the spec is frozen. One `put` is one spec step (`rel_put`); the v1 engine
stores one outcome at a time (`v1_step`, `v1_run`), the v2 engine a count at once (`v2_storeN`,
`v2_ackN`).
-/
namespace Conduit.Dlq

structure Win.WF (w : Win) : Prop where
  cur_lt : 0 < w.win.length → w.cur < w.win.length
  nacks_eq : w.nacks = w.win.count true

theorem Win.new_wf (size thr : Nat) : (Win.new size thr).WF := by
  constructor
  · intro h; simp only [Win.new] at h ⊢; exact h
  · simp [Win.new, List.count_replicate]

theorem logical_length (w : Win) : w.logical.length = w.win.length := by
  simp only [Win.logical, List.length_append, List.length_drop, List.length_take]; omega

theorem logical_count (w : Win) : w.logical.count true = w.win.count true := by
  simp only [Win.logical, List.count_append]
  have := List.take_append_drop (w.cur + 1) w.win
  conv => rhs; rw [← this]
  simp only [List.count_append]; omega

theorem lastN_length (size : Nat) (h : List Bool) : (lastN size h).length = size := by
  simp [lastN]

theorem lastN_snoc (size : Nat) (h : List Bool) (x : Bool) (hs : 0 < size) :
    lastN size (h ++ [x]) = (lastN size h).tail ++ [x] := by
  simp only [lastN, List.length_append, List.length_cons, List.length_nil, Nat.zero_add]
  rw [← List.append_assoc, List.drop_append_of_le_length (by simp; omega)]
  rw [List.tail_drop]


theorem put_win (w : Win) (x : Bool) :
    (w.put x).win = w.win.set ((w.cur + 1) % w.win.length) x := by
  by_cases h : w.win[(w.cur + 1) % w.win.length]? = some x
  · simp only [Win.put, h, if_true]
    rw [List.getElem?_eq_some_iff] at h
    obtain ⟨hl, he⟩ := h
    rw [← he, List.set_getElem_self]
  · simp only [Win.put, h, if_false]

theorem put_cur (w : Win) (x : Bool) : (w.put x).cur = (w.cur + 1) % w.win.length := by
  by_cases h : w.win[(w.cur + 1) % w.win.length]? = some x <;> simp only [Win.put, h, if_true, if_false]

theorem put_thr (w : Win) (x : Bool) : (w.put x).thr = w.thr := by
  by_cases h : w.win[(w.cur + 1) % w.win.length]? = some x <;> simp only [Win.put, h, if_true, if_false]

theorem put_length (w : Win) (x : Bool) : (w.put x).win.length = w.win.length := by
  rw [put_win]; simp

theorem put_logical (w : Win) (x : Bool) (hn : 0 < w.win.length) (hc : w.cur < w.win.length) :
    (w.put x).logical = w.logical.tail ++ [x] := by
  unfold Win.logical
  rw [put_win, put_cur]
  by_cases h : w.cur + 1 < w.win.length
  · rw [Nat.mod_eq_of_lt h]
    rw [List.drop_set_of_lt (by omega)]
    rw [List.take_add_one, List.take_set_of_le (Nat.le_refl _)]
    have hne : List.drop (w.cur + 1) w.win ≠ [] := by
      intro hc'; have := congrArg List.length hc'; simp at this; omega
    rw [List.tail_append_of_ne_nil hne, List.tail_drop]
    simp [List.getElem?_set_self h]
  · have he : w.cur + 1 = w.win.length := by omega
    rw [he, Nat.mod_self]
    simp only [List.drop_length, List.take_length, List.nil_append, Nat.zero_add]
    rw [List.drop_set_of_lt (by omega)]
    cases hw : w.win with
    | nil => simp [hw] at hn
    | cons a t => simp


theorem logical_head (w : Win) (hn : 0 < w.win.length) (hc : w.cur < w.win.length) :
    w.logical.head? = w.win[(w.cur + 1) % w.win.length]? := by
  unfold Win.logical
  by_cases h2 : w.cur + 1 < w.win.length
  · rw [Nat.mod_eq_of_lt h2]
    have hne : List.drop (w.cur + 1) w.win ≠ [] := by
      intro hc'; have := congrArg List.length hc'; simp at this; omega
    cases hd : List.drop (w.cur + 1) w.win with
    | nil => exact absurd hd hne
    | cons a t =>
      have := List.head?_drop (l := w.win) (i := w.cur + 1)
      rw [hd] at this; simp at this
      simp [this]
  · have he : w.cur + 1 = w.win.length := by omega
    rw [he, Nat.mod_self]
    simp only [List.drop_length, List.take_length, List.nil_append]
    exact List.head?_eq_getElem?

theorem put_wf (w : Win) (x : Bool) (hwf : w.WF) (hn : 0 < w.win.length) : (w.put x).WF := by
  have hc := hwf.cur_lt hn
  have hm : (w.cur + 1) % w.win.length < w.win.length := Nat.mod_lt _ hn
  refine ⟨fun _ => by rw [put_cur, put_length]; exact hm, ?_⟩
  -- the overwritten slot is the oldest entry: compare it with `x`
  have hhead := logical_head w hn hc
  rw [List.getElem?_eq_getElem hm] at hhead
  have hcnt := hwf.nacks_eq
  rw [← logical_count w] at hcnt
  rw [← logical_count, put_logical w x hn hc]
  cases hl : w.logical with
  | nil => simp [hl] at hhead
  | cons o t =>
    rw [hl] at hhead hcnt
    simp only [List.head?_cons, Option.some.injEq] at hhead
    simp only [Win.put, List.getElem?_eq_getElem hm, ← hhead, Option.some.injEq, List.tail_cons,
      List.count_append, List.count_cons, List.count_nil] at hcnt ⊢
    cases o <;> cases x <;> simp at hcnt ⊢ <;> omega


/-- Refinement relation between the ring buffer (either engine) and the abstract spec with the
*documented* `size`, `thr` (the ring may have been shrunk to 1 slot when `thr = 0`). -/
structure Rel (size thr : Nat) (w : Win) (s : Spec) : Prop where
  wf : w.WF
  thr_eq : w.thr = thr
  len : w.win.length = size ∨ (thr = 0 ∧ 0 < size ∧ w.win.length = 1)
  frozen : s.frozen = decide (thr < w.nacks)
  win_eq : w.win.length = size → w.logical = lastN size s.hist
  bound : s.frozen = false → recentNacks size s.hist ≤ thr

theorem rel_init (size thr : Nat) : Rel size thr (Win.new size thr) Spec.init := by
  refine ⟨Win.new_wf _ _, rfl, ?_, ?_, ?_, ?_⟩
  · simp only [Win.new]
    by_cases h : 0 < size ∧ thr = 0
    · right; simp [h]
    · left; simp [h]
  · simp [Win.new, Spec.init]
  · intro hl
    have hrot : ∀ n : Nat, List.drop 1 (List.replicate n false) ++ List.take 1 (List.replicate n false)
        = List.replicate n false := by
      intro n; cases n with
      | zero => rfl
      | succ k => simp [List.replicate_succ, ← List.replicate_succ']
    simp only [Win.new, List.length_replicate] at hl
    simp only [Win.logical, Win.new, Spec.init, lastN, hl, List.append_nil, List.length_nil,
      List.drop_zero, Nat.zero_add]
    exact hrot size
  · intro _; simp [recentNacks, lastN, Spec.init, List.count_replicate]

theorem rel_size_pos {size thr : Nat} {w : Win} {s : Spec} (r : Rel size thr w s) :
    0 < size ↔ 0 < w.win.length := by
  rcases r.len with h | ⟨_, h2, h3⟩ <;> omega

/-- the heart of the refinement: after recording `x`, ring counter and spec count agree on
the threshold test. -/
theorem rel_put_count {size thr : Nat} {w : Win} {s : Spec} (r : Rel size thr w s)
    (hs : 0 < size) (hnf : s.frozen = false) (x : Bool) :
    (thr < recentNacks size (s.hist ++ [x]) ↔ thr < (w.put x).nacks) := by
  have hn : 0 < w.win.length := (rel_size_pos r).1 hs
  have hc := r.wf.cur_lt hn
  have hwf' := put_wf w x r.wf hn
  have hcount : (w.put x).nacks = (w.logical.tail ++ [x]).count true := by
    rw [hwf'.nacks_eq, ← logical_count, put_logical w x hn hc]
  rcases r.len with h | ⟨h1, _, h3⟩
  · rw [hcount, r.win_eq h, recentNacks, lastN_snoc _ _ _ hs]
  · -- thr = 0, one slot: the ring keeps only `x`, and the spec window held no nack before
    subst h1
    have ht : w.logical.tail = [] :=
      List.eq_nil_of_length_eq_zero (by rw [List.length_tail, logical_length, h3])
    have h0 : (lastN size s.hist).tail.count true = 0 :=
      Nat.le_zero.mp (Nat.le_trans ((List.tail_sublist _).count_le _) (r.bound hnf))
    rw [hcount, ht, recentNacks, lastN_snoc _ _ _ hs, List.count_append, h0]
    simp

theorem rel_put {size thr : Nat} {w : Win} {s : Spec} (r : Rel size thr w s)
    (hs : 0 < size) (hnf : s.frozen = false) (x : Bool) :
    Rel size thr (w.put x)
      { hist := s.hist ++ [x], frozen := decide (thr < recentNacks size (s.hist ++ [x])) } := by
  have hn : 0 < w.win.length := (rel_size_pos r).1 hs
  have hc := r.wf.cur_lt hn
  refine ⟨put_wf w x r.wf hn, by rw [put_thr]; exact r.thr_eq, by rw [put_length]; exact r.len, ?_, ?_, ?_⟩
  · simp only
    have := rel_put_count r hs hnf x
    by_cases h : thr < recentNacks size (s.hist ++ [x])
    · simp [h, this.1 h]
    · simp [h, (not_congr this).1 h]
  · intro hl
    rw [put_length] at hl
    rw [put_logical w x hn hc, r.win_eq hl, lastN_snoc _ _ _ hs]
  · intro hf; simpa using hf


/-- v1 `store`: simulates one spec step; the verdict of `Nack` is the spec verdict. -/
theorem v1_step {size thr : Nat} {w : Win} {s : Spec} (r : Rel size thr w s) (x : Bool) :
    Rel size thr (w.store1 x) (Spec.step size thr s x).1 ∧
    (x = true → decide ((w.store1 x).nacks ≤ (w.store1 x).thr) = (Spec.step size thr s x).2) := by
  unfold Win.store1 Spec.step
  by_cases hs : size = 0
  · have hl : w.win.length = 0 := by
      have := rel_size_pos r; omega
    simp only [hs, hl, true_or, if_true]
    refine ⟨by simpa [hs] using r, ?_⟩
    intro _
    have := r.wf.nacks_eq
    have hw : w.win = [] := List.length_eq_zero_iff.mp hl
    rw [hw] at this; simp at this
    simp [this]
  · have hsp : 0 < size := by omega
    have hn : 0 < w.win.length := (rel_size_pos r).1 hsp
    have hn' : ¬ w.win.length = 0 := by omega
    simp only [hs, if_false, hn', false_or]
    by_cases hf : s.frozen = true
    · have hfz := r.frozen; rw [hf] at hfz
      have hlt : thr < w.nacks := by simpa using hfz.symm
      have hlt' : w.thr < w.nacks := by rw [r.thr_eq]; exact hlt
      simp only [hlt', if_true, hf]
      refine ⟨r, ?_⟩
      intro hx; subst hx
      simp; omega
    · have hnf : s.frozen = false := by simpa using hf
      have hfz := r.frozen; rw [hnf] at hfz
      have hlt : ¬ thr < w.nacks := by simpa using hfz.symm
      have hlt' : ¬ w.thr < w.nacks := by rw [r.thr_eq]; exact hlt
      simp only [hlt', if_false, hnf, Bool.false_eq_true]
      have hput := rel_put r hsp hnf x
      have hcnt := rel_put_count r hsp hnf x
      by_cases h : thr < recentNacks size (s.hist ++ [x])
      · simp only [h, if_true]
        simp only [h, decide_true] at hput
        refine ⟨hput, ?_⟩
        intro hx; subst hx
        have := hcnt.1 h
        rw [put_thr, r.thr_eq]; simp; omega
      · simp only [h, if_false]
        simp only [h, decide_false] at hput
        refine ⟨hput, ?_⟩
        intro _
        have := (not_congr hcnt).1 h
        rw [put_thr, r.thr_eq]; simp; omega


theorem run_size_zero (thr : Nat) (s : Spec) (os : List Bool) :
    Spec.run 0 thr s os = (s, List.replicate os.length true) := by
  induction os with
  | nil => rfl
  | cons o os ih => simp [Spec.run, Spec.step, ih, List.replicate_succ]

theorem put_nacks_same (w : Win) (x : Bool)
    (h : w.win[(w.cur + 1) % w.win.length]? = some x) : (w.put x).nacks = w.nacks := by
  simp only [Win.put, h, if_true]

theorem put_nacks_false_le (w : Win) : (w.put false).nacks ≤ w.nacks := by
  by_cases h : w.win[(w.cur + 1) % w.win.length]? = some false
  · rw [put_nacks_same w false h]; exact Nat.le_refl _
  · simp only [Win.put, h, if_false]; simp

def Win.exitCond (w : Win) (x : Bool) : Prop :=
  x = true ∧ w.win[(w.cur + 1) % w.win.length]? ≠ some x ∧ (w.put x).thr < (w.put x).nacks

theorem storeLoop_exit (w : Win) (x : Bool) (k i : Nat) (h : w.exitCond x) :
    Win.storeLoop x w (k+1) i = (w.put x, i) := by
  rw [Win.storeLoop]; exact if_pos h

theorem storeLoop_cont (w : Win) (x : Bool) (k i : Nat) (h : ¬ w.exitCond x) :
    Win.storeLoop x w (k+1) i = Win.storeLoop x (w.put x) k (i+1) := by
  rw [Win.storeLoop]; exact if_neg h

theorem run_acks_all_true (size thr : Nat) (s : Spec) (n : Nat) :
    (Spec.run size thr s (List.replicate n false)).2 = List.replicate n true := by
  induction n generalizing s with
  | zero => rfl
  | succ n ih =>
    simp only [List.replicate_succ, Spec.run, ih]
    congr 1
    unfold Spec.step
    split
    · rfl
    · split
      · rfl
      · simp only; split <;> rfl

theorem v1_run {size thr : Nat} : ∀ (os : List Bool) (w : Win) (s : Spec), Rel size thr w s →
    Rel size thr (runV1 w os).1 (Spec.run size thr s os).1 ∧ (runV1 w os).2 = (Spec.run size thr s os).2 := by
  intro os
  induction os with
  | nil => intro w s r; exact ⟨by simpa [runV1, Spec.run] using r, rfl⟩
  | cons o os ih =>
    intro w s r
    cases o with
    | false =>
      have h := v1_step r false
      have := ih (w.store1 false) _ h.1
      simp only [runV1, Win.ack1, Spec.run]
      refine ⟨this.1, ?_⟩
      rw [this.2]
      congr 1
      have := run_acks_all_true size thr s 1
      simpa [Spec.run] using this.symm
    | true =>
      have h := v1_step r true
      have := ih (w.store1 true) _ h.1
      simp only [runV1, Win.nack1, Spec.run]
      exact ⟨this.1, by rw [this.2, h.2 rfl]⟩

/-- a ring that `store` leaves alone (no slot, or frozen): v1 keeps it and answers every outcome alike. -/
theorem runV1_stuck (w : Win) (h : w.win.length = 0 ∨ w.thr < w.nacks) (x : Bool) (k : Nat) :
    runV1 w (List.replicate k x) = (w, List.replicate k (!x || decide (w.nacks ≤ w.thr))) := by
  have hs : w.store1 x = w := if_pos h
  induction k with
  | zero => rfl
  | succ k ih => cases x <;> simp [List.replicate_succ, runV1, Win.ack1, Win.nack1, hs, ih]

/-- The v2 loop is v1's `store` repeated: its early exit is the step at which the ring freezes, after
which v1 changes nothing and tolerates nothing. -/
theorem storeLoop_eq_runV1 (x : Bool) : ∀ (k : Nat) (w : Win) (i : Nat), w.win.length ≠ 0 → ¬ w.thr < w.nacks →
    (Win.storeLoop x w k i).1 = (runV1 w (List.replicate k x)).1 ∧
    (x = true → (Win.storeLoop x w k i).2 = i + (runV1 w (List.replicate k x)).2.count true)
  | 0, w, i, _, _ => ⟨rfl, fun _ => rfl⟩
  | k + 1, w, i, hl, hnf => by
    have hs : w.store1 x = w.put x := if_neg (not_or.mpr ⟨hl, hnf⟩)
    by_cases hex : w.exitCond x
    · rw [storeLoop_exit w x k i hex]
      obtain ⟨rfl, -, hlt⟩ := hex
      have := runV1_stuck (w.put true) (.inr hlt) true k
      simp [List.replicate_succ, runV1, Win.nack1, hs, this, Nat.not_le.mpr hlt, List.count_replicate]
    · have hnlt : ¬ (w.put x).thr < (w.put x).nacks := fun hlt => by
        rw [put_thr] at hlt
        cases x with
        | false => have := put_nacks_false_le w; omega
        | true =>
          by_cases hslot : w.win[(w.cur + 1) % w.win.length]? = some true
          · rw [put_nacks_same w true hslot] at hlt; omega
          · exact hex ⟨rfl, hslot, by rw [put_thr]; exact hlt⟩
      have ih := storeLoop_eq_runV1 x k (w.put x) (i + 1) (by rw [put_length]; exact hl) hnlt
      rw [storeLoop_cont w x k i hex]
      cases x
      · simp [List.replicate_succ, runV1, Win.ack1, hs, ih.1]
      · simp [List.replicate_succ, runV1, Win.nack1, hs, ih.1, ih.2 rfl, Nat.not_lt.mp hnlt]; omega


/-- v2 `store(count, x)` is v1 fed `count` outcomes `x`; for nacks it returns the number v1 tolerates. -/
theorem storeN_eq_runV1 (w : Win) (hz : w.win.length = 0 → w.nacks ≤ w.thr) (k : Nat) (x : Bool) :
    (w.storeN k x).1 = (runV1 w (List.replicate k x)).1 ∧
    (x = true → (w.storeN k x).2 = (runV1 w (List.replicate k x)).2.count true) := by
  unfold Win.storeN
  by_cases hl : w.win.length = 0
  · rw [if_pos hl, runV1_stuck w (.inl hl)]
    exact ⟨rfl, fun hx => by simp [hx, hz hl]⟩
  · rw [if_neg hl]
    by_cases hf : w.thr < w.nacks
    · rw [if_pos hf, runV1_stuck w (.inr hf)]
      exact ⟨rfl, fun hx => by simp [hx, Nat.not_le.mpr hf, List.count_replicate]⟩
    · rw [if_neg hf]
      simpa using storeLoop_eq_runV1 x k w 0 hl hf

theorem v2_storeN {size thr : Nat} {w : Win} {s : Spec} (r : Rel size thr w s) (x : Bool) (count : Nat) :
    Rel size thr (w.storeN count x).1 (Spec.run size thr s (List.replicate count x)).1 ∧
    (x = true → (w.storeN count x).2 = (Spec.run size thr s (List.replicate count x)).2.count true) := by
  have v := v1_run (List.replicate count x) w s r
  have h := storeN_eq_runV1 w (fun hl => by
    have := r.wf.nacks_eq
    rw [List.length_eq_zero_iff.mp hl] at this
    exact this ▸ Nat.zero_le _) count x
  exact ⟨h.1 ▸ v.1, fun hx => (h.2 hx).trans (congrArg _ v.2)⟩


theorem all_false_of_count (l : List Bool) (h : l.count true = 0) : l = List.replicate l.length false :=
  List.eq_replicate_iff.mpr ⟨rfl, fun b hb => by
    cases b
    · rfl
    · exact absurd hb (List.count_eq_zero.mp h)⟩

/-- rotation invariance behind the v2 `Ack` shortcut: with no nack in the ring, skipping the
store leaves a ring that is still related to the spec state that did record the ack. -/
theorem rel_skip_ack {size thr : Nat} {w : Win} {s : Spec} (r : Rel size thr w s) (hz : w.nacks = 0) :
    Rel size thr w (Spec.step size thr s false).1 := by
  have h1 := (v1_step r false).1
  have hle : (w.store1 false).nacks ≤ w.nacks := by
    unfold Win.store1; split
    · exact Nat.le_refl _
    · exact put_nacks_false_le w
  have hz' : (w.store1 false).nacks = 0 := by omega
  have hlen : (w.store1 false).win.length = w.win.length := by
    unfold Win.store1; split
    · rfl
    · exact put_length w false
  refine ⟨r.wf, r.thr_eq, r.len, ?_, ?_, h1.bound⟩
  · rw [h1.frozen, hz, hz']
  · intro hl
    rw [← h1.win_eq (by rw [hlen]; exact hl)]
    have ha := all_false_of_count w.logical (by rw [logical_count, ← r.wf.nacks_eq]; exact hz)
    have hb := all_false_of_count (w.store1 false).logical
      (by rw [logical_count, ← h1.wf.nacks_eq]; exact hz')
    rw [ha, hb, logical_length, logical_length, hlen]

theorem rel_skip_acks {size thr : Nat} {w : Win} (hz : w.nacks = 0) :
    ∀ (n : Nat) (s : Spec), Rel size thr w s → Rel size thr w (Spec.run size thr s (List.replicate n false)).1 := by
  intro n
  induction n with
  | zero => intro s r; simpa [Spec.run] using r
  | succ n ih =>
    intro s r
    have := ih _ (rel_skip_ack r hz)
    simpa [List.replicate_succ, Spec.run] using this

theorem v2_ackN {size thr : Nat} {w : Win} {s : Spec} (r : Rel size thr w s) (n : Nat) :
    Rel size thr (w.ackN n) (Spec.run size thr s (List.replicate n false)).1 := by
  unfold Win.ackN
  split
  · rename_i hz; exact rel_skip_acks hz n s r
  · exact (v2_storeN r false n).1

theorem run_append (size thr : Nat) (s : Spec) (a b : List Bool) :
    Spec.run size thr s (a ++ b) =
      ((Spec.run size thr (Spec.run size thr s a).1 b).1,
       (Spec.run size thr s a).2 ++ (Spec.run size thr (Spec.run size thr s a).1 b).2) := by
  induction a generalizing s with
  | nil => simp [Spec.run]
  | cons x a ih => simp [Spec.run, ih]

end Conduit.Dlq
