import ConduitModel.Proofs.SrcAckStep
import ConduitModel.Proofs.SrcAckPos
import ConduitModel.Spec.SrcAck

/-!
Soundness of the trace monitor (`Spec/SrcAck.lean`) with respect to the model, for the durability
clauses of C02/C03: along every run of M3 that satisfies the read-order hypothesis, the monitor fed
with the observations the run emits never raises one of the clauses

  C02:ack-delivered-before-durable   C02:store-went-backwards   C02:store-became-empty
  C03:stored-position-past-unhandled-record   C03:snapshot-reopens-at-other-position
  C03:reopened-at-other-than-stored-position

(PARTIAL: the ordering / prefix clauses `C02:ack-repeated-or-out-of-order`, `C04:ack-sequence-gap`
and the C06 clauses are not covered; no theorem relates them to `C02_delivered_fifo`,
`C02_delivered_prefix`, `C06_stop_drained`.)
-/
namespace Conduit.SrcAck

/-- what the process boundary shows of one model step taken in state `s` -/
def obsOf (s : St) : Ev → List Obs
  | .ack ps => [.ack ps]
  | .flushRes .ok =>
    match s.gens.getLast? with
    | some g => [.commit g.snap.pos g.snap.pos]
    | none => []
  | .flushRes r => [.flushFail r]
  | .deliver true =>
    match s.deferred with
    | a :: _ => [.sack a.ps]
    | [] => []
  | .deliver false => [.sendFail]
  | .tdBegin => [.tdBegin]
  | .pluginTeardown ok => [.pluginTd ok, .tdRet ok]
  | .waitPersisted => [.waited]
  | .crash => [.crash]
  | .restart => [.reopen s.store.pos]
  | _ => []

def traceO (c : Cfg) : St → List Ev → List Obs
  | _, [] => []
  | s, e :: es =>
    if evOk s e then
      match step c s e with
      | some s' => obsOf s e ++ traceO c s' es
      | none => []
    else []

def coreBad (w : String) : Bool :=
  w == "C02:ack-delivered-before-durable" || w == "C02:store-went-backwards" || w == "C02:store-became-empty" ||
  w == "C03:stored-position-past-unhandled-record" || w == "C03:snapshot-reopens-at-other-position" ||
  w == "C03:reopened-at-other-than-stored-position"

def CoreClean (m : Mon) : Prop := ∀ w, m.bad = some w → coreBad w = false

structure Rel (m : Mon) (s : St) : Prop where
  com : m.committed = s.store.posN
  hmax : ∀ r ∈ s.handled, r ≤ m.handledMax

theorem flag_true (m : Mon) (w : String) : flag m true w = m := by
  simp [flag]

theorem flag_fields (m : Mon) (c : Bool) (w : String) :
    (flag m c w).committed = m.committed ∧ (flag m c w).handledMax = m.handledMax := by
  unfold flag; split <;> exact ⟨rfl, rfl⟩

/-- a flag whose condition holds is not raised -/
theorem flag_holds {m : Mon} {c : Bool} {w : String} (hc : c = true) (h : CoreClean m) : CoreClean (flag m c w) := by
  rw [hc, flag_true]; exact h

/-- a flag that is not a durability clause may be raised -/
theorem flag_other {m : Mon} {c : Bool} {w : String} (hw : coreBad w = false) (h : CoreClean m) :
    CoreClean (flag m c w) := by
  unfold flag
  split
  · intro w' hw'
    cases hw'
    exact hw
  · exact h

/-- what an observation must satisfy, against the monitor state, for no durability clause to fire -/
def coreOk (m : Mon) : Obs → Prop
  | .commit pos reopen => m.committed ≤ optN pos ∧ (pos.isSome = true ∨ m.committed = 0) ∧
      optN pos ≤ m.handledMax ∧ reopen = pos
  | .sack ps => maxL ps ≤ m.committed
  | .reopen pos => optN pos = m.committed
  | _ => True

theorem monStep_committed (st : Bool) (m : Mon) (o : Obs) :
    (monStep st m o).committed = (match o with | .commit pos _ => optN pos | _ => m.committed) := by
  cases o <;> simp only [monStep] <;> (try split) <;>
    simp only [(flag_fields _ _ _).1]

theorem monStep_handledMax (st : Bool) (m : Mon) (o : Obs) :
    (monStep st m o).handledMax = (match o with | .ack ps => max m.handledMax (maxL ps) | _ => m.handledMax) := by
  cases o <;> simp only [monStep] <;> (try split) <;>
    simp only [(flag_fields _ _ _).2]

/-- `CoreClean` reads `bad` alone, which only `flag` writes: what is left of `monStep` is its flags, each
with a condition that `coreOk` grants or a name that is not a durability clause. -/
theorem monStep_clean (st : Bool) (m : Mon) (o : Obs) (h : CoreClean m) (hok : coreOk m o) :
    CoreClean (monStep st m o) := by
  cases o <;> simp only [CoreClean, monStep]
  case commit pos reopen =>
    obtain ⟨c1, c2, c3, c4⟩ := hok
    apply flag_other (by decide)
    apply flag_holds (by simp [c4])
    apply flag_holds (by simp only [(flag_fields _ _ _).2, decide_eq_true_eq]; exact c3)
    apply flag_holds (by
      simp only [(flag_fields _ _ _).1]
      rcases c2 with c2 | c2
      · simp [c2]
      · simp [c2])
    exact flag_holds (by simpa using c1) h
  case sack ps =>
    apply flag_other (by decide)
    apply flag_other (by decide)
    apply flag_other (by decide)
    exact flag_holds (by have h0 : maxL ps ≤ m.committed := hok; simpa using h0) h
  case reopen pos => exact flag_holds (by simp [show optN pos = m.committed from hok]) h
  case tdRet ok =>
    split
    · apply flag_other (by decide)
      apply flag_other (by decide)
      exact flag_other (by decide) h
    · exact flag_other (by decide) h
  case pluginTd | waitHang | stopRet | nodeHang => exact flag_other (by decide) h
  all_goals exact h

theorem le_maxL_aux : ∀ (l : List Nat) (b x : Nat), x ≤ b ∨ x ∈ l → x ≤ l.foldl max b
  | [], b, x, h => by
    rcases h with h | h
    · simpa using h
    · simp at h
  | y :: ys, b, x, h => by
    simp only [List.foldl_cons]
    apply le_maxL_aux ys
    rcases h with h | h
    · left; exact Nat.le_trans h (Nat.le_max_left _ _)
    · simp only [List.mem_cons] at h
      rcases h with h | h
      · left; subst h; exact Nat.le_max_right _ _
      · right; exact h

theorem le_maxL {l : List Nat} {x : Nat} (h : x ∈ l) : x ≤ maxL l :=
  le_maxL_aux l 0 x (Or.inr h)

theorem maxL_le {l : List Nat} {m : Nat} (h : ∀ x ∈ l, x ≤ m) : maxL l ≤ m :=
  foldl_max_le (Nat.zero_le _) h

/-- One observation against one move of the model, which may stay where it is (`pluginTeardown` emits two
observations). -/
theorem Rel.obs {m : Mon} {s s' : St} (st : Bool) (o : Obs) (hr : Rel m s) (hc : CoreClean m) (hok : coreOk m o)
    (hst : s'.store.posN = (match o with | .commit pos _ => optN pos | _ => s.store.posN))
    (hh : ∀ r ∈ s'.handled, r ∈ s.handled ∨ ∃ ps, o = .ack ps ∧ r ∈ ps) :
    Rel (monStep st m o) s' ∧ CoreClean (monStep st m o) := by
  refine ⟨⟨?_, fun r hrm => ?_⟩, monStep_clean st m o hc hok⟩
  · rw [monStep_committed, hst]
    cases o <;> first | rfl | exact hr.com
  · rw [monStep_handledMax]
    rcases hh r hrm with h | ⟨ps, rfl, h⟩
    · cases o <;> first | exact hr.hmax r h | exact Nat.le_trans (hr.hmax r h) (Nat.le_max_left _ _)
    · exact Nat.le_trans (le_maxL h) (Nat.le_max_right _ _)

theorem mon_step {c : Cfg} {s s' : St} {e : Ev} {m : Mon} (strict : Bool)
    (hi : InvO s) (hv : Inv s) (hs : step c s e = some s') (hr : Rel m s) (hc : CoreClean m) :
    Rel ((obsOf s e).foldl (monStep strict) m) s' ∧ CoreClean ((obsOf s e).foldl (monStep strict) m) := by
  cases step_sound hs with
  | ack ps last =>
    exact hr.obs strict (.ack ps) hc trivial rfl fun r h => (List.mem_append.mp h).imp_right fun h => ⟨ps, rfl, h⟩
  | ackPanic ps => exact hr.obs strict (.ack ps) hc trivial rfl fun _ => .inl
  | commit g hg _ hw =>
    have hgi : s.gens[s.gens.length - 1]? = some g := List.getLast?_eq_getElem? ▸ hg
    simp only [obsOf, hg, List.foldl_cons, List.foldl_nil]
    refine hr.obs strict _ hc ⟨?_, ?_, ?_, rfl⟩ rfl fun _ => .inl
    · rw [hr.com]; exact hi.ord.gensWr _ g hgi hw
    · -- a position once stored stays stored: `PosSome` and the order by sequence number
      refine (Nat.eq_zero_or_pos m.committed).symm.imp_left fun h0 => ?_
      have hsome : s.store.pos.isSome = true := by
        cases hp : s.store.pos with
        | none => simp [hr.com, Stored.posN, hp] at h0
        | some _ => rfl
      have := hv.ord.gensWr _ g hgi hw
      exact (hv.psGens _ g hgi).mpr (Nat.lt_of_lt_of_le (hv.psStore.mp hsome) this)
    · refine (Nat.eq_zero_or_pos g.snap.posN).elim (fun h0 => ?_) fun h0 => hr.hmax _ (hi.covGens _ g hgi _ h0 (Nat.le_refl _))
      show g.snap.posN ≤ _
      omega
  | flushFail r _ _ _ _ hne => cases r <;> first | exact absurd rfl hne | exact ⟨⟨hr.com, hr.hmax⟩, hc⟩
  | callbackAck =>
    rw [onFlushedOk_eq]
    exact ⟨⟨hr.com, hr.hmax⟩, hc⟩
  | deliverOk a rest hd =>
    simp only [obsOf, hd, List.foldl_cons, List.foldl_nil]
    refine hr.obs strict _ hc ?_ rfl fun _ => .inl
    show maxL a.ps ≤ m.committed
    rw [hr.com]
    exact maxL_le (hi.ord.out a (.inl (hd ▸ List.mem_cons_self ..)))
  | pluginTeardown ok | pluginTeardownFlush ok =>
    have ⟨h1, h2⟩ := hr.obs (s' := s) strict (.pluginTd ok) hc trivial rfl fun _ => .inl
    exact h1.obs strict (.tdRet ok) h2 trivial rfl fun _ => .inl
  | restart => exact hr.obs strict (.reopen s.store.pos) hc hr.com.symm rfl fun _ => .inl
  | _ => exact ⟨⟨hr.com, hr.hmax⟩, hc⟩

theorem mon_run {c : Cfg} (strict : Bool) : ∀ (evs : List Ev) (s : St) (m : Mon),
    InvO s → Inv s → Rel m s → CoreClean m → CoreClean ((traceO c s evs).foldl (monStep strict) m)
  | [], _, m, _, _, _, hc => by simpa [traceO] using hc
  | e :: es, s, m, hi, hv, hr, hc => by
    simp only [traceO]
    split
    · rename_i hok
      split
      · rename_i s' hs
        rw [List.foldl_append]
        have := mon_step (m := m) strict hi hv hs hr hc
        exact mon_run strict es s' _ (invO_step hi hv hok hs) (inv_step hv hs) this.1 this.2
      · simpa using hc
    · simpa using hc

end Conduit.SrcAck
