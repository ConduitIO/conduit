import ConduitModel.Proofs.LifecycleRun

/-!
The tomb keeps its first reason: once `(runs i).tomb = some c`, every later step leaves it `some c`
(tomb.v2 `Kill` records only the first reason; the model's `<|>`).  Every step either leaves the
`tomb` field of the runs it touches alone or writes `r.tomb <|> _`; a new run takes an unused id,
whose tomb is `none`.
-/
namespace Conduit.Lifecycle

section
variable {s s' : State} {i : Nat} {c : Cause}

theorem orElse_of_some {o x : Option Cause} (h : o = some c) : (o <|> x) = some c := by rw [h]; rfl

theorem tomb_setRun {n : Nat} {r : Run} (ht : (s.runs i).tomb = some c)
    (h : (s.runs n).tomb = some c → r.tomb = some c := by exact id) :
    ((s.setRun n r).runs i).tomb = some c := by
  rw [setRun_runs]; split
  · rename_i e; exact h (e ▸ ht)
  · exact ht

theorem tomb_setRun_ne {n : Nat} {r : Run} (hne : i ≠ n) (ht : (s.runs i).tomb = some c) :
    ((s.setRun n r).runs i).tomb = some c := by
  rw [setRun_runs, if_neg hne]; exact ht

theorem Inv.tomb_ne_next (hi : Inv s) (ht : (s.runs i).tomb = some c) : i ≠ s.next :=
  fun e => by rw [e, hi.fresh _ (Nat.le_refl _)] at ht; cases ht

theorem tomb_notifyStarter {n : Nat} {ok : Bool} (ht : (s.runs i).tomb = some c) :
    ((notifyStarter s n ok).runs i).tomb = some c := by
  unfold notifyStarter
  split
  · exact ht
  · exact tomb_setRun ht

theorem tomb_gracefulState {m : Nat} {sys : Bool} (ht : (s.runs i).tomb = some c) :
    ((gracefulState s m sys).runs i).tomb = some c := by
  simp only [gracefulState]
  split
  · split
    · exact tomb_setRun ht
    · exact ht
  · by_cases hreq : (s.runs m).stopReq = true
    · rw [if_pos hreq]; exact tomb_setRun ht
    · rw [if_neg hreq]; exact tomb_setRun ht

theorem tomb_stopState {f : Bool} (ht : (s.runs i).tomb = some c) :
    ((stopState s f).runs i).tomb = some c := by
  unfold stopState
  split
  · exact ht
  · split
    · exact ht
    · cases f
      · exact tomb_gracefulState ht
      · exact tomb_setRun ht orElse_of_some

theorem step_tomb_stable {e : Event} (hi : Inv s) (h : step s e = some s')
    (ht : (s.runs i).tomb = some c) : (s'.runs i).tomb = some c := by
  cases Step.of_step h with
  | startUser => exact tomb_setRun_ne (hi.tomb_ne_next ht) ht
  | restart => exact tomb_setRun_ne (hi.tomb_ne_next ht) (tomb_setRun ht)
  | buildFail | runningOk1 | runningOk2 | runningFail => exact tomb_notifyStarter (tomb_setRun ht)
  | stop => exact tomb_stopState ht
  | stopAllGraceful m sd => exact tomb_gracefulState (s := { s with shutdown := sd }) ht
  | nodeExit | tombRecord | stopAllForce | statusFail | deleteEntry => exact tomb_setRun ht orElse_of_some
  | startRunning | startReturn | stopAllIdle | tick | attemptDecay | waitBegin | waitReturn => exact ht
  | _ => exact tomb_setRun ht

end

theorem runFrom_tomb_stable (evs : List Event) {s s' : State} {i : Nat} {c : Cause} (hi : Inv s)
    (h : runFrom s evs = some s') (ht : (s.runs i).tomb = some c) : (s'.runs i).tomb = some c :=
  (EventSys.run_induct (P := fun s => Inv s ∧ (s.runs i).tomb = some c)
    (fun _ _ _ h hs => ⟨step_inv h.1 hs, step_tomb_stable h.1 hs h.2⟩) evs ⟨hi, ht⟩ (runFrom_eq .. ▸ h)).2

end Conduit.Lifecycle
