import ConduitModel.Proofs.MonSSrc

/-!
# Batches with split runs in the task recursion: what does not depend on the handler chain

A group of rows `[i, j)` as a batch of its own (`RowGrp`), the ledger part of an outcome (`OutB`, with the
clause `WT` on the keys written) and of a task step (`StepB`), the part of a batch in flight that no handler chain enters (`FlightB`), and a
group of retried rows flagged `ack` again (`reflag_batch`). The tags are read through a key `κ`
(Proofs/MonKey.lean). The recursion itself is Proofs/MonGPipe.lean.
-/
namespace Conduit.Funnel
open Conduit.Funnel.Mon

variable {κ : Nat → Nat}

theorem RootsOf.mono {G : Ctx} {sm : List Nat} {i j : Nat} {ρ : Nat} (h : RootsOf G sm j ρ) (hij : i ≤ j) : RootsOf G sm i ρ := by
  obtain ⟨k, q, src, h1, h2, h3, h4⟩ := h
  exact ⟨k, q, src, by omega, h2, h3, h4⟩

/-- pieces outside the group `[i, j)`: those outside the batch and those of the rows `≥ j` -/
def restJ (rest : Nat → Nat) (b : Batch) (j : Nat) : Nat → Nat := fun x => rest x + cnt x (b.view.drop j)

/-- a piece outside the group is flagged nack -/
def doomJ (doom : Nat → Prop) (b : Batch) (j : Nat) : Nat → Prop := fun x =>
  doom x ∨ ∃ (k : Nat) (row : Row), j ≤ k ∧ b.rows[k]? = some row ∧ row.run = some x ∧ row.st.flag = .nack

/-- the frontier after the group -/
def nxJ (sm : List Nat) (nx j : Nat) : Nat := (sm[j]?).getD nx

theorem nxJ_ge {sm : List Nat} {nx i : Nat} (h : sm.length ≤ i) : nxJ sm nx i = nx := by
  unfold nxJ; rw [List.getElem?_eq_none_iff.mpr h]; rfl

theorem nxJ_of {sm : List Nat} {nx i q : Nat} (h : sm[i]? = some q) : nxJ sm nx i = q := by
  unfold nxJ; rw [h]; rfl

theorem roots_not_below {G : Ctx} (hs : Src G) {h : Heap} {b : Batch} {sm : List Nat} (hm : SrcMap G h b sm) {nx : Nat}
    {x : Nat} (hx : RootsOf G sm 0 x) {j : Nat} {src : Rec} (hj : j < nxJ sm nx 0) (hsrc : G.all[j]? = some src)
    (hroot : Mon.root src = x) : False := by
  obtain ⟨k, q, src0, _, h1, h2, h3⟩ := hx
  have hjq : j = q := hs.idx_of_root hsrc h2 (by rw [hroot, h3])
  have hk : k < sm.length := (List.getElem?_eq_some_iff.mp h1).1
  have h0 : sm[0]? = some sm[0] := List.getElem?_eq_getElem (by omega)
  have hle := (SM.le' hm (Nat.zero_le k) h0 h1).1
  rw [nxJ_of h0] at hj
  omega

theorem root_notin {G : Ctx} (hs : Src G) {h : Heap} {b : Batch} {sm : List Nat} {rs : List (Option Nat)} (hb : VB b rs)
    (hm : SrcMap G h b sm) {rid i j : Nat} (hl : LinOf G h rid) (hc : 0 < cnt rid (b.view.drop i))
    (hc0 : cnt rid (b.view.drop j) = 0) : ¬ RootsOf G sm j (root (h[rid]!).origRec) := by
  rintro ⟨k, q, src, hk, hq, hsrc, hroot⟩
  obtain ⟨k0, row0, hk0, hr0, hrun0⟩ := (cnt_drop_pos hb).mp hc
  obtain ⟨row, hrow, hrun⟩ := row_of_root hs hm hl hr0 hrun0 hq hsrc hroot
  have : 0 < cnt rid (b.view.drop j) := (cnt_drop_pos hb).mpr ⟨k, row, hk, hrow, hrun⟩
  omega

theorem slice_some {α} {l : List α} {i j k : Nat} {x : α} (h : ((l.drop i).take (j - i))[k]? = some x) :
    l[i + k]? = some x ∧ i + k < j := by
  rw [List.getElem?_take] at h
  split at h
  · rw [List.getElem?_drop] at h; exact ⟨h, by omega⟩
  · cases h

theorem getLast?_slice {α} (l : List α) {i j : Nat} (hij : i < j) (hj : j ≤ l.length) :
    ((l.drop i).take (j - i)).getLast? = l[j - 1]? := by
  have hl : ((l.drop i).take (j - i)).length = j - i := by
    rw [List.length_take, List.length_drop]; omega
  rw [List.getLast?_eq_getElem?, hl, ← List.drop_take, getElem?_take_drop _ (by omega)]
  congr 1; omega

theorem RootsOf.of_slice {G : Ctx} {sm : List Nat} {i j ρ : Nat} (h : RootsOf G ((sm.drop i).take (j - i)) 0 ρ) :
    ∃ (k q : Nat) (src : Rec), i ≤ k ∧ k < j ∧ sm[k]? = some q ∧ G.all[q]? = some src ∧ root src = ρ := by
  obtain ⟨k, q, src, _, hq, hsrc, hroot⟩ := h
  obtain ⟨h1, h2⟩ := slice_some hq
  exact ⟨i + k, q, src, Nat.le_add_right _ _, h2, h1, hsrc, hroot⟩

theorem RootsOf.slice_le {G : Ctx} {sm : List Nat} {i j ρ : Nat} (h : RootsOf G ((sm.drop i).take (j - i)) 0 ρ) :
    RootsOf G sm i ρ :=
  let ⟨k, q, src, hk, _, hq, hsrc, hroot⟩ := h.of_slice
  ⟨k, q, src, hk, hq, hsrc, hroot⟩

theorem nodup_get_ne {α} {l : List α} (hn : l.Nodup) {i j : Nat} {x y : α} (hi : l[i]? = some x) (hj : l[j]? = some y)
    (hne : i ≠ j) : x ≠ y := by
  have hp := List.pairwise_iff_getElem.mp hn
  obtain ⟨hi1, hi2⟩ := List.getElem?_eq_some_iff.mp hi
  obtain ⟨hj1, hj2⟩ := List.getElem?_eq_some_iff.mp hj
  rcases Nat.lt_or_gt_of_ne hne with hlt | hlt
  · have := hp i j hi1 hj1 hlt; rw [hi2, hj2] at this; exact this
  · have := hp j i hj1 hi1 hlt; rw [hi2, hj2] at this; exact fun h => this h.symm

theorem nodup_map_ne {α β} {f : α → β} {l : List α} (hnd : (l.map f).Nodup) {a c : Nat} {x y : α}
    (hx : l[a]? = some x) (hy : l[c]? = some y) (hne : a ≠ c) : f x ≠ f y :=
  nodup_get_ne hnd (by rw [List.getElem?_map, hx]; rfl) (by rw [List.getElem?_map, hy]; rfl) hne

structure RowGrp (G : Ctx) (h : Heap) (b sb : Batch) (sm : List Nat) (rs rss : List (Option Nat)) (i j : Nat) : Prop where
  vb : VB b rs
  vbs : VB sb rss
  srcmap : SrcMap G h b sm
  lt : i < j
  le : j ≤ sm.length
  rows : sb.rows = (b.rows.drop i).take (j - i)
  view : sb.view = (b.view.drop i).take (j - i)

theorem RowGrp.of_sub {G : Ctx} {h : Heap} {rest : Nat → Nat} {b sb : Batch} {sm : List Nat} {rs : List (Option Nat)} {i j : Nat}
    (ht : TInv h rest b i) (hvb : VB b rs) (hm : SrcMap G h b sm) (hsub : b.sub i j = .ok sb) (hij : i < j) :
    RowGrp G h b sb sm rs ((rs.take j).drop i) i j := by
  obtain ⟨hrows, hvbs⟩ := rows_sub hvb hsub
  exact ⟨hvb, hvbs, hm, hij, by rw [hm.len, rows_length]; exact (sub_ok_fields hsub).recs_le, hrows, (sub_SInv ht hsub).1⟩

namespace RowGrp
variable {G : Ctx} {h : Heap} {b sb : Batch} {sm : List Nat} {rs rss : List (Option Nat)} {i j : Nat}

theorem row (g : RowGrp G h b sb sm rs rss i j) {k : Nat} {row : Row} (hr : sb.rows[k]? = some row) :
    b.rows[i + k]? = some row ∧ i + k < j := by
  rw [g.rows] at hr; exact slice_some hr

theorem row_of (g : RowGrp G h b sb sm rs rss i j) {k : Nat} {row : Row} (hi : i ≤ k) (hj : k < j)
    (hr : b.rows[k]? = some row) : sb.rows[k - i]? = some row := by
  rw [g.rows, ← List.drop_take, getElem?_take_drop _ (by omega), show i + (k - i) = k by omega]; exact hr

theorem cnt_split (g : RowGrp G h b sb sm rs rss i j) (rid : Nat) :
    cnt rid (b.view.drop i) = cnt rid sb.view + cnt rid (b.view.drop j) := by
  rw [drop_split b.view (Nat.le_of_lt g.lt), ← g.view, cnt_append]

theorem piece (g : RowGrp G h b sb sm rs rss i j) {rid : Nat} :
    0 < cnt rid sb.view ↔ ∃ (k : Nat) (row : Row), i ≤ k ∧ k < j ∧ b.rows[k]? = some row ∧ row.run = some rid := by
  rw [cnt_pos g.vbs]
  constructor
  · rintro ⟨k, row, hr, hrun⟩
    exact ⟨i + k, row, Nat.le_add_right _ _, (g.row hr).2, (g.row hr).1, hrun⟩
  · rintro ⟨k, row, h1, h2, hr, hrun⟩
    exact ⟨k - i, row, g.row_of h1 h2 hr, hrun⟩

theorem srcmap_grp (g : RowGrp G h b sb sm rs rss i j) : SrcMap G h sb ((sm.drop i).take (j - i)) := by
  have hm := g.srcmap
  refine ⟨?_, ?_, ?_, ?_⟩
  · rw [g.rows, List.length_take, List.length_drop, List.length_take, List.length_drop, hm.len]
  · intro k q q' h1 h2
    exact hm.step (i + k) q q' (slice_some h1).1 (by rw [Nat.add_assoc]; exact (slice_some h2).1)
  · intro k row q hr hq
    exact hm.key (i + k) row q (g.row hr).1 (slice_some hq).1
  · intro k row row' q hr hr' hq hq'
    exact hm.same (i + k) row row' q (g.row hr).1 (by rw [Nat.add_assoc]; exact (g.row hr').1)
      (slice_some hq).1 (by rw [Nat.add_assoc]; exact (slice_some hq').1)

theorem last (g : RowGrp G h b sb sm rs rss i j) : ∃ (row : Row) (q : Nat), b.rows[j - 1]? = some row ∧ sm[j - 1]? = some q ∧
    sb.rows.getLast? = some row ∧ ((sm.drop i).take (j - i)).getLast? = some q := by
  have h1 : j - 1 < sm.length := by have := g.lt; have := g.le; omega
  have h2 : j - 1 < b.rows.length := by rw [← g.srcmap.len]; exact h1
  refine ⟨_, _, List.getElem?_eq_getElem h2, List.getElem?_eq_getElem h1, ?_, ?_⟩
  · rw [g.rows, getLast?_slice b.rows g.lt (by rw [← g.srcmap.len]; exact g.le)]; exact List.getElem?_eq_getElem h2
  · rw [getLast?_slice sm g.lt g.le]; exact List.getElem?_eq_getElem h1

theorem nextok (hs : Src G) (g : RowGrp G h b sb sm rs rss i j) {rest : Nat → Nat} {nx : Nat} (hn : NextOK rest b sm nx)
    (hl : RestLast rest b) : NextOK (restJ rest b j) sb ((sm.drop i).take (j - i)) (nxJ sm nx j) := by
  obtain ⟨row0, q0, hr0, hq0, hlr, hls⟩ := g.last
  have hm := g.srcmap
  have hvb := g.vb
  have hj1 : j - 1 + 1 = j := by have := g.lt; omega
  intro row q hlr' hls'
  have e1 : row0 = row := Option.some.inj (hlr.symm.trans hlr')
  have e2 : q0 = q := Option.some.inj (hls.symm.trans hls')
  subst e1 e2
  by_cases hjlt : j < sm.length
  · obtain ⟨q2, hq2⟩ : ∃ q2, sm[j]? = some q2 := ⟨_, List.getElem?_eq_getElem hjlt⟩
    obtain ⟨rowj, hrj⟩ : ∃ rowj, b.rows[j]? = some rowj :=
      ⟨_, List.getElem?_eq_getElem (by rw [← hm.len]; exact hjlt)⟩
    rw [nxJ_of hq2]
    rcases hm.step (j - 1) q0 q2 hq0 (by rw [hj1]; exact hq2) with he | he
    · left
      obtain ⟨rid, a1, a2⟩ := hm.same (j - 1) _ rowj _ hr0 (by rw [hj1]; exact hrj) hq0 (by rw [hj1, hq2, he])
      have : 0 < cnt rid (b.view.drop j) := (cnt_drop_pos hvb).mpr ⟨j, _, Nat.le_refl _, hrj, a2⟩
      exact ⟨he, rid, a1, by unfold restJ; omega⟩
    · right
      refine ⟨he, fun rid hrun => ?_⟩
      -- a row of the run from `j` on would stem from `q`, but the sources from `j` on are `> q`
      have hc0 : cnt rid (b.view.drop j) = 0 := by
        apply Classical.byContradiction
        intro hne
        obtain ⟨k, rowk, hk, hrk, hrunk⟩ := (cnt_drop_pos hvb).mp (Nat.pos_of_ne_zero hne)
        obtain ⟨qk, _, a1, _, _, _⟩ := SM.srcOf hm hrk
        have e1 := SM.run_src hs hm hq0 a1 hr0 hrk hrun hrunk
        have := (SM.le' hm hk hq2 a1).1
        omega
      unfold restJ
      rw [hc0, Nat.add_zero]
      apply Classical.byContradiction
      intro hne
      obtain ⟨rowl, hl1, hl2⟩ := hl rid (Nat.pos_of_ne_zero hne) ((cnt_pos hvb).mpr ⟨j - 1, _, hr0, hrun⟩)
      rw [List.getLast?_eq_getElem?] at hl1
      have : 0 < cnt rid (b.view.drop j) :=
        (cnt_drop_pos hvb).mpr ⟨b.rows.length - 1, rowl, by rw [← hm.len]; omega, hl1, hl2⟩
      omega
  · have hje : j = sm.length := by have := g.le; omega
    have hd : b.view.drop j = [] :=
      List.drop_of_length_le (by rw [hvb.view_len, ← rows_length, ← hm.len]; omega)
    rw [nxJ_ge (Nat.le_of_not_lt hjlt)]
    rcases hn _ _ (by rw [List.getLast?_eq_getElem?, ← hm.len, ← hje]; exact hr0)
      (by rw [List.getLast?_eq_getElem?, ← hje]; exact hq0) with ⟨g1, rid, g2, g3⟩ | ⟨g1, g2⟩
    · exact Or.inl ⟨g1, rid, g2, by unfold restJ; omega⟩
    · refine Or.inr ⟨g1, fun rid hrun => ?_⟩
      unfold restJ; rw [hd, g2 rid hrun]; rfl

theorem restlast (hs : Src G) (g : RowGrp G h b sb sm rs rss i j) {rest : Nat → Nat} (hl : RestLast rest b) :
    RestLast (restJ rest b j) sb := by
  obtain ⟨rowj, qj, hrj1, d1, hlr, _⟩ := g.last
  have hm := g.srcmap
  have hvb := g.vb
  intro rid hrest hc
  refine ⟨rowj, hlr, ?_⟩
  obtain ⟨k0, row0, _, hk0, hb0, hrun0⟩ := g.piece.mp hc
  obtain ⟨q0, _, a1, _, _, _⟩ := SM.srcOf hm hb0
  obtain ⟨k, rowk, hk, hrk, hrunk⟩ : ∃ (k : Nat) (rowk : Row), j - 1 ≤ k ∧ b.rows[k]? = some rowk ∧ rowk.run = some rid := by
    by_cases hcj : 0 < cnt rid (b.view.drop j)
    · obtain ⟨k, rowk, hk, hrk, hrunk⟩ := (cnt_drop_pos hvb).mp hcj
      exact ⟨k, rowk, by omega, hrk, hrunk⟩
    · have hr' : 0 < rest rid := by unfold restJ at hrest; omega
      obtain ⟨rowl, hl1, hl2⟩ := hl rid hr' ((cnt_pos hvb).mpr ⟨k0, row0, hb0, hrun0⟩)
      rw [List.getLast?_eq_getElem?] at hl1
      exact ⟨b.rows.length - 1, rowl, by rw [← hm.len]; have := g.le; omega, hl1, hl2⟩
  obtain ⟨qk, _, c1, _, _, _⟩ := SM.srcOf hm hrk
  have e1 := SM.run_src hs hm a1 c1 hb0 hrk hrun0 hrunk
  subst e1
  have := (SM.le' hm (by omega : k0 ≤ j - 1) a1 d1).1
  have := (SM.le' hm hk d1 c1).1
  have hqj : qj = q0 := by omega
  subst hqj
  exact SM.run_eq hm a1 d1 hb0 hrj1 hrun0

theorem hdoom (g : RowGrp G h b sb sm rs rss i j) {rest : Nat → Nat} {doom : Nat → Prop} (hd : ∀ rid, doom rid → 0 < rest rid) :
    ∀ rid, doomJ doom b j rid → 0 < restJ rest b j rid := by
  rintro rid (hd' | ⟨k, row, hk, hr, hrun, _⟩)
  · exact Nat.lt_of_lt_of_le (hd rid hd') (Nat.le_add_right _ _)
  · exact Nat.lt_of_lt_of_le ((cnt_drop_pos g.vb).mpr ⟨k, row, hk, hr, hrun⟩) (Nat.le_add_left _ _)

theorem tags (g : RowGrp G h b sb sm rs rss i j) {s : PS} {sub : List Nat} (ht : TagsK κ G s sub b i) : TagsK κ G s sub sb 0 := by
  refine ⟨?_, fun k row _ hr => ht.seen (i + k) row (Nat.le_add_right _ _) (g.row hr).1,
    fun k row _ hr hf => ht.unw (i + k) row (Nat.le_add_right _ _) (g.row hr).1 hf⟩
  have hsl : sb.rows.Sublist b.rows := by rw [g.rows]; exact (List.take_sublist _ _).trans (List.drop_sublist _ _)
  exact (hsl.map _).nodup ht.nodup

/-- for each field of `FactsG` (`P` = what the field says of a row and its source) -/
theorem facts (g : RowGrp G h b sb sm rs rss i j) {P : Row → Rec → Prop}
    (hP : ∀ (k : Nat) (row : Row) (q : Nat) (src : Rec), i ≤ k → b.rows[k]? = some row → sm[k]? = some q →
      G.all[q]? = some src → P row src) :
    ∀ (k : Nat) (row : Row) (q : Nat) (src : Rec), 0 ≤ k → sb.rows[k]? = some row →
      ((sm.drop i).take (j - i))[k]? = some q → G.all[q]? = some src → P row src :=
  fun k row q src _ hr hq hsrc => hP (i + k) row q src (Nat.le_add_right _ _) (g.row hr).1 (slice_some hq).1 hsrc

theorem src_le_nx (g : RowGrp G h b sb sm rs rss i j) {rest : Nat → Nat} {nx : Nat} (hn : NextOK rest b sm nx) {k q : Nat}
    (hk : k < j) (hq : sm[k]? = some q) : q ≤ nxJ sm nx j := by
  obtain ⟨row, qj, hr, hqj, _, _⟩ := g.last
  have hm := g.srcmap
  refine Nat.le_trans (SM.le' hm (by omega : k ≤ j - 1) hq hqj).1 ?_
  by_cases hjlt : j < sm.length
  · have hq2 := List.getElem?_eq_getElem hjlt
    rw [nxJ_of hq2]; exact (SM.le' hm (Nat.sub_le j 1) hqj hq2).1
  · have hje : j = sm.length := by have := g.le; omega
    rw [nxJ_ge (Nat.le_of_not_lt hjlt)]
    rcases hn row qj (by rw [List.getLast?_eq_getElem?, ← hm.len, ← hje]; exact hr)
      (by rw [List.getLast?_eq_getElem?, ← hje]; exact hqj) with ⟨g1, _⟩ | ⟨g1, _⟩ <;> omega

theorem root_notin_grp (hs : Src G) (g : RowGrp G h b sb sm rs rss i j) {rid : Nat} (hl : LinOf G h rid)
    (hc : 0 < cnt rid (b.view.drop j)) (hcs : cnt rid sb.view = 0) :
    ¬ RootsOf G ((sm.drop i).take (j - i)) 0 (root (h[rid]!).origRec) := by
  intro hro
  obtain ⟨k, q, src, hk1, hk2, hq, hsrc, hroot⟩ := hro.of_slice
  obtain ⟨k0, row0, _, hr0, hrun0⟩ := (cnt_drop_pos g.vb).mp hc
  obtain ⟨row, hrow, hrun⟩ := row_of_root hs g.srcmap hl hr0 hrun0 hq hsrc hroot
  have := g.piece.mpr ⟨k, row, hk1, hk2, hrow, hrun⟩
  omega

theorem norun_notin_grp (hs : Src G) (g : RowGrp G h b sb sm rs rss i j) {k q : Nat} {row : Row} {src : Rec} (hk : j ≤ k)
    (hr : b.rows[k]? = some row) (hq : sm[k]? = some q) (hsrc : G.all[q]? = some src) (hrun : row.run = none) :
    ¬ RootsOf G ((sm.drop i).take (j - i)) 0 (root src) := by
  intro hro
  obtain ⟨k', q', src', _, hk2, hq', hsrc', hroot⟩ := hro.of_slice
  have hqq : q' = q := hs.idx_of_root hsrc' hsrc hroot
  subst hqq
  have hk'l : k' < b.rows.length := by rw [← g.srcmap.len]; have := g.le; omega
  have := SM.norun_unique g.srcmap hq hq' hr (List.getElem?_eq_getElem hk'l) hrun
  omega

end RowGrp

/-- every new `written` entry carries the key of a row `≥ i` of the batch or a key new at `s` -/
def WT (κ : Nat → Nat) (G : Ctx) (b : Batch) (i : Nat) (s s' : PS) : Prop :=
  ∀ e ∈ (G.mu s').written, e ∈ (G.mu s).written ∨
    (∃ (k : Nat) (row : Row), i ≤ k ∧ b.rows[k]? = some row ∧ κ row.r.tag = κ e.2.2.1) ∨ κ e.2.2.1 ∉ (Seen G s).map κ

theorem WT.refl (G : Ctx) (b : Batch) (i : Nat) (s : PS) : WT κ G b i s s := fun _ he => Or.inl he

theorem WT.trans {G : Ctx} {b : Batch} {i : Nat} {s s1 s2 : PS} (h1 : WT κ G b i s s1) (h2 : WT κ G b i s1 s2)
    (hseen : ∀ x ∈ Seen G s, x ∈ Seen G s1) : WT κ G b i s s2 := by
  intro e he
  rcases h2 e he with g | g | g
  · exact h1 e g
  · exact Or.inr (Or.inl g)
  · exact Or.inr (Or.inr (fun hm => g (keys_mono hseen _ hm)))

/-- the part of an outcome (`OutGK`) that speaks of the run ledger and of the keys written -/
structure OutB (κ : Nat → Nat) (G : Ctx) (rest : Nat → Nat) (b : Batch) (i : Nat) (s s' : PS) : Prop where
  wtag : WT κ G b i s s'
  hsize : s.heap.size ≤ s'.heap.size
  hframe : ∀ rid : Nat, rid < s.heap.size → cnt rid (b.view.drop i) = 0 → s'.heap[rid]! = s.heap[rid]!
  horig : ∀ rid : Nat, rid < s.heap.size →
    (s'.heap[rid]!).origPos = (s.heap[rid]!).origPos ∧ (s'.heap[rid]!).origRec = (s.heap[rid]!).origRec
  lpost : ∀ rid : Nat, 0 < cnt rid (b.view.drop i) → 0 < rest rid →
    RunOK (s'.heap[rid]!) (rest rid) ∧ 0 < (s'.heap[rid]!).terminal

theorem OutB.of_frame {G : Ctx} {rest : Nat → Nat} {b : Batch} {i : Nat} {s s' : PS} (hwt : WT κ G b i s s')
    (hsz : s.heap.size ≤ s'.heap.size) (hfr : ∀ rid : Nat, rid < s.heap.size → s'.heap[rid]! = s.heap[rid]!)
    (h0 : ∀ rid : Nat, 0 < cnt rid (b.view.drop i) → ¬ 0 < rest rid) : OutB κ G rest b i s s' :=
  ⟨hwt, hsz, fun rid hlt _ => hfr rid hlt, fun rid hlt => by rw [hfr rid hlt]; exact ⟨rfl, rfl⟩,
    fun rid hc hr => absurd hr (h0 rid hc)⟩

/-- the part of a task step (`StepRelGK`) that speaks of the batch, the ledger and the keys -/
structure StepB (κ : Nat → Nat) (G : Ctx) (s : PS) (b : Batch) (s' : PS) (b' : Batch) : Prop where
  tagsub : ∀ row' ∈ b'.rows, (∃ row ∈ b.rows, κ row.r.tag = κ row'.r.tag) ∨ κ row'.r.tag ∉ (Seen G s).map κ
  wtag : ∀ e ∈ (G.mu s').written, e ∈ (G.mu s).written ∨ ∃ row ∈ b.rows, κ row.r.tag = κ e.2.2.1
  seen : ∀ x ∈ Seen G s, x ∈ Seen G s'
  hsize : s.heap.size ≤ s'.heap.size
  hframe : ∀ rid : Nat, rid < s.heap.size → cnt rid b.view = 0 → s'.heap[rid]! = s.heap[rid]! ∧ cnt rid b'.view = 0
  horig : ∀ rid : Nat, rid < s.heap.size →
    (s'.heap[rid]!).origPos = (s.heap[rid]!).origPos ∧ (s'.heap[rid]!).origRec = (s.heap[rid]!).origRec
  mono : ∀ rid : Nat, cnt rid b.view ≤ cnt rid b'.view

theorem OutB.trans_pre {G : Ctx} {rest : Nat → Nat} {b b1 : Batch} {s s1 s' : PS} (hst : StepB κ G s b s1 b1)
    (ho : OutB κ G rest b1 0 s1 s') : OutB κ G rest b 0 s s' := by
  refine ⟨?_, Nat.le_trans hst.hsize ho.hsize, ?_, ?_, ?_⟩
  · intro e he
    rcases ho.wtag e he with h1 | ⟨k, row', _, hk, ht⟩ | h3
    · rcases hst.wtag e h1 with h4 | ⟨row, hrow, ht⟩
      · exact Or.inl h4
      · obtain ⟨k, hk⟩ := List.getElem?_of_mem hrow
        exact Or.inr (Or.inl ⟨k, row, Nat.zero_le _, hk, ht⟩)
    · rcases hst.tagsub row' (List.mem_of_getElem? hk) with ⟨row, hrow, ht'⟩ | hn
      · obtain ⟨k2, hk2⟩ := List.getElem?_of_mem hrow
        exact Or.inr (Or.inl ⟨k2, row, Nat.zero_le _, hk2, ht'.trans ht⟩)
      · exact Or.inr (Or.inr (by rw [← ht]; exact hn))
    · exact Or.inr (Or.inr (fun hm => h3 (keys_mono hst.seen _ hm)))
  · intro rid hlt hc
    obtain ⟨e1, e2⟩ := hst.hframe rid hlt hc
    rw [ho.hframe rid (Nat.lt_of_lt_of_le hlt hst.hsize) e2, e1]
  · intro rid hlt
    obtain ⟨a1, a2⟩ := ho.horig rid (Nat.lt_of_lt_of_le hlt hst.hsize)
    obtain ⟨c1, c2⟩ := hst.horig rid hlt
    exact ⟨a1.trans c1, a2.trans c2⟩
  · intro rid hc hrest
    exact ho.lpost rid (Nat.lt_of_lt_of_le hc (hst.mono rid)) hrest

theorem OutB.seq {G : Ctx} {b sb : Batch} {sm : List Nat} {rs rss : List (Option Nat)} {i j : Nat} {s s1 s' : PS}
    {rest : Nat → Nat} (g : RowGrp G s.heap b sb sm rs rss i j) (hids : ∀ rid, 0 < cnt rid (b.view.drop i) → rid < s.heap.size)
    (hseen : ∀ x ∈ Seen G s, x ∈ Seen G s1) (h1 : OutB κ G (restJ rest b j) sb 0 s s1) (h2 : OutB κ G rest b j s1 s') :
    OutB κ G rest b i s s' := by
  have hij := Nat.le_of_lt g.lt
  refine ⟨?_, Nat.le_trans h1.hsize h2.hsize, ?_, ?_, ?_⟩
  · intro e he
    rcases h2.wtag e he with g1 | ⟨k, row, hk, hrow, ht⟩ | g3
    · rcases h1.wtag e g1 with g4 | ⟨k, row, _, hrow, ht⟩ | g6
      · exact Or.inl g4
      · exact Or.inr (Or.inl ⟨i + k, row, Nat.le_add_right _ _, (g.row hrow).1, ht⟩)
      · exact Or.inr (Or.inr g6)
    · exact Or.inr (Or.inl ⟨k, row, Nat.le_trans hij hk, hrow, ht⟩)
    · exact Or.inr (Or.inr (fun hm' => g3 (keys_mono hseen _ hm')))
  · intro rid hlt hc
    rw [g.cnt_split] at hc
    rw [h2.hframe rid (Nat.lt_of_lt_of_le hlt h1.hsize) (by omega), h1.hframe rid hlt (by simp only [List.drop_zero]; omega)]
  · intro rid hlt
    obtain ⟨a1, a2⟩ := h2.horig rid (Nat.lt_of_lt_of_le hlt h1.hsize)
    obtain ⟨c1, c2⟩ := h1.horig rid hlt
    exact ⟨a1.trans c1, a2.trans c2⟩
  · intro rid hc hrest
    by_cases hcj : 0 < cnt rid (b.view.drop j)
    · exact h2.lpost rid hcj hrest
    · have hc0 : cnt rid (b.view.drop j) = 0 := by omega
      have hcs : 0 < cnt rid sb.view := by rw [g.cnt_split] at hc; omega
      have := h1.lpost rid (by simp only [List.drop_zero]; exact hcs) (by unfold restJ; omega)
      rw [h2.hframe rid (Nat.lt_of_lt_of_le (hids rid hc) h1.hsize) hc0]
      unfold restJ at this
      rw [hc0, Nat.add_zero] at this
      exact this

namespace RowGrp
variable {G : Ctx} {b sb : Batch} {sm : List Nat} {rs rss : List (Option Nat)} {i j : Nat} {s s1 : PS} {rest : Nat → Nat}

theorem tinv_after (g : RowGrp G s.heap b sb sm rs rss i j) (ht : TInv s.heap rest b i)
    (ho : OutB κ G (restJ rest b j) sb 0 s s1) : TInv s1.heap rest b j := by
  refine ht.after (l := sb.view) (by rw [g.view]; exact drop_split b.view (Nat.le_of_lt g.lt)) ?_
    ⟨ho.hsize, ho.hframe, fun r hr => (ho.horig r hr).1⟩ ho.lpost
  obtain ⟨row, _, _, _, hl, _⟩ := g.last
  intro he
  have h0 : sb.rows.length = 0 := by rw [rows_length, ← g.vbs.view_len, he]; rfl
  rw [List.length_eq_zero_iff.mp h0] at hl
  cases hl

theorem srcmap_after (g : RowGrp G s.heap b sb sm rs rss i j) (ht : TInv s.heap rest b i)
    (ho : OutB κ G (restJ rest b j) sb 0 s s1) : SrcMap G s1.heap b sm := by
  apply SM.heap g.srcmap
  intro row hrow rid hrun
  obtain ⟨k, hk⟩ := List.getElem?_of_mem hrow
  exact (ho.horig rid (ht.ids (k := 0) ((cnt_pos g.vb).mpr ⟨k, row, hk, hrun⟩))).1

theorem tags_after (g : RowGrp G s.heap b sb sm rs rss i j) {sub : List Nat} (ht : TagsK κ G s sub b i)
    (hseen : ∀ x ∈ Seen G s, x ∈ Seen G s1) (ho : OutB κ G (restJ rest b j) sb 0 s s1) : TagsK κ G s1 sub b j := by
  have hij := Nat.le_of_lt g.lt
  refine ⟨ht.nodup, fun k row hk hr => hseen _ (ht.seen k row (Nat.le_trans hij hk) hr), ?_⟩
  intro k row hk hr hf e he hsub'
  rcases ho.wtag e he with h1 | ⟨k', row', _, hr', ht'⟩ | h1
  · exact ht.unw k row (Nat.le_trans hij hk) hr hf e h1 hsub'
  · -- two different rows of the batch with the same key
    intro heq
    obtain ⟨a1, a2⟩ := g.row hr'
    exact nodup_map_ne ht.nodup a1 hr (by omega) (ht'.trans heq)
  · intro heq
    exact h1 (by rw [heq]; exact mem_keys (ht.seen k row (Nat.le_trans hij hk) hr))

end RowGrp

/-- the part of a batch in flight (`FlightGK`) that does not depend on the handler chain -/
structure FlightB (κ : Nat → Nat) (G : Ctx) (s : PS) (sub : List Nat) (rest : Nat → Nat) (doom : Nat → Prop) (nx : Nat) (b : Batch)
    (sm : List Nat) (i : Nat) : Prop where
  tinv : TInv s.heap rest b i
  srcmap : SrcMap G s.heap b sm
  nextok : NextOK rest b sm nx
  restlast : RestLast rest b
  hdoom : ∀ rid : Nat, doom rid → 0 < rest rid
  splitlin : SplitLin G b
  nosplit : NoSplitKey b
  tags : TagsK κ G s sub b i

namespace FlightB
variable {G : Ctx} {s s1 : PS} {ahead : List Nat} {rest : Nat → Nat} {doom : Nat → Prop} {nx : Nat} {b sb : Batch}
  {sm : List Nat} {rs rss : List (Option Nat)} {i j : Nat}

theorem grp (hF : FlightB κ G s ahead rest doom nx b sm i) (hsub : b.sub i j = .ok sb) (hij : i < j) :
    ∃ rs rss, RowGrp G s.heap b sb sm rs rss i j :=
  let ⟨rs, hvb⟩ := hF.tinv.vb
  ⟨rs, _, RowGrp.of_sub hF.tinv hvb hF.srcmap hsub hij⟩

theorem sub (hs : Src G) (hF : FlightB κ G s ahead rest doom nx b sm i) (g : RowGrp G s.heap b sb sm rs rss i j)
    (hsub : b.sub i j = .ok sb) :
    FlightB κ G s ahead (restJ rest b j) (doomJ doom b j) (nxJ sm nx j) sb ((sm.drop i).take (j - i)) 0 :=
  ⟨(sub_SInv hF.tinv hsub).2.tinv, g.srcmap_grp, g.nextok hs hF.nextok hF.restlast, g.restlast hs hF.restlast,
    g.hdoom hF.hdoom,
    fun e he src hsrc hk => hF.splitlin (e.1, e.2) (lookup_mem (sub_split hsub e he)) src hsrc hk,
    fun k row hr hrun => lookup_none_of_sub hsub (hF.nosplit (i + k) row (g.row hr).1 hrun), g.tags hF.tags⟩

theorem after (hF : FlightB κ G s ahead rest doom nx b sm i) (g : RowGrp G s.heap b sb sm rs rss i j)
    (hseen : ∀ x ∈ Seen G s, x ∈ Seen G s1) (ho : OutB κ G (restJ rest b j) sb 0 s s1) :
    FlightB κ G s1 ahead rest doom nx b sm j :=
  ⟨g.tinv_after hF.tinv ho, g.srcmap_after hF.tinv ho, hF.nextok, hF.restlast, hF.hdoom, hF.splitlin, hF.nosplit,
    g.tags_after hF.tags hseen ho⟩

end FlightB

theorem flagsAF_row {b : Batch} {rs : List (Option Nat)} (hb : VB b rs) (haf : FlagsAF b) {k : Nat} {row : Row}
    (hr : b.rows[k]? = some row) : row.st.flag = .ack ∨ row.st.flag = .filter :=
  haf k row.st (rows_fields hb hr).2.1

theorem flagsAF_not_nack {b : Batch} {rs : List (Option Nat)} (hb : VB b rs) (haf : FlagsAF b) {k : Nat} {row : Row}
    (hr : b.rows[k]? = some row) : row.st.flag ≠ .nack := by
  intro hfl
  rcases flagsAF_row hb haf hr with h | h <;> rw [hfl] at h <;> cases h

theorem rows_congr {b b2 : Batch} {rs : List (Option Nat)} (hb : VB b rs) (hb2 : VB b2 rs) (h1 : b2.recs = b.recs)
    (h3 : b2.pos = b.pos) {k : Nat} {row2 : Row} (hr : b2.rows[k]? = some row2) :
    ∃ row, b.rows[k]? = some row ∧ row.r = row2.r ∧ row.pos = row2.pos ∧ row.run = row2.run ∧ b2.st[k]? = some row2.st ∧
      b.st[k]? = some row.st := by
  obtain ⟨f1, f2, f3, f4⟩ := rows_fields hb2 hr
  have hk : k < b.recs.length := by rw [← h1]; exact (List.getElem?_eq_some_iff.mp f1).1
  have hk' : k < b.st.length := by rw [hb.slen]; exact hk
  obtain ⟨st, hst⟩ : ∃ st, b.st[k]? = some st := ⟨_, List.getElem?_eq_getElem hk'⟩
  exact ⟨_, rows_of_fields hb (by rw [← h1]; exact f1) hst (by rw [← h3]; exact f3) f4, rfl, rfl, rfl, f2, hst⟩

theorem sim_restatus {b b2 : Batch} {rs : List (Option Nat)} (hb : VB b rs) (hb2 : VB b2 rs) (h1 : b2.recs = b.recs)
    (h3 : b2.pos = b.pos) (h4 : b2.split = b.split) (h : Heap) : RowsSim id h h b b2 :=
  ⟨by rw [rows_length, rows_length, h1],
    fun k row2 hr => let ⟨row, g1, g2, g3, g4, _⟩ := rows_congr hb hb2 h1 h3 hr
      ⟨row, g1, g2.symm, g3.symm, by rw [← g4]; cases row.run <;> rfl⟩,
    fun _ _ _ _ _ => rfl, h4⟩

theorem FlightB.restatus {G : Ctx} {s : PS} {ahead : List Nat} {rest : Nat → Nat} {doom : Nat → Prop} {nx : Nat}
    {sb sb2 : Batch} {sm : List Nat} {rs : List (Option Nat)} (hF : FlightB κ G s ahead rest doom nx sb sm 0)
    (hvb : VB sb rs) (hvb2 : VB sb2 rs) (hrecs : sb2.recs = sb.recs) (hpos : sb2.pos = sb.pos) (hsplit : sb2.split = sb.split)
    (hsinv : SInv s.heap rest sb2)
    (hunw : ∀ (k : Nat) (row : Row), sb.rows[k]? = some row → row.st.flag = .ack ∨ row.st.flag = .retry) :
    FlightB κ G s ahead rest doom nx sb2 sm 0 :=
  have hr := sim_restatus hvb hvb2 hrecs hpos hsplit s.heap
  ⟨hsinv.tinv, hr.srcmap hF.srcmap, hr.nextok (fun _ => rfl) hF.nextok, hr.restlast hvb hvb2 (fun _ => rfl) hF.restlast,
    hF.hdoom, hr.splitlin hF.splitlin, hr.nosplit hF.nosplit, hr.tags hF.tags fun k row _ hk _ _ => hunw k row hk⟩

structure Reflagged (h : Heap) (rest : Nat → Nat) (sb sb' : Batch) (rss : List (Option Nat)) : Prop where
  vb : VB { sb' with tainted := false } rss
  recs : sb'.recs = sb.recs
  pos : sb'.pos = sb.pos
  split : sb'.split = sb.split
  sinv : SInv h rest { sb' with tainted := false }
  ack : ∀ (q : Nat) (st : Status), sb'.st[q]? = some st → st.flag = .ack
  view : ({ sb' with tainted := false } : Batch).view = sb.view
  rows : ∀ (k : Nat) (row2 : Row), ({ sb' with tainted := false } : Batch).rows[k]? = some row2 →
    ∃ row, sb.rows[k]? = some row ∧ row.r.tag = row2.r.tag

theorem reflag_batch {h : Heap} {rest : Nat → Nat} {sb sb' : Batch} {rss : List (Option Nat)} (hsi : SInv h rest sb)
    (hvbs : VB sb rss) (hret : ∀ (q : Nat) (st : Status), sb.st[q]? = some st → st.flag = .retry)
    (hsf : sb.setFlagRange .ack 0 sb.recs.length = .ok sb') : Reflagged h rest sb sb' rss := by
  obtain ⟨hfr, hrecs⟩ := setFlagRange_fr hsi.wf (by decide) (by decide) hsf
  obtain ⟨hbi', hview'⟩ := hsi.reflag hsf
  have hvb2 : VB { sb' with tainted := false } rss := by
    obtain ⟨rs2, hvb2⟩ := hbi'.vb
    have hrs2 : rs2 = rss := by
      have := hvb2.runs
      rw [show ({ sb' with tainted := false } : Batch).runs = sb'.runs from rfl, hfr.runs, hvbs.runs] at this
      exact (Option.some.inj this).symm
    rw [← hrs2]; exact hvb2
  refine ⟨hvb2, hrecs, hfr.pos, hfr.split, hbi', ?_, hview', ?_⟩
  · intro q st' hq
    obtain ⟨st, _, rfl⟩ := reflag_retry hsi.wf hret hsf q st' hq
    rfl
  · intro k row2 hr
    obtain ⟨row, g1, g2, _⟩ := rows_congr hvbs hvb2 hrecs hfr.pos hr
    exact ⟨row, g1, by rw [g2]⟩

end Conduit.Funnel
