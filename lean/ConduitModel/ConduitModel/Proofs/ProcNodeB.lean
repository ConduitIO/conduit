import ConduitModel.Proofs.ProcNodeA

/-! Invariants of the `ProcessorNode` event system, group B (records): stamps, outcomes, counting.
See `Proofs/ProcNodeA.lean` for the conventions. -/
namespace Conduit.Model.ProcNode

namespace B

def log_sorted (s : State) : Prop := s.log.Pairwise (fun x y => y.ep ≤ x.ep ∧ y.idx < x.idx)
def log_ok (s : State) : Prop := ∀ st ∈ s.log, s.hist[st.ep]? = some st.gen ∧ st.idx < s.nextIn ∧ st.ep < s.hist.length
def outc_range (s : State) : Prop := (s.outc.map (·.idx)).reverse = List.range s.outc.length
def outc_lt (s : State) : Prop := ∀ o ∈ s.outc, o.idx < s.outc.length
def count_ok (s : State) : Prop :=
  (∀ i, s.pc.inflight = some i → i = s.outc.length ∧ s.nextIn = i + 1) ∧ (s.pc.inflight = none → s.nextIn = s.outc.length)
def class_ok (s : State) : Prop := ∀ o ∈ s.outc, (o.fwd ≠ .passthrough ↔ ∃ st ∈ s.log, st.idx = o.idx)
def processing_ok (s : State) : Prop := ∀ i, s.pc = .processing i → ∃ st ∈ s.log, st.idx = i ∧ st.gen = s.cur
def sending_ok (s : State) : Prop := ∀ i f, s.pc = .sending i f → (f ≠ .passthrough ↔ ∃ st ∈ s.log, st.idx = i)
def nacking_ok (s : State) : Prop := ∀ i f w, s.pc = .nacking i f w → (f ≠ .passthrough ↔ ∃ st ∈ s.log, st.idx = i)

end B

structure InvB (s : State) : Prop where
  log_sorted : B.log_sorted s
  log_ok : B.log_ok s
  outc_range : B.outc_range s
  outc_lt : B.outc_lt s
  count_ok : B.count_ok s
  class_ok : B.class_ok s
  processing_ok : B.processing_ok s
  sending_ok : B.sending_ok s
  nacking_ok : B.nacking_ok s

theorem initB : InvB init := by
  constructor <;> simp [init, Pc.inflight, B.log_sorted, B.log_ok, B.outc_range, B.outc_lt, B.count_ok, B.class_ok,
    B.processing_ok, B.sending_ok, B.nacking_ok]

namespace B
variable {s s' : State} {e : Event}

theorem log_sorted_step (hi : InvB s) (h : Step s e s') : log_sorted s' := by
  cases h with
  | procCall _ _ hn =>
    refine List.pairwise_cons.mpr ⟨fun st hst => ?_, hi.log_sorted⟩
    have := hi.log_ok st hst
    dsimp only
    omega
  | _ => exact hi.log_sorted

theorem log_ok_step (ha : InvA s) (hi : InvB s) (h : Step s e s') : log_ok s' := by
  have b1 := hi.log_ok
  cases h with
  | procCall _ hg hn =>
    have hl := ha.hist_last
    unfold log_ok A.hist_last at *
    rw [List.getLast?_eq_getElem?] at hl
    dsimp only
    refine List.forall_mem_cons.mpr ⟨⟨hg ▸ hl, by dsimp only; omega, ?_⟩, fun st hst => ?_⟩
    · have := ha.cur_hist; unfold A.cur_hist at this
      have := List.length_pos_of_mem this
      dsimp only; omega
    · have := b1 st hst; exact ⟨this.1, by omega, this.2.2⟩
  | recvPre _ hn => exact fun st hst => ⟨(b1 st hst).1, by have := (b1 st hst).2.1; dsimp only; omega, (b1 st hst).2.2⟩
  | openNew =>
    intro st hst
    obtain ⟨h1, h2, h3⟩ := b1 st hst
    exact ⟨by dsimp only; rw [List.getElem?_append_left h3]; exact h1, h2, by
      dsimp only; rw [List.length_append]; exact Nat.lt_add_right _ h3⟩
  | _ => exact b1

theorem outc_step (hi : InvB s) (h : Step s e s') : outc_range s' ∧ outc_lt s' := by
  cases h with
  | sendOk hpc | nack hpc | nackStop hpc =>
    -- the record in flight is the next one in arrival order
    have hn := (hi.count_ok.1 _ (by rw [hpc]; rfl)).1
    have hr := hi.outc_range
    unfold outc_range at hr
    refine ⟨?_, List.forall_mem_cons.mpr ⟨?_, fun o ho => Nat.lt_succ_of_lt (hi.outc_lt o ho)⟩⟩
    · simp only [outc_range, List.map_cons, List.reverse_cons, List.length_cons, List.range_succ, hr, hn]
    · dsimp only [List.length_cons]; omega
  | _ => exact ⟨hi.outc_range, hi.outc_lt⟩

theorem count_ok_step (hi : InvB s) (h : Step s e s') : count_ok s' := by
  have b1 := hi.count_ok
  cases h with
  | stageBusy | stage | wakeSend | doneRecv | withdraw | cancel => exact b1
  | procCall hpc _ hn | recvPre hpc hn =>
    have := b1.2 (by rw [hpc]; rfl)
    exact ⟨fun j hj => by cases hj; dsimp only; omega, nofun⟩
  | procRetSend hpc | procRetNack hpc | sendCtxDone hpc => exact ⟨fun j hj => b1.1 j (by rw [hpc]; exact hj), nofun⟩
  | sendOk hpc | nack hpc | nackStop hpc =>
    have := b1.1 _ (by rw [hpc]; rfl)
    exact ⟨nofun, fun _ => by dsimp only [List.length_cons]; omega⟩
  | _ => exact ⟨nofun, fun _ => b1.2 (by rw [‹s.pc = _›]; rfl)⟩

theorem class_ok_step (hi : InvB s) (h : Step s e s') : class_ok s' := by
  have b1 := hi.class_ok
  cases h with
  | sendOk hpc => exact List.forall_mem_cons.mpr ⟨hi.sending_ok _ _ hpc, b1⟩
  | nack hpc | nackStop hpc => exact List.forall_mem_cons.mpr ⟨hi.nacking_ok _ _ _ hpc, b1⟩
  | procCall hpc _ hn =>
    -- the new stamp is for a record that has no outcome yet
    intro o ho
    have h1 := hi.outc_lt o ho
    have h2 := hi.count_ok.2 (by rw [hpc]; rfl)
    refine (b1 o ho).trans ⟨fun ⟨st, hst, he⟩ => ⟨st, List.mem_cons_of_mem _ hst, he⟩, fun ⟨st, hst, he⟩ => ?_⟩
    rcases List.mem_cons.mp hst with rfl | hst
    · dsimp only at he; omega
    · exact ⟨st, hst, he⟩
  | _ => exact b1

/-- the clauses about one program point of the record path: each is established by the steps that lead
there and is void at every other pc. -/
theorem record_pc_step (hi : InvB s) (h : Step s e s') : processing_ok s' ∧ sending_ok s' ∧ nacking_ok s' := by
  cases h with
  | stageBusy | stage | wakeSend | doneRecv | withdraw | cancel => exact ⟨hi.processing_ok, hi.sending_ok, hi.nacking_ok⟩
  | procCall _ hg => exact ⟨fun j hj => by cases hj; exact ⟨_, List.mem_cons_self, rfl, hg⟩, nofun, nofun⟩
  | recvPre _ hn =>
    exact ⟨nofun, fun j f hj => by
      cases hj
      exact ⟨fun hf => absurd rfl hf, fun ⟨st, hst, he⟩ => by have := (hi.log_ok st hst).2.1; omega⟩, nofun⟩
  | procRetSend hpc hf =>
    obtain ⟨st, hst, he, -⟩ := hi.processing_ok _ hpc
    exact ⟨nofun, fun j f hj => by cases hj; exact ⟨fun _ => ⟨st, hst, he⟩, fun _ => hf⟩, nofun⟩
  | procRetNack hpc =>
    obtain ⟨st, hst, he, -⟩ := hi.processing_ok _ hpc
    exact ⟨nofun, nofun, fun j f w hj => by cases hj; exact ⟨fun _ => ⟨st, hst, he⟩, fun _ => nofun⟩⟩
  | sendCtxDone hpc => exact ⟨nofun, nofun, fun j f w hj => by cases hj; exact hi.sending_ok _ _ hpc⟩
  | _ => exact ⟨nofun, nofun, nofun⟩

end B

theorem stepB {s s' : State} {e : Event} (ha : InvA s) (hi : InvB s) (h : Step s e s') : InvB s' :=
  have ⟨o1, o2⟩ := B.outc_step hi h
  have ⟨p1, p2, p3⟩ := B.record_pc_step hi h
  ⟨B.log_sorted_step hi h, B.log_ok_step ha hi h, o1, o2, B.count_ok_step hi h, B.class_ok_step hi h, p1, p2, p3⟩

end Conduit.Model.ProcNode
