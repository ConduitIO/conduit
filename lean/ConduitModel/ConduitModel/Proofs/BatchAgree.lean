import ConduitModel.Proofs.BatchProc
import ConduitModel.Proofs.PassMonad

/-!
# Agreement of the monadic task functions with their pure restatements

`Model/Funnel.lean` writes `ProcessorTask.Do` / `DestinationTask.Do` in the monad
`M = ExceptT Stop (StateM PS)` (event log, plugin scripts, the split-run heap);
`Spec/BatchWF.lean` restates them as pure functions `procDoP` / `destDoP` (and `procMarkP`).
Here: running the monadic function from a state `s` (`x.run.run s`, i.e.
`StateT.run (ExceptT.run x) s : Except Stop α × PS`) logs the call, pops the scripted reply
(`popReplyP`), and then replays the calls of `markBatchRecords` (`Proofs/BatchProc.lean`) with the
heap of the state threaded through them (`replayCalls`, `procRest_exec`): the value is that of the pure
function, the heap is that after the last call that succeeded.
-/
namespace Conduit.Funnel

def popReplyP (s : PS) (task : Nat) : Option Reply × PS :=
  match s.scripts.find? (·.1 == task) with
  | some (_, r :: rest) => (some r, { s with scripts := s.scripts.map fun (t, l) => if t == task then (t, rest) else (t, l) })
  | _ => (none, s)

theorem popReplyP_heap (s : PS) (task : Nat) : (popReplyP s task).2.heap = s.heap := by
  unfold popReplyP; split <;> rfl

def procOut : Option Reply → List PR | some (.proc out) => out | _ => []

def destReply : Option Reply → Option Err × List AckResp | some (.dest w a) => (w, a) | _ => (some scriptExhausted, [])

namespace Agree

theorem ok_bind {α β} (a : α) (f : α → R β) : (Except.ok a >>= f) = f a := rfl
theorem error_bind {α β} (e : Stop) (f : α → R β) : ((Except.error e : R α) >>= f) = Except.error e := rfl
theorem map_ok {α β} (f : α → β) (a : α) : Except.map f (Except.ok a : R α) = Except.ok (f a) := rfl
theorem map_error {α β} (f : α → β) (e : Stop) : Except.map f (Except.error e : R α) = Except.error e := rfl
theorem run_pure {α} (a : α) (s : PS) : (pure a : M α).run.run s = (.ok a, s) := rfl
theorem run_throw {α} (e : Stop) (s : PS) : (throw e : M α).run.run s = (.error e, s) := rfl
theorem run_liftR {α} (r : R α) (s : PS) : (liftR r).run.run s = (r, s) := by
  cases r <;> rfl
theorem run_get (s : PS) : (get : M PS).run.run s = (.ok s, s) := rfl
theorem run_set (s' s : PS) : (set s' : M PUnit).run.run s = (.ok ⟨⟩, s') := rfl
theorem run_emit (e : Ev) (s : PS) : (emit e).run.run s = (.ok ⟨⟩, { s with log := s.log.push e }) := rfl
theorem run_bind {α β} (x : M α) (f : α → M β) (s : PS) :
    (x >>= f).run.run s = (match x.run.run s with
      | (.ok a, s') => (f a).run.run s'
      | (.error e, s') => (.error e, s')) :=
  exec_bind x f s

end Agree
open Agree

theorem popReply_run (task : Nat) (s : PS) :
    (popReply task).run.run s = (.ok (popReplyP s task).1, (popReplyP s task).2) := by
  unfold popReply popReplyP
  rw [run_bind, run_get]
  simp only
  generalize s.scripts.find? (·.1 == task) = o
  rcases o with _ | ⟨_, _ | ⟨r, rest⟩⟩ <;> rfl

theorem destDo_eq_model (task : Nat) (b : Batch) (info : Option (List (Rec × Option Err × Nat))) (s : PS) :
    (destDo task b info).run.run s =
      (let s0 : PS := { s with log := s.log.push (match info with | none => Ev.write task b.active | some i => Ev.dlqw task i) }
       let rp := popReplyP s0 task
       (destDoP b (destReply rp.1).1 (destReply rp.1).2, rp.2)) := by
  unfold destDo destDoP
  cases info <;>
  · simp only [run_bind, run_emit, popReply_run]
    generalize popReplyP _ task = rp
    obtain ⟨o, s1⟩ := rp
    rcases o with _ | ⟨_ | ⟨w, a⟩⟩
    all_goals simp only [destReply, run_bind, run_pure, run_throw]
    · rfl
    · rfl
    · cases w with
      | some e => simp only [run_bind, run_throw]; rfl
      | none =>
        simp only [run_bind, run_liftR]
        cases destAckLoop (List.map (fun x => x.pos) b.active) (List.map (fun x => x.pos) b.active).length b 0 a with
        | error e => rfl
        | ok x =>
          simp only []
          by_cases h : x.snd < (List.map (fun x => x.pos) b.active).length
          · simp only [h, if_true, run_bind, run_throw, ok_bind]; rfl
          · simp only [h, if_false, run_pure, ok_bind]; rfl

namespace Agree

/-- `ProcessorTask.Do` after the plugin call returned `out`: the tail of `procDo`, verbatim, so that
`procDo_eq_rest` closes by `rfl`. -/
def procRest (b : Batch) (out : List PR) : M Batch := do
  let recsIn := b.active
  if out.length = 0 then throw (.err plainErr)
  if out.length > recsIn.length then throw (.err plainErr)
  for i in List.range out.length do
    match out[i]? with
    | some (.multi m) =>
      if m.length > 1 then
        let p ← liftR (b.phys i)
        let ps ← liftR (idx b.pos p "positions[i]")
        let run : Option Nat := match b.runs with
          | none => none
          | some rs => (rs[p]?).join
        if ps == none ∧ run == none then throw (.err (coded "pipeline.empty_source_position"))
    | _ => pure ()
  let out := if recsIn.length > out.length then out ++ List.replicate (recsIn.length - out.length) PR.nil else out
  let mut b := b
  let mut to := out.length
  for i in (List.range out.length).reverse do
    let boundary := i == 0 || !(sameType (out[i-1]?.getD .nil) (out[i]?.getD .nil))
    if boundary then
      b ← procMark b i ((out.take to).drop i)
      to := i
  pure b

theorem procDo_eq_rest (task : Nat) (b : Batch) :
    procDo task b = (do emit (.pcall task b.active); let o ← popReply task; procRest b (procOut o)) := by
  unfold procDo
  dsimp only
  congr 1; funext _
  congr 1; funext o
  rcases o with _ | ⟨out | ⟨w, a⟩⟩ <;> rfl

theorem throw_bind_M {α β} (e : Stop) (f : α → M β) : ((throw e : M α) >>= f) = throw e := rfl

/-- the replay of calls in a pass state: the heap of the state is threaded through the calls, and when one
fails it is the heap after the last call that succeeded -/
def replayCalls : List BCall → Batch → PS → Except Stop Batch × PS
  | [], b, s => (.ok b, s)
  | c :: cs, b, s =>
    match c.run (s.heap, b) with
    | .ok hb => replayCalls cs hb.2 { s with heap := hb.1 }
    | .error e => (.error e, s)

theorem replayCalls_append : ∀ (cs ds : List BCall) (b : Batch) (s : PS),
    replayCalls (cs ++ ds) b s = match replayCalls cs b s with
      | (.ok b', s') => replayCalls ds b' s'
      | (.error e, s') => (.error e, s')
  | [], _, _, _ => rfl
  | c :: cs, ds, b, s => by
    simp only [List.cons_append, replayCalls]
    cases c.run (s.heap, b) with
    | error e => rfl
    | ok hb => exact replayCalls_append cs ds hb.2 _

theorem foldlM_run_eq_replayCalls : ∀ (cs : List BCall) (b : Batch) (s : PS),
    cs.foldlM BCall.run (s.heap, b) = (replayCalls cs b s).1.map fun b' => ((replayCalls cs b s).2.heap, b')
  | [], _, _ => rfl
  | c :: cs, b, s => by
    rw [List.foldlM_cons, replayCalls]
    cases c.run (s.heap, b) with
    | error e => rfl
    | ok hb => exact foldlM_run_eq_replayCalls cs hb.2 { s with heap := hb.1 }

theorem exec_liftR_replay {c : BCall} {b : Batch} {s : PS} {r : R Batch}
    (hc : c.run (s.heap, b) = (do let b' ← r; pure (s.heap, b'))) : exec (liftR r) s = replayCalls [c] b s := by
  rw [replayCalls, hc]; cases r <;> rfl

theorem exec_liftR_replay' {β} {c : BCall} {b : Batch} {s : PS} {r : R Batch} (k : Batch → β)
    (hc : c.run (s.heap, b) = (do let b' ← r; pure (s.heap, b'))) :
    exec (do let b ← liftR r; pure (k b) : M β) s = ((replayCalls [c] b s).1.map k, (replayCalls [c] b s).2) := by
  rw [replayCalls, hc]; cases r <;> rfl

theorem exec_split_replay' {β} (k : Batch → β) (b : Batch) (i : Nat) (m : List Rec) (s : PS) :
    exec (do let s ← get
             let x ← liftR (b.splitRecord s.heap i m)
             set { s with heap := x.1 }
             pure (k x.2) : M β) s = ((replayCalls [.split i m] b s).1.map k, (replayCalls [.split i m] b s).2) := by
  rw [replayCalls, exec_bind, exec_get]
  dsimp only
  rw [exec_bind]
  unfold BCall.run
  dsimp only
  cases b.splitRecord s.heap i m with
  | error e => rfl
  | ok hb => rfl

theorem exec_forIn_replay {α} (g : α → Option BCall) (body : α → Batch → M (ForInStep Batch))
    (hbody : ∀ a b s, exec (body a b) s = match g a with
      | none => (.ok (.yield b), s)
      | some c => ((replayCalls [c] b s).1.map ForInStep.yield, (replayCalls [c] b s).2)) :
    ∀ (l : List α) (b : Batch) (s : PS), exec (forIn l b body) s = replayCalls (l.filterMap g) b s := by
  intro l
  induction l with
  | nil => intro b s; rfl
  | cons a l ih =>
    intro b s
    rw [List.forIn_cons, exec_bind, hbody, List.filterMap_cons]
    cases g a with
    | none => exact ih b s
    | some c =>
      dsimp only
      rw [show c :: l.filterMap g = [c] ++ l.filterMap g from rfl, replayCalls_append]
      rcases replayCalls [c] b s with ⟨_ | b', s'⟩
      · rfl
      · exact ih b' s'

theorem procMark_exec (b : Batch) (from_ : Nat) (records : List PR) (s : PS) :
    exec (procMark b from_ records) s = replayCalls (markCalls from_ records) b s := by
  unfold procMark markCalls
  rcases records with _ | ⟨_ | _ | _ | _ | _, tl⟩ <;> dsimp only
  · rfl
  · exact exec_liftR_replay rfl
  · exact exec_liftR_replay rfl
  · exact exec_liftR_replay rfl
  · generalize (PR.multi _ :: tl) = records
    rw [exec_bind, multiCalls, exec_forIn_replay (fun i => match records[i]? with
      | some (PR.multi m) => some (multiCall (from_ + i) m)
      | _ => none)]
    · rcases replayCalls _ b s with ⟨_ | b', s'⟩ <;> rfl
    · intro i b s
      rcases records[i]? with _ | (_ | _ | _ | m | _) <;> try rfl
      unfold multiCall
      dsimp only
      generalize hn : m.length = n
      rcases n with _ | _ | n
      · exact exec_liftR_replay' _ rfl
      · exact exec_liftR_replay' _ rfl
      · exact exec_split_replay' _ b _ m s
  · exact exec_liftR_replay rfl

theorem exec_forIn_checks {α} (f : α → R Unit) (body : α → PUnit → M (ForInStep PUnit))
    (hbody : ∀ a u s, exec (body a u) s = ((f a).map fun _ => ForInStep.yield u, s)) :
    ∀ (l : List α) (u : PUnit) (s : PS), exec (forIn l u body) s = ((l.forM f).map fun _ => u, s) := by
  intro l
  induction l with
  | nil => intro u s; rfl
  | cons a l ih =>
    intro u s
    rw [List.forIn_cons, exec_bind, hbody]
    show _ = (Except.map _ (f a >>= fun _ => l.forM f), s)
    cases f a with
    | error e => rfl
    | ok _ => exact ih u s

theorem exec_groupLoop (out : List PR) (body : Nat → Batch × Nat → M (ForInStep (Batch × Nat)))
    (hbody : ∀ i b to s, exec (body i (b, to)) s =
      if boundary out i then ((replayCalls (markCalls i ((out.take to).drop i)) b s).1.map fun b' => ForInStep.yield (b', i),
        (replayCalls (markCalls i ((out.take to).drop i)) b s).2)
      else (.ok (.yield (b, to)), s)) :
    ∀ (n : Nat) (b : Batch) (to : Nat) (s : PS),
      exec (do let r ← forIn (List.range n).reverse (b, to) body; pure r.1) s = replayCalls (groupCalls out n to) b s := by
  intro n
  induction n with
  | zero => intro b to s; rfl
  | succ n ih =>
    intro b to s
    rw [List.range_succ, List.reverse_append, List.reverse_cons, List.reverse_nil, List.nil_append,
      List.singleton_append, List.forIn_cons, bind_assoc, exec_bind, hbody, groupCalls]
    by_cases hb : boundary out n = true
    · rw [if_pos hb, if_pos hb, replayCalls_append]
      rcases replayCalls (markCalls n ((out.take to).drop n)) b s with ⟨_ | b', s'⟩
      · rfl
      · exact ih b' n s'
    · rw [if_neg hb, if_neg hb]
      exact ih b to s

theorem procRest_exec (b : Batch) (out : List PR) (s : PS) :
    exec (procRest b out) s =
      if out.length = 0 ∨ out.length > b.active.length then (.error (.err plainErr), s)
      else match (List.range out.length).forM (procCheckStep b out) with
        | .error e => (.error e, s)
        | .ok _ => replayCalls (groupCalls (padOut b.active.length out) (padOut b.active.length out).length
            (padOut b.active.length out).length) b s := by
  unfold procRest padOut
  dsimp only
  by_cases h0 : out.length = 0
  · simp only [h0, if_true, throw_bind_M, true_or]; rfl
  by_cases h1 : out.length > b.active.length
  · simp only [h0, h1, if_true, if_false, throw_bind_M, or_true]; rfl
  simp only [h0, h1, if_false, or_self]
  generalize (if b.active.length > out.length then out ++ List.replicate (b.active.length - out.length) PR.nil
    else out) = pad
  rw [exec_bind, exec_forIn_checks (procCheckStep b out)]
  · cases (List.range out.length).forM (procCheckStep b out) with
    | error e => rfl
    | ok _ =>
      refine exec_groupLoop pad _ (fun i b to s => ?_) _ b _ s
      unfold boundary
      by_cases hb : (i == 0 || !sameType (pad[i - 1]?.getD PR.nil) (pad[i]?.getD PR.nil)) = true
      · simp only [hb, if_true]
        rw [exec_bind, procMark_exec]
        rcases replayCalls _ b s with ⟨_ | b', s'⟩ <;> rfl
      · simp only [hb]; rfl
  · intro i u s
    unfold procCheckStep
    rcases out[i]? with _ | (_ | _ | _ | m | _) <;> try rfl
    dsimp only
    by_cases hm : m.length > 1
    · simp only [hm, if_true]
      rw [exec_bind]
      cases b.phys i with
      | error e => rfl
      | ok p =>
        rw [exec_liftR_ok, ok_bind]
        dsimp only
        rw [exec_bind]
        cases idx b.pos p "positions[i]" with
        | error e => rfl
        | ok ps =>
          rw [exec_liftR_ok, ok_bind]
          dsimp only
          rcases b.runs with _ | rs <;> dsimp only <;> split <;> rfl
    · simp only [hm, if_false]; rfl

theorem replayCalls_state : ∀ (cs : List BCall) (b : Batch) (s : PS),
    (replayCalls cs b s).2 = { s with heap := (replayCalls cs b s).2.heap }
  | [], _, _ => rfl
  | c :: cs, b, s => by
    rw [replayCalls]
    cases c.run (s.heap, b) with
    | error e => rfl
    | ok hb => exact replayCalls_state cs hb.2 { s with heap := hb.1 }

theorem procRest_eq_model (b : Batch) (out : List PR) (s : PS) :
    exec (procRest b out) s = ((procDoP s.heap b out).map (·.2), { s with heap := (exec (procRest b out) s).2.heap }) ∧
    ∀ (h' : Heap) (b' : Batch), procDoP s.heap b out = .ok (h', b') → (exec (procRest b out) s).2.heap = h' := by
  rw [procRest_exec]
  by_cases h0 : out.length = 0
  · rw [if_pos (.inl h0), List.length_eq_zero_iff.mp h0, procDoP_empty]; exact ⟨rfl, nofun⟩
  by_cases h1 : out.length > b.active.length
  · rw [if_pos (.inr h1), procDoP_too_many _ b out h1]; exact ⟨rfl, nofun⟩
  rw [if_neg (not_or.mpr ⟨h0, h1⟩), procDoP_eq_calls s.heap b out h0 h1]
  cases (List.range out.length).forM (procCheckStep b out) with
  | error e => exact ⟨rfl, nofun⟩
  | ok _ =>
    rw [ok_bind, foldlM_run_eq_replayCalls]
    generalize groupCalls _ _ _ = cs
    have hs := replayCalls_state cs b s
    rcases hr : replayCalls cs b s with ⟨_ | b', s'⟩ <;> rw [hr] at hs
    · exact ⟨congrArg _ hs, nofun⟩
    · exact ⟨congrArg _ hs, fun _ _ e => by cases e; rfl⟩

end Agree
open Agree

theorem procDo_exec (task : Nat) (b : Batch) (s : PS) :
    exec (procDo task b) s =
      exec (procRest b (procOut (popReplyP { s with log := s.log.push (.pcall task b.active) } task).1))
        (popReplyP { s with log := s.log.push (.pcall task b.active) } task).2 := by
  show (procDo task b).run.run s = _
  rw [procDo_eq_rest]
  simp only [run_bind, run_emit, popReply_run]
  rfl

theorem procDo_eq_model (task : Nat) (b : Batch) (s : PS) :
    ∃ hp : Heap,
      (procDo task b).run.run s =
        (let s0 : PS := { s with log := s.log.push (.pcall task b.active) }
         let rp := popReplyP s0 task
         ((procDoP rp.2.heap b (procOut rp.1)).map (·.2), { rp.2 with heap := hp })) ∧
      (∀ (h' : Heap) (b' : Batch),
        (let s0 : PS := { s with log := s.log.push (.pcall task b.active) }
         procDoP (popReplyP s0 task).2.heap b (procOut (popReplyP s0 task).1)) = .ok (h', b') → hp = h') := by
  rw [procDo_eq_rest]
  simp only [run_bind, run_emit, popReply_run]
  exact ⟨_, procRest_eq_model b _ _⟩

theorem procMark_eq_model (b : Batch) (from_ : Nat) (records : List PR) (s : PS) :
    ∃ hp : Heap,
      (procMark b from_ records).run.run s =
        ((procMarkP (s.heap, b) from_ records).map (·.2), { s with heap := hp }) ∧
      (∀ (h' : Heap) (b' : Batch), procMarkP (s.heap, b) from_ records = .ok (h', b') → hp = h') := by
  refine ⟨(replayCalls (markCalls from_ records) b s).2.heap, ?_⟩
  show exec _ s = _ ∧ _
  rw [procMark_exec, procMarkP_eq_calls, foldlM_run_eq_replayCalls]
  have hs := replayCalls_state (markCalls from_ records) b s
  rcases hr : replayCalls (markCalls from_ records) b s with ⟨_ | b', s'⟩ <;> rw [hr] at hs
  · exact ⟨congrArg _ hs, nofun⟩
  · exact ⟨congrArg _ hs, fun _ _ e => by cases e; rfl⟩

theorem procDo_ok (task : Nat) (b : Batch) (s : PS) (h' : Heap) (b' : Batch)
    (hP : procDoP (popReplyP { s with log := s.log.push (.pcall task b.active) } task).2.heap b
        (procOut (popReplyP { s with log := s.log.push (.pcall task b.active) } task).1) = .ok (h', b')) :
    (procDo task b).run.run s =
      (.ok b', { (popReplyP { s with log := s.log.push (.pcall task b.active) } task).2 with heap := h' }) := by
  obtain ⟨hp, h1, h2⟩ := procDo_eq_model task b s
  have := h2 h' b' hP
  subst this
  rw [h1]
  dsimp only
  rw [hP]
  rfl

end Conduit.Funnel
