import ConduitModel.Model.StreamPipe
import ConduitModel.Proofs.StreamAck
import ConduitModel.Proofs.StreamFlow

namespace Conduit.Stream

theorem pipe_step_proj {τ : Topo} {p p' : Pipe} {e : Ev} (h : Pipe.step τ p e = some p') :
    Flow.step τ p.flow e = some p'.flow ∧ Ack.step p.ack e = some p'.ack := by
  unfold Pipe.step at h
  cases hf : Flow.step τ p.flow e with
  | none => simp [hf] at h
  | some f =>
    cases ha : Ack.step p.ack e with
    | none => simp [hf, ha] at h
    | some a => simp [hf, ha] at h; subst h; exact ⟨rfl, rfl⟩

theorem Pipe.run_eq (τ : Topo) (evs : List Ev) (p : Pipe) : Pipe.run τ p evs = evs.foldlM (Pipe.step τ) p :=
  EventSys.run_eq (fun _ => rfl) (fun p e _ => by cases h : Pipe.step τ p e <;> simp [Pipe.run, h]) evs p

theorem pipe_run_proj {τ : Topo} {p p' : Pipe} (evs : List Ev) (h : Pipe.run τ p evs = some p') :
    Flow.run τ p.flow evs = some p'.flow ∧ Ack.run p.ack evs = some p'.ack := by
  have sim := fun {σ} (f : Pipe → σ) step' hf =>
    EventSys.run_sim (step' := step') (f := f) (P := fun _ => True) (fun _ _ _ _ _ => trivial) hf evs trivial
      (Pipe.run_eq .. ▸ h)
  exact ⟨Flow.run_eq .. ▸ sim Pipe.flow _ fun _ _ _ _ hs => (pipe_step_proj hs).1,
    Ack.run_eq .. ▸ sim Pipe.ack _ fun _ _ _ _ hs => (pipe_step_proj hs).2⟩

end Conduit.Stream
