import ConduitModel.Proofs.CtlOps

/-!
memory = store: every service call syncs exactly the entry its mutation touches (footprint), so
a successful call keeps the store a copy of memory (`exec_ok_memEq`); failed calls are covered by
atomicity. Also: no operation leaves a transaction open (`exec_tx_none`), the inversions of `guarded`
and `andThen`, and a failed environment operation changes nothing (`env_err_unchanged`).
-/
namespace Conduit.Ctl

def KV.ofMem (m : Mem) : KV := { pls := m.pls, cns := m.cns, prs := m.prs }

/-- a service call's mutation touches only the entry it then writes to the store. -/
def Footprint (f : Svc) : Prop :=
  ∀ m, (∀ j, (f.kind ≠ .pl ∨ j ≠ f.id) → (f.upd m).pls j = m.pls j) ∧
       (∀ j, (f.kind ≠ .cn ∨ j ≠ f.id) → (f.upd m).cns j = m.cns j) ∧
       (∀ j, (f.kind ≠ .pr ∨ j ≠ f.id) → (f.upd m).prs j = m.prs j)

theorem KV.ext' {a b : KV} (h1 : a.pls = b.pls) (h2 : a.cns = b.cns) (h3 : a.prs = b.prs) : a = b := by
  cases a; cases b; simp at *; exact ⟨h1, h2, h3⟩

/-- a table overwritten at `id` with its new value is the new table, when nothing else changed. -/
theorem sync_fn {α} (old new : Map α) (id : Id) (h : ∀ j, j ≠ id → new j = old j) :
    (fun j => if j = id then new id else old j) = new := by
  funext j
  by_cases hj : j = id
  · simp [hj]
  · simp [hj, h j hj]

theorem sync_ofMem (f : Svc) (hf : Footprint f) (m : Mem) :
    (KV.ofMem m).sync (f.upd m) f.kind f.id = KV.ofMem (f.upd m) := by
  obtain ⟨h1, h2, h3⟩ := hf m
  cases hk : f.kind
  · exact KV.ext' (sync_fn _ _ _ fun j hj => h1 j (.inr hj))
      (funext fun j => (h2 j (.inl (by simp [hk]))).symm) (funext fun j => (h3 j (.inl (by simp [hk]))).symm)
  · exact KV.ext' (funext fun j => (h1 j (.inl (by simp [hk]))).symm)
      (sync_fn _ _ _ fun j hj => h2 j (.inr hj)) (funext fun j => (h3 j (.inl (by simp [hk]))).symm)
  · exact KV.ext' (funext fun j => (h1 j (.inl (by simp [hk]))).symm)
      (funext fun j => (h2 j (.inl (by simp [hk]))).symm) (sync_fn _ _ _ fun j hj => h3 j (.inr hj))

theorem Footprint.other {k : Kind} {j id : Id} (h : k ≠ k ∨ j ≠ id) : j ≠ id := h.resolve_left fun e => e rfl

theorem fp_updPl (id : Id) (g : Pl → Pl) (keep : Bool) (pre : Mem → Option Err) (nm : Option Nat) :
    Footprint { pre, upd := fun m => m.updPl id g, kind := .pl, id, keep, nm } := by
  intro m
  simp only [Mem.updPl]
  split
  · exact ⟨fun j hj => Map.set_other _ _ _ _ (Footprint.other hj), fun _ _ => rfl, fun _ _ => rfl⟩
  · exact ⟨fun _ _ => rfl, fun _ _ => rfl, fun _ _ => rfl⟩

theorem fp_updCn (id : Id) (g : Cn → Cn) (keep : Bool) (pre : Mem → Option Err) :
    Footprint { pre, upd := fun m => m.updCn id g, kind := .cn, id, keep } := by
  intro m
  simp only [Mem.updCn]
  split
  · exact ⟨fun _ _ => rfl, fun j hj => Map.set_other _ _ _ _ (Footprint.other hj), fun _ _ => rfl⟩
  · exact ⟨fun _ _ => rfl, fun _ _ => rfl, fun _ _ => rfl⟩

theorem fp_updPr (id : Id) (g : Pr → Pr) (keep : Bool) (pre : Mem → Option Err) :
    Footprint { pre, upd := fun m => m.updPr id g, kind := .pr, id, keep } := by
  intro m
  simp only [Mem.updPr]
  split
  · exact ⟨fun _ _ => rfl, fun _ _ => rfl, fun j hj => Map.set_other _ _ _ _ (Footprint.other hj)⟩
  · exact ⟨fun _ _ => rfl, fun _ _ => rfl, fun _ _ => rfl⟩

theorem fp_plCreate (id name desc prov : Nat) : Footprint (svcPlCreate id name desc prov) := fun _ =>
  ⟨fun _ hj => Map.set_other _ _ _ _ (Footprint.other hj), fun _ _ => rfl, fun _ _ => rfl⟩

theorem fp_plUpdate (v : Variant) (id name desc : Nat) : Footprint (svcPlUpdate v id name desc) := by
  intro m
  simp only [svcPlUpdate]
  split
  · exact ⟨fun _ _ => rfl, fun _ _ => rfl, fun _ _ => rfl⟩
  · exact ⟨fun _ hj => Map.set_other _ _ _ _ (Footprint.other hj), fun _ _ => rfl, fun _ _ => rfl⟩

theorem fp_plDelete (id : Nat) : Footprint (svcPlDelete id) := by
  intro m
  simp only [svcPlDelete]
  split
  · exact ⟨fun _ _ => rfl, fun _ _ => rfl, fun _ _ => rfl⟩
  · exact ⟨fun _ hj => Map.del_other _ _ _ (Footprint.other hj), fun _ _ => rfl, fun _ _ => rfl⟩

theorem fp_cnCreate (id typ plugin pid name settings prov state : Nat) :
    Footprint (svcCnCreate id typ plugin pid name settings prov state) := fun _ =>
  ⟨fun _ _ => rfl, fun _ hj => Map.set_other _ _ _ _ (Footprint.other hj), fun _ _ => rfl⟩

theorem fp_cnDelete (id : Nat) : Footprint (svcCnDelete id) := fun _ =>
  ⟨fun _ _ => rfl, fun _ hj => Map.del_other _ _ _ (Footprint.other hj), fun _ _ => rfl⟩

theorem fp_prCreate (id plugin ptype parent settings : Nat) (workers : Int) (prov cond : Nat) :
    Footprint (svcPrCreate id plugin ptype parent settings workers prov cond) := fun _ =>
  ⟨fun _ _ => rfl, fun _ _ => rfl, fun _ hj => Map.set_other _ _ _ _ (Footprint.other hj)⟩

theorem fp_prDelete (id : Nat) : Footprint (svcPrDelete id) := fun _ =>
  ⟨fun _ _ => rfl, fun _ _ => rfl, fun _ hj => Map.del_other _ _ _ (Footprint.other hj)⟩

def FootprintAll : List Step → Prop
  | [] => True
  | st :: L => Footprint st.act ∧ FootprintAll L

/-- Where the next store write goes (the open transaction if there is one, else the store) is a copy of
memory: what every successful service call keeps, inside a transaction or not. -/
def Synced (s : St) : Prop := s.tx.getD s.kv = KV.ofMem s.mem

theorem memEqStore_iff (s : St) : MemEqStore s ↔ s.kv = KV.ofMem s.mem ∧ s.tx = none := by
  unfold MemEqStore KV.ofMem
  constructor
  · rintro ⟨a, b, c, d⟩; exact ⟨KV.ext' a.symm b.symm c.symm, d⟩
  · rintro ⟨a, d⟩; rw [a]; exact ⟨rfl, rfl, rfl, d⟩

theorem Synced.stepOk {f : Svc} {s : St} (hf : Footprint f) (h : Synced s) : Synced (stepOk f s) := by
  unfold Synced at h ⊢
  rw [stepOk_mem, ← sync_ofMem f hf, ← h]
  cases ht : s.tx with
  | none => obtain ⟨a, b⟩ := stepOk_tx_none f s ht; rw [a, b]; rfl
  | some t => rw [(stepOk_tx_some f s t ht).1]; rfl

theorem Synced.okRun {L : List Step} : ∀ {s : St}, FootprintAll L → Synced s → Synced (okRun s L) := by
  induction L with
  | nil => exact fun _ h => h
  | cons st rest ih =>
    exact fun hf h => ih hf.2 (h.stepOk hf.1)

theorem Svc.run_tx_none (f : Svc) (s : St) (h : s.tx = none) : (f.run s).2.tx = none := by
  unfold Svc.run
  split
  · exact h
  · split
    · exact h
    · exact (St.write_tx_none _ _ (by exact h)).1

theorem orch_tx_none {β} (g : Mem → Except Err β) (steps : β → List Step) (s : St) (h : s.tx = none) :
    (orch g steps s).2.tx = none := by
  unfold orch
  split
  · exact h
  · simp only
    split
    · rfl
    · split
      · split
        · split <;> rfl
        · rfl
      · split <;> rfl

theorem guarded_tx_none (g : Mem → Except Err Unit) (f : Svc) (s : St) (h : s.tx = none) :
    (guarded g f s).2.tx = none := by
  unfold guarded; split
  · exact h
  · exact Svc.run_tx_none f s h

theorem andThen_tx_none (a b : M Unit) (s : St) (ha : (a s).2.tx = none)
    (hb : ∀ s', s'.tx = none → (b s').2.tx = none) : (M.andThen a b s).2.tx = none := by
  unfold M.andThen
  split
  · rename_i s' heq; exact hb s' (by rw [heq] at ha; exact ha)
  · rename_i e s' heq; rw [heq] at ha; exact ha

theorem exec_tx_none (v : Variant) (s : St) (op : Op) (k : Option Nat) (h : s.tx = none) :
    (exec v s op k).2.tx = none := by
  unfold exec
  generalize (if op.isApi then k else none) = k'
  have h' : ({ s with ctr := 0, failAt := k' } : St).tx = none := h
  have run := fun (f : Svc) (s' : St) (hs' : s'.tx = none) => Svc.run_tx_none f s' hs'
  cases op <;> unfold opBody
  case plCreate | envStatus | envState | envPl => exact run _ _ h'
  case plUpdate | plUpdateDLQ | plDelete => exact guarded_tx_none _ _ _ h'
  case cnCreate | cnUpdate | cnDelete | prCreate | prUpdate | prDelete => exact orch_tx_none _ _ _ h'
  case envCn | envPr => exact andThen_tx_none _ _ _ (guarded_tx_none _ _ _ h') (run _)

theorem guarded_ok_inv {g : Mem → Except Err Unit} {f : Svc} {s : St} (hok : (guarded g f s).1 = .ok ()) :
    g s.mem = .ok () ∧ f.pre s.mem = none ∧ guarded g f s = (.ok (), stepOk f s) := by
  unfold guarded at hok ⊢
  split at hok
  · cases hok
  · rename_i hg; rw [hg]; exact ⟨rfl, Svc.run_ok_inv hok⟩

theorem andThen_ok_inv (a b : M Unit) (s : St) (hok : (M.andThen a b s).1 = .ok ()) :
    (a s).1 = .ok () ∧ (b (a s).2).1 = .ok () ∧ (M.andThen a b s).2 = (b (a s).2).2 := by
  unfold M.andThen at hok ⊢
  rcases hr : a s with ⟨_ | ⟨⟨⟩⟩, s'⟩ <;> rw [hr] at hok
  · cases hok
  · exact ⟨rfl, hok, rfl⟩

theorem Svc.run_ok_synced {f : Svc} {s : St} (hf : Footprint f) (h : Synced s) (hok : (f.run s).1 = .ok ()) :
    Synced (f.run s).2 := by
  rw [(Svc.run_ok_inv hok).2]; exact h.stepOk hf

theorem guarded_ok_synced {g : Mem → Except Err Unit} {f : Svc} {s : St} (hf : Footprint f) (h : Synced s)
    (hok : (guarded g f s).1 = .ok ()) : Synced (guarded g f s).2 := by
  obtain ⟨-, -, e⟩ := guarded_ok_inv hok
  rw [e]; exact h.stepOk hf

theorem orch_ok_synced {β} (g : Mem → Except Err β) (steps : β → List Step) (s : St)
    (h : Synced s) (htx : s.tx = none) (hfp : ∀ b, g s.mem = .ok b → FootprintAll (steps b))
    (hok : (orch g steps s).1 = .ok ()) : Synced (orch g steps s).2 := by
  obtain ⟨b, s', hg, _, rfl, e⟩ := orch_ok_inv g steps s hok
  rw [e]
  exact Synced.okRun (s := { s with ctr := s.ctr + 1, tx := some s.kv }) (hfp b hg) (by simpa [Synced, htx] using h)

theorem fp_attach (v : Variant) (ptype parent rid : Nat) : Footprint (attachStep v ptype parent rid).act := by
  unfold attachStep; split
  · exact fp_updPl _ _ _ _ _
  · exact fp_updCn _ _ _ _

theorem fp_detach (v : Variant) (ptype parent rid : Nat) : Footprint (detachStep v ptype parent rid).act := by
  unfold detachStep; split
  · exact fp_updPl _ _ _ _ _
  · exact fp_updCn _ _ _ _

/-- **memory = store, success case**: whatever the failing index, a call that returns
success leaves the store an exact copy of memory and no transaction open. -/
theorem exec_ok_memEq (v : Variant) (s : St) (op : Op) (k : Option Nat) (h : MemEqStore s)
    (hok : (exec v s op k).1 = .ok ()) : MemEqStore (exec v s op k).2 := by
  obtain ⟨h1, h2⟩ := (memEqStore_iff s).1 h
  have e := exec_tx_none v s op k h2
  suffices hs : Synced (exec v s op k).2 from (memEqStore_iff _).2 ⟨by simpa [Synced, e] using hs, e⟩
  unfold exec at hok ⊢
  simp only at hok ⊢
  generalize (if op.isApi then k else none) = k' at hok ⊢
  have h1' : Synced ({ s with ctr := 0, failAt := k' } : St) := by simp [Synced, h1, h2]
  have h2' : ({ s with ctr := 0, failAt := k' } : St).tx = none := h2
  suffices hs : Synced (opBody v s.next op { s with ctr := 0, failAt := k' }).2 from hs
  cases op <;> simp only [opBody, opPlCreate, opPlUpdate, opPlUpdateDLQ, opPlDelete, opCnCreate, opCnUpdate,
    opCnDelete, opPrCreate, opPrUpdate, opPrDelete] at hok ⊢
  case plCreate => exact Svc.run_ok_synced (fp_plCreate _ _ _ _) h1' hok
  case plUpdate => exact guarded_ok_synced (fp_plUpdate _ _ _ _) h1' hok
  case plUpdateDLQ => exact guarded_ok_synced (fp_updPl _ _ _ _ _) h1' hok
  case plDelete => exact guarded_ok_synced (fp_plDelete _) h1' hok
  case cnCreate => exact orch_ok_synced _ _ _ h1' h2' (fun _ _ => ⟨fp_cnCreate _ _ _ _ _ _ _ _, fp_updPl _ _ _ _ _, trivial⟩) hok
  case cnUpdate => exact orch_ok_synced _ _ _ h1' h2' (fun _ _ => ⟨fp_updCn _ _ _ _, trivial⟩) hok
  case cnDelete => exact orch_ok_synced _ _ _ h1' h2' (fun _ _ => ⟨fp_cnDelete _, fp_updPl _ _ _ _ _, trivial⟩) hok
  case prCreate => exact orch_ok_synced _ _ _ h1' h2' (fun _ _ => ⟨fp_prCreate _ _ _ _ _ _ _ _, fp_attach _ _ _ _, trivial⟩) hok
  case prUpdate => exact orch_ok_synced _ _ _ h1' h2' (fun _ _ => ⟨fp_updPr _ _ _ _, trivial⟩) hok
  case prDelete => exact orch_ok_synced _ _ _ h1' h2' (fun _ _ => ⟨fp_prDelete _, fp_detach _ _ _ _, trivial⟩) hok
  case envStatus => exact Svc.run_ok_synced (fp_updPl _ _ _ _ _) h1' hok
  case envState => exact Svc.run_ok_synced (fp_updCn _ _ _ _) h1' hok
  case envPl => exact Svc.run_ok_synced (fp_plCreate _ _ _ _) h1' hok
  case envCn =>
    obtain ⟨ha, hb, e⟩ := andThen_ok_inv _ _ _ hok
    rw [e]
    exact Svc.run_ok_synced (fp_updPl _ _ _ _ _) (guarded_ok_synced (fp_cnCreate _ _ _ _ _ _ _ _) h1' ha) hb
  case envPr t par st =>
    obtain ⟨ha, hb, e⟩ := andThen_ok_inv _ _ _ hok
    rw [e]
    refine Svc.run_ok_synced ?_ (guarded_ok_synced (fp_prCreate _ _ _ _ _ _ _ _) h1' ha) hb
    split
    · exact fp_updPl _ _ _ _ _
    · exact fp_updCn _ _ _ _

theorem run_nofail_ok (f : Svc) (s : St) (hf : s.failAt = none) (hp : f.pre s.mem = none) :
    f.run s = (.ok (), stepOk f s) := Svc.run_ok hp (by simp [St.failsNow, hf])

theorem andThen_err (a b : M Unit) (s : St) (hb : ∀ s', a s = (.ok (), s') → (b s').1 = .ok ())
    (he : (M.andThen a b s).1 ≠ .ok ()) : M.andThen a b s = a s ∧ (a s).1 ≠ .ok () := by
  unfold M.andThen at he ⊢
  rcases hr : a s with ⟨r, s'⟩
  rw [hr] at he
  cases r with
  | error e => exact ⟨rfl, nofun⟩
  | ok u => cases u; exact absurd (hb s' hr) he

/-- An environment operation runs without a failing index, so only a guard or a precondition can make it
fail; the second call of `envCn` / `envPr` cannot refuse after the first. -/
theorem env_err_unchanged (v : Variant) (s : St) (op : Op) (k : Option Nat) (hapi : op.isApi = false)
    (he : (exec v s op k).1 ≠ .ok ()) : (exec v s op k).2.view = s.view := by
  unfold exec at he ⊢
  simp only [hapi, Bool.false_eq_true, if_false] at he ⊢
  have nf : ∀ g f, AtomicRun (guarded g f) { s with ctr := 0, failAt := none } := fun g f =>
    guarded_atomic g f _ (by simp [St.failsNow])
  suffices h : (opBody v s.next op { s with ctr := 0, failAt := none }).2.view = s.view from h
  cases op <;> try cases hapi
  case envStatus | envState | envPl => exact (nf (fun _ => .ok ()) _).2 he
  case envCn typ pid name settings =>
    refine And.elim (fun e he1 => (congrArg (·.2.view) e).trans ((nf _ _).2 he1)) (andThen_err _ _ _ (fun s' h1 => ?_) he)
    -- the pipeline exists (guard), so `AddConnector`'s validation passes
    obtain ⟨hg, _, e⟩ := guarded_ok_inv (s := { s with ctr := 0, failAt := none }) (by rw [h1])
    cases h1.symm.trans e
    obtain ⟨p, hp, _⟩ := bind_ok.1 hg
    rw [run_nofail_ok _ _ (by simp) (by simp [svcPlAddConn, svcCnCreate, preHasPl, (getPl_ok (m := s.mem)).1 hp])]
  case envPr ptype parent settings =>
    refine And.elim (fun e he1 => (congrArg (·.2.view) e).trans ((nf _ _).2 he1)) (andThen_err _ _ _ (fun s' h1 => ?_) he)
    obtain ⟨hg, _, e⟩ := guarded_ok_inv (s := { s with ctr := 0, failAt := none }) (by rw [h1])
    cases h1.symm.trans e
    dsimp only at hg
    split at hg
    · obtain ⟨p, hp, _⟩ := bind_ok.1 hg
      rw [if_pos ‹_›, run_nofail_ok _ _ (by simp) (by simp [svcPlAddProc, svcPrCreate, preHasPl, (getPl_ok (m := s.mem)).1 hp])]
    · split at hg
      · obtain ⟨c, hc, _⟩ := bind_ok.1 hg
        rw [if_neg ‹_›, run_nofail_ok _ _ (by simp) (by simp [svcCnAddProc, svcPrCreate, preHasCn, (getCn_ok (m := s.mem)).1 hc])]
      · cases hg

end Conduit.Ctl
