import ConduitModel.Proofs.BatchBase

/-!
# `NewBatch`, `sub`, `originalBatch`, `clone` keep the batch invariant (C08 / C09)

On a well-formed batch `sub(from, to)` is total exactly on in-range bounds (its fields: `SubOK`). What `clone()`
does is said once, `clone_spec`: the runs of the batch are renamed by a map that sends each to a fresh copy, leaves
every other run where it is and is injective on the runs there were; `clone_WF`, `clone_copy` and the readings on
pieces and rows (`clone_ren`, Proofs/PassSFan.lean; `rows_ren`, Proofs/MonGFanDefs.lean) follow from it.
-/
namespace Conduit.Funnel

theorem new_WF (h : Heap) (recs : List Rec) : (Batch.new recs).WF h := by
  refine ⟨⟨?_, ?_, ?_, ?_⟩, ?_⟩
  · simp [Batch.new]
  · simp [Batch.new]
  · simp [Batch.new, runsOK, runIdOK]
  · intro kv hkv; simp [Batch.new] at hkv
  · show 0 = countFilter (recs.map fun _ => ({} : Status))
    rw [List.map_const', countFilter_replicate_default]

theorem countFilter_sublist {a c : List Status} (hs : a.Sublist c) : countFilter a ≤ countFilter c := by
  unfold countFilter
  exact (hs.filter _).length_le

theorem countFilter_sl_zero {st : List Status} (h : countFilter st = 0) (from_ to : Nat) :
    countFilter ((st.take to).drop from_) = 0 := by
  have := countFilter_sublist ((List.drop_sublist from_ (st.take to)).trans (List.take_sublist to st))
  omega

theorem foldl_keys {β} (f : List (Nat × β) → PosV → List (Nat × β))
    (hf : ∀ acc p, ∀ kv ∈ f acc p, kv ∈ acc ∨ keyOf p = kv.1) (ps : List PosV) (acc : List (Nat × β)) :
    ∀ kv ∈ ps.foldl f acc, kv ∈ acc ∨ ∃ p ∈ ps, keyOf p = kv.1 := by
  induction ps generalizing acc with
  | nil => intro kv hkv; exact Or.inl hkv
  | cons p ps ih =>
    intro kv hkv
    rw [List.foldl_cons] at hkv
    rcases ih _ kv hkv with hm | ⟨q, hq, hqk⟩
    · rcases hf acc p kv hm with hm | hm
      · exact Or.inl hm
      · exact Or.inr ⟨p, List.mem_cons_self, hm⟩
    · exact Or.inr ⟨q, List.mem_cons_of_mem _ hq, hqk⟩

theorem subSplit_keys (split : List (Nat × Rec)) (ps : List PosV) :
    ∀ kv ∈ ps.foldl (fun acc p => if p == none then acc else match lookup split (keyOf p) with
        | some r => if (lookup acc (keyOf p)).isSome then acc else acc ++ [(keyOf p, r)]
        | none => acc) [], ∃ p ∈ ps, keyOf p = kv.1 := by
  intro kv hkv
  refine (foldl_keys _ ?_ ps [] kv hkv).resolve_left List.not_mem_nil
  intro acc p kv hkv
  split at hkv
  · exact Or.inl hkv
  · split at hkv
    · split at hkv
      · exact Or.inl hkv
      · rcases List.mem_append.mp hkv with hm | hm
        · exact Or.inl hm
        · rw [List.mem_singleton.mp hm]; exact Or.inr rfl
    · exact Or.inl hkv

theorem slice_WF {h : Heap} {b : Batch} (hwf : b.WF h) {from_ to : Nat}
    {split' : List (Nat × Rec)}
    (hsp : ∀ kv ∈ split', ∃ p ∈ (b.pos.take to).drop from_, keyOf p = kv.1) :
    Batch.WF h { recs := (b.recs.take to).drop from_, st := (b.st.take to).drop from_, pos := (b.pos.take to).drop from_,
                 runs := b.runs.map (fun rs => (rs.take to).drop from_),
                 filterCount := if b.filterCount > 0 then countFilter ((b.st.take to).drop from_) else 0,
                 tainted := false, split := split' } := by
  obtain ⟨⟨hst, hpos, hruns, _⟩, hfc⟩ := hwf
  refine ⟨⟨?_, ?_, ?_, hsp⟩, ?_⟩
  · show ((b.st.take to).drop from_).length = ((b.recs.take to).drop from_).length
    rw [List.length_drop, List.length_drop, List.length_take, List.length_take, hst]
  · show ((b.pos.take to).drop from_).length = ((b.recs.take to).drop from_).length
    rw [List.length_drop, List.length_drop, List.length_take, List.length_take, hpos]
  · cases hb : b.runs with
    | none => trivial
    | some rs =>
      rw [hb] at hruns
      refine ⟨?_, fun r hm => hruns.2 r ((List.take_sublist to rs).subset ((List.drop_sublist from_ _).subset hm))⟩
      show ((rs.take to).drop from_).length = ((b.recs.take to).drop from_).length
      rw [List.length_drop, List.length_drop, List.length_take, List.length_take, hruns.1]
  · show (if b.filterCount > 0 then _ else 0) = countFilter ((b.st.take to).drop from_)
    split
    · rfl
    · exact (countFilter_sl_zero (by omega) from_ to).symm

theorem sub_ok {h : Heap} {b : Batch} (hwf : b.WF h) {from_ to : Nat} (hft : from_ ≤ to) (hto : to ≤ b.recs.length) :
    ∃ b' : Batch, b.sub from_ to = .ok b' ∧ b'.WF h := by
  have hst := hwf.1.st_len
  have hpos := hwf.1.pos_len
  have hruns := hwf.1.runs_ok
  have hc : ¬ (from_ > to ∨ to > b.recs.length ∨ to > b.st.length ∨ to > b.pos.length) := by omega
  have hwf' := slice_WF hwf (from_ := from_) (to := to) (split' := if b.split.length ≠ 0 then _ else [])
    (by split
        · exact subSplit_keys b.split _
        · exact fun _ hkv => absurd hkv List.not_mem_nil)
  unfold Batch.sub
  rw [if_neg hc]
  rcases hr : b.runs with _ | rs
  · rw [hr] at hwf'
    exact ⟨_, rfl, hwf'⟩
  · rw [hr] at hruns hwf'
    have hgt : ¬ to > rs.length := by have := hruns.1; omega
    simp only [hgt, if_false]
    exact ⟨_, rfl, hwf'⟩

theorem sub_panics {b : Batch} {from_ to : Nat} (hbad : from_ > to ∨ to > b.recs.length) :
    ∃ m, b.sub from_ to = .error (.panic m) := by
  have hc : (from_ > to ∨ to > b.recs.length ∨ to > b.st.length ∨ to > b.pos.length) := by omega
  unfold Batch.sub
  simp only [hc, if_true]
  exact ⟨_, rfl⟩

/-- what an `.ok` of `sub(from, to)` means, field by field (no invariant needed). -/
structure SubOK (b : Batch) (i j : Nat) (b' : Batch) : Prop where
  le : i ≤ j
  recs_le : j ≤ b.recs.length
  st_le : j ≤ b.st.length
  pos_le : j ≤ b.pos.length
  runs_le : ∀ rs, b.runs = some rs → j ≤ rs.length
  recs : b'.recs = (b.recs.take j).drop i
  st : b'.st = (b.st.take j).drop i
  pos : b'.pos = (b.pos.take j).drop i
  runs : b'.runs = b.runs.map (fun rs => (rs.take j).drop i)
  tainted : b'.tainted = false
  split : b'.split = if b.split.length ≠ 0 then
      List.foldl (fun acc p => if (p == none) = true then acc else match lookup b.split (keyOf p) with
        | some r => if (lookup acc (keyOf p)).isSome = true then acc else acc ++ [(keyOf p, r)]
        | none => acc) [] (List.drop i (List.take j b.pos)) else []

theorem SubOK.split_nil {b b' : Batch} {i j : Nat} (h : SubOK b i j b') (hs : b.split = []) : b'.split = [] := by
  rw [h.split, hs]; rfl

theorem sub_ok_fields {b b' : Batch} {i j : Nat} (h : b.sub i j = .ok b') : SubOK b i j b' := by
  by_cases hc : (i > j ∨ j > b.recs.length ∨ j > b.st.length ∨ j > b.pos.length)
  · unfold Batch.sub at h
    simp only [hc, if_true] at h
    cases h
  · unfold Batch.sub at h
    simp only [hc, if_false] at h
    rcases hr : b.runs with _ | rs
    · rw [hr] at h
      simp only [bind, Except.bind, pure, Except.pure] at h
      cases h
      exact ⟨by omega, by omega, by omega, by omega, (fun _ h => by rw [hr] at h; cases h), rfl, rfl, rfl,
        (by rw [hr]; rfl), rfl, rfl⟩
    · rw [hr] at h
      by_cases hg : j > rs.length
      · simp only [hg, if_true, bind, Except.bind] at h
        cases h
      · simp only [hg, if_false, bind, Except.bind, pure, Except.pure] at h
        cases h
        exact ⟨by omega, by omega, by omega, by omega, (fun _ h => by rw [hr] at h; cases h; omega), rfl, rfl, rfl,
          (by rw [hr]; rfl), rfl, rfl⟩

theorem map_snd_zip_sublist {α β} (a : List α) (c : List β) : ((a.zip c).map Prod.snd).Sublist c := by
  induction a generalizing c with
  | nil => simp
  | cons x a ih =>
    cases c with
    | nil => simp
    | cons y c => simp [ih]

theorem rows_st_sublist (pos : List PosV) (recs : List Rec) (st : List Status)
    (q : PosV × Rec × Status → Bool) (g : PosV × Rec × Status → Status) (hg : ∀ p r s, g (p, r, s) = s) :
    (((pos.zip (recs.zip st)).filter q).map g).Sublist st := by
  have : g = fun x => x.2.2 := funext (fun ⟨p, r, s⟩ => hg p r s)
  subst this
  refine (List.filter_sublist.map _).trans ?_
  have h1 := map_snd_zip_sublist pos (recs.zip st)
  have h2 := map_snd_zip_sublist recs st
  have h3 := (h1.map Prod.snd).trans h2
  rw [List.map_map] at h3
  exact h3

theorem original_of_split_nil {b : Batch} (hs : b.split = []) : b.original = b := by
  unfold Batch.original
  simp [hs]

theorem original_WF {h : Heap} {b : Batch} (hwf : b.WF h) : b.original.WF h := by
  unfold Batch.original
  by_cases hs : b.split.length = 0
  · simp only [hs, if_true]; exact hwf
  · simp only [hs, if_false]
    refine ⟨⟨?_, ?_, ?_, ?_⟩, ?_⟩
    · simp
    · simp
    · refine ⟨by simp, ?_⟩
      intro r hr
      simp at hr
      rw [← hr.2]; rfl
    · intro kv hkv; cases hkv
    · by_cases hz : b.filterCount > 0
      · simp only [hz, if_true]
      · simp only [hz, if_false]
        have h0 : countFilter b.st = 0 := by have := hwf.2; omega
        apply Eq.symm
        apply Nat.le_zero.mp
        refine Nat.le_trans ?_ (Nat.le_of_eq h0)
        apply countFilter_sublist
        apply rows_st_sublist
        intro p r s; rfl

/-- accumulator of `cloneRuns`: the heap, the `seen` map (old id ↦ new id), the new `runs`. -/
abbrev CloneAcc := Heap × List (Nat × Nat) × List (Option Nat)

/-- one iteration of `cloneRuns` -/
def cloneStep (acc : CloneAcc) (r : Option Nat) : CloneAcc :=
  match r with
  | none => (acc.1, acc.2.1, acc.2.2 ++ [none])
  | some id =>
    match acc.2.1.find? (·.1 == id) with
    | some kv => (acc.1, acc.2.1, acc.2.2 ++ [some kv.2])
    | none => (acc.1.push acc.1[id]!, acc.2.1 ++ [(id, acc.1.size)], acc.2.2 ++ [some acc.1.size])

theorem foldl_cloneStep_eq (f : CloneAcc → Option Nat → CloneAcc) (hf : ∀ acc r, f acc r = cloneStep acc r)
    (a : CloneAcc) (rs : List (Option Nat)) : List.foldl f a rs = List.foldl cloneStep a rs := by
  have : f = cloneStep := funext fun acc => funext fun r => hf acc r
  rw [this]

theorem clone_eq (h : Heap) (b : Batch) :
    b.clone h = match b.runs with
      | none => (h, b)
      | some rs => ((rs.foldl cloneStep (h, [], [])).1, { b with runs := some (rs.foldl cloneStep (h, [], [])).2.2 }) := by
  unfold Batch.clone
  cases b.runs with
  | none => rfl
  | some rs =>
    dsimp only
    rw [foldl_cloneStep_eq]
    rintro ⟨h1, seen, out⟩ r
    cases r with
    | none => rfl
    | some id =>
      unfold cloneStep
      cases hfd : seen.find? (·.1 == id) with
      | none => simp only [hfd]
      | some kv => simp only [hfd]

theorem push_get_lt (h : Heap) (x : SplitRun) {i : Nat} (hi : i < h.size) : (h.push x)[i]! = h[i]! := by
  simp [getElem!_pos, hi, Nat.lt_succ_of_lt hi, Array.getElem_push_lt]

theorem push_get_size (h : Heap) (x : SplitRun) : (h.push x)[h.size]! = x := by
  simp

def cloneRel (seen : List (Nat × Nat)) : Option Nat → Option Nat → Prop
  | none, none => True
  | some id, some nid => (id, nid) ∈ seen
  | _, _ => False

theorem cloneRel_mono {seen seen' : List (Nat × Nat)} (hs : ∀ kv ∈ seen, kv ∈ seen') {r o : Option Nat}
    (h : cloneRel seen r o) : cloneRel seen' r o := by
  cases r <;> cases o <;> simp_all [cloneRel]

/-- loop invariant of `cloneRuns` after the entries `done` of the old `runs`, from heap `h0`. -/
structure CloneInv (h0 : Heap) (done : List (Option Nat)) (acc : CloneAcc) : Prop where
  size_le : h0.size ≤ acc.1.size
  prefix_eq : ∀ i : Nat, i < h0.size → acc.1[i]! = h0[i]!
  seen_ok : ∀ kv ∈ acc.2.1, kv.1 < h0.size ∧ h0.size ≤ kv.2 ∧ kv.2 < acc.1.size ∧ acc.1[kv.2]! = h0[kv.1]!
  seen_inj : ∀ kv ∈ acc.2.1, ∀ kv' ∈ acc.2.1, (kv.1 = kv'.1 ↔ kv.2 = kv'.2)
  len : acc.2.2.length = done.length
  rel : ∀ ro ∈ done.zip acc.2.2, cloneRel acc.2.1 ro.1 ro.2

theorem cloneRel_snoc {seen seen' : List (Nat × Nat)} {done out : List (Option Nat)} {r o : Option Nat}
    (hlen : out.length = done.length) (hsub : ∀ kv ∈ seen, kv ∈ seen')
    (hrel : ∀ ro ∈ done.zip out, cloneRel seen ro.1 ro.2) (hlast : cloneRel seen' r o) :
    ∀ ro ∈ (done ++ [r]).zip (out ++ [o]), cloneRel seen' ro.1 ro.2 := by
  intro ro hro
  rw [List.zip_append hlen.symm] at hro
  rcases List.mem_append.mp hro with hm | hm
  · exact cloneRel_mono hsub (hrel ro hm)
  · cases List.mem_singleton.mp hm; exact hlast

theorem CloneInv.step {h0 : Heap} {done : List (Option Nat)} {acc : CloneAcc} (inv : CloneInv h0 done acc)
    {r : Option Nat} (hr : ∀ id, r = some id → id < h0.size) : CloneInv h0 (done ++ [r]) (cloneStep acc r) := by
  obtain ⟨h, seen, out⟩ := acc
  obtain ⟨h1, h2, h3, h4, h5, h6⟩ := inv
  simp only at h1 h2 h3 h4 h5 h6
  have hlen : ∀ o : Option Nat, (out ++ [o]).length = (done ++ [r]).length := fun o => by
    rw [List.length_append, List.length_append, h5]; rfl
  cases r with
  | none => exact ⟨h1, h2, h3, h4, hlen _, cloneRel_snoc h5 (fun _ hkv => hkv) h6 trivial⟩
  | some id =>
    have hid := hr id rfl
    unfold cloneStep
    cases hfd : seen.find? (·.1 == id) with
    | some kv =>
      simp only [hfd]
      have hk : kv.1 = id := by simpa using List.find?_some hfd
      exact ⟨h1, h2, h3, h4, hlen _, cloneRel_snoc h5 (fun _ hkv => hkv) h6
        (show (id, kv.2) ∈ seen from hk ▸ List.mem_of_find?_eq_some hfd)⟩
    | none =>
      simp only [hfd]
      have hnone : ∀ kv ∈ seen, kv.1 ≠ id := by
        intro kv hkv; simpa using List.find?_eq_none.mp hfd kv hkv
      have hsz : (h.push h[id]!).size = h.size + 1 := Array.size_push _
      -- an old pair and the new pair `(id, h.size)` differ in both components
      have hnew : ∀ kv ∈ seen, ¬ kv.1 = id ∧ ¬ kv.2 = h.size :=
        fun kv hkv => ⟨hnone kv hkv, Nat.ne_of_lt (h3 kv hkv).2.2.1⟩
      refine ⟨by rw [hsz]; exact Nat.le_succ_of_le h1, ?_, ?_, ?_, hlen _,
        cloneRel_snoc h5 (fun _ hkv => List.mem_append_left _ hkv) h6
          (show (id, h.size) ∈ seen ++ [(id, h.size)] from List.mem_append_right _ (List.mem_singleton.mpr rfl))⟩
      · intro i hi
        show (h.push h[id]!)[i]! = h0[i]!
        rw [push_get_lt h _ (Nat.lt_of_lt_of_le hi h1)]; exact h2 i hi
      · intro kv hkv
        show kv.1 < h0.size ∧ h0.size ≤ kv.2 ∧ kv.2 < (h.push h[id]!).size ∧ (h.push h[id]!)[kv.2]! = h0[kv.1]!
        rw [hsz]
        rcases List.mem_append.mp hkv with hm | hm
        · obtain ⟨a, c, d, e⟩ := h3 kv hm
          exact ⟨a, c, Nat.lt_succ_of_lt d, by rw [push_get_lt h _ d]; exact e⟩
        · cases List.mem_singleton.mp hm
          exact ⟨hid, h1, Nat.lt_succ_self _, by rw [push_get_size]; exact h2 id hid⟩
      · intro kv hkv kv' hkv'
        rcases List.mem_append.mp hkv with hm | hm <;> rcases List.mem_append.mp hkv' with hm' | hm'
        · exact h4 kv hm kv' hm'
        · cases List.mem_singleton.mp hm'
          exact ⟨fun hh => absurd hh (hnew kv hm).1, fun hh => absurd hh (hnew kv hm).2⟩
        · cases List.mem_singleton.mp hm
          exact ⟨fun hh => absurd hh.symm (hnew kv' hm').1, fun hh => absurd hh.symm (hnew kv' hm').2⟩
        · cases List.mem_singleton.mp hm; cases List.mem_singleton.mp hm'
          exact ⟨fun _ => rfl, fun _ => rfl⟩

theorem CloneInv.fold {h0 : Heap} (rs : List (Option Nat)) (hrs : ∀ id, some id ∈ rs → id < h0.size)
    {done : List (Option Nat)} {acc : CloneAcc} (inv : CloneInv h0 done acc) :
    CloneInv h0 (done ++ rs) (rs.foldl cloneStep acc) := by
  induction rs generalizing done acc with
  | nil => simpa using inv
  | cons r rs ih =>
    have := ih (fun id hm => hrs id (List.mem_cons_of_mem _ hm))
      (inv.step (r := r) (fun id he => hrs id (by rw [he]; exact List.mem_cons_self)))
    simpa using this

theorem CloneInv.init (h : Heap) : CloneInv h [] (h, [], []) :=
  ⟨Nat.le_refl _, fun _ _ => rfl, nofun, nofun, rfl, nofun⟩

theorem CloneInv.rel_get {h0 : Heap} {done : List (Option Nat)} {acc : CloneAcc} (inv : CloneInv h0 done acc)
    {k : Nat} (hk : k < done.length) : cloneRel acc.2.1 done[k] (acc.2.2[k]'(inv.len ▸ hk)) :=
  inv.rel _ (List.mem_iff_getElem.mpr ⟨k, by rw [List.length_zip, inv.len, Nat.min_self]; exact hk, List.getElem_zip⟩)

theorem CloneInv.entry {h0 : Heap} {rs : List (Option Nat)} {acc : CloneAcc} (inv : CloneInv h0 rs acc)
    {k id : Nat} (hk : rs[k]? = some (some id)) : ∃ nid, acc.2.2[k]? = some (some nid) ∧ (id, nid) ∈ acc.2.1 := by
  obtain ⟨hlt, hid⟩ := List.getElem?_eq_some_iff.mp hk
  have hrel := inv.rel_get hlt
  rw [hid] at hrel
  cases ho : acc.2.2[k]'(inv.len ▸ hlt) with
  | none => rw [ho] at hrel; exact hrel.elim
  | some nid =>
    rw [ho] at hrel
    exact ⟨nid, by rw [List.getElem?_eq_getElem (inv.len ▸ hlt), ho], hrel⟩

theorem runAt_some_iff {b : Batch} {rs : List (Option Nat)} (hr : b.runs = some rs) {k id : Nat} :
    b.runAt k = some id ↔ rs[k]? = some (some id) := by
  simp [Batch.runAt, hr, Option.join_eq_some_iff]

def cloneRen (seen : List (Nat × Nat)) (id : Nat) : Nat := ((seen.find? (·.1 == id)).map (·.2)).getD id

/-- `clone()` of a batch with the runs `rs` renames the runs by `ρ`: a run of the batch goes to a fresh copy, every
other run stays, and `ρ` is injective on the runs there were -/
structure CloneSpec (h : Heap) (b : Batch) (rs : List (Option Nat)) (ρ : Nat → Nat) : Prop where
  batch : (b.clone h).2 = { b with runs := some (rs.map (Option.map ρ)) }
  size : h.size ≤ (b.clone h).1.size
  old : ∀ i : Nat, i < h.size → (b.clone h).1[i]! = h[i]!
  copy : ∀ id : Nat, id < h.size → ρ id = id ∨
    (h.size ≤ ρ id ∧ ρ id < (b.clone h).1.size ∧ (b.clone h).1[ρ id]! = h[id]!)
  fresh : ∀ id : Nat, some id ∈ rs → id < h.size ∧ h.size ≤ ρ id
  inj : ∀ a c : Nat, a < h.size → c < h.size → ρ a = ρ c → a = c

theorem clone_spec {h : Heap} {b : Batch} {rs : List (Option Nat)} (hwf : b.WF h) (hruns : b.runs = some rs) :
    ∃ ρ : Nat → Nat, CloneSpec h b rs ρ := by
  have hro := hwf.1.runs_ok
  rw [hruns] at hro
  have hrs : ∀ id, some id ∈ rs → id < h.size := fun id hm => by simpa [runIdOK] using hro.2 _ hm
  have inv := CloneInv.fold rs hrs (CloneInv.init h)
  rw [List.nil_append] at inv
  have hce : b.clone h = ((rs.foldl cloneStep (h, [], [])).1,
      { b with runs := some (rs.foldl cloneStep (h, [], [])).2.2 }) := by rw [clone_eq, hruns]
  generalize List.foldl cloneStep (h, [], []) rs = res at *
  obtain ⟨h', seen, out⟩ := res
  have e1 : (b.clone h).1 = h' := congrArg Prod.fst hce
  have e2 : (b.clone h).2 = { b with runs := some out } := congrArg Prod.snd hce
  have hlook : ∀ id nid : Nat, (id, nid) ∈ seen → cloneRen seen id = nid := by
    intro id nid hm
    unfold cloneRen
    cases hf : seen.find? (·.1 == id) with
    | none => simpa using List.find?_eq_none.mp hf (id, nid) hm
    | some kv =>
      have hk1 : kv.1 = id := by simpa using List.find?_some hf
      simp [(inv.seen_inj kv (List.mem_of_find?_eq_some hf) (id, nid) hm).mp hk1]
  have hcases : ∀ id : Nat, (∃ nid, (id, nid) ∈ seen) ∨ cloneRen seen id = id := by
    intro id
    unfold cloneRen
    cases hf : seen.find? (·.1 == id) with
    | none => exact .inr rfl
    | some kv =>
      have hk1 : kv.1 = id := by simpa using List.find?_some hf
      exact .inl ⟨kv.2, hk1 ▸ List.mem_of_find?_eq_some hf⟩
  have hout : out = rs.map (Option.map (cloneRen seen)) := by
    apply List.ext_getElem?
    intro k
    rw [List.getElem?_map]
    by_cases hk : k < rs.length
    · have hrel := inv.rel_get hk
      rw [List.getElem?_eq_getElem hk, List.getElem?_eq_getElem (inv.len ▸ hk)]
      generalize rs[k] = r at hrel
      generalize out[k]'(inv.len ▸ hk) = o at hrel
      cases r <;> cases o <;> first | rfl | exact hrel.elim | exact congrArg _ (congrArg _ (hlook _ _ hrel).symm)
    · rw [List.getElem?_eq_none (inv.len ▸ Nat.le_of_not_lt hk), List.getElem?_eq_none (Nat.le_of_not_lt hk)]; rfl
  refine ⟨cloneRen seen, by rw [e2, hout], e1 ▸ inv.size_le, e1 ▸ inv.prefix_eq, fun id _ => ?_,
    fun id hm => ⟨hrs id hm, ?_⟩, fun a c ha hc he => ?_⟩
  · rw [e1]
    rcases hcases id with ⟨nid, hn⟩ | hn
    · rw [hlook id nid hn]; exact .inr (inv.seen_ok _ hn).2
    · exact .inl hn
  · obtain ⟨k, hk, hke⟩ := List.getElem_of_mem hm
    obtain ⟨nid, _, hn⟩ := inv.entry (k := k) (id := id) (by rw [List.getElem?_eq_getElem hk, hke])
    rw [hlook id nid hn]; exact (inv.seen_ok _ hn).2.1
  · rcases hcases a with ⟨na, hna⟩ | hna <;> rcases hcases c with ⟨nc, hnc⟩ | hnc
    · rw [hlook a na hna, hlook c nc hnc] at he
      exact (inv.seen_inj _ hna _ hnc).mpr he
    · rw [hlook a na hna, hnc] at he
      have := (inv.seen_ok _ hna).2.1
      dsimp only at this
      omega
    · rw [hna, hlook c nc hnc] at he
      have := (inv.seen_ok _ hnc).2.1
      dsimp only at this
      omega
    · rwa [hna, hnc] at he

theorem clone_WF {h : Heap} {b : Batch} (hwf : b.WF h) :
    (b.clone h).2.WF (b.clone h).1 ∧ h.size ≤ (b.clone h).1.size ∧
      (b.clone h).2.recs = b.recs ∧ (b.clone h).2.st = b.st ∧ (b.clone h).2.pos = b.pos ∧
      (∀ p : Nat, ((b.clone h).2.runAt p).isSome = (b.runAt p).isSome) := by
  cases hr : b.runs with
  | none =>
    have e : b.clone h = (h, b) := by rw [clone_eq, hr]
    rw [e]
    exact ⟨hwf, Nat.le_refl _, rfl, rfl, rfl, fun _ => rfl⟩
  | some rs =>
    obtain ⟨ρ, R⟩ := clone_spec hwf hr
    have hsz := R.size
    have hro := hwf.1.runs_ok
    rw [hr] at hro
    rw [R.batch]
    refine ⟨⟨⟨hwf.1.st_len, hwf.1.pos_len, ⟨by rw [List.length_map]; exact hro.1, fun r hm => ?_⟩, hwf.1.split_keys⟩,
      hwf.2⟩, hsz, rfl, rfl, rfl, fun p => ?_⟩
    · obtain ⟨r0, hm0, rfl⟩ := List.mem_map.mp hm
      cases r0 with
      | none => rfl
      | some id =>
        obtain ⟨h1, h2⟩ := R.fresh id hm0
        have := R.copy id h1
        exact decide_eq_true (by omega)
    · simp only [Batch.runAt, hr, List.getElem?_map]
      rcases rs[p]? with _ | _ | _ <;> rfl

theorem clone_copy {h : Heap} {b : Batch} (hwf : b.WF h) :
    (∀ i : Nat, i < h.size → (b.clone h).1[i]! = h[i]!) ∧
    (∀ k id : Nat, b.runAt k = some id → ∃ nid, (b.clone h).2.runAt k = some nid ∧ h.size ≤ nid ∧
        nid < (b.clone h).1.size ∧ (b.clone h).1[nid]! = h[id]!) ∧
    (∀ k l id id' nid nid' : Nat, b.runAt k = some id → b.runAt l = some id' →
        (b.clone h).2.runAt k = some nid → (b.clone h).2.runAt l = some nid' → (id = id' ↔ nid = nid')) := by
  cases hr : b.runs with
  | none =>
    have hn : ∀ k id : Nat, b.runAt k ≠ some id := fun k id hk => by simp [Batch.runAt, hr] at hk
    have e : b.clone h = (h, b) := by rw [clone_eq, hr]
    rw [e]
    exact ⟨fun _ _ => rfl, fun k id hk => absurd hk (hn k id), fun k l id id' nid nid' hk => absurd hk (hn k id)⟩
  | some rs =>
    obtain ⟨ρ, R⟩ := clone_spec hwf hr
    have hk' : ∀ k id : Nat, b.runAt k = some id → (b.clone h).2.runAt k = some (ρ id) ∧ some id ∈ rs := by
      intro k id hk
      have hk := (runAt_some_iff hr).mp hk
      rw [R.batch]
      exact ⟨(runAt_some_iff rfl).mpr (by rw [List.getElem?_map, hk]; rfl), List.mem_of_getElem? hk⟩
    refine ⟨R.old, fun k id hk => ?_, fun k l id id' nid nid' hk hl hkc hlc => ?_⟩
    · obtain ⟨g1, g2⟩ := hk' k id hk
      obtain ⟨h2, h3⟩ := R.fresh id g2
      rcases R.copy id h2 with h1 | h1
      · omega
      · exact ⟨_, g1, h1⟩
    · obtain ⟨g1, g2⟩ := hk' k id hk
      obtain ⟨g3, g4⟩ := hk' l id' hl
      cases g1.symm.trans hkc
      cases g3.symm.trans hlc
      exact ⟨fun e => e ▸ rfl, R.inj id id' (R.fresh id g2).1 (R.fresh id' g4).1⟩

end Conduit.Funnel
