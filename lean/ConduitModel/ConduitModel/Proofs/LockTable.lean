import ConduitModel.Model.LockTable

/-!
The lock table with lookup + create + insert inside one `p.mu` section: all callers of one id
obtain the same mutex, hence mutual exclusion of the per-id sections in every interleaving, and
the state an apply mutates is the state its plan / hash check read.
-/
namespace Conduit.LockTable

variable {σ : Type}

theorem setCaller_same (s : LT σ) (c : Nat) (k : Caller σ) : (setCaller s c k).cs c = k := by
  simp [setCaller]

theorem setCaller_other (s : LT σ) (c : Nat) (k : Caller σ) (j : Nat) (h : j ≠ c) : (setCaller s c k).cs j = s.cs j := by
  simp [setCaller, h]

theorem fullSeg_spec (id : Id) (x : Loc) :
    (execSeg id x [.lookup, .create, .insert]).l = (execSeg id x [.lookup, .create, .insert]).table id ∧
    ((execSeg id x [.lookup, .create, .insert]).table id).isSome = true ∧
    (∀ j, (x.table j).isSome = true → (execSeg id x [.lookup, .create, .insert]).table j = x.table j) := by
  cases h : x.table id with
  | some m => simp [execSeg, execPrim, h]
  | none =>
    simp only [execSeg, List.foldl, execPrim, h, Option.isSome_none, Bool.false_eq_true, if_false]
    refine ⟨by simp, by simp, ?_⟩
    intro j hj
    by_cases e : j = id
    · subst e; rw [h] at hj; cases hj
    · simp [e]

structure Inv (sys : Sys σ) (s : LT σ) : Prop where
  seg0 : ∀ c i, (s.cs c).pc = .seg i → i = 0
  past : ∀ c, ((s.cs c).pc = .acquire ∨ holds s c) →
    (s.cs c).l = s.table (sys.idOf c) ∧ (s.table (sys.idOf c)).isSome = true
  own  : ∀ c m, holds s c → (s.cs c).l = some m → s.held m = some c
  snapOk : ∀ c, (s.cs c).pc = .apply → (s.cs c).snap = some (s.st (sys.idOf c))

theorem Inv.mutex {sys : Sys σ} {s : LT σ} (h : Inv sys s) (c1 c2 : Nat) (h1 : holds s c1) (h2 : holds s c2)
    (hid : sys.idOf c1 = sys.idOf c2) : c1 = c2 := by
  obtain ⟨a1, b1⟩ := h.past c1 (Or.inr h1)
  obtain ⟨a2, _⟩ := h.past c2 (Or.inr h2)
  cases ht : s.table (sys.idOf c1) with
  | none => rw [ht] at b1; cases b1
  | some m =>
    have e1 := h.own c1 m h1 (by rw [a1, ht])
    have e2 := h.own c2 m h2 (by rw [a2, ← hid, ht])
    rw [e1] at e2; cases e2; rfl

theorem inv_init (sys : Sys σ) (st0 : Id → σ) : Inv sys (LT.init st0) := by
  constructor
  · intro c i h; simp [LT.init] at h; exact h.symm
  · intro c h; rcases h with h | h | h | h <;> simp [LT.init] at h
  · intro c m h; rcases h with h | h | h <;> simp [LT.init] at h
  · intro c h; simp [LT.init] at h

/-- Caller `c` moves to `k` while the shared part changes from `s` to `s0`: the invariant survives if
`k` satisfies its clauses against `s0`, and `s0` keeps what the other callers rely on — existing
table entries, the mutexes they hold, the state an applying caller has snapshotted. -/
theorem Inv.move {sys : Sys σ} {s s0 : LT σ} (hi : Inv sys s) (c : Nat) (k : Caller σ) (hcs : s0.cs = s.cs)
    (htab : ∀ id, (s.table id).isSome = true → s0.table id = s.table id)
    (hheld : ∀ j m, j ≠ c → s.held m = some j → s0.held m = some j)
    (hst : ∀ j, j ≠ c → (s.cs j).pc = .apply → s0.st (sys.idOf j) = s.st (sys.idOf j))
    (kseg : ∀ i, k.pc = .seg i → i = 0)
    (kpast : (k.pc = .acquire ∨ k.pc = .check ∨ k.pc = .apply ∨ k.pc = .unlock) →
      k.l = s0.table (sys.idOf c) ∧ (s0.table (sys.idOf c)).isSome = true)
    (kown : ∀ m, (k.pc = .check ∨ k.pc = .apply ∨ k.pc = .unlock) → k.l = some m → s0.held m = some c)
    (ksnap : k.pc = .apply → k.snap = some (s0.st (sys.idOf c))) : Inv sys (setCaller s0 c k) := by
  have other : ∀ j, j ≠ c → (setCaller s0 c k).cs j = s.cs j := fun j e => by rw [setCaller_other _ _ _ _ e, hcs]
  constructor
  · intro j i h
    by_cases e : j = c
    · subst e; rw [setCaller_same] at h; exact kseg i h
    · rw [other j e] at h; exact hi.seg0 j i h
  · intro j h
    unfold holds at h
    by_cases e : j = c
    · subst e; rw [setCaller_same] at h ⊢; exact kpast h
    · rw [other j e] at h ⊢
      obtain ⟨a, b⟩ := hi.past j h
      have := htab (sys.idOf j) b
      exact ⟨a.trans this.symm, this ▸ b⟩
  · intro j m h hl
    unfold holds at h
    by_cases e : j = c
    · subst e; rw [setCaller_same] at h hl; exact kown m h hl
    · rw [other j e] at h hl; exact hheld j m e (hi.own j m h hl)
  · intro j h
    by_cases e : j = c
    · subst e; rw [setCaller_same] at h ⊢; exact ksnap h
    · rw [other j e] at h ⊢; rw [hi.snapOk j h]; exact congrArg some (hst j e h).symm

theorem inv_step (sys : Sys σ) (hshape : sys.shape = codeShape) (s s' : LT σ) (c : Nat) (hi : Inv sys s)
    (hs : step sys s c = some s') : Inv sys s' := by
  unfold step at hs
  cases hpc : (s.cs c).pc with
  | seg i =>
    have i0 : i = 0 := hi.seg0 c i hpc
    subst i0
    simp only [hpc, hshape, codeShape, List.getElem?_cons_zero, List.length_cons, List.length_nil] at hs
    simp only [Nat.lt_irrefl, if_false, Option.some.injEq, Nat.zero_add] at hs
    subst hs
    obtain ⟨f1, f2, f3⟩ := fullSeg_spec (sys.idOf c) { table := s.table, next := s.next, l := (s.cs c).l, ok := (s.cs c).ok }
    exact hi.move c _ rfl f3 (fun _ _ _ h => h) (fun _ _ _ => rfl) nofun (fun _ => ⟨f1, f2⟩)
      (fun _ h => by rcases h with h | h | h <;> cases h) nofun
  | acquire =>
    simp only [hpc] at hs
    cases hl : (s.cs c).l with
    | none => simp [hl] at hs
    | some m =>
      simp only [hl] at hs
      cases hh : s.held m with
      | some _ => simp [hh] at hs
      | none =>
        simp only [hh, Option.some.injEq] at hs
        subst hs
        refine hi.move c _ rfl (fun _ _ => rfl) (fun j m' _ h => ?_) (fun _ _ _ => rfl) nofun
          (fun _ => by have := hi.past c (.inl hpc); rwa [hl] at this) (fun m' _ h => ?_) nofun
        · have hne : m' ≠ m := fun e => by rw [e, hh] at h; cases h
          exact (if_neg hne).trans h
        · cases h; exact if_pos rfl
  | check =>
    simp only [hpc, Option.some.injEq] at hs
    subst hs
    have hc : holds s c := .inl hpc
    exact hi.move c _ rfl (fun _ _ => rfl) (fun _ _ _ h => h) (fun _ _ _ => rfl) nofun
      (fun _ => hi.past c (.inr hc)) (fun m _ => hi.own c m hc) fun _ => rfl
  | apply =>
    simp only [hpc, Option.some.injEq] at hs
    subst hs
    have hc : holds s c := .inr (.inl hpc)
    -- another caller in `apply` holds the mutex of another id, so its snapshotted state is not the one written
    exact hi.move c _ rfl (fun _ _ => rfl) (fun _ _ _ h => h)
      (fun j e h => if_neg fun hid => e (hi.mutex j c (.inr (.inl h)) hc hid)) nofun
      (fun _ => hi.past c (.inr hc)) (fun m _ => hi.own c m hc) nofun
  | unlock =>
    simp only [hpc] at hs
    cases hl : (s.cs c).l with
    | none => simp [hl] at hs
    | some m =>
      simp only [hl, Option.some.injEq] at hs
      subst hs
      have hown := hi.own c m (.inr (.inr hpc)) hl
      refine hi.move c _ rfl (fun _ _ => rfl) (fun j m' e h => ?_) (fun _ _ _ => rfl) nofun
        (fun h => by rcases h with h | h | h | h <;> cases h) (fun _ h => by rcases h with h | h | h <;> cases h) nofun
      have hne : m' ≠ m := fun e' => by rw [e', hown] at h; cases h; exact e rfl
      exact (if_neg hne).trans h
  | done => simp [hpc] at hs

theorem inv_run (sys : Sys σ) (hshape : sys.shape = codeShape) : ∀ (sched : List Nat) (s : LT σ), Inv sys s →
    Inv sys (run sys s sched)
  | [], _, h => h
  | c :: rest, s, h => by
    simp only [run]
    cases hs : step sys s c with
    | none => exact inv_run sys hshape rest s h
    | some s' => exact inv_run sys hshape rest s' (inv_step sys hshape s s' c h hs)

end Conduit.LockTable
