import ConduitModel.Model.DlqWindow
import ConduitModel.Spec.DlqWindow
import ConduitModel.Proofs.DlqWindow
import ConduitModel.Props.C07
import ConduitModel.Driver.Main
import ConduitModel.Model.Funnel
import ConduitModel.Driver.Funnel
import ConduitModel.Facts.C07
import ConduitModel.Spec.Arbiter
import ConduitModel.Proofs.PassMonad
import ConduitModel.Proofs.Tally
import ConduitModel.Proofs.RunLedger
import ConduitModel.Proofs.Arbiter
import ConduitModel.Props.ArbiterProps
import ConduitModel.Driver.Arbiter
import ConduitModel.Spec.BatchWF
import ConduitModel.Proofs.BatchWF
import ConduitModel.Props.BatchProps
import ConduitModel.Props.C05
import ConduitModel.Spec.FunnelMon
import ConduitModel.Model.Ctl
import ConduitModel.Model.Prov
import ConduitModel.Model.Live
import ConduitModel.Model.LockTable
import ConduitModel.Proofs.LockTable
import ConduitModel.Spec.Ctl
import ConduitModel.Spec.Prov
import ConduitModel.Spec.Live
import ConduitModel.Proofs.Ctl
import ConduitModel.Proofs.CtlOps
import ConduitModel.Proofs.CtlStore
import ConduitModel.Proofs.Prov
import ConduitModel.Proofs.CtlRefs
import ConduitModel.Proofs.CtlRefsOps
import ConduitModel.Proofs.ProvEff
import ConduitModel.Proofs.ProvCell
import ConduitModel.Proofs.ProvConv
import ConduitModel.Proofs.ProvFrame
import ConduitModel.Proofs.ProvStore
import ConduitModel.Props.C14
import ConduitModel.Props.C15
import ConduitModel.Props.C16
import ConduitModel.Driver.Ctl
import ConduitModel.Driver.Prov
import ConduitModel.Driver.Live
import ConduitModel.Driver.Gate
import ConduitModel.Proofs.WorkerAcker
import ConduitModel.Proofs.WorkerConfirm
import ConduitModel.Props.WorkerProps
import ConduitModel.Props.C04
import ConduitModel.Model.Errs
import ConduitModel.Model.AckErr
import ConduitModel.Facts.C20Prop
import ConduitModel.Spec.Errs
import ConduitModel.Proofs.Errs
import ConduitModel.Props.C20
import ConduitModel.Facts.C20
import ConduitModel.Facts.C20Sites
import ConduitModel.Driver.Errs
import ConduitModel.Driver.ErrPaths
import ConduitModel.Model.Egress
import ConduitModel.Spec.Egress
import ConduitModel.Proofs.Egress
import ConduitModel.Props.C18
import ConduitModel.Facts.C18
import ConduitModel.Driver.Egress
import ConduitModel.Facts.C14
import ConduitModel.Facts.C15
import ConduitModel.Facts.C16
import ConduitModel.Model.PathClean
import ConduitModel.Model.PathCleanBytes
import ConduitModel.Model.Extract
import ConduitModel.Model.Corruption
import ConduitModel.Model.Gates
import ConduitModel.Model.Install
import ConduitModel.Model.IndexState
import ConduitModel.Model.AtomicFile
import ConduitModel.Spec.Registry
import ConduitModel.Proofs.PathClean
import ConduitModel.Proofs.PathCleanBytes
import ConduitModel.Proofs.Extract
import ConduitModel.Proofs.Gates
import ConduitModel.Proofs.Install
import ConduitModel.Proofs.IndexState
import ConduitModel.Proofs.AtomicFile
import ConduitModel.Props.C19
import ConduitModel.Model.FlockFile
import ConduitModel.Props.C19Flock
import ConduitModel.Facts.C19
import ConduitModel.Driver.Registry
import ConduitModel.Model.Base64
import ConduitModel.Model.JsonStr
import ConduitModel.Model.Json
import ConduitModel.Model.Time
import ConduitModel.Model.StoreDoc
import ConduitModel.Model.Resume
import ConduitModel.Spec.Codec
import ConduitModel.Proofs.NatDigits
import ConduitModel.Proofs.Base64
import ConduitModel.Proofs.JsonStr
import ConduitModel.Proofs.Json
import ConduitModel.Proofs.Time
import ConduitModel.Proofs.StoreDoc
import ConduitModel.Props.C17
import ConduitModel.Facts.C17
import ConduitModel.Driver.Codec
import ConduitModel.Model.Lifecycle
import ConduitModel.Model.LifecycleOpen
import ConduitModel.Proofs.LifecycleOpen
import ConduitModel.Model.LifecycleEnum
import ConduitModel.Model.ForceStop
import ConduitModel.Model.ProcNode
import ConduitModel.Spec.Lifecycle
import ConduitModel.Spec.ProcNode
import ConduitModel.Proofs.Lifecycle
import ConduitModel.Proofs.LifecycleRun
import ConduitModel.Proofs.LifecycleStop
import ConduitModel.Proofs.LifecycleTomb
import ConduitModel.Proofs.ProcNodeA
import ConduitModel.Proofs.ProcNodeB
import ConduitModel.Proofs.ProcNodeC
import ConduitModel.Proofs.ProcNodeLog
import ConduitModel.Props.C10
import ConduitModel.Props.C11
import ConduitModel.Props.C12
import ConduitModel.Props.C13
import ConduitModel.Facts.C10
import ConduitModel.Facts.C11
import ConduitModel.Facts.C12
import ConduitModel.Facts.C13
import ConduitModel.Driver.Lifecycle
import ConduitModel.Driver.ForceStop
import ConduitModel.Driver.ProcNode
import ConduitModel.Model.SrcAck
import ConduitModel.Spec.SrcAck
import ConduitModel.Proofs.SrcAck
import ConduitModel.Proofs.SrcAckPos
import ConduitModel.Proofs.SrcAckStep
import ConduitModel.Proofs.SrcAckStop
import ConduitModel.Proofs.SrcAckHealthy
import ConduitModel.Proofs.SrcAckProgress
import ConduitModel.Proofs.SrcAckMon
import ConduitModel.Proofs.SrcAckRead
import ConduitModel.Props.C02
import ConduitModel.Props.C03
import ConduitModel.Proofs.SrcAckEngine
import ConduitModel.Props.EndToEnd
import ConduitModel.Props.C06
import ConduitModel.Facts.C02
import ConduitModel.Facts.C03
import ConduitModel.Facts.C06
import ConduitModel.Driver.SrcAck
import ConduitModel.Model.StreamEv
import ConduitModel.Model.StreamFlow
import ConduitModel.Model.StreamAck
import ConduitModel.Model.StreamPipe
import ConduitModel.Model.StreamCondMerge
import ConduitModel.Spec.StreamMonitor
import ConduitModel.Spec.StreamCondMerge
import ConduitModel.Proofs.StreamAck
import ConduitModel.Proofs.StreamFlow
import ConduitModel.Proofs.StreamLink
import ConduitModel.Proofs.StreamMonitor
import ConduitModel.Proofs.StreamPipe
import ConduitModel.Proofs.StreamCondMerge
import ConduitModel.Props.C01Stream
import ConduitModel.Props.C04Stream
import ConduitModel.Props.C05Stream
import ConduitModel.Props.C07Stream
import ConduitModel.Props.C09Stream
import ConduitModel.Facts.Stream
import ConduitModel.Driver.Stream
import ConduitModel.Props.PassC04
import ConduitModel.Proofs.GroupEnd
import ConduitModel.Proofs.PassBase
import ConduitModel.Proofs.PassFan
import ConduitModel.Proofs.PassMulti
import ConduitModel.Proofs.PassPipe
import ConduitModel.Proofs.PassSBase
import ConduitModel.Proofs.PassSFan
import ConduitModel.Proofs.PassSPipe
import ConduitModel.Proofs.PassSShape
import ConduitModel.Proofs.PassSTask
import ConduitModel.Proofs.PassSVote
import ConduitModel.Proofs.PassStep
import ConduitModel.Proofs.PassTask
import ConduitModel.Proofs.PassWorker
import ConduitModel.Spec.FunnelRun
import ConduitModel.Props.MonSound
import ConduitModel.Model.WorkerStop
import ConduitModel.Proofs.EventSys
import ConduitModel.Proofs.WorkerStop
import ConduitModel.Props.C06Worker
import ConduitModel.Facts.C06Worker
import ConduitModel.Driver.WorkerStop
import ConduitModel.Model.ProcSvc
import ConduitModel.Proofs.ProcSvc
import ConduitModel.Driver.ProcSvc
import ConduitModel.Model.TreeBuild
import ConduitModel.Proofs.TreeBuild
import ConduitModel.Proofs.TreeBuilt
import ConduitModel.Props.TreeShape
import ConduitModel.Props.TreeBuilt
import ConduitModel.Facts.TreeShape
import ConduitModel.Driver.TreeBuild
import ConduitModel.Model.SharedSink
import ConduitModel.Proofs.SharedSink
import ConduitModel.Props.SharedSink
import ConduitModel.Facts.SharedSink
import ConduitModel.Driver.SharedSink
import ConduitModel.Model.Rebuild
import ConduitModel.Spec.Rebuild
import ConduitModel.Proofs.Rebuild
import ConduitModel.Props.C11Build
import ConduitModel.Facts.C11Build
import ConduitModel.Driver.Rebuild
import ConduitModel.Model.FlushBatch
import ConduitModel.Props.C02Batch
import ConduitModel.Driver.FlushBatch
